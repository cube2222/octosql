import Octo.Lemmas.AggTree
/-!
  `array_agg`: the in-order expansion of the counted tree is *the* sorted arrangement of the
  multiset — two sorted lists representing the same multiset are pointwise `cmp`-equal.
-/
namespace Octo.Agg
open Octo

theorem cnt_append (A B : List Value) (v : Value) : cnt (A ++ B) v = cnt A v + cnt B v := by
  induction A with
  | nil => exact (Int.zero_add _).symm
  | cons x r ih => rw [List.cons_append, cnt_cons, cnt_cons, ih, Int.add_assoc]

theorem cnt_replicate (n : Nat) (k v : Value) :
    cnt (List.replicate n k) v = if cmp k v = 0 then (n : Int) else 0 := by
  induction n with
  | zero => rw [List.replicate_zero, cnt_nil]; split <;> rfl
  | succ n ih => rw [List.replicate_succ, cnt_cons, ih]; split <;> omega

theorem cnt_expand : ∀ (t : CList), KeysSorted t → (∀ e ∈ t, 0 < e.2) → ∀ v, cnt (expand t) v = hcount t v
  | [], _, _, _ => rfl
  | (k, c) :: rest, hs, hp, v => by
    obtain ⟨h1, h2⟩ := keysSorted_cons.mp hs
    obtain ⟨hc, hrest⟩ := List.forall_mem_cons.mp hp
    rw [expand, cnt_append, cnt_replicate, cnt_expand rest h2 hrest v, hcount_cons]
    by_cases hk : cmp k v = 0
    · rw [if_pos hk, if_pos hk, hcount_eq_zero_of_lt h1 hk, Int.add_zero, Int.toNat_of_nonneg (Int.le_of_lt hc)]
    · rw [if_neg hk, if_neg hk, Int.zero_add]

def WSorted (l : List Value) : Prop := l.Pairwise (fun a b => cmp a b ≤ 0)

theorem mem_expand : ∀ (t : CList) (x : Value), x ∈ expand t → ∃ e ∈ t, e.1 = x
  | [], x, h => nomatch h
  | (k, c) :: rest, x, h => by
    simp only [expand, List.mem_append] at h
    rcases h with h | h
    · exact ⟨(k, c), List.mem_cons_self, (List.eq_of_mem_replicate h).symm⟩
    · obtain ⟨e, he, hx⟩ := mem_expand rest x h
      exact ⟨e, List.mem_cons_of_mem _ he, hx⟩

theorem expand_sorted : ∀ (t : CList), KeysSorted t → WSorted (expand t)
  | [], _ => List.Pairwise.nil
  | (k, c) :: rest, hs => by
    obtain ⟨h1, h2⟩ := keysSorted_cons.mp hs
    simp only [expand, WSorted, List.pairwise_append]
    refine ⟨?_, expand_sorted rest h2, ?_⟩
    · rw [List.pairwise_replicate]
      exact Or.inr (by rw [cmp_refl]; omega)
    · intro a ha b hb
      rw [List.eq_of_mem_replicate ha]
      obtain ⟨e, he, hx⟩ := mem_expand rest b hb
      rw [← hx]; have := h1 e he; omega

theorem mem_insertSorted (x : Value) : ∀ (l : List Value) (y : Value), y ∈ insertSorted x l ↔ y = x ∨ y ∈ l
  | [], y => List.mem_cons
  | z :: r, y => by
    rw [insertSorted]
    split
    · exact List.mem_cons
    · rw [List.mem_cons, mem_insertSorted x r y, List.mem_cons]
      exact or_left_comm

theorem cnt_insertSorted (x : Value) : ∀ (l : List Value) (v : Value),
    cnt (insertSorted x l) v = (if cmp x v = 0 then 1 else 0) + cnt l v
  | [], v => rfl
  | z :: r, v => by
    rw [insertSorted]
    split
    · rfl
    · rw [cnt_cons, cnt_cons, cnt_insertSorted x r v]; omega

theorem insertSorted_sorted (x : Value) : ∀ (l : List Value), WSorted l → WSorted (insertSorted x l)
  | [], _ => List.pairwise_singleton _ _
  | z :: r, hs => by
    obtain ⟨h1, h2⟩ := List.pairwise_cons.mp hs
    rw [insertSorted]
    split
    · rename_i hle
      exact List.pairwise_cons.mpr ⟨List.forall_mem_cons.mpr ⟨hle, fun y hy => cmp_trans _ _ _ hle (h1 y hy)⟩, hs⟩
    · rename_i hgt
      refine List.pairwise_cons.mpr ⟨fun y hy => ?_, insertSorted_sorted x r h2⟩
      rcases (mem_insertSorted x r y).mp hy with rfl | hy'
      · have := cmp_antisymm z y; omega
      · exact h1 y hy'

theorem sortSpec_sorted : ∀ (M : List Value), WSorted (sortSpec M)
  | [] => List.Pairwise.nil
  | x :: r => insertSorted_sorted x (sortSpec r) (sortSpec_sorted r)

theorem cnt_sortSpec : ∀ (M : List Value) (v : Value), cnt (sortSpec M) v = cnt M v
  | [], _ => rfl
  | x :: r, v => by
    show cnt (insertSorted x (sortSpec r)) v = _
    rw [cnt_insertSorted, cnt_sortSpec r v, cnt_cons]

theorem wsorted_head {a : Value} {A : List Value} (h : WSorted (a :: A)) :
    IsLeast (fun x y => cmp x y ≤ 0) (a :: A) a :=
  ⟨cnt_pos_of_mem List.mem_cons_self,
    List.forall_mem_cons.mpr ⟨Int.le_of_eq (cmp_refl a), (List.pairwise_cons.mp h).1⟩⟩

theorem sorted_unique : ∀ (A B : List Value), WSorted A → WSorted B → CntEq A B → cmpList A B = 0
  | [], B, _, _, h => by rw [CntEq.nil_right h.symm]; rfl
  | a :: A', [], _, _, h => absurd (CntEq.nil_right h) (List.cons_ne_nil _ _)
  | a :: A', b :: B', hA, hB, h => by
    -- the heads are least elements of the same multiset
    have hab : cmp a b = 0 := (wsorted_head hA).unique cle_order ((wsorted_head hB).congr cle_order h.symm)
    have ht : CntEq A' B' := fun v => by
      have := h v
      rw [cnt_cons, cnt_cons, ite_ceq_left hab v] at this
      exact Int.add_left_cancel this
    exact cmpList_cons_iff.mpr ⟨hab, sorted_unique A' B' (List.Pairwise.of_cons hA) (List.Pairwise.of_cons hB) ht⟩

theorem cmp_list (a b : List Value) : cmp (.list a) (.list b) = cmpList a b := rfl

def arrayProof : AggProof arrayAgg (fun _ => True) specArray where
  Inv := TreeInv
  init := tree_init
  step := fun e hi _ _ hv => tree_step e hi hv
  result := by
    intro t L hi _ _
    obtain ⟨hs, hc⟩ := hi
    refine ⟨.list (expand t), rfl, ?_⟩
    rw [specArray, cmp_list]
    apply sorted_unique _ _ (expand_sorted t hs) (sortSpec_sorted L)
    intro v
    rw [cnt_expand t hs (fun _ he => hc.pos hs.noDup he) v, hc.count v, cnt_sortSpec]
  congr := by
    intro L M _ _ h
    rw [specArray, specArray, cmp_list]
    apply sorted_unique _ _ (sortSpec_sorted L) (sortSpec_sorted M)
    intro v
    rw [cnt_sortSpec, cnt_sortSpec, h v]
  P_congr := fun _ _ => trivial

end Octo.Agg
