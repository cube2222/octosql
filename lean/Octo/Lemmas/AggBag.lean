import Octo.Lemmas.Comparator
import Octo.Spec.Aggregates
/-!
  Multisets of values up to `cmp = 0` (written `a ≃ b` in the comments of the C14 files), histories and their net
  multiset. Counts and lengths are instances of the additive functionals `sumZ f`, so what is proved about
  `sumZ` (erasing, independence of the representation) is proved for them as well. At the end: the executable
  validity test and multisets of the oracle (`bagsOf`) agree with `ValidHist` / `IsNet`.
-/
namespace Octo.Agg
open Octo

theorem cle_lt_trans {a b c : Value} (h1 : cmp a b ≤ 0) (h2 : cmp b c < 0) : cmp a c < 0 :=
  cmp_lt_of_le_of_lt h1 h2

theorem cnt_nil (v : Value) : cnt [] v = 0 := rfl
theorem cnt_cons (x : Value) (r : List Value) (v : Value) :
    cnt (x :: r) v = (if cmp x v = 0 then 1 else 0) + cnt r v := rfl

theorem cnt_eq_sumZ (L : List Value) (v : Value) : cnt L v = sumZ (fun x => if cmp x v = 0 then 1 else 0) L := by
  induction L with
  | nil => rfl
  | cons x r ih => rw [cnt_cons, sumZ, ih]

theorem length_eq_sumZ (L : List Value) : (L.length : Int) = sumZ (fun _ => 1) L := by
  induction L with
  | nil => rfl
  | cons x r ih => rw [sumZ, ← ih, List.length_cons]; omega

theorem cnt_nonneg (L : List Value) (v : Value) : 0 ≤ cnt L v := by
  induction L with
  | nil => exact Int.le_refl 0
  | cons x r ih => rw [cnt_cons]; split <;> omega

theorem ite_ceq_left {α : Type} {x y : Value} (h : cmp x y = 0) (v : Value) (a b : α) :
    (if cmp x v = 0 then a else b) = (if cmp y v = 0 then a else b) := by
  rw [cmp_congr h (cmp_refl v)]

theorem cnt_congr (L : List Value) {v w : Value} (h : cmp v w = 0) : cnt L v = cnt L w := by
  induction L with
  | nil => rfl
  | cons x r ih => rw [cnt_cons, cnt_cons, ih, cmp_congr (cmp_refl x) h]

theorem cnt_pos_of_mem {L : List Value} {x : Value} (h : x ∈ L) : 0 < cnt L x := by
  induction L with
  | nil => cases h
  | cons y r ih =>
    rw [cnt_cons]
    rcases List.mem_cons.mp h with rfl | h'
    · have := cnt_nonneg r x; rw [if_pos (cmp_refl x)]; omega
    · have := ih h'; split <;> omega

theorem exists_mem_of_cnt_pos {L : List Value} {v : Value} (h : 0 < cnt L v) : ∃ x ∈ L, cmp x v = 0 := by
  induction L with
  | nil => exact absurd h (Int.lt_irrefl 0)
  | cons y r ih =>
    by_cases hy : cmp y v = 0
    · exact ⟨y, List.mem_cons_self, hy⟩
    · rw [cnt_cons, if_neg hy, Int.zero_add] at h
      obtain ⟨x, hx, hxv⟩ := ih h
      exact ⟨x, List.mem_cons_of_mem _ hx, hxv⟩

theorem eq_nil_of_cnt_zero {L : List Value} (h : ∀ v, cnt L v = 0) : L = [] := by
  cases L with
  | nil => rfl
  | cons x r => have := cnt_pos_of_mem (L := x :: r) (x := x) List.mem_cons_self; have := h x; omega

theorem eraseEq_sublist (x : Value) : ∀ (L : List Value), (eraseEq x L).Sublist L
  | [] => List.Sublist.slnil
  | y :: r => by
    rw [eraseEq]
    split
    · exact List.sublist_cons_self _ _
    · exact (eraseEq_sublist x r).cons_cons _

theorem sumZ_eraseEq (f : Value → Int) (hf : ∀ a b, cmp a b = 0 → f a = f b)
    {L : List Value} {x : Value} (h : 0 < cnt L x) :
    sumZ f (eraseEq x L) = sumZ f L - f x := by
  induction L with
  | nil => exact absurd h (Int.lt_irrefl 0)
  | cons y r ih =>
    rw [eraseEq]
    by_cases hy : cmp y x = 0
    · rw [if_pos hy, sumZ, hf y x hy, Int.add_comm, Int.add_sub_cancel]
    · rw [cnt_cons, if_neg hy, Int.zero_add] at h
      rw [if_neg hy, sumZ, sumZ, ih h, Int.add_sub_assoc]

theorem cnt_eraseEq {L : List Value} {x : Value} (h : 0 < cnt L x) (v : Value) :
    cnt (eraseEq x L) v = cnt L v - (if cmp x v = 0 then 1 else 0) := by
  rw [cnt_eq_sumZ, cnt_eq_sumZ, sumZ_eraseEq _ (fun _ _ hab => ite_ceq_left hab v 1 0) h]

theorem length_eraseEq {L : List Value} {x : Value} (h : 0 < cnt L x) :
    ((eraseEq x L).length : Int) = L.length - 1 := by
  rw [length_eq_sumZ, length_eq_sumZ, sumZ_eraseEq _ (fun _ _ _ => rfl) h]

def CntEq (L M : List Value) : Prop := ∀ v, cnt L v = cnt M v

theorem CntEq.symm {L M : List Value} (h : CntEq L M) : CntEq M L := fun v => (h v).symm

theorem CntEq.nil_right {L : List Value} (h : CntEq L []) : L = [] := eq_nil_of_cnt_zero h

theorem CntEq.exists_mem {L M : List Value} (h : CntEq L M) {y : Value} (hy : y ∈ M) : ∃ x ∈ L, cmp x y = 0 :=
  exists_mem_of_cnt_pos (by rw [h y]; exact cnt_pos_of_mem hy)

theorem CntEq.erase {x : Value} {L M : List Value} (h : CntEq (x :: L) M) :
    0 < cnt M x ∧ CntEq L (eraseEq x M) := by
  have hx : 0 < cnt M x := by rw [← h x]; exact cnt_pos_of_mem List.mem_cons_self
  refine ⟨hx, fun v => ?_⟩
  rw [cnt_eraseEq hx v, ← h v, cnt_cons]; omega

theorem sumZ_congr (f : Value → Int) (hf : ∀ a b, cmp a b = 0 → f a = f b) :
    ∀ (L M : List Value), CntEq L M → sumZ f L = sumZ f M
  | [], M, h => by rw [CntEq.nil_right h.symm]
  | x :: L, M, h => by
    obtain ⟨hx, h'⟩ := h.erase
    have ih := sumZ_congr f hf L (eraseEq x M) h'
    rw [sumZ_eraseEq f hf hx] at ih
    rw [sumZ]; omega

theorem length_congr (L M : List Value) (h : CntEq L M) : L.length = M.length := by
  have := sumZ_congr (fun _ => 1) (fun _ _ _ => rfl) L M h
  rw [← length_eq_sumZ, ← length_eq_sumZ] at this
  omega

theorem isEmpty_congr {L M : List Value} (h : CntEq L M) : L.isEmpty = M.isEmpty := by
  rw [Bool.eq_iff_iff, List.isEmpty_iff_length_eq_zero, List.isEmpty_iff_length_eq_zero, length_congr L M h]

theorem netH_nil (v : Value) : netH [] v = 0 := rfl
theorem netH_cons (e : Bool × Value) (h : Hist) (v : Value) : netH (e :: h) v = weight e v + netH h v := rfl

def delta (r : Bool) : Int := if !r then 1 else -1

theorem add_delta (c : Int) (r : Bool) : (if !r then c + 1 else c - 1) = c + delta r := by cases r <;> rfl

theorem weight_eq (e : Bool × Value) (v : Value) : weight e v = if cmp e.2 v = 0 then delta e.1 else 0 := by
  cases h : e.1 <;> simp only [weight, delta, h] <;> rfl

theorem exists_of_netH_pos : ∀ (h : Hist) (v : Value), 0 < netH h v → ∃ e ∈ h, cmp e.2 v = 0
  | [], _, hp => absurd hp (Int.lt_irrefl 0)
  | e :: h, v, hp => by
    by_cases he : cmp e.2 v = 0
    · exact ⟨e, List.mem_cons_self, he⟩
    · rw [netH_cons, weight, if_neg he, Int.zero_add] at hp
      obtain ⟨e', h1, h2⟩ := exists_of_netH_pos h v hp
      exact ⟨e', List.mem_cons_of_mem _ h1, h2⟩

theorem sumZ_bagStep (f : Value → Int) (hf : ∀ a b, cmp a b = 0 → f a = f b) {L : List Value}
    {e : Bool × Value} (hv : e.1 = true → 0 < cnt L e.2) :
    sumZ f (bagStep L e) = if e.1 then sumZ f L - f e.2 else f e.2 + sumZ f L := by
  unfold bagStep
  split
  · rename_i hr; exact sumZ_eraseEq f hf (hv hr)
  · rfl

theorem cnt_bagStep {L : List Value} {e : Bool × Value} (hv : e.1 = true → 0 < cnt L e.2) (v : Value) :
    cnt (bagStep L e) v = cnt L v + weight e v := by
  obtain ⟨r, x⟩ := e
  cases r with
  | false =>
    show cnt (x :: L) v = cnt L v + (if cmp x v = 0 then 1 else 0)
    rw [cnt_cons, Int.add_comm]
  | true =>
    show cnt (eraseEq x L) v = cnt L v + (if cmp x v = 0 then -1 else 0)
    rw [cnt_eraseEq (hv rfl)]; split <;> rfl

/-- `cnt_bagStep` in the spelling of the containers: the model writes `if !r then c + 1 else c - 1` (`delta r`),
    the specification's `weight` writes `if e.1 then -1 else 1` -/
theorem cnt_bagStep_delta {L : List Value} {r : Bool} {x : Value} (hv : r = true → 0 < cnt L x) (w : Value) :
    cnt (bagStep L (r, x)) w = cnt L w + (if cmp x w = 0 then delta r else 0) := by
  rw [cnt_bagStep (e := (r, x)) hv w, weight_eq]

theorem length_bagStep {L : List Value} {e : Bool × Value} (hv : e.1 = true → 0 < cnt L e.2) :
    ((bagStep L e).length : Int) = L.length + delta e.1 := by
  obtain ⟨r, x⟩ := e
  cases r with
  | false => exact Int.natCast_succ L.length
  | true => exact length_eraseEq (hv rfl)

/-- `ValidHist` relative to a multiset `L` already present -/
def ValidFrom (L : List Value) (h : Hist) : Prop := ∀ n v, 0 ≤ cnt L v + netH (h.take n) v

theorem validFrom_nil_iff (h : Hist) : ValidFrom [] h ↔ ValidHist h :=
  forall_congr' fun _ => forall_congr' fun _ => by rw [cnt_nil, Int.zero_add]

theorem ValidFrom.head {L : List Value} {e : Bool × Value} {h : Hist} (hv : ValidFrom L (e :: h)) :
    e.1 = true → 0 < cnt L e.2 := by
  intro hr
  have := hv 1 e.2
  rw [List.take_succ_cons, List.take_zero, netH_cons, netH_nil, weight, if_pos (cmp_refl _), if_pos hr] at this
  omega

theorem ValidFrom.tail {L : List Value} {e : Bool × Value} {h : Hist} (hv : ValidFrom L (e :: h)) :
    ValidFrom (bagStep L e) h := by
  intro n v
  have := hv (n + 1) v
  rw [List.take_succ_cons, netH_cons] at this
  rw [cnt_bagStep hv.head v]
  omega

theorem validFrom_cons {L : List Value} {e : Bool × Value} {h : Hist}
    (he : e.1 = true → 0 < cnt L e.2) (ht : ValidFrom (bagStep L e) h) : ValidFrom L (e :: h) := by
  intro n v
  cases n with
  | zero => rw [List.take_zero, netH_nil, Int.add_zero]; exact cnt_nonneg L v
  | succ n =>
    have := ht n v
    rw [cnt_bagStep he v] at this
    rw [List.take_succ_cons, netH_cons]; omega

def bagRun (L : List Value) (h : Hist) : List Value := h.foldl bagStep L

theorem bagRun_nil (L : List Value) : bagRun L [] = L := rfl
theorem bagRun_cons (L : List Value) (e : Bool × Value) (h : Hist) :
    bagRun L (e :: h) = bagRun (bagStep L e) h := rfl

theorem cnt_bagRun : ∀ (h : Hist) (L : List Value), ValidFrom L h → ∀ v, cnt (bagRun L h) v = cnt L v + netH h v
  | [], L, _, v => by rw [bagRun_nil, netH_nil, Int.add_zero]
  | e :: h, L, hv, v => by
    rw [bagRun_cons, cnt_bagRun h _ hv.tail v, cnt_bagStep hv.head v, netH_cons]; omega

theorem bagRun_isNet {h : Hist} (hv : ValidHist h) : IsNet (bagRun [] h) h := by
  intro v
  rw [cnt_bagRun h [] ((validFrom_nil_iff h).mpr hv) v, cnt_nil, Int.zero_add]

theorem bagRun_cntEq {h : Hist} (hv : ValidHist h) {M : List Value} (hM : IsNet M h) : CntEq (bagRun [] h) M :=
  fun v => (bagRun_isNet hv v).trans (hM v).symm

theorem all_bagStep {P : Value → Prop} {L : List Value} {e : Bool × Value}
    (hL : ∀ x ∈ L, P x) (he : P e.2) : ∀ x ∈ bagStep L e, P x := by
  intro x hx
  unfold bagStep at hx
  split at hx
  · exact hL x ((eraseEq_sublist _ L).subset hx)
  · exact (List.mem_cons.mp hx).elim (fun e => e ▸ he) (hL x)

theorem validHist_take {h : Hist} (hv : ValidHist h) (n : Nat) : ValidHist (h.take n) := by
  intro m v
  rw [List.take_take]
  exact hv _ v

theorem bagsOf_isSome_iff : ∀ (h : Hist) (L : List Value), (bagsOf L h).isSome = true ↔ ValidFrom L h
  | [], L => ⟨fun _ n v => by rw [List.take_nil, netH_nil, Int.add_zero]; exact cnt_nonneg L v, fun _ => rfl⟩
  | e :: h, L => by
    rw [bagsOf]
    split
    · rename_i hc
      simp only [Bool.and_eq_true, decide_eq_true_eq] at hc
      exact ⟨fun h0 => (nomatch h0), fun hv => absurd (hv.head hc.1) (Int.not_lt.mpr hc.2)⟩
    · rename_i hc
      have he : e.1 = true → 0 < cnt L e.2 := fun h1 => by
        simp only [h1, Bool.true_and, decide_eq_true_eq] at hc; omega
      rw [Option.isSome_map, bagsOf_isSome_iff h (bagStep L e)]
      exact ⟨validFrom_cons he, ValidFrom.tail⟩

theorem bagsOf_get : ∀ (h : Hist) (L : List Value) (bags : List (List Value)), bagsOf L h = some bags →
    ∀ i, i < h.length → bags[i]? = some (bagRun L (h.take (i + 1)))
  | [], _, _, _, i, hi => absurd hi (Nat.not_lt_zero i)
  | e :: h, L, bags, hb, i, hi => by
    rw [bagsOf] at hb
    split at hb
    · cases hb
    · obtain ⟨bs, hrest, rfl⟩ := Option.map_eq_some_iff.mp hb
      cases i with
      | zero => rfl
      | succ i => exact bagsOf_get h (bagStep L e) bs hrest i (Nat.lt_of_succ_lt_succ hi)

theorem valid_net_of_bagsOf {h : Hist} (hb : (bagsOf [] h).isSome = true) : ValidHist h ∧ IsNet (bagRun [] h) h :=
  have hv := (validFrom_nil_iff h).mp ((bagsOf_isSome_iff h []).mp hb)
  ⟨hv, bagRun_isNet hv⟩

end Octo.Agg
