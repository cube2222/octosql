import Octo.Lemmas.AggBag
/-!
  The generic correctness argument for a retractable aggregate: an invariant between the
  aggregate's state and the running net multiset, preserved by every valid step, from which the
  reported value and the returned emptiness flag follow for *every* valid history.
-/
namespace Octo.Agg
open Octo

/-- the type of `AggProof.step`, named so that the flag can be had from an invariant alone (`KeepsInv.flag`) -/
def KeepsInv (A : Agg) (P : Value → Prop) (Inv : A.σ → List Value → Prop) : Prop :=
  ∀ {s : A.σ} {L : List Value} (e : Bool × Value), Inv s L → (∀ x ∈ L, P x) → P e.2 →
    (e.1 = true → 0 < cnt L e.2) →
    Inv (A.add s e.1 e.2).1 (bagStep L e) ∧ (A.add s e.1 e.2).2 = (bagStep L e).isEmpty

theorem foldl_inv {A : Agg} {P : Value → Prop} {Inv : A.σ → List Value → Prop} (step : KeepsInv A P Inv) :
    ∀ (h : Hist) (s : A.σ) (f : Bool) (L : List Value), Inv s L → f = L.isEmpty → (∀ x ∈ L, P x) →
      (∀ e ∈ h, P e.2) → ValidFrom L h →
      Inv (h.foldl A.step (s, f)).1 (bagRun L h) ∧ (h.foldl A.step (s, f)).2 = (bagRun L h).isEmpty ∧
        (∀ x ∈ bagRun L h, P x)
  | [], _, _, _, hi, hf, hL, _, _ => ⟨hi, hf, hL⟩
  | e :: h, s, _, L, hi, _, hL, hP, hv => by
    have he : P e.2 := hP e List.mem_cons_self
    obtain ⟨i1, f1⟩ := step e hi hL he hv.head
    exact foldl_inv step h (A.add s e.1 e.2).1 (A.add s e.1 e.2).2 (bagStep L e) i1 f1
      (all_bagStep hL he) (fun e' h' => hP e' (List.mem_cons_of_mem _ h')) hv.tail

theorem run_inv {A : Agg} {P : Value → Prop} {Inv : A.σ → List Value → Prop} (step : KeepsInv A P Inv)
    (init : Inv A.init []) {h : Hist} (hv : ValidHist h) (hP : ∀ e ∈ h, P e.2) :
    Inv (A.run h).1 (bagRun [] h) ∧ (A.run h).2 = (bagRun [] h).isEmpty ∧ (∀ x ∈ bagRun [] h, P x) :=
  foldl_inv step h A.init true [] init rfl (fun _ hx => nomatch hx) hP ((validFrom_nil_iff h).mpr hv)

theorem KeepsInv.flag {A : Agg} {Inv : A.σ → List Value → Prop} (step : KeepsInv A (fun _ => True) Inv)
    (init : Inv A.init []) (h : Hist) (hv : ValidHist h) (M : List Value) (hM : IsNet M h) :
    (A.run h).2 = M.isEmpty := by
  rw [← isEmpty_congr (bagRun_cntEq hv hM)]
  exact (run_inv step init hv (fun _ _ => trivial)).2.1

structure AggProof (A : Agg) (P : Value → Prop) (spec : List Value → Value) where
  /-- the state represents the multiset -/
  Inv : A.σ → List Value → Prop
  init : Inv A.init []
  /-- a valid step keeps the invariant, and `Add` returns "the multiset is now empty" -/
  step : ∀ {s : A.σ} {L : List Value} (e : Bool × Value), Inv s L → (∀ x ∈ L, P x) → P e.2 →
    (e.1 = true → 0 < cnt L e.2) →
    Inv (A.add s e.1 e.2).1 (bagStep L e) ∧ (A.add s e.1 e.2).2 = (bagStep L e).isEmpty
  /-- on a non-empty multiset `Trigger` returns (without panicking) the aggregate of the multiset -/
  result : ∀ {s : A.σ} {L : List Value}, Inv s L → (∀ x ∈ L, P x) → L ≠ [] →
    ∃ r, A.trigger s = .val r ∧ cmp r (spec L) = 0
  congr : ∀ {L M : List Value}, (∀ x ∈ L, P x) → (∀ x ∈ M, P x) → CntEq L M → cmp (spec L) (spec M) = 0
  P_congr : ∀ {a b : Value}, cmp a b = 0 → P a → P b

variable {A : Agg} {P : Value → Prop} {spec : List Value → Value}

/-- **every valid history**: the value reported after the history is the aggregate, computed from
    scratch, of any list representing the net multiset; and the last `Add` returned whether that
    multiset is empty. -/
theorem AggProof.main (pf : AggProof A P spec) (h : Hist) (hv : ValidHist h) (hP : ∀ e ∈ h, P e.2)
    (M : List Value) (hM : IsNet M h) :
    (A.run h).2 = M.isEmpty ∧
    (M ≠ [] → ∃ r, A.trigger (A.run h).1 = .val r ∧ cmp r (spec M) = 0) := by
  obtain ⟨hi, hf, hB⟩ := run_inv pf.step pf.init hv hP
  have hc := bagRun_cntEq hv hM
  -- an element of `M` is `≃` to one of the running multiset, hence satisfies `P`
  have hMP : ∀ x ∈ M, P x := fun x hx =>
    have ⟨y, hy, hyx⟩ := hc.exists_mem hx
    pf.P_congr hyx (hB y hy)
  refine ⟨by rw [← isEmpty_congr hc]; exact hf, fun hne => ?_⟩
  obtain ⟨r, hr, hrs⟩ := pf.result hi hB (fun h0 => hne (CntEq.nil_right (h0 ▸ hc).symm))
  exact ⟨r, hr, cmp_eq_trans hrs (pf.congr hB hMP hc)⟩

theorem fields_congr {a b : Value} (h : cmp a b = 0) :
    intField a = intField b ∧ durField a = durField b ∧ cmpFloatFixed (floatField a) (floatField b) = 0 := by
  -- `≃` values have equal contents, except that two floats are only equal for the comparison
  cases Value.cmpEq_of_zero h with
  | float x y h0 => exact ⟨rfl, rfl, h0⟩
  | _ => exact ⟨rfl, rfl, rfl⟩

theorem intField_congr (a b : Value) (h : cmp a b = 0) : intField a = intField b := (fields_congr h).1
theorem durField_congr (a b : Value) (h : cmp a b = 0) : durField a = durField b := (fields_congr h).2.1

theorem wrap64_add (a b : Int) : wrap64 (wrap64 a + b) = wrap64 (a + b) := by
  unfold wrap64
  rw [Int.add_right_comm _ b, Int.sub_add_cancel, Int.emod_add_emod, Int.add_right_comm a]

theorem wrap64_sub (a b : Int) : wrap64 (wrap64 a - b) = wrap64 (a - b) := by
  rw [Int.sub_eq_add_neg, wrap64_add, Int.sub_eq_add_neg]

theorem countAdd_eq (c : Int) (r : Bool) (v : Value) : countAdd c r v = (c + delta r, c + delta r == 0) := by
  cases r <;> rfl

theorem countAdd_step {c : Int} {L : List Value} (e : Bool × Value) (hc : c = (L.length : Int))
    (hv : e.1 = true → 0 < cnt L e.2) :
    (countAdd c e.1 e.2).1 = ((bagStep L e).length : Int) ∧ (countAdd c e.1 e.2).2 = (bagStep L e).isEmpty := by
  rw [countAdd_eq, hc, ← length_bagStep hv]
  refine ⟨rfl, ?_⟩
  cases bagStep L e with
  | nil => rfl
  | cons x r => exact beq_false_of_ne (by rw [List.length_cons]; omega)

def countProof : AggProof countAgg (fun _ => True) specCount where
  Inv c L := c = (L.length : Int)
  init := rfl
  step := fun e hi _ _ hv => countAdd_step e hi hv
  result := fun hi _ _ => ⟨_, rfl, by rw [hi]; exact cmp_refl _⟩
  congr := fun _ _ h => by rw [specCount, length_congr _ _ h]; exact cmp_refl _
  P_congr := fun _ _ => trivial

theorem sumAdd_count (fld : Value → Int) (s : SumS) (r : Bool) (v : Value) :
    ((sumAdd fld s r v).1.count, (sumAdd fld s r v).2) = countAdd s.count r v := by
  cases r <;> rfl

def SumInv (fld : Value → Int) (s : SumS) (L : List Value) : Prop := s.sum = wrap64 (sumZ fld L) ∧ s.count = (L.length : Int)

theorem sumAdd_step (fld : Value → Int) (hf : ∀ a b, cmp a b = 0 → fld a = fld b)
    {s : SumS} {L : List Value} (e : Bool × Value) (hi : SumInv fld s L)
    (hv : e.1 = true → 0 < cnt L e.2) :
    SumInv fld (sumAdd fld s e.1 e.2).1 (bagStep L e) ∧ (sumAdd fld s e.1 e.2).2 = (bagStep L e).isEmpty := by
  have hc := countAdd_step e hi.2 hv
  rw [← sumAdd_count fld] at hc
  refine ⟨⟨?_, hc.1⟩, hc.2⟩
  rw [sumZ_bagStep fld hf hv]
  cases e.1
  · show wrap64 (s.sum + fld e.2) = wrap64 (fld e.2 + sumZ fld L)
    rw [hi.1, wrap64_add, Int.add_comm]
  · show wrap64 (s.sum - fld e.2) = wrap64 (sumZ fld L - fld e.2)
    rw [hi.1, wrap64_sub]

/-- `sum.go` over the field `fld`, reported through the constructor `mk` -/
def sumProof (fld : Value → Int) (hf : ∀ a b, cmp a b = 0 → fld a = fld b) (mk : Int → Value) :
    AggProof { σ := SumS, init := ⟨0, 0⟩, add := sumAdd fld, trigger := fun s => .val (mk s.sum) }
      (fun _ => True) (fun L => mk (wrap64 (sumZ fld L))) where
  Inv := SumInv fld
  init := ⟨rfl, rfl⟩
  step := fun e hi _ _ hv => sumAdd_step fld hf e hi hv
  result := fun hi _ _ => ⟨_, rfl, by rw [hi.1]; exact cmp_refl _⟩
  congr := fun _ _ h => by rw [sumZ_congr fld hf _ _ h]; exact cmp_refl _
  P_congr := fun _ _ => trivial

def sumIntProof : AggProof sumIntAgg (fun _ => True) specSumInt := sumProof intField intField_congr .int
def sumDurProof : AggProof sumDurAgg (fun _ => True) specSumDur := sumProof durField durField_congr .dur

/-- `average.go` over the field `fld`, reported through the constructor `mk`: a sum and a counter side by side -/
def avgProof (fld : Value → Int) (hf : ∀ a b, cmp a b = 0 → fld a = fld b) (mk : Int → Value) :
    AggProof { σ := AvgS, init := ⟨⟨0, 0⟩, 0⟩, add := avgAdd fld,
               trigger := fun a => match avgDiv a with | none => .panic | some q => .val (mk q) }
      (fun _ => True) (fun L => mk (wrap64 (Int.tdiv (wrap64 (sumZ fld L)) L.length))) where
  Inv a L := SumInv fld a.sum L ∧ a.count = (L.length : Int)
  init := ⟨⟨rfl, rfl⟩, rfl⟩
  step := fun e hi _ _ hv =>
    have hc := countAdd_step e hi.2 hv
    ⟨⟨(sumAdd_step fld hf e hi.1 hv).1, hc.1⟩, hc.2⟩
  result := fun {a L} hi _ hne => by
    have : (L.length : Int) ≠ 0 := fun h => hne (List.eq_nil_of_length_eq_zero (Int.ofNat_eq_zero.mp h))
    exact ⟨_, by simp only [avgDiv, hi.2, if_neg this, hi.1.1], cmp_refl _⟩
  congr := fun _ _ h => by rw [sumZ_congr fld hf _ _ h, length_congr _ _ h]; exact cmp_refl _
  P_congr := fun _ _ => trivial

def avgIntProof : AggProof avgIntAgg (fun _ => True) specAvgInt := avgProof intField intField_congr .int
def avgDurProof : AggProof avgDurAgg (fun _ => True) specAvgDur := avgProof durField durField_congr .dur

end Octo.Agg
