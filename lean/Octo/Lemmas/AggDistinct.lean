import Octo.Lemmas.AggTree
/-!
  `distinct.go`: the hashmap value → count in front of a wrapped aggregate. The wrapped aggregate is
  fed a *valid* history whose net multiset is the support of the outer one; hence any aggregate that
  is correct (`AggProof`) stays correct behind the wrapper, for the support. The map and the bool returned by
  `Add` (`items.Size() == 0`) need nothing of the wrapped aggregate (`distinct_keeps`).
-/
namespace Octo.Agg
open Octo

theorem hset_cons (v k : Value) (n c : Int) (rest : CList) :
    hset v n ((k, c) :: rest) = if cmp v k = 0 then (k, n) :: rest else (k, c) :: hset v n rest := by
  simp only [hset, beq_iff_eq]

theorem hdel_cons (v k : Value) (c : Int) (rest : CList) :
    hdel v ((k, c) :: rest) = if cmp v k = 0 then rest else (k, c) :: hdel v rest := by
  simp only [hdel, beq_iff_eq]

theorem hcount_hset (v : Value) (n : Int) : ∀ (m : CList) (w : Value),
    hcount (hset v n m) w = if cmp v w = 0 then n else hcount m w
  | [], w => hcount_cons v n [] w
  | (k, c) :: rest, w => by
    rw [hset_cons]
    by_cases hvk : cmp v k = 0
    · rw [if_pos hvk, hcount_cons, hcount_cons, ite_ceq_left hvk w]
      split <;> rfl
    · rw [if_neg hvk, hcount_cons, hcount_cons, hcount_hset v n rest w]
      by_cases hk : cmp k w = 0
      · rw [if_pos hk, if_pos hk, if_neg (fun h0 => hvk (cmp_eq_trans h0 (cmp_eq_symm hk)))]
      · rw [if_neg hk, if_neg hk]

theorem hdel_hset (v : Value) (n : Int) : ∀ (m : CList), hdel v (hset v n m) = hdel v m
  | [] => by rw [hset, hdel_cons, if_pos (cmp_refl v)]; rfl
  | (k, c) :: rest => by
    rw [hset_cons, hdel_cons]
    by_cases hvk : cmp v k = 0
    · rw [if_pos hvk, if_pos hvk, hdel_cons, if_pos hvk]
    · rw [if_neg hvk, if_neg hvk, hdel_cons, if_neg hvk, hdel_hset v n rest]

theorem hdel_sublist (v : Value) : ∀ (m : CList), (hdel v m).Sublist m
  | [] => List.Sublist.slnil
  | (k, c) :: rest => by
    rw [hdel_cons]
    split
    · exact List.sublist_cons_self _ _
    · exact (hdel_sublist v rest).cons_cons _

theorem hcount_hdel (v : Value) : ∀ (m : CList), NoDupKeys m → ∀ w,
    hcount (hdel v m) w = if cmp v w = 0 then 0 else hcount m w
  | [], _, w => by rw [hdel, hcount_nil, ite_self]
  | (k, c) :: rest, hn, w => by
    obtain ⟨h1, h2⟩ := noDup_cons.mp hn
    rw [hdel_cons, hcount_cons k c rest w]
    by_cases hvk : cmp v k = 0
    · -- the entry of `v` is the head; no other key is `≃ k`
      rw [if_pos hvk, ite_ceq_left hvk w]
      split
      · rename_i hk
        exact hcount_eq_zero fun e he h0 => h1 e he (cmp_eq_trans hk (cmp_eq_symm h0))
      · rfl
    · rw [if_neg hvk, hcount_cons, hcount_hdel v rest h2 w]
      by_cases hk : cmp k w = 0
      · rw [if_pos hk, if_pos hk, if_neg (fun h0 => hvk (cmp_eq_trans h0 (cmp_eq_symm hk)))]
      · rw [if_neg hk, if_neg hk]

theorem all_hset {Q : Value × Int → Prop} {v : Value} {n : Int} (hv : Q (v, n)) (hc : ∀ k c, Q (k, c) → Q (k, n)) :
    ∀ (m : CList), (∀ e ∈ m, Q e) → ∀ e ∈ hset v n m, Q e
  | [], _ => List.forall_mem_cons.mpr ⟨hv, fun _ he => nomatch he⟩
  | (k, c) :: rest, ht => by
    obtain ⟨hk, hrest⟩ := List.forall_mem_cons.mp ht
    rw [hset_cons]
    split
    · exact List.forall_mem_cons.mpr ⟨hc k c hk, hrest⟩
    · exact List.forall_mem_cons.mpr ⟨hk, all_hset hv hc rest hrest⟩

theorem noDup_hset (v : Value) (n : Int) : ∀ (m : CList), NoDupKeys m → NoDupKeys (hset v n m)
  | [], _ => List.pairwise_singleton _ _
  | (k, c) :: rest, hn => by
    obtain ⟨h1, h2⟩ := noDup_cons.mp hn
    rw [hset_cons]
    split
    · exact noDup_cons.mpr ⟨h1, h2⟩
    · rename_i hvk
      -- `k`, `≄ v` and `≄` the keys of `rest`, is `≄` those of `hset v n rest`
      exact noDup_cons.mpr ⟨all_hset (Q := fun e => cmp k e.1 ≠ 0) (mt cmp_eq_symm hvk) (fun _ _ h => h) rest h1,
        noDup_hset v n rest h2⟩

/-- the map after `Add` -/
def hbump (r : Bool) (x : Value) (m : CList) : CList :=
  if hcount m x + delta r = 0 then hdel x m else hset x (hcount m x + delta r) m

def HInv (m : CList) (L : List Value) : Prop := NoDupKeys m ∧ Counts m L

theorem hinv_init : HInv [] [] := ⟨List.Pairwise.nil, counts_nil⟩

theorem hbump_noDup (r : Bool) (x : Value) {m : CList} (hn : NoDupKeys m) : NoDupKeys (hbump r x m) := by
  unfold hbump
  split
  · exact hn.sublist (hdel_sublist x m)
  · exact noDup_hset x _ m hn

theorem hbump_noZero (r : Bool) (x : Value) {m : CList} (hp : NoZero m) : NoZero (hbump r x m) := by
  unfold hbump
  split
  · exact fun e he => hp e ((hdel_sublist x m).mem he)
  · rename_i h0; exact all_hset (Q := fun e => e.2 ≠ 0) h0 (fun _ _ _ => h0) m hp

theorem hcount_hbump (r : Bool) (x : Value) {m : CList} (hn : NoDupKeys m) (w : Value) :
    hcount (hbump r x m) w = hcount m w + if cmp x w = 0 then delta r else 0 := by
  unfold hbump
  split
  · rename_i h0
    rw [hcount_hdel x m hn w]
    split
    · rename_i hw; rw [← hcount_congr m hw, h0]
    · rw [Int.add_zero]
  · rw [hcount_hset]
    split
    · rename_i hw; rw [hcount_congr m hw]
    · rw [Int.add_zero]

theorem hinv_step {m : CList} {L : List Value} (r : Bool) (x : Value) (hi : HInv m L)
    (hv : r = true → 0 < cnt L x) : HInv (hbump r x m) (bagStep L (r, x)) :=
  ⟨hbump_noDup r x hi.1, hbump_noZero r x hi.2.noZero, fun w => by
    rw [hcount_hbump r x hi.1 w, cnt_bagStep_delta hv w, hi.2.count w]⟩

/-- `Add` of the wrapper: the map moves by `hbump`, the wrapped aggregate sees the steps 0 → 1 and 1 → 0 -/
theorem distinctAdd_eq (A : Agg) (s : CList × A.σ) (r : Bool) (x : Value) :
    distinctAdd A s r x =
      ((hbump r x s.1,
        if hcount s.1 x + delta r = 1 ∧ r = false then (A.add s.2 false x).1
        else if hcount s.1 x + delta r = 0 then (A.add s.2 true x).1 else s.2),
       (hbump r x s.1).isEmpty) := by
  simp only [distinctAdd, hbump, add_delta]
  simp only [Bool.and_eq_true, beq_iff_eq, Bool.not_eq_true']
  by_cases h1 : hcount s.1 x + delta r = 1 ∧ r = false
  · rw [if_pos h1, if_pos h1, if_neg (by omega)]
  · rw [if_neg h1, if_neg h1]
    by_cases h0 : hcount s.1 x + delta r = 0
    · rw [if_pos h0, if_pos h0, if_pos h0, hdel_hset]
    · rw [if_neg h0, if_neg h0, if_neg h0]

theorem distinct_keeps (A : Agg) : KeepsInv (distinctAgg A) (fun _ => True) (fun (s : CList × A.σ) L => HInv s.1 L) :=
  fun {s : CList × A.σ} {L} e hm _ _ hv => by
    have hmap := hinv_step e.1 e.2 hm hv
    show HInv (distinctAdd A s e.1 e.2).1.1 _ ∧ (distinctAdd A s e.1 e.2).2 = _
    rw [distinctAdd_eq]
    exact ⟨hmap, hmap.2.isEmpty⟩

def ind (n : Int) : Int := if 0 < n then 1 else 0

theorem ind_of_pos {n : Int} (h : 0 < n) : ind n = 1 := if_pos h
theorem ind_of_not_pos {n : Int} (h : ¬ 0 < n) : ind n = 0 := if_neg h

theorem cnt_support : ∀ (L : List Value) (v : Value), cnt (support L) v = ind (cnt L v)
  | [], _ => rfl
  | x :: r, v => by
    have ih := cnt_support r v
    have hnn := cnt_nonneg r v
    rw [support, cnt_cons]
    by_cases hx : cmp x v = 0
    · -- `x` is kept iff nothing `≃ v` follows; either way the class of `v` is there once
      rw [if_pos hx, cnt_congr r hx, ind_of_pos (by omega)]
      by_cases hp : 0 < cnt r v
      · rw [if_pos hp, ih, ind_of_pos hp]
      · rw [if_neg hp, cnt_cons, if_pos hx, ih, ind_of_not_pos hp]; rfl
    · rw [if_neg hx, Int.zero_add, ← ih]
      split
      · rfl
      · rw [cnt_cons, if_neg hx, Int.zero_add]

theorem support_sublist : ∀ (L : List Value), (support L).Sublist L
  | [] => List.Sublist.slnil
  | x :: r => by
    rw [support]
    split
    · exact (support_sublist r).cons _
    · exact (support_sublist r).cons_cons _

/-- how `[0 < n]` moves with `n`, in the three cases that `Add` distinguishes -/
theorem ind_add_delta {n : Int} {r : Bool} (hn : 0 ≤ n) (hr : r = true → 0 < n) :
    ind (n + delta r) = ind n + (if n + delta r = 1 ∧ r = false then 1 else if n + delta r = 0 then -1 else 0) := by
  cases r with
  | false =>
    show ind (n + 1) = ind n + if n + 1 = 1 ∧ false = false then 1 else if n + 1 = 0 then -1 else 0
    rw [ind_of_pos (by omega)]
    by_cases h : n = 0
    · rw [h]; rfl
    · rw [if_neg (fun h' => h (by omega)), if_neg (by omega), ind_of_pos (by omega)]; rfl
  | true =>
    have := hr rfl
    show ind (n + -1) = ind n + if n + -1 = 1 ∧ true = false then 1 else if n + -1 = 0 then -1 else 0
    rw [ind_of_pos this, if_neg (fun h' => nomatch h'.2)]
    by_cases h : n = 1
    · rw [h]; rfl
    · rw [if_neg (by omega), ind_of_pos (by omega)]; rfl

variable {A : Agg} {P : Value → Prop} {spec : List Value → Value}

/-- the state of the wrapper: the map represents `L`, the wrapped aggregate represents some `L'`
    holding each class of `L` exactly once. `L'` is existential, not `support L`: it moves by `bagStep` with the
    forwarded events, and `pf.Inv` need not be invariant under `CntEq`. -/
def DInv (pf : AggProof A P spec) (s : CList × A.σ) (L : List Value) : Prop :=
  HInv s.1 L ∧ ∃ L', pf.Inv s.2 L' ∧ (∀ x ∈ L', P x) ∧ ∀ v, cnt L' v = ind (cnt L v)

theorem distinct_step (pf : AggProof A P spec) {s : CList × A.σ} {L : List Value} (e : Bool × Value)
    (hi : DInv pf s L) (hP : P e.2) (hv : e.1 = true → 0 < cnt L e.2) :
    DInv pf (distinctAdd A s e.1 e.2).1 (bagStep L e) ∧
      (distinctAdd A s e.1 e.2).2 = (bagStep L e).isEmpty := by
  obtain ⟨r, x⟩ := e
  obtain ⟨hm, L', hinv, hLP, hL'⟩ := hi
  obtain ⟨hmap, hflag⟩ := distinct_keeps A (r, x) hm (fun _ _ => trivial) trivial hv
  -- a list whose counts differ from those of `L'` by `w` on the class of `x`, `w` being how `[0 < cnt L x]`
  -- moves, holds each class of the new multiset once
  have key : ∀ (w : Int) (L'' : List Value), ind (cnt L x + delta r) = ind (cnt L x) + w →
      (∀ v, cnt L'' v = cnt L' v + (if cmp x v = 0 then w else 0)) →
      ∀ v, cnt L'' v = ind (cnt (bagStep L (r, x)) v) := by
    intro w L'' hw h v
    rw [h v, hL' v, cnt_bagStep_delta hv v]
    by_cases hx : cmp x v = 0
    · rw [if_pos hx, if_pos hx, ← cnt_congr L hx, hw]
    · rw [if_neg hx, if_neg hx, Int.add_zero, Int.add_zero]
  have hstep := ind_add_delta (cnt_nonneg L x) hv
  refine ⟨⟨hmap, ?_⟩, hflag⟩
  show ∃ L'', pf.Inv (distinctAdd A s r x).1.2 L'' ∧ _
  rw [distinctAdd_eq, hm.2.count x]
  by_cases h1 : cnt L x + delta r = 1 ∧ r = false
  · -- 0 → 1: forwarded as an addition
    rw [if_pos h1] at hstep ⊢
    obtain ⟨i1, _⟩ := pf.step (false, x) hinv hLP hP (fun h => nomatch h)
    exact ⟨_, i1, all_bagStep hLP hP, key 1 _ hstep (cnt_bagStep_delta (fun h => nomatch h))⟩
  · rw [if_neg h1] at hstep ⊢
    by_cases h0 : cnt L x + delta r = 0
    · -- 1 → 0: forwarded as a retraction
      rw [if_pos h0] at hstep ⊢
      have hx1 : 0 < cnt L' x := by
        have : ind 0 = 0 := rfl
        rw [hL' x]; rw [h0] at hstep; omega
      obtain ⟨i1, _⟩ := pf.step (true, x) hinv hLP hP (fun _ => hx1)
      exact ⟨_, i1, all_bagStep hLP hP, key (-1) _ hstep (cnt_bagStep_delta (fun _ => hx1))⟩
    · rw [if_neg h0] at hstep ⊢
      exact ⟨L', hinv, hLP, key 0 L' hstep (fun v => by rw [ite_self, Int.add_zero])⟩

def distinctProof (pf : AggProof A P spec) : AggProof (distinctAgg A) P (fun M => spec (support M)) where
  Inv := DInv pf
  init := ⟨hinv_init, [], pf.init, fun _ hx => (nomatch hx), fun _ => rfl⟩
  step := fun e hi _ hP hv => distinct_step pf e hi hP hv
  result := by
    intro s L hi hLP hne
    obtain ⟨_, L', hinv, hL'P, hL'⟩ := hi
    have hc : CntEq L' (support L) := fun v => by rw [hL' v, cnt_support]
    have hne' : L' ≠ [] := fun h0 => by
      obtain ⟨x, hx⟩ := List.exists_mem_of_ne_nil L hne
      have := hL' x
      rw [h0, ind_of_pos (cnt_pos_of_mem hx)] at this
      exact Int.zero_ne_one this
    obtain ⟨r, hr, hrs⟩ := pf.result hinv hL'P hne'
    exact ⟨r, hr, cmp_eq_trans hrs (pf.congr hL'P (fun x hx => hLP x ((support_sublist L).subset hx)) hc)⟩
  congr := fun {L M} hL hM h =>
    pf.congr (fun x hx => hL x ((support_sublist L).subset hx)) (fun x hx => hM x ((support_sublist M).subset hx))
      fun v => by rw [cnt_support, cnt_support, h v]
  P_congr := pf.P_congr

end Octo.Agg
