import Octo.Lemmas.AggDistinct
/-!
  Why the property needs `M ≠ ∅`: on an empty net multiset `Trigger` of min / max / avg(Int, Duration)
  panics (nil interface conversion, integer division by zero) — also behind the Distinct wrapper.
-/
namespace Octo.Agg
open Octo

variable {A : Agg} {P : Value → Prop} {spec : List Value → Value}

def PanicsOnEmpty (pf : AggProof A P spec) : Prop := ∀ s, pf.Inv s [] → A.trigger s = .panic

theorem minProof_panics : PanicsOnEmpty minProof := fun t hi => by
  rw [List.isEmpty_iff.mp hi.2.isEmpty]; rfl

theorem maxProof_panics : PanicsOnEmpty maxProof := fun t hi => by
  rw [List.isEmpty_iff.mp hi.2.isEmpty]; rfl

theorem avgProof_panics (fld : Value → Int) (hf : ∀ a b, cmp a b = 0 → fld a = fld b) (mk : Int → Value) :
    PanicsOnEmpty (avgProof fld hf mk) := by
  intro a hi
  have hc : a.count = 0 := hi.2
  show (match avgDiv a with | none => Out.panic | some q => Out.val (mk q)) = Out.panic
  rw [avgDiv, if_pos hc]

theorem distinct_panics (pf : AggProof A P spec) (hp : PanicsOnEmpty pf) : PanicsOnEmpty (distinctProof pf) := by
  intro s hi
  obtain ⟨_, L', hinv, _, hL'⟩ := hi
  -- on the empty outer multiset `ind (cnt [] v)` is `0`: the wrapped aggregate holds the empty multiset too
  have hL0 : ∀ v, cnt L' v = 0 := hL'
  rw [eq_nil_of_cnt_zero hL0] at hinv
  exact hp s.2 hinv

theorem AggProof.empty_panics (pf : AggProof A P spec) (hp : PanicsOnEmpty pf) (h : Hist) (hv : ValidHist h)
    (hP : ∀ e ∈ h, P e.2) (hM : IsNet [] h) : A.trigger (A.run h).1 = .panic := by
  have hi := (run_inv pf.step pf.init hv hP).1
  rw [CntEq.nil_right (bagRun_cntEq hv hM)] at hi
  exact hp _ hi

end Octo.Agg
