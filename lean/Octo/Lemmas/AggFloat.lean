import Octo.Lemmas.AggCore
/-!
  Float `sum` / `avg` in exact arithmetic: for histories of *finite* floats the running sum is the
  exact sum of the net multiset (an integer number of units of 2^-1074 — a commutative group, so the
  order of additions and retractions is irrelevant). IEEE-754 rounding is outside the model.
  The bool returned by `Add` comes from the element counter and holds for all inputs (`sumFloat_keeps`).
-/
namespace Octo.Agg
open Octo

/-- the inputs for which the float sums are exact-arithmetic correct: finite float fields -/
def FiniteF (v : Value) : Prop := F64.isFinite (floatField v) = true

theorem not_special_of_finite {b : Nat} (h : F64.isFinite b = true) : F64.isNaN b = false ∧ F64.isInf b = false := by
  have := of_decide_eq_true h
  exact ⟨decide_eq_false (by omega), beq_false_of_ne (by omega)⟩

theorem not_finite_of_nan {b : Nat} (h : F64.isNaN b = true) : F64.isFinite b = false := by
  have := of_decide_eq_true h
  exact decide_eq_false (by omega)

theorem toScaled_zero_of_mag (x : Nat) (h : F64.mag x = 0) : F64.toScaled x = 0 := by
  unfold F64.toScaled
  simp [h]

theorem float_congr (x y : Nat) (h : cmpFloatFixed x y = 0) :
    F64.isFinite x = F64.isFinite y ∧ (F64.isFinite x = true → F64.toScaled x = F64.toScaled y) := by
  rcases (cmpFloatFixed_eq_zero_iff x y).mp h with ⟨h1, h2⟩ | ⟨_, _, h3⟩
  · rw [not_finite_of_nan h1, not_finite_of_nan h2]; exact ⟨rfl, fun h => nomatch h⟩
  · obtain ⟨hm, hs⟩ := F64.key_eq_cases x y h3
    refine ⟨by unfold F64.isFinite; rw [hm], fun _ => ?_⟩
    rcases hs with hs | hs
    · unfold F64.toScaled; rw [hm, hs]
    · rw [toScaled_zero_of_mag x hs, toScaled_zero_of_mag y (hm ▸ hs)]

theorem finScaled_congr (a b : Value) (h : cmp a b = 0) : finScaled a = finScaled b := by
  obtain ⟨h1, h2⟩ := float_congr _ _ (fields_congr h).2.2
  unfold finScaled
  rw [← h1]
  split
  · rename_i hf; exact h2 hf
  · rfl

theorem finiteF_congr {a b : Value} (h : cmp a b = 0) (ha : FiniteF a) : FiniteF b :=
  (float_congr _ _ (fields_congr h).2.2).1.symm.trans ha

theorem ofBits_finite {v : Value} (h : FiniteF v) : FSum.ofBits (floatField v) = .fin (finScaled v) := by
  obtain ⟨h1, h2⟩ := not_special_of_finite h
  simp only [FSum.ofBits, finScaled, h1, h2, show F64.isFinite (floatField v) = true from h,
    Bool.false_eq_true, if_false, if_true]

theorem specFSum_finite {L : List Value} (h : ∀ x ∈ L, FiniteF x) : specFSum L = .fin (sumZ finScaled L) := by
  have hany : ∀ q : Nat → Bool, (∀ x ∈ L, q (floatField x) = false) → (L.map floatField).any q = false :=
    fun q hq => List.any_eq_false.mpr fun b hb => by
      obtain ⟨x, hx, rfl⟩ := List.mem_map.mp hb
      rw [hq x hx]; exact Bool.false_ne_true
  have h1 := hany F64.isNaN fun x hx => (not_special_of_finite (h x hx)).1
  have h2 : ∀ q : Nat → Bool, (L.map floatField).any (fun b => F64.isInf b && q b) = false :=
    fun q => hany _ fun x hx => by rw [(not_special_of_finite (h x hx)).2]; rfl
  simp only [specFSum, h1, h2]
  simp

theorem roundMag_le (a d : Nat) : F64.roundMag a d ≤ F64.expMask := by
  -- `roundMag` ends in this clamp; `exact aux _` reaches it by unfolding, the `let`s above it stay closed
  have aux : ∀ bits : Nat, (if bits ≥ F64.expMask then F64.expMask else bits) ≤ F64.expMask := by
    intro bits; split <;> omega
  exact aux _

/-- a finite exact sum is never reported as NaN (rounding can only overflow to an infinity) -/
theorem ofScaled_not_nan (k : Int) : F64.isNaN (F64.ofScaled k) = false := by
  have h := roundMag_le k.natAbs 1
  simp only [F64.expMask] at h
  simp only [F64.ofScaled, F64.isNaN, F64.mag, F64.signBit, F64.expMask]
  split <;> simp <;> omega

def FSumInv (s : FSumS) (L : List Value) : Prop := s.sum = .fin (sumZ finScaled L) ∧ s.count = (L.length : Int)

theorem fsumAdd_count (s : FSumS) (r : Bool) (v : Value) :
    ((fsumAdd s r v).1.count, (fsumAdd s r v).2) = countAdd s.count r v := by
  cases r <;> rfl

theorem sumFloat_keeps : KeepsInv sumFloatAgg (fun _ => True) (fun (s : FSumS) L => s.count = (L.length : Int)) :=
  fun {s L} e hi _ _ hv => by
    have hc := countAdd_step e hi hv
    rw [← fsumAdd_count s] at hc
    exact hc

theorem avgFloat_keeps : KeepsInv avgFloatAgg (fun _ => True) (fun (a : FAvgS) L => a.count = (L.length : Int)) :=
  fun e hi _ _ hv => countAdd_step e hi hv

theorem fsumAdd_step {s : FSumS} {L : List Value} (e : Bool × Value) (hi : FSumInv s L) (hP : FiniteF e.2)
    (hv : e.1 = true → 0 < cnt L e.2) :
    FSumInv (fsumAdd s e.1 e.2).1 (bagStep L e) ∧ (fsumAdd s e.1 e.2).2 = (bagStep L e).isEmpty := by
  obtain ⟨hc, hf⟩ := sumFloat_keeps e hi.2 (fun _ _ => trivial) trivial hv
  refine ⟨⟨?_, hc⟩, hf⟩
  rw [sumZ_bagStep finScaled finScaled_congr hv]
  cases e.1
  · show s.sum.add (FSum.ofBits (floatField e.2)) = .fin (finScaled e.2 + sumZ finScaled L)
    rw [hi.1, ofBits_finite hP, Int.add_comm]; rfl
  · show s.sum.add (FSum.ofBits (floatField e.2)).neg = .fin (sumZ finScaled L - finScaled e.2)
    rw [hi.1, ofBits_finite hP, Int.sub_eq_add_neg]; rfl

def sumFloatProof : AggProof sumFloatAgg FiniteF specSumFloat where
  Inv := FSumInv
  init := ⟨rfl, rfl⟩
  step := fun e hi _ hP hv => fsumAdd_step e hi hP hv
  result := by
    intro s L hi hL _
    refine ⟨specSumFloat L, ?_, cmp_refl _⟩
    simp only [sumFloatAgg, specSumFloat, specFSum_finite hL, hi.1]
  congr := by
    intro L M hL hM h
    simp only [specSumFloat, specFSum_finite hL, specFSum_finite hM, sumZ_congr finScaled finScaled_congr L M h]
    exact cmp_refl _
  P_congr := finiteF_congr

def avgFloatProof : AggProof avgFloatAgg FiniteF specAvgFloat where
  Inv a L := FSumInv a.sum L ∧ a.count = (L.length : Int)
  init := ⟨⟨rfl, rfl⟩, rfl⟩
  step := fun e hi _ hP hv =>
    have hc := avgFloat_keeps e hi.2 (fun _ _ => trivial) trivial hv
    ⟨⟨(fsumAdd_step e hi.1 hP hv).1, hc.1⟩, hc.2⟩
  result := by
    intro a L hi hL _
    refine ⟨specAvgFloat L, ?_, cmp_refl _⟩
    simp only [avgFloatAgg, specAvgFloat, specFSum_finite hL, hi.1.1, hi.2]
  congr := by
    intro L M hL hM h
    simp only [specAvgFloat, specFSum_finite hL, specFSum_finite hM, sumZ_congr finScaled finScaled_congr L M h,
      length_congr L M h]
    exact cmp_refl _
  P_congr := finiteF_congr

end Octo.Agg
