import Octo.Lemmas.AggCore
/-!
  Association lists `(value, count)` read by `hcount`: what the hashmap of `distinct.go` (no two keys `≃`; its
  operations are in `AggDistinct`) and the btree of `min.go` / `max.go` / `array.go` (keys strictly ascending)
  have in common. `Counts m L`: the list holds the multiplicities of the multiset `L` and no zero entry (hence,
  without duplicate keys, positive counts). Then the btree: `bump` through one case principle (`bump_cases`), and
  `Min` / `Max` as least elements of `cmp · · ≤ 0` and of its converse (`CmpOrder`, `IsLeast`).
-/
namespace Octo.Agg
open Octo

theorem hget_cons (v k : Value) (c : Int) (rest : CList) :
    hget v ((k, c) :: rest) = if cmp v k = 0 then some c else hget v rest := by
  simp only [hget, beq_iff_eq]

theorem hcount_nil (v : Value) : hcount [] v = 0 := rfl

/-- the test is written `cmp k v` as in `cnt_cons`, not `cmp v k` as in `hget` -/
theorem hcount_cons (k : Value) (c : Int) (rest : CList) (v : Value) :
    hcount ((k, c) :: rest) v = if cmp k v = 0 then c else hcount rest v := by
  unfold hcount
  rw [hget_cons]
  by_cases h : cmp k v = 0
  · rw [if_pos (cmp_eq_symm h), if_pos h]
  · rw [if_neg (mt cmp_eq_symm h), if_neg h]

theorem hcount_congr (m : CList) {v w : Value} (h : cmp v w = 0) : hcount m v = hcount m w := by
  induction m with
  | nil => rfl
  | cons e r ih => rw [hcount_cons, hcount_cons, ih, cmp_congr (cmp_refl e.1) h]

def NoZero (t : CList) : Prop := ∀ e ∈ t, e.2 ≠ 0
def NoDupKeys (m : CList) : Prop := m.Pairwise (fun a b => cmp a.1 b.1 ≠ 0)

theorem noDup_cons {k : Value} {c : Int} {rest : CList} :
    NoDupKeys ((k, c) :: rest) ↔ (∀ e ∈ rest, cmp k e.1 ≠ 0) ∧ NoDupKeys rest :=
  List.pairwise_cons

theorem hcount_eq_zero {t : CList} {w : Value} (h : ∀ e ∈ t, cmp e.1 w ≠ 0) : hcount t w = 0 := by
  induction t with
  | nil => rfl
  | cons e r ih =>
    obtain ⟨k, c⟩ := e
    rw [hcount_cons, if_neg (h (k, c) List.mem_cons_self)]
    exact ih (fun e he => h e (List.mem_cons_of_mem _ he))

theorem hcount_exists {t : CList} {v : Value} (h : hcount t v ≠ 0) : ∃ e ∈ t, cmp e.1 v = 0 :=
  Classical.byContradiction fun hn => h (hcount_eq_zero fun e he h0 => hn ⟨e, he, h0⟩)

theorem hcount_of_mem {t : CList} (hn : NoDupKeys t) {k : Value} {c : Int} (hm : (k, c) ∈ t) :
    hcount t k = c := by
  induction t with
  | nil => cases hm
  | cons e r ih =>
    obtain ⟨k0, c0⟩ := e
    obtain ⟨h1, h2⟩ := noDup_cons.mp hn
    rw [hcount_cons]
    rcases List.mem_cons.mp hm with heq | hm'
    · cases heq; exact if_pos (cmp_refl k)
    · rw [if_neg (h1 (k, c) hm')]; exact ih h2 hm'

structure Counts (m : CList) (L : List Value) : Prop where
  noZero : NoZero m
  count : ∀ v, hcount m v = cnt L v

theorem counts_nil : Counts [] [] := ⟨fun _ he => (nomatch he), fun _ => rfl⟩

theorem Counts.isEmpty {m : CList} {L : List Value} (h : Counts m L) : m.isEmpty = L.isEmpty := by
  obtain ⟨hp, hl⟩ := h
  cases m with
  | nil => rw [eq_nil_of_cnt_zero (fun v => (hl v).symm)]; rfl
  | cons e r =>
    obtain ⟨k, c⟩ := e
    have : cnt L k ≠ 0 := by rw [← hl k, hcount_cons, if_pos (cmp_refl k)]; exact hp (k, c) List.mem_cons_self
    cases L with
    | nil => exact absurd rfl this
    | cons _ _ => rfl

theorem Counts.pos {m : CList} {L : List Value} (h : Counts m L) (hn : NoDupKeys m) {k : Value} {c : Int}
    (hm : (k, c) ∈ m) : 0 < c := by
  have := h.noZero _ hm
  have := cnt_nonneg L k
  rw [← h.count k, hcount_of_mem hn hm] at this
  omega

def KeysSorted (t : CList) : Prop := t.Pairwise (fun a b => cmp a.1 b.1 < 0)

theorem keysSorted_cons {k : Value} {c : Int} {rest : CList} :
    KeysSorted ((k, c) :: rest) ↔ (∀ e ∈ rest, cmp k e.1 < 0) ∧ KeysSorted rest :=
  List.pairwise_cons

theorem KeysSorted.noDup {t : CList} (hs : KeysSorted t) : NoDupKeys t :=
  List.Pairwise.imp (fun h => by omega) hs

theorem hcount_eq_zero_of_lt {t : CList} {v : Value} (h : ∀ e ∈ t, cmp v e.1 < 0) {w : Value} (hw : cmp v w = 0) :
    hcount t w = 0 :=
  hcount_eq_zero fun e he h0 => by
    have hlt : cmp v e.1 < 0 := h e he
    have heq : cmp v e.1 = 0 := cmp_eq_trans hw (cmp_eq_symm h0)   -- `v ≃ w ≃ e.1`
    omega

theorem lt_keys_cons {v k : Value} {c : Int} {rest : CList} (hlt : cmp v k < 0) (hs : KeysSorted ((k, c) :: rest)) :
    ∀ e ∈ (k, c) :: rest, cmp v e.1 < 0 := by
  intro e he
  rcases List.mem_cons.mp he with rfl | he'
  · exact hlt
  · exact cmp_lt_of_lt_of_le hlt (Int.le_of_lt ((keysSorted_cons.mp hs).1 e he'))

theorem bump_nil (r : Bool) (v : Value) : bump r v [] = [(v, delta r)] := rfl

/-- the four things `bump` can do to a non-empty tree, the btree's `Less`-tests written as order facts -/
theorem bump_cases {motive : CList → Prop} (r : Bool) (v k : Value) (c : Int) (rest : CList)
    (below : cmp v k < 0 → motive ((v, delta r) :: (k, c) :: rest))
    (above : cmp k v < 0 → motive ((k, c) :: bump r v rest))
    (drop : cmp v k = 0 → c + delta r = 0 → motive rest)
    (move : cmp v k = 0 → c + delta r ≠ 0 → motive ((k, c + delta r) :: rest)) :
    motive (bump r v ((k, c) :: rest)) := by
  simp only [bump, add_delta, beq_iff_eq]
  by_cases hlt : cmp v k = -1
  · rw [if_pos hlt]; exact below (by rw [hlt]; decide)
  · rw [if_neg hlt]
    by_cases hgt : cmp k v = -1
    · rw [if_pos hgt]; exact above (by rw [hgt]; decide)
    · have hvk : cmp v k = 0 := by have := cmp_antisymm v k; have := cmp_range v k; omega
      rw [if_neg hgt]
      by_cases hz : c + delta r = 0
      · rw [if_pos hz]; exact drop hvk hz
      · rw [if_neg hz]; exact move hvk hz

theorem all_bump {Q : Value × Int → Prop} (r : Bool) (v : Value) (hv : Q (v, delta r))
    (hc : ∀ k c, Q (k, c) → c + delta r ≠ 0 → Q (k, c + delta r)) :
    ∀ (t : CList), (∀ e ∈ t, Q e) → ∀ e ∈ bump r v t, Q e
  | [], _ => List.forall_mem_cons.mpr ⟨hv, fun _ he => nomatch he⟩
  | (k, c) :: rest, ht =>
    have ⟨hk, hrest⟩ := List.forall_mem_cons.mp ht
    bump_cases (motive := fun t => ∀ e ∈ t, Q e) r v k c rest
      (fun _ => List.forall_mem_cons.mpr ⟨hv, ht⟩)
      (fun _ => List.forall_mem_cons.mpr ⟨hk, all_bump r v hv hc rest hrest⟩)
      (fun _ _ => hrest)
      (fun _ hz => List.forall_mem_cons.mpr ⟨hc k c hk hz, hrest⟩)

theorem bump_sorted (r : Bool) (v : Value) : ∀ (t : CList), KeysSorted t → KeysSorted (bump r v t)
  | [], _ => List.pairwise_singleton _ _
  | (k, c) :: rest, hs =>
    have ⟨h1, h2⟩ := keysSorted_cons.mp hs
    bump_cases (motive := KeysSorted) r v k c rest
      (fun hlt => keysSorted_cons.mpr ⟨lt_keys_cons hlt hs, hs⟩)
      -- `k`, below `v` and below the keys of `rest`, is below those of `bump r v rest`
      (fun hkv => keysSorted_cons.mpr
        ⟨all_bump (Q := fun e => cmp k e.1 < 0) r v hkv (fun _ _ h _ => h) rest h1, bump_sorted r v rest h2⟩)
      (fun _ _ => h2)
      (fun _ _ => keysSorted_cons.mpr ⟨h1, h2⟩)

theorem hcount_bump (r : Bool) (v : Value) : ∀ (t : CList), KeysSorted t → ∀ w,
    hcount (bump r v t) w = hcount t w + (if cmp v w = 0 then delta r else 0)
  | [], _, w => by rw [bump_nil, hcount_cons, hcount_nil, Int.zero_add]
  | (k, c) :: rest, hs, w => by
    obtain ⟨h1, h2⟩ := keysSorted_cons.mp hs
    refine bump_cases (motive := fun t => hcount t w = hcount ((k, c) :: rest) w + _) r v k c rest
      (fun hlt => ?_) (fun hkv => ?_) (fun hvk hz => ?_) (fun hvk hz => ?_)
    · rw [hcount_cons]
      by_cases hw : cmp v w = 0
      · rw [if_pos hw, if_pos hw, hcount_eq_zero_of_lt (lt_keys_cons hlt hs) hw, Int.zero_add]
      · rw [if_neg hw, if_neg hw, Int.add_zero]
    · rw [hcount_cons, hcount_cons, hcount_bump r v rest h2 w]
      by_cases hk : cmp k w = 0
      · -- `w ≃ k`, and `v` is above `k`
        have : cmp v w ≠ 0 := fun h0 => by have := cmp_eq_trans hk (cmp_eq_symm h0); omega
        rw [if_pos hk, if_pos hk, if_neg this, Int.add_zero]
      · rw [if_neg hk, if_neg hk]
    -- `v ≃ k`: the tests `k ≃ w` and `v ≃ w` agree, and nothing in `rest` is `≃ k`
    · rw [hcount_cons, ite_ceq_left hvk w]
      split
      · rename_i hk; rw [hcount_eq_zero_of_lt h1 hk, hz]
      · rw [Int.add_zero]
    · rw [hcount_cons, hcount_cons, ite_ceq_left hvk w]
      split
      · rfl
      · rw [Int.add_zero]

theorem bump_noZero (r : Bool) (v : Value) (t : CList) (hp : NoZero t) : NoZero (bump r v t) :=
  all_bump (Q := fun e => e.2 ≠ 0) r v (show delta r ≠ 0 by cases r <;> decide) (fun _ _ _ hz => hz) t hp

def TreeInv (t : CList) (L : List Value) : Prop := KeysSorted t ∧ Counts t L

theorem tree_init : TreeInv [] [] := ⟨List.Pairwise.nil, counts_nil⟩

theorem tree_step {t : CList} {L : List Value} (e : Bool × Value) (hi : TreeInv t L)
    (hv : e.1 = true → 0 < cnt L e.2) :
    TreeInv (treeAdd t e.1 e.2).1 (bagStep L e) ∧ (treeAdd t e.1 e.2).2 = (bagStep L e).isEmpty := by
  obtain ⟨hs, hp, hl⟩ := hi
  have hi' : TreeInv (bump e.1 e.2 t) (bagStep L e) :=
    ⟨bump_sorted _ _ t hs, bump_noZero _ _ t hp, fun w => by
      rw [hcount_bump _ _ t hs w, cnt_bagStep_delta hv w, hl w]⟩
  exact ⟨hi', hi'.2.isEmpty⟩

/-- what is used of the two orders -/
structure CmpOrder (R : Value → Value → Prop) : Prop where
  trans : ∀ {a b c}, R a b → R b c → R a c
  of_ceq : ∀ {a b}, cmp a b = 0 → R a b
  antisymm : ∀ {a b}, R a b → R b a → cmp a b = 0

theorem cle_order : CmpOrder (fun a b => cmp a b ≤ 0) where
  trans := cmp_trans _ _ _
  of_ceq h := Int.le_of_eq h
  antisymm {a b} h1 h2 := by have := cmp_antisymm a b; omega

/-- the converse order: its least elements are the greatest ones (`specMax_least`, `maxProof`) -/
theorem cge_order : CmpOrder (fun a b => cmp b a ≤ 0) where
  trans h1 h2 := cmp_trans _ _ _ h2 h1
  of_ceq h := Int.le_of_eq (cmp_eq_symm h)
  antisymm {a b} h1 h2 := by have := cmp_antisymm a b; omega

/-- `0 < cnt L k`, not `k ∈ L`: the key a tree stores is only `≃` to a member of another list representing the same
    multiset (`IsLeast.congr`) -/
def IsLeast (R : Value → Value → Prop) (L : List Value) (k : Value) : Prop := 0 < cnt L k ∧ ∀ y ∈ L, R k y

variable {R : Value → Value → Prop}

theorem IsLeast.congr (o : CmpOrder R) {L M : List Value} (h : CntEq L M) {k : Value} (hk : IsLeast R L k) :
    IsLeast R M k := by
  refine ⟨by rw [← h k]; exact hk.1, fun y hy => ?_⟩
  obtain ⟨x, hx, hxy⟩ := h.exists_mem hy
  exact o.trans (hk.2 x hx) (o.of_ceq hxy)

theorem IsLeast.unique (o : CmpOrder R) {L : List Value} {k m : Value} (hk : IsLeast R L k) (hm : IsLeast R L m) :
    cmp k m = 0 := by
  obtain ⟨x, hx, hxk⟩ := exists_mem_of_cnt_pos hk.1
  obtain ⟨y, hy, hym⟩ := exists_mem_of_cnt_pos hm.1
  exact o.antisymm (o.trans (hk.2 y hy) (o.of_ceq hym)) (o.trans (hm.2 x hx) (o.of_ceq hxk))

theorem tree_least (o : CmpOrder R) {t : CList} {L : List Value} (h : TreeInv t L) {k : Value} {c : Int}
    (hm : (k, c) ∈ t) (hk : ∀ e ∈ t, R k e.1) : IsLeast R L k := by
  obtain ⟨hs, hc⟩ := h
  have hl := hc.count
  refine ⟨by rw [← hl k, hcount_of_mem hs.noDup hm]; exact hc.pos hs.noDup hm, fun y hy => ?_⟩
  have : hcount t y ≠ 0 := by rw [hl y]; exact Int.ne_of_gt (cnt_pos_of_mem hy)
  obtain ⟨e, he, hey⟩ := hcount_exists this
  exact o.trans (hk e he) (o.of_ceq hey)

theorem foldl_least (o : CmpOrder R) {p : Value → Value → Prop} [∀ a b, Decidable (p a b)]
    (hp : ∀ m y, (p y m → R y m) ∧ (¬ p y m → R m y)) :
    ∀ (r : List Value) (m : Value), r.foldl (fun m y => if p y m then y else m) m ∈ m :: r ∧
      ∀ z ∈ m :: r, R (r.foldl (fun m y => if p y m then y else m) m) z
  | [], m => ⟨List.mem_singleton.mpr rfl, fun z hz => by
      rw [List.mem_singleton.mp hz]; exact o.of_ceq (cmp_refl m)⟩
  | y :: r, m => by
    rw [List.foldl_cons]
    by_cases h : p y m
    · obtain ⟨hmem, hle⟩ := foldl_least o hp r y
      obtain ⟨hy, hr⟩ := List.forall_mem_cons.mp hle
      rw [if_pos h]
      exact ⟨List.mem_cons_of_mem _ hmem,
        List.forall_mem_cons.mpr ⟨o.trans hy ((hp m y).1 h), hle⟩⟩
    · obtain ⟨hmem, hle⟩ := foldl_least o hp r m
      obtain ⟨hm, hr⟩ := List.forall_mem_cons.mp hle
      rw [if_neg h]
      exact ⟨List.cons_subset_cons m (List.subset_cons_self y r) hmem,
        List.forall_mem_cons.mpr ⟨hm, List.forall_mem_cons.mpr ⟨o.trans hm ((hp m y).2 h), hr⟩⟩⟩

theorem specMin_spec {L : List Value} (h : L ≠ []) : specMin L ∈ L ∧ ∀ y ∈ L, cmp (specMin L) y ≤ 0 := by
  cases L with
  | nil => exact absurd rfl h
  | cons x r =>
    exact foldl_least cle_order (p := fun y m => cmp y m < 0)
      (fun m y => ⟨Int.le_of_lt, fun h => by have := cmp_antisymm m y; omega⟩) r x

theorem specMax_spec {L : List Value} (h : L ≠ []) : specMax L ∈ L ∧ ∀ y ∈ L, cmp y (specMax L) ≤ 0 := by
  cases L with
  | nil => exact absurd rfl h
  | cons x r =>
    exact foldl_least cge_order (p := fun y m => cmp y m > 0)
      (fun m y => ⟨fun h => by have := cmp_antisymm m y; omega, Int.not_lt.mp⟩) r x

theorem specMin_least {L : List Value} (h : L ≠ []) : IsLeast (fun a b => cmp a b ≤ 0) L (specMin L) :=
  ⟨cnt_pos_of_mem (specMin_spec h).1, (specMin_spec h).2⟩

theorem specMax_least {L : List Value} (h : L ≠ []) : IsLeast (fun a b => cmp b a ≤ 0) L (specMax L) :=
  ⟨cnt_pos_of_mem (specMax_spec h).1, (specMax_spec h).2⟩

/-- `min.go` / `max.go`: a tree whose `Trigger` reports a least element, against a specification that
    picks a least element -/
def leastProof (o : CmpOrder R) {trig : CList → Out} {spec : List Value → Value}
    (htrig : ∀ {t : CList} {L : List Value}, TreeInv t L → L ≠ [] → ∃ k, trig t = .val k ∧ IsLeast R L k)
    (hspec : ∀ {L : List Value}, L ≠ [] → IsLeast R L (spec L)) :
    AggProof { σ := CList, init := [], add := treeAdd, trigger := trig } (fun _ => True) spec where
  Inv := TreeInv
  init := tree_init
  step := fun e hi _ _ hv => tree_step e hi hv
  result := fun hi _ hne =>
    have ⟨k, hk, hl⟩ := htrig hi hne
    ⟨k, hk, hl.unique o (hspec hne)⟩
  congr := fun {L M} _ _ h => by
    by_cases hL : L = []
    · subst hL; rw [CntEq.nil_right h.symm]; exact cmp_refl _
    · have hM : M ≠ [] := fun h0 => hL (CntEq.nil_right (h0 ▸ h))
      exact ((hspec hL).congr o h).unique o (hspec hM)
  P_congr := fun _ _ => trivial

/-- `items.Min()`: the head -/
def minProof : AggProof minAgg (fun _ => True) specMin :=
  leastProof cle_order (hspec := specMin_least) (htrig := fun {t L} hi hne => by
    cases t with
    | nil => exact absurd (List.isEmpty_iff.mp hi.2.isEmpty.symm) hne
    | cons e rest =>
      have hle : ∀ e' ∈ e :: rest, cmp e.1 e'.1 ≤ 0 := List.forall_mem_cons.mpr
        ⟨Int.le_of_eq (cmp_refl e.1), fun e' he' => Int.le_of_lt ((keysSorted_cons.mp hi.1).1 e' he')⟩
      exact ⟨e.1, rfl, tree_least cle_order hi List.mem_cons_self hle⟩)

theorem sorted_getLast {t : CList} (hs : KeysSorted t) {e : Value × Int} (h : t.getLast? = some e) :
    e ∈ t ∧ ∀ e' ∈ t, cmp e'.1 e.1 ≤ 0 := by
  obtain ⟨ys, rfl⟩ := List.getLast?_eq_some_iff.mp h
  refine ⟨List.mem_append_right _ (List.mem_singleton.mpr rfl), fun e' he' => ?_⟩
  rcases List.mem_append.mp he' with h1 | h1
  · exact Int.le_of_lt ((List.pairwise_append.mp hs).2.2 e' h1 e (List.mem_singleton.mpr rfl))
  · rw [List.mem_singleton.mp h1]; exact Int.le_of_eq (cmp_refl _)

/-- `items.Max()`: the last entry -/
def maxProof : AggProof maxAgg (fun _ => True) specMax :=
  leastProof cge_order (hspec := specMax_least) (htrig := fun {t L} hi hne => by
    cases hl : t.getLast? with
    | none =>
      rw [List.getLast?_eq_none_iff.mp hl] at hi
      exact absurd (List.isEmpty_iff.mp hi.2.isEmpty.symm) hne
    | some e =>
      obtain ⟨hm, hle⟩ := sorted_getLast hi.1 hl
      exact ⟨e.1, rfl, tree_least cge_order hi hm hle⟩)

end Octo.Agg
