/-!
  Sums `Σ f x` over a list (`sumBy`), and induction on two lists by removing a class from both.
-/
namespace Octo

def sumBy {β : Type} (f : β → Int) : List β → Int
  | [] => 0
  | x :: xs => f x + sumBy f xs

section sums
variable {β : Type}

theorem sumBy_append (f : β → Int) (a b : List β) : sumBy f (a ++ b) = sumBy f a + sumBy f b := by
  induction a with
  | nil => exact (Int.zero_add _).symm
  | cons x xs ih => rw [List.cons_append, sumBy, sumBy, ih, Int.add_assoc]

theorem sumBy_map {α : Type} (f : β → Int) (g : α → β) (l : List α) : sumBy f (l.map g) = sumBy (fun a => f (g a)) l := by
  induction l with
  | nil => rfl
  | cons a l ih => exact congrArg (f (g a) + ·) ih

theorem sumBy_perm {f : β → Int} {a b : List β} (h : a.Perm b) : sumBy f a = sumBy f b := by
  induction h with
  | nil => rfl
  | cons x _ ih => rw [sumBy, sumBy, ih]
  | swap x y l => exact Int.add_left_comm _ _ _
  | trans _ _ ih1 ih2 => exact ih1.trans ih2

theorem sumBy_congr {f g : β → Int} {l : List β} (h : ∀ x ∈ l, f x = g x) : sumBy f l = sumBy g l := by
  induction l with
  | nil => rfl
  | cons x xs ih => rw [sumBy, sumBy, h x List.mem_cons_self, ih fun y hy => h y (List.mem_cons_of_mem _ hy)]

theorem sumBy_filter (p : β → Bool) (f : β → Int) (l : List β) :
    sumBy f (l.filter p) = sumBy (fun x => if p x then f x else 0) l := by
  induction l with
  | nil => rfl
  | cons x xs ih =>
    rw [List.filter_cons, sumBy]
    cases p x
    · rw [if_neg Bool.false_ne_true, if_neg Bool.false_ne_true, ih, Int.zero_add]
    · rw [if_pos rfl, if_pos rfl, sumBy, ih]

theorem sumBy_filter_split (p : β → Bool) (f : β → Int) (l : List β) :
    sumBy f l = sumBy f (l.filter p) + sumBy f (l.filter fun x => !p x) :=
  (sumBy_perm (List.filter_append_perm p l).symm).trans (sumBy_append f _ _)

theorem sumBy_eq_zero {f : β → Int} {l : List β} (h : ∀ x ∈ l, f x = 0) : sumBy f l = 0 := by
  induction l with
  | nil => rfl
  | cons x xs ih => rw [sumBy, h x List.mem_cons_self, ih fun y hy => h y (List.mem_cons_of_mem _ hy)]; rfl

theorem sumBy_mul_left (c : Int) (f : β → Int) (l : List β) : sumBy (fun x => c * f x) l = c * sumBy f l := by
  induction l with
  | nil => exact (Int.mul_zero c).symm
  | cons x xs ih => rw [sumBy, sumBy, ih, Int.mul_add]

end sums

/-- induction on two lists: remove from both the elements that `cls` relates to a first element of either -/
theorem class_induction {β : Type} {P : List β → List β → Prop} (cls : β → β → Bool) (hrefl : ∀ x, cls x x = true) (nil : P [] [])
    (step : ∀ (x : β) (A B : List β), P (A.filter fun y => !cls x y) (B.filter fun y => !cls x y) → P A B) :
    ∀ A B, P A B := by
  -- induction on the length of `A ++ B`, whose first element is the `x` of the step
  have aux : ∀ n (A B : List β), (A ++ B).length ≤ n → P A B := by
    intro n
    induction n with
    | zero =>
      intro A B hl
      obtain ⟨rfl, rfl⟩ := List.append_eq_nil_iff.mp (List.eq_nil_of_length_eq_zero (Nat.le_zero.mp hl))
      exact nil
    | succ n ih =>
      intro A B hl
      cases hAB : A ++ B with
      | nil =>
        obtain ⟨rfl, rfl⟩ := List.append_eq_nil_iff.mp hAB
        exact nil
      | cons x xs =>
        refine step x A B (ih _ _ ?_)
        rw [← List.filter_append, hAB, List.filter_cons, hrefl, if_neg (by decide)]
        rw [hAB] at hl
        exact Nat.le_trans (List.length_filter_le _ _) (Nat.le_of_succ_le_succ hl)
  exact fun A B => aux _ A B (Nat.le_refl _)

end Octo
