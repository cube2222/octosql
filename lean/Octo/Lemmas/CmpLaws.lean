import Octo.Lemmas.ValueOrder
import Octo.Lemmas.SizeFacts
/-! `cmpWith cf` is a comparator on values of any nesting depth if `cf` is one on floats. -/
namespace Octo
open Value

variable {cf : Nat → Nat → Int}

theorem cmpWith_of_rank_ne {a b : Value} (h : a.rank ≠ b.rank) :
    cmpWith cf a b = if a.rank < b.rank then -1 else 1 := by
  unfold cmpWith
  split <;> first | exact absurd rfl h | rfl

theorem cmpWith_of_rank_lt (a b : Value) (h : a.rank < b.rank) : cmpWith cf a b = -1 := by
  rw [cmpWith_of_rank_ne (Nat.ne_of_lt h), if_pos h]

theorem cmpWith_of_rank_gt (a b : Value) (h : b.rank < a.rank) : cmpWith cf a b = 1 := by
  rw [cmpWith_of_rank_ne (Nat.ne_of_gt h), if_neg (Nat.lt_asymm h)]

theorem cmpWith_zero_rank (a b : Value) (h : cmpWith cf a b = 0) : a.rank = b.rank :=
  Decidable.byContradiction fun hne => by rw [cmpWith_of_rank_ne hne] at h; split at h <;> omega

/-- the pairs of values that `cmpWith` compares by their contents -/
inductive Value.SameCtor : Value → Value → Prop
  | null : SameCtor .null .null
  | int x y : SameCtor (.int x) (.int y)
  | float x y : SameCtor (.float x) (.float y)
  | bool x y : SameCtor (.bool x) (.bool y)
  | str x y : SameCtor (.str x) (.str y)
  | time x l y m : SameCtor (.time x l) (.time y m)
  | dur x y : SameCtor (.dur x) (.dur y)
  | list xs ys : SameCtor (.list xs) (.list ys)
  | struct xs ys : SameCtor (.struct xs) (.struct ys)
  | tuple xs ys : SameCtor (.tuple xs) (.tuple ys)

theorem Value.sameCtor_of_rank_eq {a b : Value} (h : a.rank = b.rank) : SameCtor a b := by
  cases a <;> cases b <;> (try cases h) <;> constructor

/-- the pairs of values that compare equal under `cmpWith cf`, constructor by constructor -/
inductive Value.CmpEq (cf : Nat → Nat → Int) : Value → Value → Prop
  | null : CmpEq cf .null .null
  | int x : CmpEq cf (.int x) (.int x)
  | float x y : cf x y = 0 → CmpEq cf (.float x) (.float y)
  | bool x : CmpEq cf (.bool x) (.bool x)
  | str x : CmpEq cf (.str x) (.str x)
  | time x l m : CmpEq cf (.time x l) (.time x m)
  | dur x : CmpEq cf (.dur x) (.dur x)
  | list xs ys : cmpListWith cf xs ys = 0 → CmpEq cf (.list xs) (.list ys)
  | struct xs ys : cmpListWith cf xs ys = 0 → CmpEq cf (.struct xs) (.struct ys)
  | tuple xs ys : cmpListWith cf xs ys = 0 → CmpEq cf (.tuple xs) (.tuple ys)

theorem Value.cmpEq_of_zero {a b : Value} (h : cmpWith cf a b = 0) : CmpEq cf a b := by
  cases sameCtor_of_rank_eq (cmpWith_zero_rank a b h) with
  | null => exact .null
  | int x y => cases (cmpInt_eq_iff x y).mp h; exact .int x
  | float x y => exact .float x y h
  | bool x y => cases (cmpBool_eq_iff x y).mp h; exact .bool x
  | str x y => cases (cmpBytes_eq_iff x y).mp h; exact .str x
  | time x l y m => cases (cmpInt_eq_iff x y).mp h; exact .time x l m
  | dur x y => cases (cmpInt_eq_iff x y).mp h; exact .dur x
  | list xs ys => exact .list xs ys h
  | struct xs ys => exact .struct xs ys h
  | tuple xs ys => exact .tuple xs ys h

theorem cmpListWith_cons (x y : Value) (xs ys : List Value) :
    cmpListWith cf (x :: xs) (y :: ys) = if cmpWith cf x y = 0 then cmpListWith cf xs ys else cmpWith cf x y := by
  simp only [cmpListWith, bne_iff_ne, ne_eq, ite_not]

theorem cmpListWith_cons_eq_zero {x y : Value} {xs ys : List Value} :
    cmpListWith cf (x :: xs) (y :: ys) = 0 ↔ cmpWith cf x y = 0 ∧ cmpListWith cf xs ys = 0 := by
  rw [cmpListWith_cons]; split <;> simp [*]

theorem cmpListWith_eq_lexList (xs ys : List Value) : cmpListWith cf xs ys = lexList (cmpWith cf) xs ys := by
  induction xs generalizing ys with
  | nil => cases ys <;> rfl
  | cons x xs ih => cases ys with
    | nil => rfl
    | cons y ys => simp only [cmpListWith, lexList, ih ys]

theorem cmpWith_cmpOn (L : CmpOn (fun _ : Nat => True) cf) : CmpOn (fun _ : Value => True) (cmpWith cf) := by
  refine .of_measure Value.size fun n ih => ?_
  have seq : CmpOn (fun xs : List Value => 1 + Value.sizeList xs < n + 1) (cmpListWith cf) :=
    (ih.lexList.mono fun xs h x hx => ⟨trivial, by have := Value.size_le_sizeList hx; omega⟩).congr
      fun a b _ _ => cmpListWith_eq_lexList a b
  refine .sum Value.rank cmpWith_of_rank_lt cmpWith_of_rank_gt fun a _ => ?_
  -- `hb.2 : b.rank = a.rank`: `b` is built by the constructor of `a`
  cases a with
  | null =>
    exact .of_eq_zero fun b d hb hd => by
      cases sameCtor_of_rank_eq hb.2; cases sameCtor_of_rank_eq hd.2; rfl
  | int _ =>
    exact cmpInt_cmpOn.image .int (fun b hb => by cases sameCtor_of_rank_eq hb.2; exact ⟨_, trivial, rfl⟩)
      fun _ _ => rfl
  | float _ =>
    exact L.image .float (fun b hb => by cases sameCtor_of_rank_eq hb.2; exact ⟨_, trivial, rfl⟩)
      fun _ _ => rfl
  | bool _ =>
    exact cmpBool_cmpOn.image .bool (fun b hb => by cases sameCtor_of_rank_eq hb.2; exact ⟨_, trivial, rfl⟩)
      fun _ _ => rfl
  | str _ =>
    exact cmpBytes_cmpOn.image .str (fun b hb => by cases sameCtor_of_rank_eq hb.2; exact ⟨_, trivial, rfl⟩)
      fun _ _ => rfl
  | time _ _ =>
    exact (cmpInt_cmpOn.comap (Q := fun _ => True) Prod.fst fun _ _ => trivial).image (fun p : Int × Nat => .time p.1 p.2)
      (fun b hb => by cases sameCtor_of_rank_eq hb.2; exact ⟨(_, _), trivial, rfl⟩) fun _ _ => rfl
  | dur _ =>
    exact cmpInt_cmpOn.image .dur (fun b hb => by cases sameCtor_of_rank_eq hb.2; exact ⟨_, trivial, rfl⟩)
      fun _ _ => rfl
  | list _ =>
    exact seq.image .list (fun b hb => by cases sameCtor_of_rank_eq hb.2; exact ⟨_, hb.1.2, rfl⟩) fun _ _ => rfl
  | struct _ =>
    exact seq.image .struct (fun b hb => by cases sameCtor_of_rank_eq hb.2; exact ⟨_, hb.1.2, rfl⟩) fun _ _ => rfl
  | tuple _ =>
    exact seq.image .tuple (fun b hb => by cases sameCtor_of_rank_eq hb.2; exact ⟨_, hb.1.2, rfl⟩) fun _ _ => rfl

/-- `lessRows` asks for `−1` at the first position where the comparison is not `0`: no law of `cmp` is involved -/
theorem lessRows_eq : ∀ a b : List Value, lessRows a b = (cmpList a b == -1)
  | [], [] | [], _ :: _ | _ :: _, [] => rfl
  | x :: xs, y :: ys => by
    simp only [lessRows, cmpListWith]
    split
    · rfl
    · exact lessRows_eq xs ys

end Octo
