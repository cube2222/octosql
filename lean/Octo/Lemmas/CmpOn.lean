/-! Three-way comparators of a total preorder on a carrier `P`. The laws of a comparison built from others (by pull-back,
    lexicographic product, ordered sum, lists) come from the laws of its parts, through the closure lemmas of this file. -/
namespace Octo

structure CmpOn (P : α → Prop) (c : α → α → Int) : Prop where
  range : ∀ a b, P a → P b → c a b = -1 ∨ c a b = 0 ∨ c a b = 1
  antisymm : ∀ a b, P a → P b → c a b = - c b a
  trans : ∀ a b d, P a → P b → P d → c a b ≤ 0 → c b d ≤ 0 → c a d ≤ 0

namespace CmpOn
variable {P : α → Prop} {c : α → α → Int}

theorem of_eq_zero (h : ∀ a b, P a → P b → c a b = 0) : CmpOn P c :=
  ⟨fun a b ha hb => .inr (.inl (h a b ha hb)), fun a b ha hb => by rw [h a b ha hb, h b a hb ha]; rfl,
    fun a _ d ha _ hd _ _ => Int.le_of_eq (h a d ha hd)⟩

theorem refl (h : CmpOn P c) {a : α} (ha : P a) : c a a = 0 := by
  have := h.antisymm a a ha ha; omega

theorem eq_symm (h : CmpOn P c) {a b : α} (ha : P a) (hb : P b) (e : c a b = 0) : c b a = 0 := by
  have := h.antisymm a b ha hb; omega

theorem squeeze (h : CmpOn P c) {a b d : α} (ha : P a) (hb : P b) (hd : P d)
    (h1 : c a b ≤ 0) (h2 : c b d ≤ 0) (h3 : c a d = 0) : c a b = 0 ∧ c b d = 0 := by
  have a1 := h.antisymm a b ha hb
  have a2 := h.antisymm b d hb hd
  have a3 := h.antisymm a d ha hd
  have t1 := h.trans d a b hd ha hb (by omega) h1
  have t2 := h.trans b d a hb hd ha h2 (by omega)
  omega

theorem eq_trans (h : CmpOn P c) {a b d : α} (ha : P a) (hb : P b) (hd : P d)
    (h1 : c a b = 0) (h2 : c b d = 0) : c a d = 0 := by
  have t1 := h.trans a b d ha hb hd (Int.le_of_eq h1) (Int.le_of_eq h2)
  have t2 := h.trans d b a hd hb ha (Int.le_of_eq (h.eq_symm hb hd h2)) (Int.le_of_eq (h.eq_symm ha hb h1))
  have := h.antisymm a d ha hd
  omega

theorem lt_of_le_of_lt (h : CmpOn P c) {a b d : α} (ha : P a) (hb : P b) (hd : P d)
    (h1 : c a b ≤ 0) (h2 : c b d < 0) : c a d < 0 := by
  have t := h.trans a b d ha hb hd h1 (by omega)
  by_cases h0 : c a d = 0
  · have := h.squeeze ha hb hd h1 (by omega) h0; omega
  · omega

theorem flip (h : CmpOn P c) : CmpOn P (fun a b => c b a) :=
  ⟨fun a b ha hb => h.range b a hb ha, fun a b ha hb => h.antisymm b a hb ha,
    fun a b d ha hb hd h1 h2 => h.trans d b a hd hb ha h2 h1⟩

theorem lt_of_lt_of_le (h : CmpOn P c) {a b d : α} (ha : P a) (hb : P b) (hd : P d)
    (h1 : c a b < 0) (h2 : c b d ≤ 0) : c a d < 0 :=
  h.flip.lt_of_le_of_lt hd hb ha h2 h1

theorem le_congr (h : CmpOn P c) {x x' y y' : α} (px : P x) (px' : P x') (py : P y) (py' : P y')
    (hx : c x x' = 0) (hy : c y y' = 0) (l : c x y ≤ 0) : c x' y' ≤ 0 :=
  h.trans _ _ _ px' px py' (Int.le_of_eq (h.eq_symm px px' hx)) (h.trans _ _ _ px py py' l (Int.le_of_eq hy))

theorem eq_congr (h : CmpOn P c) {x x' y y' : α} (px : P x) (px' : P x') (py : P y) (py' : P y')
    (hx : c x x' = 0) (hy : c y y' = 0) : c x y = c x' y' := by
  -- the result is one of three values, so it is known once `≤ 0` is known in both directions
  have l1 := h.le_congr px px' py py' hx hy
  have l2 := h.le_congr px' px py' py (h.eq_symm px px' hx) (h.eq_symm py py' hy)
  have l3 := h.le_congr py py' px px' hy hx
  have l4 := h.le_congr py' py px' px (h.eq_symm py py' hy) (h.eq_symm px px' hx)
  have a1 := h.antisymm x y px py
  have a2 := h.antisymm x' y' px' py'
  have r1 := h.range x y px py
  have r2 := h.range x' y' px' py'
  omega

theorem congr (h : CmpOn P c) {c' : α → α → Int} (e : ∀ a b, P a → P b → c' a b = c a b) : CmpOn P c' where
  range a b ha hb := by rw [e a b ha hb]; exact h.range a b ha hb
  antisymm a b ha hb := by rw [e a b ha hb, e b a hb ha]; exact h.antisymm a b ha hb
  trans a b d ha hb hd := by rw [e a b ha hb, e b d hb hd, e a d ha hd]; exact h.trans a b d ha hb hd

theorem comap (h : CmpOn P c) (f : β → α) {Q : β → Prop} (hQ : ∀ x, Q x → P (f x)) :
    CmpOn Q (fun x y => c (f x) (f y)) :=
  ⟨fun a b ha hb => h.range _ _ (hQ a ha) (hQ b hb), fun a b ha hb => h.antisymm _ _ (hQ a ha) (hQ b hb),
    fun a b d ha hb hd => h.trans _ _ _ (hQ a ha) (hQ b hb) (hQ d hd)⟩

theorem scale (h : CmpOn P c) {d : Int} (hd : d = 1 ∨ d = -1) : CmpOn P (fun a b => c a b * d) := by
  rcases hd with rfl | rfl
  · exact h.congr fun a b _ _ => Int.mul_one _
  · exact h.flip.congr fun a b ha hb => by have := h.antisymm a b ha hb; show c a b * -1 = c b a; omega

theorem mono {Q : α → Prop} (h : CmpOn P c) (hQ : ∀ a, Q a → P a) : CmpOn Q c := h.comap id hQ

theorem of_measure (μ : α → Nat)
    (step : ∀ m, CmpOn (fun a => P a ∧ μ a < m) c → CmpOn (fun a => P a ∧ μ a < m + 1) c) : CmpOn P c := by
  have h : ∀ m, CmpOn (fun a => P a ∧ μ a < m) c := fun m => by
    induction m with
    | zero => exact ⟨fun _ _ h => (nomatch h.2), fun _ _ h => (nomatch h.2), fun _ _ _ h => (nomatch h.2)⟩
    | succ m ih => exact step m ih
  exact ⟨fun a b ha hb => (h (μ a + μ b + 1)).range a b ⟨ha, by omega⟩ ⟨hb, by omega⟩,
    fun a b ha hb => (h (μ a + μ b + 1)).antisymm a b ⟨ha, by omega⟩ ⟨hb, by omega⟩,
    fun a b d ha hb hd => (h (μ a + μ b + μ d + 1)).trans a b d ⟨ha, by omega⟩ ⟨hb, by omega⟩ ⟨hd, by omega⟩⟩

/-- the ordered sum of the classes of `r` -/
theorem sum (r : α → Nat) (lt : ∀ a b, r a < r b → c a b = -1) (gt : ∀ a b, r b < r a → c a b = 1)
    (h : ∀ a, P a → CmpOn (fun b => P b ∧ r b = r a) c) : CmpOn P c where
  range a b ha hb := by
    rcases Nat.lt_trichotomy (r a) (r b) with l | e | g
    · exact .inl (lt a b l)
    · exact (h a ha).range a b ⟨ha, rfl⟩ ⟨hb, e.symm⟩
    · exact .inr (.inr (gt a b g))
  antisymm a b ha hb := by
    rcases Nat.lt_trichotomy (r a) (r b) with l | e | g
    · rw [lt a b l, gt b a l]
    · exact (h a ha).antisymm a b ⟨ha, rfl⟩ ⟨hb, e.symm⟩
    · rw [gt a b g, lt b a g]; rfl
  trans a b d ha hb hd h1 h2 := by
    have r1 : r a ≤ r b := Nat.le_of_not_lt fun g => by rw [gt a b g] at h1; exact absurd h1 (by decide)
    have r2 : r b ≤ r d := Nat.le_of_not_lt fun g => by rw [gt b d g] at h2; exact absurd h2 (by decide)
    by_cases l : r a < r d
    · rw [lt a d l]; decide
    · exact (h a ha).trans a b d ⟨ha, rfl⟩ ⟨hb, by omega⟩ ⟨hd, by omega⟩ h1 h2

theorem image {Q : β → Prop} {c0 : β → β → Int} (h : CmpOn Q c0) (f : β → α)
    (hP : ∀ a, P a → ∃ x, Q x ∧ f x = a) (e : ∀ x y, c (f x) (f y) = c0 x y) : CmpOn P c where
  range a b ha hb := by
    obtain ⟨x, qx, rfl⟩ := hP a ha; obtain ⟨y, qy, rfl⟩ := hP b hb
    rw [e]; exact h.range x y qx qy
  antisymm a b ha hb := by
    obtain ⟨x, qx, rfl⟩ := hP a ha; obtain ⟨y, qy, rfl⟩ := hP b hb
    rw [e, e]; exact h.antisymm x y qx qy
  trans a b d ha hb hd := by
    obtain ⟨x, qx, rfl⟩ := hP a ha; obtain ⟨y, qy, rfl⟩ := hP b hb; obtain ⟨z, qz, rfl⟩ := hP d hd
    rw [e, e, e]; exact h.trans x y z qx qy qz

theorem eqv_beq {c : α → α → Int} (h : CmpOn (fun _ => True) c) : Equivalence fun a b => (c a b == 0) = true :=
  ⟨fun _ => beq_iff_eq.mpr (h.refl trivial), fun e => beq_iff_eq.mpr (h.eq_symm trivial trivial (beq_iff_eq.mp e)),
    fun e1 e2 => beq_iff_eq.mpr (h.eq_trans trivial trivial trivial (beq_iff_eq.mp e1) (beq_iff_eq.mp e2))⟩

end CmpOn

section beq
variable {α : Type} {e : α → α → Bool}

theorem _root_.Equivalence.beq_comm (h : Equivalence fun a b => e a b = true) (a b : α) : e a b = e b a :=
  Bool.eq_iff_iff.mpr ⟨h.symm, h.symm⟩

theorem _root_.Equivalence.beq_congr_left (h : Equivalence fun a b => e a b = true) {a b : α} (hab : e a b = true) (c : α) :
    e a c = e b c :=
  Bool.eq_iff_iff.mpr ⟨h.trans (h.symm hab), h.trans hab⟩

theorem _root_.Equivalence.beq_congr_right (h : Equivalence fun a b => e a b = true) {a b : α} (hab : e a b = true) (c : α) :
    e c a = e c b :=
  Bool.eq_iff_iff.mpr ⟨fun hc => h.trans hc hab, fun hc => h.trans hc (h.symm hab)⟩

end beq

def lexC (c1 c2 : α → α → Int) (a b : α) : Int := if c1 a b != 0 then c1 a b else c2 a b

theorem lexC_of_eq {c1 c2 : α → α → Int} {a b : α} (h : c1 a b = 0) : lexC c1 c2 a b = c2 a b := by
  simp [lexC, h]

theorem lexC_of_ne {c1 c2 : α → α → Int} {a b : α} (h : c1 a b ≠ 0) : lexC c1 c2 a b = c1 a b := by
  simp [lexC, h]

theorem lexC_le_zero {c1 c2 : α → α → Int} {a b : α} :
    lexC c1 c2 a b ≤ 0 ↔ c1 a b ≤ 0 ∧ (c1 a b = 0 → c2 a b ≤ 0) := by
  by_cases h : c1 a b = 0
  · rw [lexC_of_eq h]; omega
  · rw [lexC_of_ne h]; omega

theorem lexC_eq_zero {c1 c2 : α → α → Int} {a b : α} : lexC c1 c2 a b = 0 ↔ c1 a b = 0 ∧ c2 a b = 0 := by
  by_cases h : c1 a b = 0
  · rw [lexC_of_eq h]; omega
  · rw [lexC_of_ne h]; omega

theorem CmpOn.lex {P : α → Prop} {c1 c2 : α → α → Int} (h1 : CmpOn P c1) (h2 : CmpOn P c2) :
    CmpOn P (lexC c1 c2) where
  range a b ha hb := by
    by_cases h0 : c1 a b = 0
    · rw [lexC_of_eq h0]; exact h2.range a b ha hb
    · rw [lexC_of_ne h0]; exact h1.range a b ha hb
  antisymm a b ha hb := by
    have a1 := h1.antisymm a b ha hb
    by_cases h0 : c1 a b = 0
    · rw [lexC_of_eq h0, lexC_of_eq (by omega : c1 b a = 0)]; exact h2.antisymm a b ha hb
    · rw [lexC_of_ne h0, lexC_of_ne (by omega : c1 b a ≠ 0)]; exact a1
  trans a b d ha hb hd l1 l2 := by
    have e1 := (lexC_le_zero.mp l1).1
    have e2 := (lexC_le_zero.mp l2).1
    by_cases h0 : c1 a d = 0
    · -- the first components are all equivalent: the second ones decide
      obtain ⟨z1, z2⟩ := h1.squeeze ha hb hd e1 e2 h0
      rw [lexC_of_eq z1] at l1
      rw [lexC_of_eq z2] at l2
      rw [lexC_of_eq h0]
      exact h2.trans a b d ha hb hd l1 l2
    · rw [lexC_of_ne h0]; exact h1.trans a b d ha hb hd e1 e2

def lexList (c : α → α → Int) : List α → List α → Int
  | [], [] => 0
  | [], _ :: _ => -1
  | _ :: _, [] => 1
  | x :: xs, y :: ys => if c x y != 0 then c x y else lexList c xs ys

theorem lexList_cons (c : α → α → Int) (x y : α) (xs ys : List α) :
    lexList c (x :: xs) (y :: ys) = if c x y = 0 then lexList c xs ys else c x y := by
  simp only [lexList, bne_iff_ne, ne_eq, ite_not]

theorem CmpOn.lexList {P : α → Prop} {c : α → α → Int} (h : CmpOn P c) :
    CmpOn (fun xs : List α => ∀ x ∈ xs, P x) (lexList c) := by
  -- a non-empty list is its head, then its tail (`lex`); the empty list comes first (`sum`)
  refine .of_measure List.length fun m ih => .sum (fun | [] => 0 | _ :: _ => 1)
    (fun a b l => by cases a <;> cases b <;> first | rfl | simp at l)
    (fun a b l => by cases a <;> cases b <;> first | rfl | simp at l) fun a _ => ?_
  cases a with
  | nil =>
    -- `hb.2 : class b = class [] = 0`, so `b = []` (the class of `_ :: _` is `1`); likewise `d`
    exact .of_eq_zero fun b d hb hd => by
      cases b <;> cases d <;>
        first | rfl | exact absurd hb.2 (Nat.succ_ne_zero 0) | exact absurd hd.2 (Nat.succ_ne_zero 0)
  | cons x xs =>
    refine ((h.comap Prod.fst fun p hp => hp.1).lex (ih.comap Prod.snd fun p hp => hp.2)).image
      (Q := fun p : α × List α => P p.1 ∧ (∀ x ∈ p.2, P x) ∧ p.2.length < m) (fun p => p.1 :: p.2)
      (fun b hb => ?_) fun _ _ => rfl
    cases b with
    | nil => simp at hb
    | cons y ys =>
      obtain ⟨py, pys⟩ := List.forall_mem_cons.mp hb.1.1
      exact ⟨(y, ys), ⟨py, pys, Nat.lt_of_succ_lt_succ hb.1.2⟩, rfl⟩

end Octo
