import Octo.Spec.NumFuncs
import Octo.Lemmas.ListFacts
import Octo.Lemmas.SizeFacts
/-!
  Octo.Lemmas.Coalesce — `ObjectLayoutFixer`: the mapping computed by `calculateMapping(target, source)` and applied by
  `fixLayout` re-lays a value of the source type out exactly as the specification `relayout` says, for all
  normal-form types (unions sorted by TypeID with one alternative per TypeID, distinct field names) and the pairs of
  target and source that `Fits` describes (the target being what `TypeSum` produces from the sources).
-/
namespace Octo.Coal
open Octo Octo.Num Octo.Spec13

/-! What `Props/C13` assumes of a COALESCE. The numerals are TypeIDs (`Ty.id` in `Model/Ty.lean`, `Value.rank` in
    `Model/Value.lean`): 0 … 6 the scalars NULL, Int, Float, Boolean, String, Time, Duration; 7 list, 8 object, 9 tuple,
    10 union, 11 Any. -/

/-- a type with one TypeID, which all its values carry -/
def Concrete (t : Ty) : Prop := (∀ alts, t ≠ .union alts) ∧ t ≠ .any

/-- normal form of the types the engine builds: a union has concrete alternatives in strictly ascending TypeID order
    (`TypeSum` keeps one alternative per TypeID and sorts), object field names are distinct -/
inductive NormTy : Ty → Prop
  | scalar (t : Ty) : t.id ≤ 6 → NormTy t
  | listNil : NormTy .listNil
  | list (e : Ty) : NormTy e → NormTy (.list e)
  | struct (names : List Name) (tys : List Ty) : names.Nodup → names.length = tys.length →
      (∀ t, t ∈ tys → NormTy t) → NormTy (.struct names tys)
  | tuple (ts : List Ty) : (∀ t, t ∈ ts → NormTy t) → NormTy (.tuple ts)
  | union (alts : List Ty) : (∀ a, a ∈ alts → Concrete a) → (∀ a, a ∈ alts → NormTy a) →
      alts.Pairwise (fun a b => a.id < b.id) → NormTy (.union alts)

/-- the pairs (target, source) that `calculateMapping` is made for (what the `TypeSum` of the argument types produces as
    target): unions are resolved by TypeID, objects go field by field, tuples and lists element by element, and a scalar
    source goes with any concrete target. It says that the fixer finds its way, not that the target type admits the
    re-laid-out value (`Tc.Covers` refines it for that) -/
inductive Fits : Ty → Ty → Prop
  | srcUnion (t : Ty) (alts : List Ty) : (∀ a, a ∈ alts → Fits t a) → Fits t (.union alts)
  | tgtUnion (talts : List Ty) (s ta : Ty) : Concrete s → findAlt s.id talts = some ta → Fits ta s →
      Fits (.union talts) s
  | scalar (t s : Ty) : Concrete t → s.id ≤ 6 → Fits t s
  | struct (tn : List Name) (tt : List Ty) (sn : List Name) (st : List Ty) :
      (∀ n ft j sj, (n, ft) ∈ tn.zip tt → lastIndexOf sn n = some j → st[j]? = some sj → Fits ft sj) →
      Fits (.struct tn tt) (.struct sn st)
  | listNilSrc (te : Ty) : Fits (.list te) .listNil
  | listNilBoth : Fits .listNil .listNil
  | list (te se : Ty) : Fits te se → Fits (.list te) (.list se)
  | tuple (te se : List Ty) : se.length ≤ te.length →
      (∀ (i : Nat) ft sj, te[i]? = some ft → se[i]? = some sj → Fits ft sj) → Fits (.tuple te) (.tuple se)

/-- what the type checker guarantees about the arguments of a COALESCE whose result type is `target` -/
def ArgsFit (target : Ty) (args : List (Ty × Value)) : Prop :=
  ∀ sv, sv ∈ args → NormTy sv.1 ∧ Fits target sv.1 ∧ conforms sv.1 sv.2 = true

theorem fold_calc_some (cm : Ty → Option Mapping) (ma : Ty → Mapping) (alts : List Ty)
    (h : ∀ a, a ∈ alts → cm a = some (ma a)) (init : Mapping) :
    alts.foldl (fun acc alt =>
      match acc, cm alt with
      | some out, some m => some (mergeMappings out m)
      | _, _ => none) (some init)
    = some (alts.foldl (fun out a => mergeMappings out (ma a)) init) := by
  induction alts generalizing init with
  | nil => rfl
  | cons a as ih =>
    rw [List.foldl_cons, List.foldl_cons, h a (List.mem_cons_self ..)]
    exact ih (fun b hb => h b (List.mem_cons_of_mem _ hb)) _

/-- the mapping has the pointer that `fixLayout` dereferences for this value (none is needed for a leaf) -/
def Mapping.has (m : Mapping) : Value → Bool
  | .struct _ => m.hasSt
  | .tuple _ => m.hasTu
  | .list _ => !m.li.isEmpty
  | _ => false

theorem fixLayout_merge (f : Nat) (m1 m2 : Mapping) (v : Value) :
    fixLayout f (mergeMappings m1 m2) v = if m2.has v = true then fixLayout f m2 v else fixLayout f m1 v := by
  cases f with
  | zero => exact (ite_self _).symm
  | succ f =>
    obtain ⟨s1, _, _, l1, t1, _⟩ := m1; obtain ⟨s2, _, _, l2, t2, _⟩ := m2
    cases v with
    | struct xs => cases s2 <;> cases s1 <;> rfl
    | tuple xs => cases t2 <;> cases t1 <;> rfl
    | list xs => cases l2 <;> rfl
    | _ => rfl

/-- without that pointer `fixLayout` only succeeds on a leaf or an empty list, and there it looks at no mapping -/
theorem fixLayout_of_not_has {f : Nat} {m : Mapping} {v r : Value} (hn : m.has v = false)
    (h : fixLayout f m v = some r) (m' : Mapping) : fixLayout f m' v = some r := by
  cases f with
  | zero => cases h
  | succ f =>
    obtain ⟨s, _, _, l, t, _⟩ := m
    cases v with
    | struct xs => cases hn; cases h
    | tuple xs => cases hn; cases h
    | list xs =>
      cases xs with
      | nil => exact h
      | cons x xs => cases l with
        | nil => cases h
        | cons _ _ => cases hn
    | _ => exact h

theorem fixLayout_fold_merge (f : Nat) (v : Value) (ma : Ty → Mapping) (post : List Ty)
    (h : ∀ b, b ∈ post → (ma b).has v = false) (m0 : Mapping) :
    fixLayout f (post.foldl (fun out b => mergeMappings out (ma b)) m0) v = fixLayout f m0 v := by
  induction post generalizing m0 with
  | nil => rfl
  | cons b bs ih =>
    rw [List.foldl_cons, ih (fun c hc => h c (List.mem_cons_of_mem _ hc)), fixLayout_merge, h b (List.mem_cons_self ..)]
    rfl

theorem ty_size_pos (t : Ty) : 0 < Ty.size t := Ty.size_pos t

theorem scalar_of_id {s : Ty} (hs : s.id ≤ 6) :
    Concrete s ∧ (∀ e, s ≠ .list e) ∧ structNames s = [] ∧ tupleElems s = [] := by
  unfold Concrete
  -- `decide` refuses a goal with free variables; the TypeID of a constructor application evaluates all the same
  cases s <;> first
    | exact absurd hs (of_decide_eq_false rfl)
    | exact ⟨⟨fun _ h => Ty.noConfusion h, fun h => Ty.noConfusion h⟩, fun _ h => Ty.noConfusion h, rfl, rfl⟩

theorem findAlt_some {tid : Nat} {alts : List Ty} {a : Ty} (h : findAlt tid alts = some a) : a ∈ alts ∧ a.id = tid := by
  induction alts with
  | nil => cases h
  | cons b bs ih =>
    unfold findAlt at h
    by_cases hb : (b.id == tid) = true
    · rw [if_pos hb] at h
      injection h with h; subst h
      exact ⟨List.mem_cons_self .., eq_of_beq hb⟩
    · rw [if_neg hb] at h
      exact ⟨List.mem_cons_of_mem _ (ih h).1, (ih h).2⟩

theorem findAlt_of_mem {alts : List Ty} {a : Ty} (hp : alts.Pairwise (fun a b => a.id < b.id)) (h : a ∈ alts) :
    findAlt a.id alts = some a := by
  induction alts with
  | nil => cases h
  | cons b bs ih =>
    unfold findAlt
    rw [List.pairwise_cons] at hp
    cases h with
    | head => rw [if_pos (beq_self_eq_true _)]
    | tail _ h' =>
      rw [if_neg (fun e => Nat.ne_of_lt (hp.1 a h') (eq_of_beq e))]
      exact ih hp.2 h'

theorem conformsEach_length {ts : List Ty} {xs : List Value} (h : conformsEach ts xs = true) : ts.length = xs.length := by
  induction ts generalizing xs with
  | nil => cases xs with
    | nil => rfl
    | cons _ _ => cases h
  | cons t ts ih => cases xs with
    | nil => cases h
    | cons x xs =>
      rw [conformsEach, Bool.and_eq_true] at h
      rw [List.length_cons, List.length_cons, ih h.2]

theorem conformsEach_get {ts : List Ty} {xs : List Value} (h : conformsEach ts xs = true) {i : Nat} {t : Ty}
    (ht : ts[i]? = some t) : ∃ x, xs[i]? = some x ∧ conforms t x = true := by
  induction ts generalizing xs i with
  | nil => cases ht
  | cons t' ts ih => cases xs with
    | nil => cases h
    | cons x' xs =>
      rw [conformsEach, Bool.and_eq_true] at h
      cases i with
      | zero => cases ht; exact ⟨x', rfl, h.1⟩
      | succ k => exact ih h.2 ht

theorem conformsAny_exists {alts : List Ty} {v : Value} (h : conformsAny alts v = true) :
    ∃ a, a ∈ alts ∧ conforms a v = true := by
  induction alts with
  | nil => cases h
  | cons b bs ih =>
    rw [conformsAny, Bool.or_eq_true] at h
    cases h with
    | inl h => exact ⟨b, List.mem_cons_self .., h⟩
    | inr h => obtain ⟨a, ha, hc⟩ := ih h; exact ⟨a, List.mem_cons_of_mem _ ha, hc⟩

theorem rank_of_conforms {a : Ty} {v : Value} (hc : Concrete a) (h : conforms a v = true) : v.rank = a.id := by
  unfold conforms at h
  -- per clause of `conforms`: a constructor pair, whose rank is its TypeID by `rfl`; the union clause, excluded by `hc.1`;
  -- the `any` clause, excluded by `hc.2`; the catch-all, where `h` is `false = true`
  split at h <;> first | rfl | exact absurd rfl (hc.1 _) | exact absurd rfl hc.2 | cases h

theorem lastIndexOf_go_not_mem (n : Name) (names : List Name) (h : n ∉ names) (i : Nat) (acc : Option Nat) :
    lastIndexOf.go n i acc names = acc := by
  induction names generalizing i acc with
  | nil => rfl
  | cons m ms ih =>
    unfold lastIndexOf.go
    rw [if_neg (fun (e : (m == n) = true) => h (eq_of_beq e ▸ List.mem_cons_self ..))]
    exact ih (fun e => h (List.mem_cons_of_mem _ e)) _ _

theorem lastIndexOf_go_nodup (n : Name) (names : List Name) (hnd : names.Nodup) (i : Nat) (acc : Option Nat) :
    lastIndexOf.go n i acc names = (match firstIndexOf.go n i names with | some j => some j | none => acc) := by
  induction names generalizing i acc with
  | nil => rfl
  | cons m ms ih =>
    rw [List.nodup_cons] at hnd
    unfold lastIndexOf.go firstIndexOf.go
    by_cases hm : (m == n) = true
    · rw [if_pos hm, if_pos hm]
      exact lastIndexOf_go_not_mem n ms (eq_of_beq hm ▸ hnd.1) _ _
    · rw [if_neg hm, if_neg hm]
      exact ih hnd.2 _ _

theorem lastIndexOf_eq_first (n : Name) (names : List Name) (hnd : names.Nodup) :
    lastIndexOf names n = firstIndexOf names n := by
  unfold lastIndexOf firstIndexOf
  rw [lastIndexOf_go_nodup n names hnd]
  cases firstIndexOf.go n 0 names <;> rfl

theorem firstIndexOf_go_lt (n : Name) (names : List Name) (i j : Nat) (h : firstIndexOf.go n i names = some j) :
    i ≤ j ∧ j < i + names.length := by
  induction names generalizing i with
  | nil => cases h
  | cons m ms ih =>
    unfold firstIndexOf.go at h
    rw [List.length_cons]
    by_cases hb : (m == n) = true
    · rw [if_pos hb] at h; injection h with h; omega
    · rw [if_neg hb] at h
      have := ih _ h
      omega

theorem firstIndexOf_lt {n : Name} {names : List Name} {j : Nat} (h : firstIndexOf names n = some j) : j < names.length := by
  have := firstIndexOf_go_lt n names 0 j h; omega

theorem altFor_concrete {t : Ty} (hc : Concrete t) (tid : Nat) : altFor tid t = t := by
  cases t with
  | union alts => exact absurd rfl (hc.1 alts)
  | _ => rfl

theorem altFor_union_of_mem {alts : List Ty} {a : Ty} (hp : alts.Pairwise (fun a b => a.id < b.id)) (h : a ∈ alts) :
    altFor a.id (.union alts) = a := by
  rw [altFor, findAlt_of_mem hp h]; rfl

theorem relayout_congr (fr : Nat) (t t' s s' : Ty) (v : Value)
    (ht : altFor v.rank t = altFor v.rank t') (hs : altFor v.rank s = altFor v.rank s') :
    relayout fr t s v = relayout fr t' s' v := by
  cases fr with
  | zero => rfl
  | succ f => unfold relayout; rw [ht, hs]

def IsLeaf : Value → Prop
  | .struct _ => False
  | .list _ => False
  | .tuple _ => False
  | _ => True

theorem relayout_leaf (fr : Nat) (t s : Ty) (v : Value) (h : IsLeaf v) : relayout fr t s v = v := by
  cases fr with
  | zero => rfl
  | succ f => unfold relayout; cases v <;> first | rfl | cases h

theorem fixLayout_leaf (fx : Nat) (m : Mapping) (v : Value) (h : IsLeaf v) (hf : 1 ≤ fx) : fixLayout fx m v = some v := by
  cases fx with
  | zero => omega
  | succ f => cases v <;> first | rfl | cases h

theorem leaf_of_conforms_scalar {s : Ty} {v : Value} (hs : s.id ≤ 6) (h : conforms s v = true) : IsLeaf v := by
  have hr := rank_of_conforms (scalar_of_id hs).1 h
  cases v <;> first | trivial | exact absurd (hr ▸ hs) (of_decide_eq_false rfl)

/-- one fuel for both sides, as `coalesce` runs them (`fuelFor`) -/
def Good (m : Mapping) (t s : Ty) : Prop :=
  ∀ v f, conforms s v = true → Value.size v + 1 ≤ f → fixLayout f m v = some (relayout f t s v)

/-- both functions spend one unit of fuel on the value itself -/
theorem good_of_succ {m : Mapping} {t s : Ty}
    (h : ∀ v f, conforms s v = true → Value.size v ≤ f →
      fixLayout (f + 1) m v = some (relayout (f + 1) t s v)) : Good m t s := by
  intro v fx hv hfx
  cases fx with
  | zero => omega
  | succ f => exact h v f hv (by omega)

/-- the mapping of a concrete source type with TypeID `sid` sets no pointer for values of a smaller TypeID, so that
    `mergeMappings` with the mapping of a later alternative of a source union (one with a larger TypeID) leaves the
    pointers alone that the values of the earlier alternatives need -/
def Shape (m : Mapping) (sid : Nat) : Prop := ∀ v : Value, v.rank < sid → m.has v = false

/-- below TypeID 8 nothing is to show: a value of a smaller TypeID is a leaf, which needs no pointer -/
theorem shape_low (m : Mapping) {sid : Nat} (h : sid ≤ 7) : Shape m sid := by
  intro v hv
  cases v <;> first | rfl | exact absurd (Nat.lt_of_lt_of_le hv h) (of_decide_eq_false rfl)

theorem shape_struct (si : List Int) (sm : List Mapping) : Shape (.mk true si sm [] false []) 8 := by
  intro v hv
  cases v <;> first | rfl | exact absurd hv (of_decide_eq_false rfl)

theorem shape_tuple (ms : List Mapping) : Shape (.mk false [] [] [] true ms) 9 := by
  intro v hv
  cases v <;> first | rfl | exact absurd hv (of_decide_eq_false rfl)

/-- the induction statement of this file: with fuel `fm`, `calculateMapping(t, s)` succeeds and its mapping is `Good`.
    The third part is there for one consumer: a source union merges the mappings of its alternatives, and
    `srcUnion_case` needs to know of each which pointers it leaves unset; a union source itself promises nothing -/
def Solved (fm : Nat) (t s : Ty) : Prop :=
  ∃ m, calcMapping fm t s = some m ∧ Good m t s ∧ (Concrete s → Shape m s.id)

theorem struct_field (fm' : Nat) (sn : List Name) (st : List Ty) (hnd : sn.Nodup) (hlen : sn.length = st.length)
    (nt : Name × Ty) (ih : ∀ j sj, lastIndexOf sn nt.1 = some j → st[j]? = some sj → Solved fm' nt.2 sj) :
    ∃ im, calcStructField (calcMapping fm') sn st nt = some im ∧
      ∀ xs f, conformsEach st xs = true → Value.sizeList xs + 1 ≤ f →
        fixStructField (fixLayout f) xs im = some (relayoutField (relayout f) sn st xs nt) := by
  have hfirst := lastIndexOf_eq_first nt.1 sn hnd
  cases hl : lastIndexOf sn nt.1 with
  | none =>
    refine ⟨((-1 : Int), Mapping.empty), by rw [calcStructField, hl], fun xs f _ _ => ?_⟩
    rw [relayoutField, ← hfirst, hl]; rfl
  | some j =>
    have hj : j < st.length := hlen ▸ firstIndexOf_lt (hfirst ▸ hl)
    obtain ⟨m, hm, hgood, _⟩ := ih j st[j] hl (List.getElem?_eq_getElem hj)
    refine ⟨((j : Int), m), by simp only [calcStructField, hl, List.getElem?_eq_getElem hj, hm],
      fun xs f hv hf => ?_⟩
    obtain ⟨x, hx, hcx⟩ := conformsEach_get hv (List.getElem?_eq_getElem hj)
    have hsz := Value.size_le_sizeList (List.mem_of_getElem? hx)
    have hne : ¬ ((j : Int) == -1) = true := fun e => by have := eq_of_beq e; omega
    rw [relayoutField, ← hfirst, hl, fixStructField, if_neg hne]
    show (match xs[(j : Int).toNat]? with | some x => fixLayout f m x | none => none) = _
    simp only [Int.toNat_natCast, hx, List.getElem?_eq_getElem hj]
    exact hgood x f hcx (by omega)

theorem struct_case (fm' : Nat) (tn : List Name) (tt : List Ty) (sn : List Name) (st : List Ty)
    (hnd : sn.Nodup) (hlen : sn.length = st.length)
    (ih : ∀ n ft j sj, (n, ft) ∈ tn.zip tt → lastIndexOf sn n = some j → st[j]? = some sj → Solved fm' ft sj) :
    Solved (fm' + 1) (.struct tn tt) (.struct sn st) := by
  -- `calcStruct` is one `mapM` over the target fields, `fixStruct` a second one over its results: name the result for
  -- a field (index of the source field and mapping of the field types) to read both as plain `map`s
  let im : Name × Ty → Int × Mapping := fun nt => (calcStructField (calcMapping fm') sn st nt).getD default
  have him : ∀ nt, nt ∈ tn.zip tt → calcStructField (calcMapping fm') sn st nt = some (im nt) ∧
      ∀ xs f, conformsEach st xs = true → Value.sizeList xs + 1 ≤ f →
        fixStructField (fixLayout f) xs (im nt) = some (relayoutField (relayout f) sn st xs nt) := by
    intro nt hnt
    obtain ⟨x, hx, hfix⟩ := struct_field fm' sn st hnd hlen nt (fun j sj => ih nt.1 nt.2 j sj hnt)
    have : im nt = x := by show (calcStructField (calcMapping fm') sn st nt).getD _ = x; rw [hx]; rfl
    rw [this]; exact ⟨hx, hfix⟩
  refine ⟨.mk true (((tn.zip tt).map im).map Prod.fst) (((tn.zip tt).map im).map Prod.snd) [] false [], ?_,
    good_of_succ ?_, fun _ => shape_struct _ _⟩
  · show (match (tn.zip tt).mapM (calcStructField (calcMapping fm') sn st) with
      | some ims => some (Mapping.mk true (ims.map Prod.fst) (ims.map Prod.snd) [] false []) | none => none) = _
    rw [List.mapM_some_of_forall _ im _ fun nt hnt => (him nt hnt).1]
  · intro v f hv hf
    cases v with
    | struct xs =>
      have hsz : Value.size (.struct xs) = 1 + Value.sizeList xs := by rw [Value.size]
      show (match ((((tn.zip tt).map im).map Prod.fst).zip (((tn.zip tt).map im).map Prod.snd)).mapM
          (fixStructField (fixLayout f) xs) with
        | some ys => some (Value.struct ys) | none => none) = some (relayoutStruct (relayout f) tn tt sn st xs)
      rw [← List.zip_of_prod (xs := (tn.zip tt).map im) rfl rfl,
        List.mapM_map_some_of_forall im _ (relayoutField (relayout f) sn st xs) _
          fun nt hnt => (him nt hnt).2 xs f hv (by omega)]
      rfl
    | _ => cases hv

theorem tuple_elems (fm' : Nat) (te : List Ty) : ∀ (se : List Ty), se.length ≤ te.length →
    (∀ (i : Nat) ft sj, te[i]? = some ft → se[i]? = some sj → Solved fm' ft sj) →
    ∃ ms, calcTupleElems (calcMapping fm') te se = some ms ∧
      ∀ xs f, conformsEach se xs = true → Value.sizeList xs + 1 ≤ f →
        fixTupleElems (fixLayout f) ms xs = some (relayoutElems (relayout f) te se xs) := by
  induction te with
  | nil =>
    intro se hlen _
    cases se with
    | nil => exact ⟨[], rfl, fun xs _ hc _ => by cases xs with | nil => rfl | cons _ _ => cases hc⟩
    | cons _ _ => exact absurd hlen (Nat.not_succ_le_zero _)
  | cons t ts iht =>
    intro se hlen ih
    cases se with
    | nil =>
      -- the source tuple has ended: the zero mapping, and NULL in the output
      obtain ⟨ms, hms, hfix⟩ := iht [] (Nat.zero_le _) (fun _ _ _ _ h => nomatch h)
      refine ⟨Mapping.empty :: ms, by rw [calcTupleElems, hms], fun xs f hc hf => ?_⟩
      cases xs with
      | nil => rw [fixTupleElems, hfix [] f rfl hf]; rfl
      | cons _ _ => cases hc
    | cons s ss =>
      obtain ⟨m, hm, hgood, _⟩ := ih 0 t s rfl rfl
      obtain ⟨ms, hms, hfix⟩ := iht ss (Nat.le_of_succ_le_succ hlen) (fun i ft sj h1 h2 => ih (i + 1) ft sj h1 h2)
      refine ⟨m :: ms, by rw [calcTupleElems, hm, hms], fun xs f hc hf => ?_⟩
      cases xs with
      | nil => cases hc
      | cons x xs' =>
        rw [conformsEach, Bool.and_eq_true] at hc
        rw [Value.sizeList] at hf
        rw [fixTupleElems, hgood x f hc.1 (by omega), hfix xs' f hc.2 (by omega)]
        rfl

theorem tuple_case (fm' : Nat) (te se : List Ty) (hlen : se.length ≤ te.length)
    (ih : ∀ (i : Nat) ft sj, te[i]? = some ft → se[i]? = some sj → Solved fm' ft sj) :
    Solved (fm' + 1) (.tuple te) (.tuple se) := by
  obtain ⟨ms, hms, hfix⟩ := tuple_elems fm' te se hlen ih
  refine ⟨.mk false [] [] [] true ms, ?_, good_of_succ ?_, fun _ => shape_tuple _⟩
  · show (match calcTupleElems (calcMapping fm') te se with
      | some ms => some (Mapping.mk false [] [] [] true ms) | none => none) = _
    rw [hms]
  · intro v f hv hf
    cases v with
    | tuple xs =>
      have hsz : Value.size (.tuple xs) = 1 + Value.sizeList xs := by rw [Value.size]
      show (match fixTupleElems (fixLayout f) ms xs with | some ys => some (Value.tuple ys) | none => none)
        = some (relayoutTuple (relayout f) te se xs)
      rw [hfix xs f hv (by omega)]
      rfl
    | _ => cases hv

theorem list_case (fm' : Nat) (te se : Ty) (ih : Solved fm' te se) : Solved (fm' + 1) (.list te) (.list se) := by
  obtain ⟨m', hm', hgood, _⟩ := ih
  refine ⟨.mk false [] [] [m'] false [], by rw [calcMapping, hm'], good_of_succ ?_,
    fun _ => shape_low _ (Nat.le_refl 7)⟩
  intro v f hv hf
  cases v with
  | list xs =>
    have hsz : Value.size (.list xs) = 1 + Value.sizeList xs := by rw [Value.size]
    rw [conforms, List.all_eq_true] at hv
    show _ = some (Value.list (xs.map fun x => relayout f te se x))
    cases xs with
    | nil => rfl
    | cons x xs' =>
      show (match (x :: xs').mapM (fun y => fixLayout f m' y) with | some ys => some (Value.list ys) | none => none) = _
      rw [List.mapM_some_of_forall _ (fun y => relayout f te se y)]
      intro y hy
      have := Value.size_le_sizeList hy
      exact hgood y f (hv y hy) (by omega)
  | _ => cases hv

theorem calcTupleElems_nil_src (rec : Ty → Ty → Option Mapping) (te : List Ty) :
    calcTupleElems rec te [] = some (te.map fun _ => Mapping.empty) := by
  induction te with
  | nil => rfl
  | cons t ts ih => rw [calcTupleElems, ih]; rfl

theorem calcStruct_no_fields (rec : Ty → Ty → Option Mapping) (z : List (Name × Ty)) (stys : List Ty) :
    z.mapM (calcStructField rec [] stys) = some (z.map fun _ => ((-1 : Int), Mapping.empty)) :=
  List.mapM_some_of_forall _ _ _ fun _ _ => rfl

theorem scalar_case (fm' : Nat) (t s : Ty) (ht : Concrete t) (hs : s.id ≤ 6) : Solved (fm' + 1) t s := by
  obtain ⟨⟨hnu, _⟩, hnl, hsn, hte⟩ := scalar_of_id hs
  obtain ⟨m, h⟩ : ∃ m, calcMapping (fm' + 1) t s = some m := by
    cases t with
    | union alts => exact absurd rfl (ht.1 alts)
    | any => exact absurd rfl ht.2
    | struct tn tt => exact ⟨_, by rw [calcMapping, calcStruct, hsn, calcStruct_no_fields]; exact hnu⟩
    | tuple te => exact ⟨_, by rw [calcMapping, calcTuple, hte, calcTupleElems_nil_src]; exact hnu⟩
    -- the equations of `calcMapping` for these targets ask that `s` is no union and no list: `simp` takes that from `hnu`, `hnl`
    | _ => exact ⟨Mapping.empty, by simp only [calcMapping]⟩
  refine ⟨m, h, fun v f hv hf => ?_, fun _ => shape_low _ (by omega)⟩
  -- its values are leaves, which both functions return as they are
  have hl := leaf_of_conforms_scalar hs hv
  rw [relayout_leaf f t s v hl, fixLayout_leaf f m v hl (by omega)]

/-- one proof for both `Fits.listNilSrc` and `Fits.listNilBoth`: `solved_all` calls it once per disjunct -/
theorem listNil_src_case (fm' : Nat) (t : Ty) (ht : t = .listNil ∨ ∃ te, t = .list te) : Solved (fm' + 1) t .listNil := by
  refine ⟨Mapping.empty, ?_, good_of_succ ?_, fun _ => shape_low _ (Nat.le_refl 7)⟩
  · rcases ht with h | ⟨te, h⟩ <;> subst h <;> rfl
  · intro v f hv _
    cases v with
    | list xs =>
      rw [conforms, List.isEmpty_iff] at hv
      subst hv
      rcases ht with h | ⟨te, h⟩ <;> subst h <;> rfl
    | _ => cases hv

theorem tgtUnion_case (fm' : Nat) (talts : List Ty) (s ta : Ty) (hs : Concrete s) (hta : Concrete ta)
    (hfind : findAlt s.id talts = some ta) (ih : Solved fm' ta s) : Solved (fm' + 1) (.union talts) s := by
  obtain ⟨m, hm, hgood, hshape⟩ := ih
  refine ⟨m, ?_, ?_, hshape⟩
  · rw [calcMapping, hfind]
    · exact hm
    · exact hs.1
  · intro v fx hv hfx
    have halt : altFor v.rank (.union talts) = altFor v.rank ta := by
      rw [rank_of_conforms hs hv, altFor_concrete hta, altFor, hfind]; rfl
    rw [relayout_congr fx (.union talts) ta s s v halt rfl]
    exact hgood v fx hv hfx

theorem srcUnion_case (fm' : Nat) (t : Ty) (alts : List Ty) (hc : ∀ a, a ∈ alts → Concrete a)
    (hp : alts.Pairwise (fun a b => a.id < b.id))
    (ih : ∀ a, a ∈ alts → Solved fm' t a) : Solved (fm' + 1) t (.union alts) := by
  let ma : Ty → Mapping := fun a => (calcMapping fm' t a).getD Mapping.empty
  have hma : ∀ a, a ∈ alts → calcMapping fm' t a = some (ma a) ∧ Good (ma a) t a ∧ Shape (ma a) a.id := by
    intro a ha
    obtain ⟨m, hm, hg, hs⟩ := ih a ha
    have : ma a = m := by show (calcMapping fm' t a).getD _ = m; rw [hm]; rfl
    rw [this]; exact ⟨hm, hg, hs (hc a ha)⟩
  refine ⟨alts.foldl (fun out a => mergeMappings out (ma a)) Mapping.empty, ?_, ?_, fun hcu => absurd rfl (hcu.1 alts)⟩
  · rw [calcMapping]
    exact fold_calc_some (calcMapping fm' t) ma alts (fun a ha => (hma a ha).1) Mapping.empty
  · intro v fx hv hfx
    rw [conforms] at hv
    obtain ⟨a, ha, hca⟩ := conformsAny_exists hv
    have hr := rank_of_conforms (hc a ha) hca
    obtain ⟨pre, post, hsplit⟩ := List.append_of_mem ha
    subst hsplit
    obtain ⟨_, hgood, _⟩ := hma a ha
    have hg := hgood v fx hca hfx
    -- the specification only looks at alternative `a`
    have hrel : relayout fx t (.union (pre ++ a :: post)) v = relayout fx t a v := by
      apply relayout_congr _ _ _ _ _ _ rfl
      rw [hr, altFor_union_of_mem hp ha, altFor_concrete (hc a ha)]
    -- the later alternatives have larger TypeIDs: their mappings leave the pointer for `v` alone
    rw [List.pairwise_append, List.pairwise_cons] at hp
    obtain ⟨_, ⟨hlater, _⟩, _⟩ := hp
    have hpost : ∀ b, b ∈ post → (ma b).has v = false := fun b hb =>
      have ⟨_, _, hshape⟩ := hma b (List.mem_append_right _ (List.mem_cons_of_mem _ hb))
      hshape v (Nat.lt_of_le_of_lt (Nat.le_of_eq hr) (hlater b hb))
    rw [hrel, List.foldl_append, List.foldl_cons, fixLayout_fold_merge fx v ma post hpost, fixLayout_merge]
    -- and if the mapping of `a` itself lacks it, no mapping is looked at
    by_cases hh : (ma a).has v = true
    · rw [if_pos hh]; exact hg
    · rw [if_neg hh]; exact fixLayout_of_not_has (Bool.eq_false_iff.2 hh) hg _

theorem normTy_union_inv {alts : List Ty} (h : NormTy (.union alts)) :
    (∀ a, a ∈ alts → Concrete a) ∧ (∀ a, a ∈ alts → NormTy a) ∧ alts.Pairwise (fun a b => a.id < b.id) := by
  cases h with
  | scalar _ h6 => exact absurd h6 (of_decide_eq_false rfl)
  | union _ hc hn hp => exact ⟨hc, hn, hp⟩

theorem normTy_struct_inv {ns : List Name} {ts : List Ty} (h : NormTy (.struct ns ts)) :
    ns.Nodup ∧ ns.length = ts.length ∧ (∀ t, t ∈ ts → NormTy t) := by
  cases h with
  | scalar _ h6 => exact absurd h6 (of_decide_eq_false rfl)
  | struct _ _ hnd hl ha => exact ⟨hnd, hl, ha⟩

theorem normTy_tuple_inv {ts : List Ty} (h : NormTy (.tuple ts)) : ∀ t, t ∈ ts → NormTy t := by
  cases h with
  | scalar _ h6 => exact absurd h6 (of_decide_eq_false rfl)
  | tuple _ ha => exact ha

theorem normTy_list_inv {e : Ty} (h : NormTy (.list e)) : NormTy e := by
  cases h with
  | scalar _ h6 => exact absurd h6 (of_decide_eq_false rfl)
  | list _ he => exact he

theorem solved_all : ∀ fm t s, Ty.size t + Ty.size s < fm → NormTy t → NormTy s → Fits t s → Solved fm t s := by
  intro fm
  induction fm with
  | zero => intro t s h; omega
  | succ fm' ih =>
    intro t s hfm ht hs hfit
    -- smaller types are solved with one unit of fuel less
    have sub : ∀ t' s', Ty.size t' + Ty.size s' < Ty.size t + Ty.size s → NormTy t' → NormTy s' → Fits t' s' →
        Solved fm' t' s' := fun t' s' h nt ns f => ih t' s' (by omega) nt ns f
    cases hfit with
    | srcUnion _ alts h =>
      obtain ⟨hc, hn, hp⟩ := normTy_union_inv hs
      exact srcUnion_case fm' t alts hc hp fun a ha =>
        sub t a (Nat.add_lt_add_left (Ty.size_lt_of_mem ha) _) ht (hn a ha) (h a ha)
    | tgtUnion talts _ ta hsC hfind hfit' =>
      obtain ⟨hc, hn, _⟩ := normTy_union_inv ht
      have hmem := (findAlt_some hfind).1
      exact tgtUnion_case fm' talts s ta hsC (hc ta hmem) hfind
        (sub ta s (Nat.add_lt_add_right (Ty.size_lt_of_mem hmem) _) (hn ta hmem) hs hfit')
    | scalar _ _ htC hs6 => exact scalar_case fm' t s htC hs6
    | struct tn tt sn st h =>
      obtain ⟨hnd, hlen, hns⟩ := normTy_struct_inv hs
      obtain ⟨_, _, hnt⟩ := normTy_struct_inv ht
      refine struct_case fm' tn tt sn st hnd hlen fun nm ft j sj hmem hl hsj => ?_
      have hft : ft ∈ tt := (List.of_mem_zip hmem).2
      have hsj' : sj ∈ st := List.mem_of_getElem? hsj
      exact sub ft sj (Nat.add_lt_add (Ty.size_lt_of_mem hft) (Ty.size_lt_of_mem hsj')) (hnt ft hft) (hns sj hsj')
        (h nm ft j sj hmem hl hsj)
    | listNilSrc te => exact listNil_src_case fm' (.list te) (Or.inr ⟨te, rfl⟩)
    | listNilBoth => exact listNil_src_case fm' .listNil (Or.inl rfl)
    | list te se h =>
      exact list_case fm' te se (sub te se (Nat.add_lt_add (Ty.size_lt_list te) (Ty.size_lt_list se))
        (normTy_list_inv ht) (normTy_list_inv hs) h)
    | tuple te se hlen h =>
      refine tuple_case fm' te se hlen fun i ft sj hft hsj => ?_
      have hft' : ft ∈ te := List.mem_of_getElem? hft
      have hsj' : sj ∈ se := List.mem_of_getElem? hsj
      exact sub ft sj (Nat.add_lt_add (Ty.size_lt_of_mem hft') (Ty.size_lt_of_mem hsj'))
        (normTy_tuple_inv ht ft hft') (normTy_tuple_inv hs sj hsj') (h i ft sj hft hsj)

/-- `solved_all` at the fuels the model's `coalesce` uses -/
theorem fixLayout_calcMapping (t s : Ty) (v : Value) (ht : NormTy t) (hs : NormTy s) (hfit : Fits t s)
    (hv : conforms s v = true) :
    ∃ m, calcMapping (Ty.size t + Ty.size s + 1) t s = some m ∧
      fixLayout (fuelFor v) m v = some (relayout (Value.size v + 1) t s v) := by
  obtain ⟨m, hm, hgood, _⟩ := solved_all _ t s (Nat.lt_succ_self _) ht hs hfit
  exact ⟨m, hm, hgood v _ hv (Nat.le_refl _)⟩

/-- **COALESCE yields its first non-NULL argument, re-laid-out for the result type (NULL when all are NULL), and never
    panics** -/
theorem coalesce_spec (target : Ty) (ht : NormTy target) (args : List (Ty × Value)) (h : ArgsFit target args) :
    coalesce target args = .val (coalesceSpec target args) := by
  -- the constructor finds a mapping for every argument, and the loop over these mappings follows the specification
  have key : ∃ maps, args.mapM (fun sv => calcMapping (Ty.size target + Ty.size sv.1 + 1) target sv.1) = some maps ∧
      coalesceGo maps args = .val (coalesceSpec target args) := by
    induction args with
    | nil => exact ⟨[], rfl, rfl⟩
    | cons sv rest ih =>
      obtain ⟨s, v⟩ := sv
      obtain ⟨maps, hmaps, hgo⟩ := ih fun x hx => h x (List.mem_cons_of_mem _ hx)
      obtain ⟨hs, hfit, hv⟩ := h (s, v) (List.mem_cons_self ..)
      obtain ⟨m, hm, hfix⟩ := fixLayout_calcMapping target s v ht hs hfit hv
      refine ⟨m :: maps, by rw [List.mapM_cons, hm, hmaps]; rfl, ?_⟩
      cases v with
      | null => exact hgo
      | _ => simp only [coalesceGo, coalesceSpec, hfix]
  obtain ⟨maps, hmaps, hgo⟩ := key
  unfold coalesce
  rw [hmaps]
  exact hgo

end Octo.Coal
