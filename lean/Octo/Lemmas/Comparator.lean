import Octo.Lemmas.CmpLaws
/-! `cmp`, `cmpList` and keys with direction multipliers as comparators (`CmpOn`); rows that compare equal. -/
namespace Octo

theorem cmp_cmpOn : CmpOn (fun _ : Value => True) cmp := cmpWith_cmpOn cmpFloatFixed_cmpOn

/-- `cmp (.list a) (.list b)` is `cmpList a b` by definition -/
theorem cmpList_cmpOn : CmpOn (fun _ : List Value => True) cmpList :=
  cmp_cmpOn.comap Value.list fun _ _ => trivial

/-! The laws of `cmp` and `cmpList` under the names the other modules use: projections of `cmp_cmpOn`, `cmpList_cmpOn`. -/

theorem cmp_range (a b : Value) : cmp a b = -1 ∨ cmp a b = 0 ∨ cmp a b = 1 := cmp_cmpOn.range a b trivial trivial
theorem cmp_refl (a : Value) : cmp a a = 0 := cmp_cmpOn.refl trivial
theorem cmp_antisymm (a b : Value) : cmp a b = - cmp b a := cmp_cmpOn.antisymm a b trivial trivial
theorem cmp_trans (a b c : Value) : cmp a b ≤ 0 → cmp b c ≤ 0 → cmp a c ≤ 0 :=
  cmp_cmpOn.trans a b c trivial trivial trivial
theorem cmp_eq_symm {a b : Value} (h : cmp a b = 0) : cmp b a = 0 := cmp_cmpOn.eq_symm trivial trivial h
theorem cmp_eq_trans {a b c : Value} (h1 : cmp a b = 0) (h2 : cmp b c = 0) : cmp a c = 0 :=
  cmp_cmpOn.eq_trans trivial trivial trivial h1 h2
theorem cmp_lt_of_lt_of_le {a b c : Value} (h1 : cmp a b < 0) (h2 : cmp b c ≤ 0) : cmp a c < 0 :=
  cmp_cmpOn.lt_of_lt_of_le trivial trivial trivial h1 h2
theorem cmp_lt_of_le_of_lt {a b c : Value} (h1 : cmp a b ≤ 0) (h2 : cmp b c < 0) : cmp a c < 0 :=
  cmp_cmpOn.lt_of_le_of_lt trivial trivial trivial h1 h2
theorem cmp_congr {a a' b b' : Value} (ha : cmp a a' = 0) (hb : cmp b b' = 0) : cmp a b = cmp a' b' :=
  cmp_cmpOn.eq_congr trivial trivial trivial trivial ha hb

theorem cmpList_range (a b : List Value) : cmpList a b = -1 ∨ cmpList a b = 0 ∨ cmpList a b = 1 :=
  cmpList_cmpOn.range a b trivial trivial
theorem cmpList_refl (a : List Value) : cmpList a a = 0 := cmpList_cmpOn.refl trivial
theorem cmpList_antisymm (a b : List Value) : cmpList a b = - cmpList b a :=
  cmpList_cmpOn.antisymm a b trivial trivial
theorem cmpList_trans (a b c : List Value) : cmpList a b ≤ 0 → cmpList b c ≤ 0 → cmpList a c ≤ 0 :=
  cmpList_cmpOn.trans a b c trivial trivial trivial
theorem cmpList_eq_symm {a b : List Value} (h : cmpList a b = 0) : cmpList b a = 0 :=
  cmpList_cmpOn.eq_symm trivial trivial h
theorem cmpList_eq_trans {a b c : List Value} (h1 : cmpList a b = 0) (h2 : cmpList b c = 0) : cmpList a c = 0 :=
  cmpList_cmpOn.eq_trans trivial trivial trivial h1 h2
theorem cmpList_lt_of_lt_of_le {a b c : List Value} (h1 : cmpList a b < 0) (h2 : cmpList b c ≤ 0) : cmpList a c < 0 :=
  cmpList_cmpOn.lt_of_lt_of_le trivial trivial trivial h1 h2
theorem cmpList_lt_of_le_of_lt {a b c : List Value} (h1 : cmpList a b ≤ 0) (h2 : cmpList b c < 0) : cmpList a c < 0 :=
  cmpList_cmpOn.lt_of_le_of_lt trivial trivial trivial h1 h2
theorem cmpList_congr_left {a b : List Value} (h : cmpList a b = 0) (c : List Value) : cmpList a c = cmpList b c :=
  cmpList_cmpOn.eq_congr trivial trivial trivial trivial h (cmpList_refl c)
theorem cmpList_congr_right {a b : List Value} (h : cmpList a b = 0) (c : List Value) : cmpList c a = cmpList c b :=
  cmpList_cmpOn.eq_congr trivial trivial trivial trivial (cmpList_refl c) h

theorem cmpList_cons (x y : Value) (xs ys : List Value) :
    cmpList (x :: xs) (y :: ys) = if cmp x y = 0 then cmpList xs ys else cmp x y := cmpListWith_cons x y xs ys

theorem cmpList_cons_iff {x y : Value} {xs ys : List Value} :
    cmpList (x :: xs) (y :: ys) = 0 ↔ cmp x y = 0 ∧ cmpList xs ys = 0 := cmpListWith_cons_eq_zero

/-- rows that compare equal have the same shape: induction over both at once -/
theorem cmpList_eq_rec {motive : List Value → List Value → Prop} (nil : motive [] [])
    (cons : ∀ {x y : Value} {xs ys : List Value}, cmp x y = 0 → cmpList xs ys = 0 → motive xs ys → motive (x :: xs) (y :: ys)) :
    ∀ {a b : List Value}, cmpList a b = 0 → motive a b
  | [], [], _ => nil
  | [], _ :: _, h => nomatch h
  | _ :: _, [], h => nomatch h
  | _ :: _, _ :: _, h =>
    have hh := cmpList_cons_iff.mp h
    cons hh.1 hh.2 (cmpList_eq_rec nil cons hh.2)

theorem cmpList_eq_length {a b : List Value} (h : cmpList a b = 0) : a.length = b.length :=
  cmpList_eq_rec (motive := fun a b => a.length = b.length) rfl (fun _ _ ih => congrArg (· + 1) ih) h

theorem cmpListWith_append {cf : Nat → Nat → Int} : ∀ {xs ys : List Value} (a b : List Value), xs.length = ys.length →
    cmpListWith cf (xs ++ a) (ys ++ b) = if cmpListWith cf xs ys = 0 then cmpListWith cf a b else cmpListWith cf xs ys
  | [], [], _, _, _ => by rw [cmpListWith, if_pos rfl]; rfl
  | [], _ :: _, _, _, h | _ :: _, [], _, _, h => nomatch h
  | x :: xs, y :: ys, a, b, h => by
    rw [List.cons_append, List.cons_append, cmpListWith_cons, cmpListWith_cons, cmpListWith_append a b (Nat.succ.inj h)]
    split <;> rfl

theorem cmpList_append_cancel {a a' : List Value} (b b' : List Value) (h : cmpList a a' = 0) :
    cmpList (a ++ b) (a' ++ b') = cmpList b b' :=
  (cmpListWith_append b b' (cmpList_eq_length h)).trans (if_pos h)

theorem cmpList_append_eq {x x' a a' : List Value} (h : cmpList x x' = 0) (h' : cmpList a a' = 0) :
    cmpList (x ++ a) (x' ++ a') = 0 := (cmpList_append_cancel a a' h).trans h'

theorem cmpList_append_left (a x y : List Value) : cmpList (a ++ x) (a ++ y) = cmpList x y :=
  cmpList_append_cancel x y (cmpList_refl a)

theorem cmpList_take_drop {a b : List Value} (h : cmpList a b = 0) :
    ∀ n : Nat, cmpList (a.take n) (b.take n) = 0 ∧ cmpList (a.drop n) (b.drop n) = 0 :=
  cmpList_eq_rec (motive := fun a b => ∀ n : Nat, cmpList (a.take n) (b.take n) = 0 ∧ cmpList (a.drop n) (b.drop n) = 0)
    (fun n => by rw [List.take_nil, List.drop_nil]; exact ⟨rfl, rfl⟩)
    (fun hc hr ih n => by
      cases n with
      | zero => exact ⟨rfl, cmpList_cons_iff.mpr ⟨hc, hr⟩⟩
      | succ n => exact ⟨cmpList_cons_iff.mpr ⟨hc, (ih n).1⟩, (ih n).2⟩) h

/-- rows that compare equal agree position by position -/
theorem cmpList_getElem? {a b : List Value} (h : cmpList a b = 0) (i : Nat) :
    (a[i]? = none ∧ b[i]? = none) ∨ ∃ u v, a[i]? = some u ∧ b[i]? = some v ∧ cmp u v = 0 :=
  cmpList_eq_rec (motive := fun a b => ∀ i, (a[i]? = none ∧ b[i]? = none) ∨ ∃ u v, a[i]? = some u ∧ b[i]? = some v ∧ cmp u v = 0)
    (fun _ => .inl ⟨rfl, rfl⟩)
    (fun hc _ ih i => by
      cases i with
      | zero => exact .inr ⟨_, _, rfl, rfl, hc⟩
      | succ i => exact ih i) h i

theorem cmpList_getD {a b : List Value} (h : cmpList a b = 0) (i : Nat) : cmp (a.getD i .null) (b.getD i .null) = 0 := by
  rw [List.getD_eq_getElem?_getD, List.getD_eq_getElem?_getD]
  rcases cmpList_getElem? h i with ⟨h1, h2⟩ | ⟨u, v, h1, h2, huv⟩ <;> rw [h1, h2]
  · rfl
  · exact huv

theorem cmpList_set {a b : List Value} (h : cmpList a b = 0) (i : Nat) {u v : Value} (huv : cmp u v = 0) :
    cmpList (a.set i u) (b.set i v) = 0 :=
  cmpList_eq_rec (motive := fun a b => ∀ i, cmpList (a.set i u) (b.set i v) = 0) (fun _ => rfl)
    (fun hc hr ih i => by
      cases i with
      | zero => exact cmpList_cons_iff.mpr ⟨huv, hr⟩
      | succ i => exact cmpList_cons_iff.mpr ⟨hc, ih i⟩) h i

/-- the ORDER BY comparison of two keys under direction multipliers, as a three-way function: `Ops.lessKey_eq` and
    `Sql.keyCmp_eq_cmpK` express the model's `Ops.lessKey` and `Sql.keyCmp` through it. A position that one of the three lists lacks compares equal, so `cmpK ds`
    is a comparator only among keys of one length (`cmpK_cmpOn`). -/
def cmpK : List Int → List Value → List Value → Int
  | d :: ds, x :: xs, y :: ys => if cmp x y != 0 then cmp x y * d else cmpK ds xs ys
  | _, _, _ => 0

namespace Ops
/-- `1` ascending, `-1` descending; here, not in the `Ops` files, because `cmpK_cmpOn` asks for it -/
def Dirs (ds : List Int) : Prop := ∀ d ∈ ds, d = 1 ∨ d = -1
end Ops

/-- keys of any one length `n` (not necessarily the number of directions) -/
theorem cmpK_cmpOn (ds : List Int) (hd : Ops.Dirs ds) (n : Nat) :
    CmpOn (fun a : List Value => a.length = n) (cmpK ds) := by
  induction ds generalizing n with
  | nil => exact .of_eq_zero fun _ _ _ _ => by simp [cmpK]
  | cons d ds ih =>
    cases n with
    | zero =>
      exact .of_eq_zero fun a b ha hb => by
        rw [List.eq_nil_of_length_eq_zero ha, List.eq_nil_of_length_eq_zero hb]; rfl
    | succ n =>
      have hd1 := hd d List.mem_cons_self
      refine (((cmp_cmpOn.scale hd1).comap Prod.fst fun _ _ => trivial).lex
        ((ih (fun q hq => hd q (List.mem_cons_of_mem _ hq)) n).comap Prod.snd fun _ h => h)).image
        (fun p => p.1 :: p.2) (fun a ha => ?_) (fun p q => ?_)
      · match a, ha with
        | x :: xs, ha => exact ⟨(x, xs), Nat.succ.inj ha, rfl⟩
      · -- `cmpK` tests `cmp x y`, the product tests `cmp x y * d`: the same for `d = ±1`
        have : cmp p.1 q.1 * d = 0 ↔ cmp p.1 q.1 = 0 := by rcases hd1 with rfl | rfl <;> omega
        simp only [cmpK, lexC, bne_iff_ne, ne_eq, this]

end Octo
