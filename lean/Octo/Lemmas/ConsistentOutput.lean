import Octo.Model.ConsistentOutput
import Octo.Lemmas.Net
/-! The cancellation loop of `sendPendingLessOrEqualWatermark` preserves the consolidated view and only produces
    records it was given; the invariant of `Run`, whose final flush is one more watermark step (`run_as_steps`). -/
namespace Octo.ICW
open Octo

theorem weight_cancel {a b : Rec} (ha : a.retr = false) (hb : b.retr = true) (h : cmpList a.vals b.vals = 0) (row : Row) :
    a.weight row + b.weight row = 0 := by
  rw [Rec.weight, Rec.weight, rowEq_congr_left (rowEq_iff.mpr h) row, ha, hb]
  cases rowEq b.vals row <;> rfl

theorem valsMatch_eq (xs ys : List Value) (h : xs.length = ys.length) : valsMatch xs ys = some (cmpList xs ys == 0) := by
  induction xs generalizing ys with
  | nil => cases ys with
    | nil => rfl
    | cons y ys => cases h
  | cons x xs ih =>
    cases ys with
    | nil => cases h
    | cons y ys =>
      simp only [valsMatch, cmpListWith]
      split
      · next hc => rw [beq_eq_false_iff_ne.mpr (bne_iff_ne.mp hc)]
      · exact ih ys (Nat.succ.inj h)

/-- the entries of `pending[i:]` that are not crossed out -/
def uncrossed : List Rec → List Bool → List Rec
  | [], _ => []
  | a :: rest, [] => a :: uncrossed rest []
  | a :: rest, c :: cs => if c then uncrossed rest cs else a :: uncrossed rest cs

theorem uncrossed_map (p : Rec → Bool) (l : List Rec) : uncrossed l (l.map p) = l.filter (fun r => !p r) := by
  induction l with
  | nil => rfl
  | cons a rest ih =>
    rw [List.map_cons, uncrossed, ih, List.filter_cons]
    cases p a <;> rfl

def SameArity (k : Nat) (l : List Rec) : Prop := ∀ r ∈ l, r.vals.length = k

/-- what both recursive calls of `findRetractionLoop` do with the result for the tail: the flag of the entry that
    was passed over is put back in front -/
def putBack (c : Bool) : Except Fail (Option (List Bool)) → Except Fail (Option (List Bool))
  | .error e => .error e
  | .ok none => .ok none
  | .ok (some cs') => .ok (some (c :: cs'))

theorem findRetr_cons (skip : Bool) (a b : Rec) (rest : List Rec) (c : Bool) (cs : List Bool) :
    findRetr skip a (b :: rest) (c :: cs) =
      if !b.retr || (skip && c) then putBack c (findRetr skip a rest cs)
      else match valsMatch a.vals b.vals with
        | none => .error .panic
        | some true => .ok (some (true :: cs))
        | some false => putBack c (findRetr skip a rest cs) := by
  rw [findRetr]; rfl

/-- the result of `findRetractionLoop` (repaired): nothing found, or one entry newly crossed out, which was not
    crossed out before and is a retraction of the same row -/
def Found (a : Rec) (rest : List Rec) (cs : List Bool) (res : Except Fail (Option (List Bool))) : Prop :=
  res = .ok none ∨ ∃ cs' b, res = .ok (some cs') ∧ cs'.length = rest.length ∧
    b.retr = true ∧ cmpList a.vals b.vals = 0 ∧ (b :: uncrossed rest cs').Perm (uncrossed rest cs)

theorem Found.putBack {a : Rec} {rest : List Rec} {cs : List Bool} {res : Except Fail (Option (List Bool))}
    (h : Found a rest cs res) (b : Rec) (c : Bool) : Found a (b :: rest) (c :: cs) (putBack c res) := by
  rcases h with rfl | ⟨cs', b', rfl, h2, h3, h4, h5⟩
  · exact Or.inl rfl
  · refine Or.inr ⟨c :: cs', b', rfl, congrArg (· + 1) h2, h3, h4, ?_⟩
    cases c
    · exact (List.Perm.swap b b' _).trans (h5.cons b)
    · exact h5

theorem findRetr_spec (a : Rec) (k : Nat) (hak : a.vals.length = k) (rest : List Rec) (cs : List Bool)
    (hlen : cs.length = rest.length) (har : SameArity k rest) : Found a rest cs (findRetr true a rest cs) := by
  induction rest generalizing cs with
  | nil => exact Or.inl (by cases cs <;> rfl)
  | cons b rest ih =>
    cases cs with
    | nil => cases hlen
    | cons c cs =>
      have ih := ih cs (Nat.succ.inj hlen) fun r hr => har r (List.mem_cons_of_mem _ hr)
      rw [findRetr_cons]
      split
      · exact ih.putBack b c
      · next hskip =>
        -- `b` is a retraction that is not crossed out
        have hb : b.retr = true := by cases hbr : b.retr <;> simp [hbr] at hskip ⊢
        have hc : c = false := by cases c <;> simp [hb] at hskip ⊢
        subst hc
        rw [valsMatch_eq _ _ (hak.trans (har b List.mem_cons_self).symm)]
        cases hm : cmpList a.vals b.vals == 0
        · exact ih.putBack b false
        · exact Or.inr ⟨true :: cs, b, rfl, hlen, hb, beq_iff_eq.mp hm, .refl _⟩

/-- what `pendingLoop` does with the result for the tail when it produces the entry `a` -/
def emit (a : Rec) : Except Fail (List Rec) → Except Fail (List Rec)
  | .error e => .error e
  | .ok out => .ok (a :: out)

theorem pendingLoop_cons (skip : Bool) (a : Rec) (rest : List Rec) (c : Bool) (cs : List Bool) :
    pendingLoop skip (a :: rest) (c :: cs) =
      if c then pendingLoop skip rest cs
      else if !a.retr then
        match findRetr skip a rest cs with
        | .error e => .error e
        | .ok (some cs') => pendingLoop skip rest cs'
        | .ok none => emit a (pendingLoop skip rest cs)
      else emit a (pendingLoop skip rest cs) := by
  rw [pendingLoop]; rfl

/-- the result of `pendingLoop` (repaired): no panic; what is produced, together with pairs that cancel, is a
    permutation of the entries that were not crossed out -/
def Looped (rest : List Rec) (cs : List Bool) (res : Except Fail (List Rec)) : Prop :=
  ∃ out c, res = .ok out ∧ (out ++ c).Perm (uncrossed rest cs) ∧ ∀ row, net c row = 0

theorem Looped.emit {rest : List Rec} {cs : List Bool} {res : Except Fail (List Rec)} (h : Looped rest cs res)
    (a : Rec) : Looped (a :: rest) (false :: cs) (emit a res) := by
  obtain ⟨out, c, rfl, h2, h3⟩ := h
  exact ⟨a :: out, c, rfl, h2.cons a, h3⟩

theorem pendingLoop_spec (k : Nat) (rest : List Rec) (cs : List Bool) (hlen : cs.length = rest.length)
    (har : SameArity k rest) : Looped rest cs (pendingLoop true rest cs) := by
  induction rest generalizing cs with
  | nil => exact ⟨[], [], by rw [pendingLoop], by cases cs <;> exact .nil, fun _ => rfl⟩
  | cons a rest ih =>
    cases cs with
    | nil => cases hlen
    | cons c cs =>
      have har' : SameArity k rest := fun r hr => har r (List.mem_cons_of_mem _ hr)
      have ih := fun cs' (h : cs'.length = rest.length) => ih cs' h har'
      rw [pendingLoop_cons]
      cases c
      · cases hr : a.retr
        · rcases findRetr_spec a k (har a List.mem_cons_self) rest cs (Nat.succ.inj hlen) har' with
            h0 | ⟨cs', b, f1, f2, f3, f4, f5⟩
          · rw [h0]; exact (ih cs (Nat.succ.inj hlen)).emit a
          · -- `a` and the retraction `b` found for it cancel
            obtain ⟨out, cc, h1, h2, h3⟩ := ih cs' f2
            rw [f1]
            refine ⟨out, a :: b :: cc, h1, ?_, fun row => ?_⟩
            -- out ++ a :: b :: cc ~ a :: b :: (out ++ cc) ~ a :: b :: uncrossed rest cs' ~ a :: uncrossed rest cs
            · exact (List.perm_middle.trans ((List.perm_middle.trans ((h2.cons b).trans f5)).cons a))
            · rw [net_cons, net_cons, h3 row, ← Int.add_assoc, weight_cancel hr f3 f4 row]; rfl
        · exact (ih cs (Nat.succ.inj hlen)).emit a
      · exact ih cs (Nat.succ.inj hlen)

theorem flush_spec (k : Nat) (W : Int) (P : List Rec) (har : SameArity k P) :
    ∃ out c, flush fixed W P = .ok (out, P.filter (after W)) ∧
      (out ++ P.filter (after W) ++ c).Perm P ∧ ∀ row, net c row = 0 := by
  obtain ⟨out, c, h1, h2, h3⟩ := pendingLoop_spec k P (P.map (after W)) (List.length_map _) har
  refine ⟨out, c, by rw [flush, show fixed.skipCrossed = true from rfl, h1]; rfl, ?_, h3⟩
  rw [uncrossed_map] at h2
  rw [List.append_assoc]
  -- out ++ (kept ++ c) ~ (out ++ c) ++ kept ~ (not after W) ++ kept ~ kept ++ (not after W) ~ P
  exact (List.perm_append_comm.append_left out).trans <| (List.append_assoc .. ▸ h2.append_right _).trans
    (List.perm_append_comm.trans (List.filter_append_perm (after W) P))

/-- what holds after the source delivered `inp` -/
structure Inv (k : Nat) (inp : List Msg) (s : St) : Prop where
  arity : SameArity k s.pending
  wmsOut : wms s.out = wms inp
  /-- conservation: emitted ++ pending ++ (pairs that cancelled) is a rearrangement of the input records -/
  conserved : ∃ C, (recs s.out ++ s.pending ++ C).Perm (recs inp) ∧ ∀ row, net C row = 0
  /-- above every watermark received so far, what is pending is what came in, in order -/
  above : ∀ W, (∀ x ∈ wms inp, x ≤ W) → s.pending.filter (after W) = (recs inp).filter (after W)

theorem inv_init (k : Nat) : Inv k [] St.init :=
  ⟨nofun, rfl, ⟨[], .nil, fun _ => rfl⟩, fun _ _ => rfl⟩

theorem after_and_of_le {W0 W : Int} (h : W0 ≤ W) (r : Rec) : (after W r && after W0 r) = after W r := by
  unfold after
  cases r.et with
  | none => rfl
  | some t => by_cases h1 : W < t <;> simp [h1]; omega

theorem step_wm (k : Nat) (pre : List Msg) (s : St) (W : Int) (hinv : Inv k pre s) :
    ∃ o : List Rec,
      step fixed s (Msg.wm W) = .ok ⟨s.out ++ o.map Msg.data ++ [Msg.wm W], s.pending.filter (after W)⟩ ∧
      Inv k (pre ++ [Msg.wm W]) ⟨s.out ++ o.map Msg.data ++ [Msg.wm W], s.pending.filter (after W)⟩ ∧
      ((∀ x ∈ wms pre, x ≤ W) → ∀ row,
        net (recs (s.out ++ o.map Msg.data)) row = net ((recs pre).filter (fun r => !after W r)) row) := by
  obtain ⟨o, c, hf, hperm, hc⟩ := flush_spec k W s.pending hinv.arity
  obtain ⟨C, hC, hC0⟩ := hinv.conserved
  have hwms : wms (pre ++ [Msg.wm W]) = wms pre ++ [W] := wms_append pre _
  refine ⟨o, by rw [step, hf], ?_, ?_⟩
  · refine ⟨fun r hr => hinv.arity r (List.mem_filter.mp hr).1, ?_, ⟨c ++ C, ?_, fun row => ?_⟩, fun W' hW' => ?_⟩
    · rw [wms_append, wms_append, wms_map_data, List.append_nil, hinv.wmsOut, hwms]; rfl
    · -- recs s.out ++ (o ++ kept ++ c ++ C) ~ recs s.out ++ (pending ++ C) ~ recs pre
      simp only [recs_append, recs_map_data, recs, List.append_nil, List.append_assoc] at hC ⊢
      exact ((List.append_assoc .. ▸ List.append_assoc .. ▸ hperm.append_right C).append_left _).trans hC
    · rw [net_append, hc row, hC0 row]; rfl
    · -- what `W` keeps and lies above the later `W'` is what lies above `W'`
      rw [hwms, List.forall_mem_append] at hW'
      rw [recs_append, List.filter_filter]
      exact (List.filter_congr fun r _ => after_and_of_le (hW'.2 W (List.mem_singleton_self W)) r).trans
        ((hinv.above W' hW'.1).trans (List.append_nil _ ▸ rfl))
  · -- conservation before (`e1`) and across the flush (`e2`), and the input so far split at `W` (`e3`); what the
    -- flush keeps is the input above `W` (`Inv.above`), so what is out after it is the input at or below `W`
    intro hm row
    have e1 := net_perm hC row
    have e2 := net_perm hperm row
    have e3 := net_filter_split (after W) (recs pre) row
    simp only [net_append, hc row, hC0 row, hinv.above W hm] at e1 e2
    rw [recs_append, recs_map_data, net_append]
    omega

theorem step_data (k : Nat) (pre : List Msg) (s : St) (r : Rec) (hinv : Inv k pre s) (hr : r.vals.length = k) :
    ∃ s', step fixed s (Msg.data r) = .ok s' ∧ Inv k (pre ++ [Msg.data r]) s' := by
  obtain ⟨C, hC, hC0⟩ := hinv.conserved
  have hwms : wms (pre ++ [Msg.data r]) = wms pre := (wms_append pre _).trans (List.append_nil _)
  refine ⟨{ s with pending := s.pending ++ [r] }, rfl, ⟨?_, hinv.wmsOut.trans hwms.symm, ⟨C, ?_, hC0⟩, ?_⟩⟩
  · exact fun x hx => (List.mem_append.mp hx).elim (hinv.arity x) fun h => List.mem_singleton.mp h ▸ hr
  · -- recs out ++ (P ++ [r]) ++ C ~ (recs out ++ P ++ C) ++ [r]
    rw [recs_append]
    simp only [List.append_assoc]
    exact ((List.perm_append_comm.append_left _).append_left _).trans
      (List.append_assoc .. ▸ List.append_assoc .. ▸ hC.append_right [r])
  · intro W hW
    rw [recs_append, List.filter_append, List.filter_append, hinv.above W (hwms ▸ hW)]
    rfl

theorem steps_out_prefix (v : Version) (ms : List Msg) (s s' : St) (h : steps v s ms = .ok s') : ∃ o, s'.out = s.out ++ o := by
  induction ms generalizing s with
  | nil => cases h; exact ⟨[], (List.append_nil _).symm⟩
  | cons m ms ih =>
    rw [steps] at h
    split at h
    · cases h
    · next s1 hs =>
      obtain ⟨o, ho⟩ := ih s1 h
      cases m with
      | data r => cases hs; exact ⟨o, ho⟩
      | wm W =>
        rw [step] at hs
        split at hs
        · cases hs
        · cases hs
          exact ⟨_, ho.trans ((List.append_assoc ..).trans (List.append_assoc ..))⟩

theorem steps_append (v : Version) (a b : List Msg) (s : St) :
    steps v s (a ++ b) = match steps v s a with
      | .error e => .error e
      | .ok s1 => steps v s1 b := by
  induction a generalizing s with
  | nil => rfl
  | cons m ms ih =>
    simp only [List.cons_append, steps]
    cases step v s m with
    | error e => rfl
    | ok s1 => exact ih s1

theorem steps_inv (k : Nat) (ms pre : List Msg) (s : St) (hinv : Inv k pre s) (har : SameArity k (recs ms)) :
    ∃ s', steps fixed s ms = .ok s' ∧ Inv k (pre ++ ms) s' := by
  induction ms generalizing pre s with
  | nil => exact ⟨s, rfl, (List.append_nil pre).symm ▸ hinv⟩
  | cons m ms ih =>
    have ⟨s1, h1, hinv1, har1⟩ : ∃ s1, step fixed s m = .ok s1 ∧ Inv k (pre ++ [m]) s1 ∧ SameArity k (recs ms) := by
      cases m with
      | data r =>
        obtain ⟨s1, h1, hinv1⟩ := step_data k pre s r hinv (har r List.mem_cons_self)
        exact ⟨s1, h1, hinv1, fun x hx => har x (List.mem_cons_of_mem _ hx)⟩
      | wm W =>
        obtain ⟨_, h1, hinv1, _⟩ := step_wm k pre s W hinv
        exact ⟨_, h1, hinv1, har⟩
    obtain ⟨s', h2, hinv2⟩ := ih (pre ++ [m]) s1 hinv1 har1
    exact ⟨s', by rw [steps, h1]; exact h2, List.append_cons pre m ms ▸ hinv2⟩

theorem finish_of_step {v : Version} {s s' : St} (h : step v s (Msg.wm wmMax) = .ok s') :
    ∃ out, finish v s = .ok out ∧ s'.out = out ++ [Msg.wm wmMax] := by
  rw [step] at h
  rw [finish]
  split at h
  · cases h
  · cases h; exact ⟨_, rfl, rfl⟩

/-- the whole run read as steps: the input followed by the watermark `wmMax`, whose forwarding is left out -/
theorem run_as_steps (k : Nat) (inp : List Msg) (har : SameArity k (recs inp)) :
    ∃ s' out, Inv k (inp ++ [Msg.wm wmMax]) s' ∧ run fixed inp = .ok out ∧ s'.out = out ++ [Msg.wm wmMax] ∧
      ∀ r ∈ s'.pending, after wmMax r = true := by
  obtain ⟨s, hs, hinv⟩ := steps_inv k inp [] St.init (inv_init k) har
  obtain ⟨_, hstep, hinv', _⟩ := step_wm k inp s wmMax hinv
  obtain ⟨out, hfin, hout⟩ := finish_of_step hstep
  exact ⟨_, out, hinv', by rw [run, hs]; exact hfin, hout, fun r hr => (List.mem_filter.mp hr).2⟩

/-! `Mono` is no part of the run invariant; it enters in `C22.at_wm` only. -/

theorem mono_cons {a : Int} {l : List Int} (h : Mono (a :: l)) : Mono l := mono_sublist (List.sublist_cons_self a l) h

theorem mono_append_left {a b : List Int} (h : Mono (a ++ b)) : Mono a := mono_sublist (List.sublist_append_left a b) h

theorem mono_le_last {l : List Int} {w : Int} (hm : Mono (l ++ [w])) : ∀ x ∈ l, x ≤ w := fun x hx =>
  (List.pairwise_append.mp ((mono_iff_pairwise _).mp hm)).2.2 x hx w (List.mem_singleton_self w)

end Octo.ICW
