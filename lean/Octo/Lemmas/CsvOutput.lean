import Octo.Lemmas.CsvRoundtrip
import Octo.Lemmas.JsonWrites
/-!
  Lemmas for C25: `CSVFormatter` as a whole — header, one record per row, every scalar cell is the
  text of its value, NULL is the empty field, no panic on rows that fit the schema.
-/
namespace Octo.OutFmt
open Octo Octo.Spec

/-- what is assumed of `strconv.FormatFloat(f, 'f', -1, 64)` -/
structure CsvFloatOK (L : Lib) : Prop where
  fin : ∀ b, finite b = true → Json.validNumber (L.fmtFloatF b) = true ∧ Num.litToF64 (L.fmtFloatF b) = b
  nonfin : ∀ b, finite b = false → L.fmtFloatF b = nonFiniteText b

theorem csvCell_ok (L : Lib) (hL : FloatSyntax L) (hC : CsvFloatOK L) (hT : TextExact L) (τ : Ty) (v : Value) (hf : fits τ v = true) :
    ∃ cell, csvCell L τ v = some cell ∧ csvCellOk v cell = true := by
  cases v with
  | null => exact ⟨[], rfl, rfl⟩
  | int i => exact ⟨fmtInt i, rfl, by simp [csvCellOk, intLit_fmtInt]⟩
  | float b =>
    refine ⟨L.fmtFloatF b, rfl, ?_⟩
    by_cases hb : finite b = true
    · simp [csvCellOk, hb, hC.fin b hb]
    · have hb' : finite b = false := by simpa using hb
      simp [csvCellOk, hb', hC.nonfin b hb']
  | bool _ | str _ => exact ⟨_, rfl, by simp [csvCellOk]⟩
  | time ns loc => exact ⟨_, rfl, by simp [csvCellOk, hT.time ns loc]⟩
  | dur ns => exact ⟨_, rfl, by simp [csvCellOk, hT.dur ns]⟩
  | list xs | struct xs | tuple xs => exact ⟨_, (encJson_writes L hL τ _ hf).text, rfl⟩

theorem csvCells_ok (L : Lib) (hL : FloatSyntax L) (hC : CsvFloatOK L) (hT : TextExact L) : ∀ (ts : List Ty) (vs : List Value),
    fitsEach ts vs = true → ∃ cells, csvCells L ts vs = some cells ∧ cells.length = vs.length ∧ csvRowOk vs cells = true
  | ts, [], h => by cases fitsEach_nil h; exact ⟨[], rfl, rfl, rfl⟩
  | ts, v :: vs, h => by
    obtain ⟨t, ts, rfl, hv, hvs⟩ := fitsEach_cons h
    obtain ⟨c, hc, hok⟩ := csvCell_ok L hL hC hT t v hv
    obtain ⟨cs, hcs, hlen, hoks⟩ := csvCells_ok L hL hC hT ts vs hvs
    exact ⟨c :: cs, by simp [csvCells, hc, hcs], by simp [hlen], by simp [csvRowOk, hok, hoks]⟩

theorem csvRows_ok (L : Lib) (hL : FloatSyntax L) (hC : CsvFloatOK L) (hT : TextExact L) (ns : List Name) (ts : List Ty) (hns : ns ≠ []) :
    ∀ rows : List (List Value), rows.all (rowFits ns ts) = true →
      ∃ cellss, csvRows L ts rows = some (concatRecords cellss) ∧ (∀ r ∈ cellss, r ≠ []) ∧ csvRowsOk rows cellss = true
  | [], _ => ⟨[], rfl, by simp, rfl⟩
  | r :: rs, h => by
    simp only [List.all_cons, Bool.and_eq_true] at h
    obtain ⟨h1, h2⟩ := h
    replace h1 := rowFits_iff.mp h1
    obtain ⟨cells, hc, hlen, hok⟩ := csvCells_ok L hL hC hT ts r h1.2
    obtain ⟨cellss, hcs, hne, hoks⟩ := csvRows_ok L hL hC hT ns ts hns rs h2
    have : cells ≠ [] := fun e =>
      hns (List.eq_nil_of_length_eq_zero (by rw [h1.1, fitsEach_length ts r h1.2, ← hlen, e]; rfl))
    exact ⟨cells :: cellss, by simp [csvRows, csvLine, hc, hcs, concatRecords], List.forall_mem_cons.mpr ⟨this, hne⟩,
      by simp [csvRowsOk, hok, hoks]⟩

theorem csvOutput_ok (L : Lib) (hL : FloatSyntax L) (hC : CsvFloatOK L) (hT : TextExact L) (ns : List Name) (ts : List Ty)
    (rows : List (List Value)) (hns : ns ≠ [])
    (hrows : rows.all (rowFits (withoutQualifiers ns) ts) = true) :
    ∃ bytes cellss, csvOutput L ns ts rows = some bytes ∧
      Csv.decode bytes = some ((withoutQualifiers ns).map nameBytes :: cellss) ∧ csvRowsOk rows cellss = true := by
  have hq : (withoutQualifiers ns).map nameBytes ≠ [] := by
    cases ns with
    | nil => exact absurd rfl hns
    | cons _ _ => simp [withoutQualifiers]
  obtain ⟨cellss, hcs, hne, hok⟩ := csvRows_ok L hL hC hT (withoutQualifiers ns) ts (fun e => hq (by rw [e]; rfl)) rows hrows
  refine ⟨concatRecords ((withoutQualifiers ns).map nameBytes :: cellss), cellss, by simp [csvOutput, hcs, concatRecords], ?_, hok⟩
  exact decode_records _ (List.forall_mem_cons.mpr ⟨hq, hne⟩)

end Octo.OutFmt
