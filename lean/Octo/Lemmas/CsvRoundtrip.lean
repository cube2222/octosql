import Octo.Spec.OutputSpec
/-!
  Lemmas for C25: Go's `csv.Writer.Write` (model: `csvField` / `csvRecord`) read back by the
  RFC 4180 reader `Csv.decode` gives the original fields — for **every** list of records of at least one field each, whatever their bytes.
-/
namespace Octo.OutFmt
open Octo Octo.Spec

/-- what may follow a field inside a record written by `csvRecord` -/
def AfterField (rest : Bytes) : Prop := ∃ c r, rest = c :: r ∧ (c = 44 ∨ c = 10)

theorem afterField_ne_quote {c : Nat} (h : c = 44 ∨ c = 10) : c ≠ 34 := by
  rcases h with rfl | rfl <;> decide

theorem pQuoted_body (f rest : Bytes) (hr : AfterField rest) :
    Csv.pQuoted (csvQuoteBody f ++ 34 :: rest) = some (f, rest) := by
  induction f with
  | nil =>
    obtain ⟨c0, r0, rfl, hc0⟩ := hr
    rw [csvQuoteBody, List.nil_append, Csv.pQuoted.eq_def]
    dsimp only
    rw [if_pos rfl]
    exact if_neg (afterField_ne_quote hc0)
  | cons c cs ih =>
    rw [csvQuoteBody]
    by_cases hc : c = 34
    · rw [if_pos hc, hc, List.cons_append, List.cons_append, Csv.pQuoted.eq_def]
      dsimp only
      rw [if_pos rfl, if_pos rfl, ih]; rfl
    · rw [if_neg hc, List.cons_append, Csv.pQuoted.eq_def]
      dsimp only
      rw [if_neg hc, ih]; rfl

theorem pPlain_append (f rest : Bytes) (hf : ∀ c ∈ f, ¬ (c = 44 ∨ c = 10 ∨ c = 13) ∧ c ≠ 34) (hr : AfterField rest) :
    Csv.pPlain (f ++ rest) = some (f, rest) := by
  induction f with
  | nil =>
    obtain ⟨c0, r0, rfl, hc0⟩ := hr
    rw [List.nil_append, Csv.pPlain, if_pos (hc0.imp_right Or.inl)]
  | cons c cs ih =>
    obtain ⟨h1, hcs⟩ := List.forall_mem_cons.mp hf
    rw [List.cons_append, Csv.pPlain, if_neg h1.1, if_neg h1.2, ih hcs]; rfl

theorem pField_plain (c : Nat) (r : Bytes) (h : c ≠ 34) : Csv.pField (c :: r) = Csv.pPlain (c :: r) := by
  unfold Csv.pField
  split
  · next heq => cases heq; exact absurd rfl h
  · rfl

theorem needsQuotes_false (f : Bytes) : fieldNeedsQuotes f = false →
    ∀ c ∈ f, ¬ (c = 44 ∨ c = 10 ∨ c = 13) ∧ c ≠ 34 := by
  fun_cases fieldNeedsQuotes f
  case case1 h => exact fun _ c hc => by rw [h] at hc; cases hc
  case case4 _ _ hany =>
    intro _ c hc
    have : ¬ (c = 10 ∨ c = 13 ∨ c = 34 ∨ c = 44) := fun hcc =>
      hany (List.any_eq_true.mpr ⟨c, hc, decide_eq_true hcc⟩)
    omega
  all_goals exact fun h => nomatch h

theorem pField_csvField (f rest : Bytes) (hr : AfterField rest) : Csv.pField (csvField f ++ rest) = some (f, rest) := by
  rw [csvField]
  cases hq : fieldNeedsQuotes f with
  | true =>
    rw [if_pos rfl, List.cons_append, List.append_assoc, List.singleton_append]
    exact pQuoted_body f rest hr
  | false =>
    have hf := needsQuotes_false f hq
    rw [if_neg Bool.false_ne_true, ← pPlain_append f rest hf hr]
    cases f with
    | nil =>
      obtain ⟨c0, r0, rfl, hc0⟩ := hr
      exact pField_plain c0 r0 (afterField_ne_quote hc0)
    | cons c cs => exact pField_plain c _ (hf c List.mem_cons_self).2

theorem csvRecord_cons (f : Bytes) (fs : List Bytes) (rest : Bytes) :
    csvRecord (f :: fs) ++ rest = csvField f ++ (csvFields false fs ++ 10 :: rest) := by
  simp [csvRecord, csvFields, sep]

/-- one record: the head field, then the `first = false` loop; `csvRecord_cons` brings `csvRecord` to this form -/
theorem pRecord_fields : ∀ (fs : List Bytes) (f : Bytes) (fuel : Nat) (rest : Bytes), fs.length < fuel →
    Csv.pRecord fuel (csvField f ++ (csvFields false fs ++ 10 :: rest)) = some (f :: fs, rest)
  | [], f, fuel + 1, rest, _ => by
    rw [Csv.pRecord, csvFields, List.nil_append, pField_csvField f _ ⟨10, rest, rfl, Or.inr rfl⟩]; rfl
  | g :: fs, f, fuel + 1, rest, hl => by
    have e : csvFields false (g :: fs) ++ 10 :: rest = 44 :: (csvField g ++ (csvFields false fs ++ 10 :: rest)) := by
      simp [csvFields, sep]
    rw [Csv.pRecord, e, pField_csvField f _ ⟨44, _, rfl, Or.inl rfl⟩]
    simp only [pRecord_fields fs g fuel rest (Nat.lt_of_succ_lt_succ hl)]; rfl

theorem csvFields_length_le : ∀ fs : List Bytes, fs.length ≤ (csvFields false fs).length
  | [] => Nat.le_refl 0
  | f :: fs => by
    have := csvFields_length_le fs
    simp [csvFields, sep]
    omega

def concatRecords : List (List Bytes) → Bytes
  | [] => []
  | r :: rs => csvRecord r ++ concatRecords rs

theorem pFile_succ_ne (fuel : Nat) (inp : Bytes) (h : inp ≠ []) : Csv.pFile (fuel + 1) inp =
    match Csv.pRecord (inp.length + 1) inp with
    | none => none
    | some (rec, rest) => (Csv.pFile fuel rest).map fun recs => rec :: recs := by
  cases inp with
  | nil => exact absurd rfl h
  | cons c r => rw [Csv.pFile]; rfl

theorem pFile_records : ∀ (recs : List (List Bytes)) (fuel : Nat), (∀ r ∈ recs, r ≠ []) → recs.length < fuel →
    Csv.pFile fuel (concatRecords recs) = some recs
  | [], fuel + 1, _, _ => by rw [concatRecords, Csv.pFile]
  | [] :: rs, _, hne, _ => absurd rfl (hne [] List.mem_cons_self)
  | (f :: fs) :: rs, fuel + 1, hne, hl => by
    have e := csvRecord_cons f fs (concatRecords rs)
    -- `Csv.pFile` gives `Csv.pRecord` the fuel `inp.length + 1`: enough, since a record of n fields is at least
    -- n bytes long (`csvFields_length_le`: every further field brings its comma)
    have hlen : fs.length + 1 ≤ (concatRecords ((f :: fs) :: rs)).length := by
      have := csvFields_length_le fs
      rw [concatRecords, e]
      simp only [List.length_append, List.length_cons]
      omega
    rw [pFile_succ_ne fuel _ (fun h => by rw [h] at hlen; cases hlen)]
    rw [concatRecords, e] at hlen ⊢
    rw [pRecord_fields fs f _ _ (Nat.lt_succ_of_le (Nat.le_of_succ_le hlen))]
    dsimp only
    rw [pFile_records rs fuel (fun x hx => hne x (List.mem_cons_of_mem _ hx)) (Nat.lt_of_succ_lt_succ hl)]; rfl

theorem concatRecords_length_le : ∀ recs : List (List Bytes), recs.length ≤ (concatRecords recs).length
  | [] => Nat.le_refl 0
  | r :: rs => by
    have := concatRecords_length_le rs
    simp only [concatRecords, csvRecord, List.length_append, List.length_cons]
    omega

theorem decode_records (recs : List (List Bytes)) (h : ∀ r ∈ recs, r ≠ []) :
    Csv.decode (concatRecords recs) = some recs :=
  pFile_records recs _ h (Nat.lt_succ_of_le (concatRecords_length_le recs))

end Octo.OutFmt
