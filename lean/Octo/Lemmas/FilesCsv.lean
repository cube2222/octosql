import Octo.Model.CsvFile
import Octo.Lemmas.ParseInt
import Octo.Lemmas.ListFacts
import Octo.Lemmas.TyIsLaws
import Octo.Lemmas.TyRecFree
/-! CSV datasource: the two integer parsers agree except on a leading '+', and the inferred column types admit
    every previewed cell. -/
namespace Octo.Files
open Octo Octo.Num Octo.Spec13

theorem isDigitB_eq (c : UInt8) : isDigitB c = isDigit c := rfl

/-- the digit loop of `fastInt` after it has read a digit prefix `pre` of the body -/
theorem fastIntLoop_spec (s : List UInt8) (neg : Bool) (j : Nat) (cs : List UInt8) : ∀ (pre : List UInt8),
    pre.all isDigit = true → j + pre.length ≤ 18 → Num.parseInt s = parseIntBody neg (pre ++ cs) →
    fastIntLoop s neg j (j + pre.length) (accDigits 0 pre : Nat) cs = Num.parseInt s := by
  induction cs with
  | nil =>
    intro pre hp hl hs
    rw [hs, List.append_nil, fastIntLoop]
    cases pre with
    | nil => rw [if_pos (show j + ([] : List UInt8).length ≤ j from Nat.le_refl j), parseIntBody_spec]; rfl
    | cons p ps =>
      rw [if_neg (by simp only [List.length_cons]; omega), parseIntBody_digits _ _ (List.cons_ne_nil _ _) hp (by omega)]
  | cons c cs ih =>
    intro pre hp hl hs
    rw [fastIntLoop, isDigitB_eq]
    by_cases hc : isDigit c = true
    · rw [if_pos hc]
      dsimp only
      -- from the 19th digit on the loop itself returns `strconv.ParseInt s`, whatever follows
      split
      · rfl
      · have := ih (pre ++ [c]) (by rw [List.all_append, hp, List.all_cons, hc]; rfl)
          (by rw [List.length_append]; simp only [List.length_cons, List.length_nil]; omega)
          (by rw [List.append_assoc]; exact hs)
        rw [List.length_append, accDigits_append] at this
        rw [← this]
        simp [Nat.add_assoc]
    · -- a non-digit: the loop errors, and `strconv` rejects the same body
      rw [if_neg hc, hs, parseIntBody_nondigit]
      rw [List.all_append, List.all_cons, Bool.eq_false_iff.mpr hc]; simp

theorem fastInt_plus (rest : List UInt8) : fastInt (43 :: rest) = none := by
  simp [fastInt, fastIntLoop, isDigitB]

/-- **the two integer parsers**: `fastfloat.ParseInt64` answers what `strconv.ParseInt(·, 10, 64)` answers (value or
    error), except that it rejects a leading plus sign -/
theorem fastInt_spec (s : List UInt8) : fastInt s = if s.head? = some 43 then none else strconvInt s := by
  cases s with
  | nil => rfl
  | cons c rest =>
    by_cases h43 : c = 43
    · rw [h43]; exact fastInt_plus rest
    · rw [if_neg (by simpa using h43)]
      by_cases h45 : c = 45
      · subst h45
        cases rest with
        | nil => rfl
        | cons r rs => exact fastIntLoop_spec _ true 1 (r :: rs) [] rfl (by decide) (parseInt_minus _)
      · rw [show fastInt (c :: rest) = fastIntLoop (c :: rest) false 0 0 0 (c :: rest) by simp only [fastInt, h45, if_false]]
        exact fastIntLoop_spec _ false 0 _ [] rfl (by decide) (parseInt_plain c rest h43 h45)

theorem fastInt_eq_strconvInt (s : List UInt8) : fastInt s = strconvInt s ∨ s.head? = some 43 := by
  rw [fastInt_spec]
  by_cases h : s.head? = some 43
  · exact .inr h
  · exact .inl (if_neg h)

theorem strconvInt_of_fastInt (s : List UInt8) (i : Int) (h : fastInt s = some i) : strconvInt s = some i := by
  rw [fastInt_spec] at h
  split at h
  · cases h
  · exact h

open Octo.Ty

/-- what the preview theorem needs from the float oracles: a text `strconv.ParseInt` accepts is accepted by one of
    the float parsers (true of `strconv.ParseFloat`, which reads every decimal integer) -/
def Cell.intsAreFloats (c : Cell) : Prop := (strconvInt c.s).isSome = true → (c.ff.isSome = true ∨ c.pf.isSome = true)

theorem cellFits_of_is {t t' : Ty} (h : t.is t' = .is) (c : Cell) (hc : cellFits t c = true) : cellFits t' c = true := by
  have m : ∀ k : Ty, k.is t = .is → k.is t' = .is := fun k hk => Ty.is_trans hk h
  unfold cellFits at hc ⊢
  by_cases he : c.s.isEmpty = true
  · simp only [he, if_true, beq_iff_eq] at hc ⊢; exact m _ hc
  · simp only [he, Bool.false_eq_true, if_false, Bool.or_eq_true, Bool.and_eq_true, beq_iff_eq] at hc ⊢
    rcases hc with (((hc | hc) | hc) | hc) | hc
    · exact Or.inl (Or.inl (Or.inl (Or.inl ⟨m _ hc.1, hc.2⟩)))
    · exact Or.inl (Or.inl (Or.inl (Or.inr ⟨m _ hc.1, hc.2⟩)))
    · exact Or.inl (Or.inl (Or.inr ⟨m _ hc.1, hc.2⟩))
    · exact Or.inl (Or.inr ⟨m _ hc.1, hc.2⟩)
    · exact Or.inr (m _ hc)

theorem cellFits_kind (c : Cell) : cellFits (inferKind c).ty c = true := by
  have r : ∀ t : Ty, (t.is t == Rel.is) = true := fun t => by rw [Ty.is_refl]; rfl
  unfold inferKind cellFits
  by_cases h0 : c.s = []
  · rw [if_pos h0, h0]; exact r _
  rw [if_neg h0, if_neg (by simpa using h0)]
  by_cases h1 : (strconvInt c.s).isSome = true
  · rw [if_pos h1]; simp [Kind.ty, r, h1]
  by_cases h2 : c.pf.isSome = true
  · rw [if_neg h1, if_pos h2]; simp [Kind.ty, r, h2]
  by_cases h3 : (parseBool c.s).isSome = true
  · rw [if_neg h1, if_neg h2, if_pos h3]; simp [Kind.ty, r, h3]
  by_cases h4 : c.tm.isSome = true
  · rw [if_neg h1, if_neg h2, if_neg h3, if_pos h4]; simp [Kind.ty, r, h4]
  · rw [if_neg h1, if_neg h2, if_neg h3, if_neg h4]; simp [Kind.ty, r]

theorem kind_noRec (k : Kind) : noRec k.ty = true := by cases k <;> rfl

theorem cellFits_int_float (c : Cell) (hi : c.intsAreFloats) (h : cellFits .int c = true) : cellFits .float c = true := by
  -- an Int column admits only a non-empty text that an integer parser reads; `strconv` then reads it too
  -- (`strconvInt_of_fastInt`), so by the hypothesis on the oracles a float parser reads it, which is what a Float column asks
  unfold cellFits at h ⊢
  have e0 : (Ty.null.is Ty.int == Rel.is) = false := by decide
  have e1 : (Ty.int.is Ty.int == Rel.is) = true := by decide
  have e2 : (Ty.float.is Ty.int == Rel.is) = false := by decide
  have e3 : (Ty.bool.is Ty.int == Rel.is) = false := by decide
  have e4 : (Ty.time.is Ty.int == Rel.is) = false := by decide
  have e5 : (Ty.str.is Ty.int == Rel.is) = false := by decide
  have f2 : (Ty.float.is Ty.float == Rel.is) = true := by decide
  by_cases he : c.s.isEmpty = true
  · simp [he, e0] at h
  · simp only [he, Bool.false_eq_true, if_false, e1, e2, e3, e4, e5, Bool.true_and, Bool.false_and, Bool.or_false] at h
    simp only [he, Bool.false_eq_true, if_false, f2, Bool.true_and]
    have hs : (strconvInt c.s).isSome = true := by
      simp only [Bool.or_eq_true] at h
      rcases h with h | h
      · cases hf : fastInt c.s with
        | none => simp [hf] at h
        | some i => rw [strconvInt_of_fastInt _ _ hf]; rfl
      · exact h
    rcases hi hs with h' | h' <;> simp [h']

/-- the suffix `S` (here and in `RowFitsS`, `NoRecS`) is for the column state `Option Ty` of the inference loop; the
    hypothesis on the float oracles sits inside, so that the lemmas about inference need not thread it -/
def cellFitsS : Option Ty → Cell → Prop
  | none, _ => False
  | some t, c => c.intsAreFloats → cellFits t c = true

def RowFitsS : List (Option Ty) → List Cell → Prop
  | st :: sts, c :: cs => cellFitsS st c ∧ RowFitsS sts cs
  | _, _ => True

def NoRecS (sts : List (Option Ty)) : Prop := ∀ st ∈ sts, ∀ t, st = some t → noRec t = true

def StepOK (st : Option Ty) (c : Cell) (st' : Option Ty) : Prop :=
  (∀ t', st' = some t' → noRec t' = true) ∧ cellFitsS st' c ∧ ∀ c0, cellFitsS st c0 → cellFitsS st' c0

theorem inferStep_ok (st : Option Ty) (c : Cell) (st' : Option Ty) (h : inferStep st c = some st')
    (nr : ∀ t, st = some t → noRec t = true) : StepOK st c st' := by
  have hk := cellFits_kind c
  cases st with
  | none => cases h; exact ⟨fun _ e => Option.some.inj e ▸ kind_noRec _, fun _ => hk, fun _ h0 => h0.elim⟩
  | some t =>
    have nrt := nr t rfl
    -- the general rule: the column type becomes `TypeSum(t, kind)`, an upper bound of both
    have viaSum : (typeSum t (inferKind c).ty).map some = some st' → StepOK (some t) c st' := by
      intro hm
      obtain ⟨t', hs, rfl⟩ := Option.map_eq_some_iff.mp hm
      obtain ⟨hok, h3⟩ := recFreeFor_typeSum t _ t' hs nrt (kind_noRec _)
      obtain ⟨h1, h2⟩ := upperFor_typeSum t _ t' hs hok
      exact ⟨fun _ e => Option.some.inj e ▸ h3, fun _ => cellFits_of_is h2 c hk,
        fun c0 h0 hi0 => cellFits_of_is h1 c0 (h0 hi0)⟩
    -- the three shortcuts: the column type stays, or an Int column becomes Float
    have keep : some (some t) = some st' → cellFitsS (some t) c → StepOK (some t) c st' :=
      fun e hc => Option.some.inj e ▸ ⟨fun _ e => Option.some.inj e ▸ nrt, hc, fun _ h0 => h0⟩
    unfold inferStep at h
    cases hkind : inferKind c <;> rw [hkind] at hk viaSum <;> simp only [hkind] at h
    case bool | time | str => exact viaSum h
    case null =>
      split at h
      · exact viaSum h
      · next he =>
        simp only [Bool.not_eq_true, Bool.not_eq_false', equals, Bool.and_eq_true, beq_iff_eq] at he
        exact keep h fun _ => cellFits_of_is he.2 c hk
    case int =>
      split at h
      · exact viaSum h
      · next he =>
        simp only [Bool.not_eq_true, Bool.not_eq_false', equals, Bool.and_eq_true, beq_iff_eq] at he
        exact keep h fun hi => cellFits_of_is he.2 c (cellFits_int_float c hi hk)
    case float =>
      split at h
      · next he =>
        cases h
        simp only [equals, Bool.and_eq_true, beq_iff_eq] at he
        exact ⟨fun _ e => Option.some.inj e ▸ rfl, fun _ => hk,
          fun c0 h0 hi0 => cellFits_int_float c0 hi0 (cellFits_of_is he.1 c0 (h0 hi0))⟩
      · exact viaSum h

theorem inferRow_ok (sts : List (Option Ty)) : ∀ (r : List Cell) (sts' : List (Option Ty)),
    inferRow sts r = some sts' → NoRecS sts →
    NoRecS sts' ∧ RowFitsS sts' r ∧ ∀ row0 : List Cell, RowFitsS sts row0 → RowFitsS sts' row0 := by
  induction sts with
  | nil => intro r sts' h nr; cases r <;> cases h <;> exact ⟨nr, trivial, fun _ h => h⟩
  | cons st sts ih =>
    intro r sts' h nr
    cases r with
    | nil => cases h; exact ⟨nr, trivial, fun _ h => h⟩
    | cons c cs =>
      rw [inferRow] at h
      split at h
      · next st1 sts1 h1 h2 =>
        cases h
        obtain ⟨n', self', mono'⟩ := inferStep_ok st c st1 h1 (nr st List.mem_cons_self)
        obtain ⟨nr1, fit1, mono1⟩ := ih cs sts1 h2 fun s hs => nr s (List.mem_cons_of_mem _ hs)
        refine ⟨fun s hs => ?_, ⟨self', fit1⟩, fun row0 hf => ?_⟩
        · rcases List.mem_cons.mp hs with rfl | hs
          · exact n'
          · exact nr1 s hs
        · cases row0 with
          | nil => trivial
          | cons c0 cs0 => exact ⟨mono' c0 hf.1, mono1 cs0 hf.2⟩
      · cases h

theorem inferRows_ok (rows : List (List Cell)) : ∀ (sts sts' : List (Option Ty)),
    inferRows sts rows = some sts' → NoRecS sts →
    (∀ r ∈ rows, RowFitsS sts' r) ∧ ∀ row0 : List Cell, RowFitsS sts row0 → RowFitsS sts' row0 := by
  induction rows with
  | nil => intro sts sts' h _; cases h; exact ⟨fun _ hr => (nomatch hr), fun _ h => h⟩
  | cons r rows ih =>
    intro sts sts' h nr
    rw [inferRows] at h
    split at h
    · next sts1 h1 =>
      obtain ⟨nr1, fit1, mono1⟩ := inferRow_ok sts r sts1 h1 nr
      obtain ⟨fits, mono⟩ := ih sts1 sts' h nr1
      refine ⟨fun r' hr' => ?_, fun row0 hf => mono row0 (mono1 row0 hf)⟩
      rcases List.mem_cons.mp hr' with rfl | hr'
      · exact mono _ fit1
      · exact fits r' hr'
    · cases h

theorem guard_isSome {α β} [DecidableEq β] (x y : β) (o : Option α) : (x == y && o.isSome) = (if x = y then o else none).isSome := by
  by_cases h : x = y <;> simp [h]

theorem cellExec_none_iff (t : Ty) (c : Cell) : cellExec t c = none ↔ cellFits t c = false := by
  unfold cellExec cellFits
  by_cases h0 : c.s = []
  · simp only [h0, if_true, List.isEmpty_nil]
    by_cases hn : Ty.null.is t = .is <;> simp [hn]
  · have he : c.s.isEmpty = false := by simpa using h0
    simp only [h0, if_false, he, Bool.false_eq_true]
    rw [← Option.isSome_or, ← Option.isSome_or, guard_isSome, guard_isSome, guard_isSome, guard_isSome]
    -- both sides follow the same four guarded parsers: the first that answers decides
    generalize (if Ty.int.is t = Rel.is then (fastInt c.s).or (strconvInt c.s) else none) = a1
    generalize (if Ty.float.is t = Rel.is then c.ff.or c.pf else none) = a2
    generalize (if Ty.bool.is t = Rel.is then parseBool c.s else none) = a3
    generalize (if Ty.time.is t = Rel.is then c.tm else none) = a4
    cases a1 with
    | some _ => simp
    | none =>
    cases a2 with
    | some _ => simp
    | none =>
    cases a3 with
    | some _ => simp
    | none =>
    cases a4 with
    | some _ => simp
    | none => by_cases h5 : Ty.str.is t = .is <;> simp [h5]

theorem of_guard {α} {g : Prop} [Decidable g] {o : Option α} {x : α} (h : (if g then o else none) = some x) :
    g ∧ o = some x := Option.ite_none_right_eq_some.mp h

theorem cellExec_cases {P : Value → Prop} (t : Ty) (c : Cell)
    (hnull : c.s = [] → Ty.null.is t = .is → P .null)
    (hint : ∀ i, c.s ≠ [] → Ty.int.is t = .is → (fastInt c.s).or (strconvInt c.s) = some i → P (.int i))
    (hfloat : ∀ b, c.s ≠ [] → Ty.float.is t = .is → c.ff.or c.pf = some b → P (.float b))
    (hbool : ∀ b, c.s ≠ [] → Ty.bool.is t = .is → parseBool c.s = some b → P (.bool b))
    (htime : ∀ ns, c.s ≠ [] → Ty.time.is t = .is → c.tm = some ns → P (.time ns 0))
    (hstr : c.s ≠ [] → Ty.str.is t = .is → P (.str c.s)) (v : Value) (h : cellExec t c = some v) : P v := by
  unfold cellExec at h
  by_cases h0 : c.s = []
  · rw [if_pos h0] at h
    exact Option.some.inj (of_guard h).2 ▸ hnull h0 (of_guard h).1
  · rw [if_neg h0] at h
    generalize h1 : (if Ty.int.is t = .is then (fastInt c.s).or (strconvInt c.s) else none) = a1 at h
    generalize h2 : (if Ty.float.is t = .is then c.ff.or c.pf else none) = a2 at h
    generalize h3 : (if Ty.bool.is t = .is then parseBool c.s else none) = a3 at h
    generalize h4 : (if Ty.time.is t = .is then c.tm else none) = a4 at h
    cases a1 with
    | some i => cases h; exact hint i h0 (of_guard h1).1 (of_guard h1).2
    | none =>
    cases a2 with
    | some b => cases h; exact hfloat b h0 (of_guard h2).1 (of_guard h2).2
    | none =>
    cases a3 with
    | some b => cases h; exact hbool b h0 (of_guard h3).1 (of_guard h3).2
    | none =>
    cases a4 with
    | some ns => cases h; exact htime ns h0 (of_guard h4).1 (of_guard h4).2
    | none => exact Option.some.inj (of_guard h).2 ▸ hstr h0 (of_guard h).1

theorem cellExec_represents (t : Ty) (c : Cell) (v : Value) (h : cellExec t c = some v) : cellRepresents v c = true := by
  have ne : c.s ≠ [] → c.s.isEmpty = false := fun h => by simpa using h
  refine cellExec_cases (P := fun v => cellRepresents v c = true) t c ?_ ?_ ?_ ?_ ?_ ?_ v h
  · intro h0 _; simp [cellRepresents, h0]
  · intro i h0 _ hi
    rcases Option.or_eq_some_iff.mp hi with hi | ⟨_, hi⟩ <;> simp [cellRepresents, ne h0, hi]
  · intro b h0 _ hb
    rcases Option.or_eq_some_iff.mp hb with hb | ⟨_, hb⟩ <;> simp [cellRepresents, ne h0, hb]
  · intro b h0 _ hb; simp [cellRepresents, ne h0, hb]
  · intro ns h0 _ hn; simp [cellRepresents, ne h0, hn]
  · intro h0 _; simp [cellRepresents, ne h0]

theorem rowExec_ok (sts : List (Option Ty)) : ∀ (r : List Cell), RowFitsS sts r → (∀ c ∈ r, c.intsAreFloats) →
    rowExec cellExec (sts.map finalTy) r ≠ none := by
  induction sts with
  | nil => intro r _ _; cases r <;> exact Option.some_ne_none _
  | cons st sts ih =>
    intro r h hi
    cases r with
    | nil => exact Option.some_ne_none _
    | cons c cs =>
      have ih := ih cs h.2 fun c' hc' => hi c' (List.mem_cons_of_mem _ hc')
      cases st with
      | none => exact h.1.elim
      | some t =>
        rw [List.map_cons, rowExec]
        cases he : cellExec t c with
        | none =>
          have h1 := h.1 (hi c List.mem_cons_self)
          rw [(cellExec_none_iff t c).mp he] at h1; cases h1
        | some v =>
          cases hr : rowExec cellExec (sts.map finalTy) cs with
          | none => exact absurd hr ih
          | some vs => rw [finalTy, he]; exact Option.some_ne_none _

theorem rowExec_spec {exec : Ty → Cell → Option Value} (ts : List Ty) : ∀ (row : List Cell) (vs : List Value),
    rowExec exec ts row = some vs →
    ∀ (i : Nat) (v : Value), vs[i]? = some v → ∃ t c, ts[i]? = some t ∧ row[i]? = some c ∧ exec t c = some v := by
  induction ts with
  | nil => intro row vs h i v hv; cases h; cases hv
  | cons t ts ih =>
    intro row vs h i v hv
    cases row with
    | nil => cases h; cases hv
    | cons c cs =>
      rw [rowExec] at h
      split at h
      · next v0 vs' hc hrs =>
        cases h
        cases i with
        | zero => cases hv; exact ⟨t, c, rfl, rfl, hc⟩
        | succ i => exact ih cs vs' hrs i v hv
      · cases h

theorem rowsExec_eq (exec : Ty → Cell → Option Value) (tys : List Ty) (rows : List (List Cell)) :
    rowsExec exec tys rows = rows.mapM (rowExec exec tys) := by
  induction rows with
  | nil => rfl
  | cons r rows ih =>
    rw [rowsExec, List.mapM_cons, ih]
    cases rowExec exec tys r <;> cases rows.mapM (rowExec exec tys) <;> rfl

theorem rowsExec_ok (sts : List (Option Ty)) (rows : List (List Cell)) (h : ∀ r ∈ rows, RowFitsS sts r)
    (hi : ∀ r ∈ rows, ∀ c ∈ r, c.intsAreFloats) : rowsExec cellExec (sts.map finalTy) rows ≠ none :=
  Option.isSome_iff_ne_none.mp (rowsExec_eq .. ▸ List.mapM_isSome fun r hr =>
    Option.isSome_iff_ne_none.mpr (rowExec_ok sts r (h r hr) (hi r hr)))

theorem rowsExec_spec {exec : Ty → Cell → Option Value} (ts : List Ty) (rows : List (List Cell))
    (recs : List (List Value)) (h : rowsExec exec ts rows = some recs) :
    recs.length = rows.length ∧ ∀ (i : Nat) (rec : List Value), recs[i]? = some rec →
      ∃ row, rows[i]? = some row ∧ rowExec exec ts row = some rec :=
  List.mapM_getElem? (rowsExec_eq exec ts rows ▸ h)

theorem csvCreate_accepts (f : CsvFile) (names : List Name) (tys : List Ty) (h : csvCreate f = .ok names tys)
    (hi : ∀ r ∈ f.rows.take previewRows, ∀ c ∈ r, c.intsAreFloats) :
    (firstRagged f.ncols 0 (f.rows.take previewRows)).isSome = false ∧
      rowsExec cellExec tys (f.rows.take previewRows) ≠ none := by
  unfold csvCreate at h
  dsimp only at h
  by_cases hd : f.dupHeader = true
  · rw [if_pos hd] at h; cases h
  rw [if_neg hd] at h
  by_cases hr : (firstRagged f.ncols 0 (f.rows.take previewRows)).isSome = true
  · rw [if_pos hr] at h; cases h
  rw [if_neg hr] at h
  split at h
  · cases h
  · next sts hs =>
    cases h
    exact ⟨Bool.eq_false_iff.mpr hr, rowsExec_ok sts _ (inferRows_ok _ _ sts hs fun st hst t ht => by
      cases (List.eq_of_mem_replicate hst).symm.trans ht).1 hi⟩

theorem csvRun_eq_ok {f : CsvFile} {names : List Name} {tys : List Ty} {recs : List (List Value)}
    (h : csvRun f = .ok names tys recs) : rowsExec cellExec tys f.rows = some recs := by
  unfold csvRun at h
  split at h
  · cases h
  · cases h
  · split at h
    · cases h
    · split at h
      · next hr => cases h; exact hr
      · cases h

end Octo.Files
