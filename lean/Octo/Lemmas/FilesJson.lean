import Octo.Model.JsonFile
import Octo.Lemmas.TyIsLaws
/-! JSON datasource: `getOctoSQLValue` reports `ok` exactly for the values the type can represent, and then the
    value it returns matches the type and carries what the document contains.  The three facts are proved along the
    clauses of `fits` / `getValue` (their functional induction principles), together with their list versions. -/
namespace Octo.Files
open Octo Octo.Ty

theorem andOk_snd (l : List (Value × Bool)) : (andOk l).2 = l.all (·.2) := rfl
theorem andOk_fst (l : List (Value × Bool)) : (andOk l).1 = l.map (·.1) := rfl

theorem zipAll_map_left {α β} (f : β → α → Bool) (g : α → β) : ∀ (xs : List α),
    zipAll f (xs.map g) xs = xs.all fun x => f (g x) x
  | [] => rfl
  | x :: xs => by simp only [List.map_cons, zipAll, List.all_cons, zipAll_map_left f g xs]

theorem zipAll_map_right {α β} (f : α → β → Bool) (g : α → β) : ∀ (xs : List α),
    zipAll f xs (xs.map g) = xs.all fun x => f x (g x)
  | [] => rfl
  | x :: xs => by simp only [List.map_cons, zipAll, List.all_cons, zipAll_map_right f g xs]

theorem getValue_ok_all :
    (∀ t oj, (getValue t oj).2 = fits t oj) ∧ (∀ alts j, (getUnion alts j).2 = fitsAny alts j) ∧
    (∀ ns ts o, (getFields ns ts o).2 = fitsFields ns ts o) := by
  -- the bullets are the clauses of `fits` in the order of its definition: missing, null, Float, Boolean, String,
  -- Time, empty-list type, List, Struct, Union, catch-all; then `fitsAny` ([], cons) and `fitsFields` (cons, [])
  apply fits.mutual_induct
  · intro t; rw [getValue, fits]
  · intro t; rw [getValue, fits]
  · intro b; rw [getValue, fits]
  · intro b; rw [getValue, fits]
  · intro s tm; rw [getValue, fits]
  · intro s tm; cases tm <;> simp [getValue, fits]
  · intro xs; rw [getValue, fits]; cases xs <;> rfl
  · intro e xs ih
    simp only [getValue, fits, andOk_snd, List.all_map, Function.comp_def, ih]
  · intro ns ts ks vs ih; rw [getValue, fits]; exact ih
  -- `eq_10` is the union clause (it applies when `j` is not `null`), `eq_11` the catch-all clause (it applies
  -- when no earlier clause does; the `time` clause of `fits` takes any string, that of `getValue` only one with a
  -- time value, hence `h6` is adapted)
  · intro alts j hj ih; rw [getValue.eq_10 _ _ hj, fits.eq_10 _ _ hj]; exact ih
  · intro t x h1 h2 h3 h4 h5 h6 h7 h8 h9 h10
    rw [getValue.eq_11 t x h1 h2 h3 h4 h5 (fun s ns => h6 s (some ns)) h7 h8 h9 h10,
      fits.eq_11 t x h1 h2 h3 h4 h5 h6 h7 h8 h9 h10]
  · intro j; rfl
  · intro a as j ih1 ih2
    simp only [getUnion, fitsAny, ← ih1, ← ih2]
    cases (getValue a (some j)).2 <;> rfl
  · intro ns t ts o ih1 ih2; simp only [getFields, fitsFields, ih1, ih2]
  · intro ns o; rfl

theorem getValue_ok_iff_fits (t : Ty) (oj : Option J) : (getValue t oj).2 = fits t oj := getValue_ok_all.1 t oj

theorem conforms_null_of_nullOk (t : Ty) (h : nullOk t = true) : conforms t .null = true := by
  simp only [nullOk, beq_iff_eq] at h
  exact Ty.is_sound h .null (by simp [conforms])

theorem getValue_sound_all :
    (∀ t oj, (getValue t oj).2 = true →
      conforms t (getValue t oj).1 = true ∧ represents t (getValue t oj).1 oj = true) ∧
    (∀ alts j, (getUnion alts j).2 = true →
      conformsAny alts (getUnion alts j).1 = true ∧ representsAny alts (getUnion alts j).1 j = true) ∧
    (∀ ns ts o, (getFields ns ts o).2 = true →
      conformsZip ts (getFields ns ts o).1 = true ∧ representsFields ns ts (getFields ns ts o).1 o = true) := by
  -- the bullets are the clauses of `getValue` in the order of its definition: missing, null, Float, Boolean, String,
  -- Time, empty-list type (empty array, non-empty array), List, Struct, Union, catch-all; then `getUnion` ([], an
  -- alternative that accepts, one that does not) and `getFields` (cons, [])
  apply getValue.mutual_induct
  · intro t h; rw [getValue] at h ⊢; exact ⟨conforms_null_of_nullOk t h, by rw [represents]⟩
  · intro t h; rw [getValue] at h ⊢; exact ⟨conforms_null_of_nullOk t h, by rw [represents]⟩
  · intro b _; simp only [getValue, conforms, represents, beq_self_eq_true, and_self]
  · intro b _; simp only [getValue, conforms, represents, beq_self_eq_true, and_self]
  · intro s tm _; simp only [getValue, conforms, represents, beq_self_eq_true, and_self]
  · intro s ns _; simp only [getValue, conforms, represents, beq_self_eq_true, and_self]
  · intro xs he _; simp only [getValue, he, if_true, conforms, represents]; exact ⟨rfl, rfl⟩
  · intro xs he h; simp only [getValue, he] at h; cases h
  · intro e xs ih h
    simp only [getValue, andOk_snd, andOk_fst, conforms, represents, List.all_map, List.all_eq_true,
      Function.comp_def] at h ⊢
    rw [List.map_map, zipAll_map_left, List.all_eq_true]
    exact ⟨fun x hx => (ih x (h x hx)).1, fun x hx => (ih x (h x hx)).2⟩
  · intro ns ts ks vs ih h; simp only [getValue] at h ⊢; simp only [conforms, represents]; exact ih h
  · intro alts j hj ih h
    rw [getValue.eq_10 _ _ hj] at h ⊢
    rw [conforms, represents.eq_10 _ _ _ (fun _ => hj)]; exact ih h
  · intro t x h1 h2 h3 h4 h5 h6 h7 h8 h9 h10 h
    rw [getValue.eq_11 t x h1 h2 h3 h4 h5 h6 h7 h8 h9 h10] at h; cases h
  · intro j h; cases h
  · intro a as j _ (hr : (getValue a (some j)).2 = true) ih _
    simp only [getUnion, hr, if_true, conformsAny, representsAny, (ih hr).1, (ih hr).2, Bool.true_or, and_self]
  · intro a as j _ (hr : ¬ (getValue a (some j)).2 = true) _ ih h
    simp only [getUnion, hr, Bool.false_eq_true, if_false] at h ⊢
    rw [conformsAny, representsAny, (ih h).1, (ih h).2, Bool.or_true, Bool.or_true]; exact ⟨rfl, rfl⟩
  · intro ns t ts o ih1 ih2 h
    simp only [getFields, Bool.and_eq_true] at h ⊢
    rw [conformsZip, representsFields, (ih1 h.1).1, (ih1 h.1).2, (ih2 h.2).1, (ih2 h.2).2]; exact ⟨rfl, rfl⟩
  · intro ns o _; exact ⟨rfl, rfl⟩

theorem getValue_conforms (t : Ty) (oj : Option J) (h : (getValue t oj).2 = true) :
    conforms t (getValue t oj).1 = true := (getValue_sound_all.1 t oj h).1

theorem getValue_represents (t : Ty) (oj : Option J) (h : (getValue t oj).2 = true) :
    represents t (getValue t oj).1 oj = true := (getValue_sound_all.1 t oj h).2

theorem rowValues_eq_some {schema : Fields} {row : J} {vals : List Value} (h : rowValues schema row = some vals) :
    (∀ f ∈ schema, (getValue f.2 (row.get f.1)).2 = true) ∧
      vals = schema.map fun f => (getValue f.2 (row.get f.1)).1 := by
  unfold rowValues at h
  split at h
  · dsimp only at h
    split at h
    · next hall =>
      cases h
      simp only [List.all_map, List.all_eq_true, Function.comp_def] at hall
      exact ⟨hall, by rw [List.map_map]; rfl⟩
    · cases h
  · cases h

theorem rowValues_isSome (schema : Fields) (ks : List Name) (vs : List J) :
    (rowValues schema (.obj ks vs)).isSome = schema.all (fun f => fits f.2 ((J.obj ks vs).get f.1)) := by
  unfold rowValues
  simp only [List.all_map, Function.comp_def, getValue_ok_iff_fits]
  cases schema.all fun f => fits f.2 ((J.obj ks vs).get f.1) <;> rfl

theorem allSome_map {α β} (f : α → Option β) (l : List α) : allSome (l.map f) = l.mapM f := by
  induction l with
  | nil => rfl
  | cons a l ih =>
    rw [List.map_cons, List.mapM_cons]
    cases f a with
    | none => rfl
    | some b => rw [allSome, ih]; cases l.mapM f <;> rfl

end Octo.Files
