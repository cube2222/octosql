import Octo.Lemmas.FilesJson
import Octo.Lemmas.TyIsLaws
import Octo.Lemmas.ListFacts
/-! JSON schema inference: "the type accepts the document value and has a place for every key of it"
    (`acc`), its characterisation per type constructor, and its monotonicity under `Is`. -/
namespace Octo.Files
open Octo Octo.Ty

theorem lookup_none_of_not_key (k : Name) : ∀ (ks : List Name) (vs : List J), k ∉ ks → J.lookup k ks vs = none
  | [], _, _ => rfl
  | _ :: _, [], _ => rfl
  | k' :: ks, v :: vs, h => by
    rw [J.lookup, if_neg fun e : k' = k => h (e ▸ List.mem_cons_self)]
    exact lookup_none_of_not_key k ks vs fun hk => h (List.mem_cons_of_mem _ hk)

theorem lookup_of_mem_zip {ks : List Name} : ∀ {vs : List J} {k : Name} {v : J}, ks.Nodup → (k, v) ∈ ks.zip vs →
    J.lookup k ks vs = some v := by
  induction ks with
  | nil => intro _ _ _ _ h; nomatch h
  | cons k' ks ih =>
    intro vs k v hn h
    cases vs with
    | nil => nomatch h
    | cons v' vs =>
      rw [List.nodup_cons] at hn
      rcases List.mem_cons.mp h with e | h
      · cases e; rw [J.lookup, if_pos rfl]
      · have hne : k' ≠ k := fun e => hn.1 (e ▸ (List.of_mem_zip h).1)
        rw [J.lookup, if_neg hne]; exact ih hn.2 h

/-- every key of the (present) value has a place in the type -/
def cov (t : Ty) : Option J → Bool
  | none => true
  | some j => coversKeys t j

def acc (t : Ty) (oj : Option J) : Bool := fits t oj && cov t oj

def J.isScalar : J → Bool
  | .arr _ => false
  | .obj _ _ => false
  | _ => true

theorem coversAny_scalar (j : J) (h : j.isScalar = true) : ∀ (alts : List Ty), coversAny alts j = true
  | [] => by cases j <;> simp_all [coversAny, J.isScalar]
  | a :: as => by simp [coversAny, coversAny_scalar j h as]

/-- a scalar has no keys: only the union clause and the catch-all clause of `coversKeys` apply to it -/
theorem coversKeys_scalar (t : Ty) (j : J) (h : j.isScalar = true) : coversKeys t j = true := by
  by_cases hu : ∃ alts, t = .union alts
  · obtain ⟨alts, rfl⟩ := hu
    rw [coversKeys.eq_3]; exact coversAny_scalar j h alts
  · exact coversKeys.eq_5 t j (fun alts e => hu ⟨alts, e⟩) (fun _ _ e => by subst e; cases h)
      (fun _ _ _ e => by subst e; cases h) (fun _ _ _ _ _ e => by subst e; cases h)

theorem acc_none (t : Ty) : acc t none = nullOk t := by simp [acc, fits, cov]
theorem acc_jnull (t : Ty) : acc t (some .null) = nullOk t := by
  simp [acc, fits, cov, coversKeys_scalar t .null rfl]
theorem acc_null_none : acc .null none = true := by decide

theorem acc_scalar (t : Ty) (j : J) (h : j.isScalar = true) : acc t (some j) = fits t (some j) := by
  rw [acc, cov, coversKeys_scalar t j h, Bool.and_true]

theorem fits_of_acc {t : Ty} {oj : Option J} (h : acc t oj = true) : fits t oj = true :=
  (Bool.and_eq_true_iff.mp h).1

theorem nullOk_union (alts : List Ty) : nullOk (.union alts) = true ↔ ∃ a ∈ alts, nullOk a = true := by
  simp only [nullOk, beq_iff_eq]
  exact is_union_r .null alts rfl

theorem fitsAny_iff (alts : List Ty) (j : J) : fitsAny alts j = true ↔ ∃ a ∈ alts, fits a (some j) = true := by
  induction alts with
  | nil => simp [fitsAny]
  | cons a as ih => simp [fitsAny, ih]

theorem coversAny_iff (alts : List Ty) (j : J) : coversAny alts j = true ↔
    (∃ a ∈ alts, fits a (some j) = true ∧ coversKeys a j = true) ∨ j.isScalar = true := by
  induction alts with
  | nil => cases j <;> simp [coversAny, J.isScalar]
  | cons a as ih =>
    simp only [coversAny, Bool.or_eq_true, Bool.and_eq_true, ih, List.mem_cons, exists_eq_or_imp]
    exact or_assoc.symm

theorem acc_union (alts : List Ty) (oj : Option J) : acc (.union alts) oj = true ↔ ∃ a ∈ alts, acc a oj = true := by
  cases oj with
  | none => simp only [acc_none]; exact nullOk_union alts
  | some j =>
    by_cases hn : j = .null
    · subst hn; simp only [acc_jnull]; exact nullOk_union alts
    · have hf : fits (.union alts) (some j) = fitsAny alts j := fits.eq_10 alts j hn
      have hc : coversKeys (.union alts) j = coversAny alts j := coversKeys.eq_3 j alts
      simp only [acc, cov, hf, hc, Bool.and_eq_true, fitsAny_iff, coversAny_iff]
      constructor
      · rintro ⟨⟨a, ha, hfa⟩, (⟨b, hb, hfb, hcb⟩ | hs)⟩
        · exact ⟨b, hb, hfb, hcb⟩
        · exact ⟨a, ha, hfa, coversKeys_scalar a j hs⟩
      · rintro ⟨a, ha, hfa, hca⟩
        exact ⟨⟨a, ha, hfa⟩, Or.inl ⟨a, ha, hfa, hca⟩⟩

theorem acc_list (e : Ty) (xs : List J) : acc (.list e) (some (.arr xs)) = true ↔ ∀ x ∈ xs, acc e (some x) = true := by
  simp only [acc, cov, fits, coversKeys, Bool.and_eq_true, List.all_eq_true]
  constructor
  · rintro ⟨h1, h2⟩ x hx; exact ⟨h1 x hx, h2 x hx⟩
  · intro h; exact ⟨fun x hx => (h x hx).1, fun x hx => (h x hx).2⟩

theorem acc_listNil (xs : List J) : acc .listNil (some (.arr xs)) = true ↔ xs = [] := by
  cases xs <;> simp [acc, cov, fits, coversKeys]

def accFields : List Name → List Ty → J → Prop
  | ns, t :: ts, o => acc t (o.get (ns.headD [])) = true ∧ accFields ns.tail ts o
  | _, [], _ => True

theorem accFields_iff (o : J) (ts : List Ty) : ∀ (ns : List Name),
    (fitsFields ns ts o = true ∧ coversFields ns ts o = true) ↔ accFields ns ts o := by
  induction ts with
  | nil => intro ns; simp [fitsFields, coversFields, accFields]
  | cons t ts ih =>
    intro ns
    simp only [fitsFields, coversFields, accFields, Bool.and_eq_true]
    rw [← ih ns.tail]
    cases hg : o.get (ns.headD []) with
    | none => simp only [acc, cov, Bool.and_true, true_and, and_assoc]
    | some x =>
      simp only [acc, cov, Bool.and_eq_true]
      exact and_and_and_comm

theorem acc_struct (ns : List Name) (ts : List Ty) (ks : List Name) (vs : List J) :
    acc (.struct ns ts) (some (.obj ks vs)) = true ↔ (∀ k ∈ ks, k ∈ ns) ∧ accFields ns ts (.obj ks vs) := by
  rw [← accFields_iff]
  simp only [acc, cov, fits, coversKeys, Bool.and_eq_true, List.all_eq_true, List.contains_iff_mem]
  exact and_left_comm

theorem acc_present {t : Ty} {oj : Option J} (hn : nullOk t = false) (h : acc t oj = true) :
    ∃ j, oj = some j ∧ j ≠ .null := by
  cases oj with
  | none => rw [acc_none, hn] at h; cases h
  | some j =>
    refine ⟨j, rfl, fun e => ?_⟩
    rw [e, acc_jnull, hn] at h; cases h

mutual
/-- no `Any`, no tuple, and every struct has one name per field type (what JSON inference builds) -/
def jok : Ty → Bool
  | .any => false
  | .tuple _ => false
  | .list e => jok e
  | .struct ns ts => ns.length == ts.length && jokList ts
  | .union alts => jokList alts
  | _ => true
def jokList : List Ty → Bool
  | [] => true
  | t :: ts => jok t && jokList ts
end

theorem jokList_iff (l : List Ty) : jokList l = true ↔ ∀ t ∈ l, jok t = true :=
  forall_mem_of_and_rec rfl (fun _ _ => rfl) l

theorem jok_null : jok .null = true := rfl

theorem nullOk_struct (ns : List Name) (ts : List Ty) : nullOk (.struct ns ts) = false := by
  rw [nullOk, is_eq]; rfl
theorem nullOk_list (e : Ty) : nullOk (.list e) = false := by
  rw [nullOk, is_eq]; rfl

theorem nullOk_listNil : nullOk .listNil = false := by decide

theorem acc_listNil_inv (oj : Option J) (h : acc .listNil oj = true) : oj = some (.arr []) := by
  obtain ⟨j, rfl, hj⟩ := acc_present nullOk_listNil h
  cases j with
  | arr xs => rw [(acc_listNil xs).mp h]
  | null => exact absurd rfl hj
  | _ => simp [acc, fits] at h

theorem acc_list_inv (e : Ty) (oj : Option J) (h : acc (.list e) oj = true) : ∃ xs, oj = some (.arr xs) := by
  obtain ⟨j, rfl, hj⟩ := acc_present (nullOk_list e) h
  cases j with
  | arr xs => exact ⟨xs, rfl⟩
  | null => exact absurd rfl hj
  | _ => simp [acc, fits] at h

theorem acc_struct_inv (ns : List Name) (ts : List Ty) (oj : Option J)
    (h : acc (.struct ns ts) oj = true) : ∃ ks vs, oj = some (.obj ks vs) := by
  obtain ⟨j, rfl, hj⟩ := acc_present (nullOk_struct ns ts) h
  cases j with
  | obj ks vs => exact ⟨ks, vs, rfl⟩
  | null => exact absurd rfl hj
  | _ => simp [acc, fits] at h

def AccLe (a b : Ty) : Prop := ∀ oj, acc a oj = true → acc b oj = true

theorem AccLe.refl (a : Ty) : AccLe a a := fun _ h => h

theorem AccLe.trans {a b c : Ty} (h1 : AccLe a b) (h2 : AccLe b c) : AccLe a c := fun oj h => h2 oj (h1 oj h)

theorem AccLe.of_mem {a : Ty} {alts : List Ty} (h : a ∈ alts) : AccLe a (.union alts) :=
  fun oj ha => (acc_union alts oj).mpr ⟨a, h, ha⟩

theorem AccLe.union {alts : List Ty} {c : Ty} (h : ∀ a ∈ alts, AccLe a c) : AccLe (.union alts) c :=
  fun oj ha => let ⟨a, hm, haa⟩ := (acc_union alts oj).mp ha; h a hm oj haa

theorem AccLe.list {e s : Ty} (h : AccLe e s) : AccLe (.list e) (.list s) := by
  intro oj hacc
  obtain ⟨xs, rfl⟩ := acc_list_inv _ _ hacc
  rw [acc_list] at hacc ⊢
  exact fun x hx => h _ (hacc x hx)

theorem AccLe.struct {ns ns' : List Name} {ts ts' : List Ty} (hn : ∀ k ∈ ns, k ∈ ns')
    (h : ∀ ks vs, (∀ k ∈ ks, k ∈ ns) → accFields ns ts (.obj ks vs) → accFields ns' ts' (.obj ks vs)) :
    AccLe (.struct ns ts) (.struct ns' ts') := by
  intro oj hacc
  obtain ⟨ks, vs, rfl⟩ := acc_struct_inv _ _ _ hacc
  rw [acc_struct] at hacc ⊢
  exact ⟨fun k hk => hn k (hacc.1 k hk), h ks vs hacc.1 hacc.2⟩

theorem accFields_of_structLoop (o : J) (ts : List Ty) : ∀ (ts' : List Ty) (ns ns' : List Name),
    ts.length = ts'.length → structLoop Ty.is ns ts ns' ts' = .is →
    (∀ t ∈ ts, ∀ t' ∈ ts', t.is t' = .is → AccLe t t') →
    accFields ns ts o → accFields ns' ts' o := by
  induction ts with
  | nil =>
    intro ts' _ _ h3 _ _ _
    cases ts' with
    | nil => trivial
    | cons _ _ => nomatch h3
  | cons t ts ih =>
    intro ts' ns ns' h3 hl hpair ha
    cases ts' with
    | nil => nomatch h3
    | cons t' ts' =>
      -- the loop compares the heads of the two name lists, so both sides read the same key
      obtain ⟨hh, hf, hrest⟩ := (structLoop_cons ..).mp hl
      refine ⟨?_, ih ts' ns.tail ns'.tail (Nat.succ.inj h3) hrest
        (fun x hx x' hx' => hpair x (List.mem_cons_of_mem _ hx) x' (List.mem_cons_of_mem _ hx')) ha.2⟩
      rw [List.headD_eq_head?_getD, ← hh, ← List.headD_eq_head?_getD]
      exact hpair t List.mem_cons_self t' List.mem_cons_self hf _ ha.1

theorem acc_of_is {a b : Ty} (ja : jok a = true) (jb : jok b = true) (h : a.is b = .is) : AccLe a b := by
  refine is_induct (R := fun a b => jok a = true → jok b = true → AccLe a b) ?any ?union_l ?union_r ?refl ?nil_list
    ?list ?struct ?tuple h ja jb
  case any => intro _ _ jb; cases jb
  case union_l =>
    intro xs b ih ja jb
    rw [jok, jokList_iff] at ja
    exact .union fun x hx => (ih x hx).2 (ja x hx) jb
  case union_r =>
    intro a bs b _ hb _ ih ja jb
    rw [jok, jokList_iff] at jb
    exact (ih ja (jb b hb)).trans (.of_mem hb)
  case refl => exact fun a _ _ => .refl a
  case nil_list =>
    intro e _ _ oj hacc
    rw [acc_listNil_inv oj hacc]
    exact (acc_list e []).mpr fun _ hx => nomatch hx
  case list =>
    intro e e' _ ih ja jb
    exact (ih ja jb).list
  case struct =>
    intro ns ts ns' ts' hlen hloop ih ja jb
    simp only [jok, Bool.and_eq_true, beq_iff_eq, jokList_iff] at ja jb
    exact .struct (fun k hk => structLoop_names ns ts ns' ts' ja.1 jb.1 hlen hloop ▸ hk) fun ks vs _ =>
      accFields_of_structLoop _ ts ts' ns ns' hlen hloop fun t ht t' ht' htt => ih t ht t' ht' htt (ja.2 t ht) (jb.2 t' ht')
  case tuple => intro _ _ _ _ _ ja; cases ja

end Octo.Files
