import Octo.Lemmas.FilesJsonSum
import Octo.Lemmas.ListFacts
/-! JSON schema inference: the type `getOctoSQLType` computes for a value accepts that value, and the schema
    inferred from the previewed rows accepts every one of them. -/
namespace Octo.Files
open Octo Octo.Ty

mutual
/-- every object, at any depth, has as many values as keys, and distinct keys: `sort.Slice` is not stable and
    `obj.Get` returns the first match, so the theorems about inference speak of such documents only -/
def wfJ : J → Bool
  | .arr xs => wfJs xs
  | .obj ks vs => ks.length == vs.length && decide ks.Nodup && wfJs vs
  | _ => true
def wfJs : List J → Bool
  | [] => true
  | x :: xs => wfJ x && wfJs xs
end

theorem wfJs_iff (l : List J) : wfJs l = true ↔ ∀ x ∈ l, wfJ x = true :=
  forall_mem_of_and_rec rfl (fun _ _ => rfl) l

theorem mem_insertField (n : Name) (t : Ty) (p : Name × Ty) (l : List (Name × Ty)) :
    p ∈ insertField n t l ↔ p = (n, t) ∨ p ∈ l := by
  induction l with
  | nil => simp [insertField]
  | cons q rest ih =>
    simp only [insertField]
    split
    · simp
    · simp only [List.mem_cons, ih]
      exact or_left_comm

theorem mem_sortFields (p : Name × Ty) : ∀ (l : List (Name × Ty)), p ∈ sortFields l ↔ p ∈ l
  | [] => by simp [sortFields]
  | q :: rest => by
    have := mem_sortFields p rest
    unfold sortFields at this ⊢
    rw [List.foldr, mem_insertField, this, List.mem_cons]

theorem accFields_of_pairs (o : J) : ∀ (fs : List (Name × Ty)), (∀ p ∈ fs, acc p.2 (o.get p.1) = true) →
    accFields (fs.map (·.1)) (fs.map (·.2)) o
  | [], _ => trivial
  | p :: fs, h =>
    ⟨h p List.mem_cons_self, accFields_of_pairs o fs (fun q hq => h q (List.mem_cons_of_mem _ hq))⟩

theorem getTypes_eq_mapM (xs : List J) : J.getTypes xs = xs.mapM J.getType := by
  induction xs with
  | nil => rfl
  | cons x xs ih =>
    rw [J.getTypes, List.mapM_cons, ih]
    cases J.getType x <;> cases xs.mapM J.getType <;> rfl

theorem elemFold_acc {ts : List Ty} {xs : List J} {e : Ty} (hj : ∀ t ∈ ts, jok t = true)
    (ha : ∀ x ∈ xs, ∃ t ∈ ts, acc t (some x) = true) (h : Ty.elemFold ts = some e) :
    jok e = true ∧ acc e (some (.arr xs)) = true := by
  cases ts with
  | nil =>
    cases h
    rw [List.eq_nil_iff_forall_not_mem.mpr fun x hx => let ⟨_, ht, _⟩ := ha x hx; nomatch ht]
    exact ⟨rfl, (acc_listNil []).mpr rfl⟩
  | cons t ts =>
    simp only [Ty.elemFold, Option.map_eq_some_iff] at h
    obtain ⟨s, hs, rfl⟩ := h
    obtain ⟨js, s1, s2⟩ := fold_acc acc_typeSum ts t s (hj t List.mem_cons_self)
      ((jokList_iff _).mpr fun t' ht' => hj t' (List.mem_cons_of_mem _ ht')) hs
    refine ⟨js, (acc_list s _).mpr fun y hy => ?_⟩
    obtain ⟨t', ht', hacc⟩ := ha y hy
    rcases List.mem_cons.mp ht' with rfl | ht'
    · exact s1 _ hacc
    · exact s2 t' ht' _ hacc

/-- the elements of an array or object are typed by `mapM`, so what is known of each element reaches the element
    types through the `mapM` facts -/
theorem getType_acc_all :
    (∀ j t, wfJ j = true → j.getType = some t → jok t = true ∧ acc t (some j) = true) ∧
    (∀ xs : List J, ∀ x ∈ xs, ∀ t, wfJ x = true → x.getType = some t → jok t = true ∧ acc t (some x) = true) := by
  apply J.getType.mutual_induct
  -- clauses of `getType` in order: null, String, Float, Boolean, object (element types found / not), array (found /
  -- not); then `getTypes`: [], cons (both typed / not)
  · intro t _ h; cases h; exact ⟨rfl, by rw [acc_jnull]; rfl⟩
  · intro s tm t _ h; cases h; cases tm <;> exact ⟨rfl, by rw [acc_scalar _ _ rfl]; rfl⟩
  · intro b t _ h; cases h; exact ⟨rfl, by rw [acc_scalar _ _ rfl]; rfl⟩
  · intro b t _ h; cases h; exact ⟨rfl, by rw [acc_scalar _ _ rfl]; rfl⟩
  · intro ks vs ts hts ih t hw h
    rw [J.getType, hts] at h
    cases h
    simp only [wfJ, Bool.and_eq_true, beq_iff_eq, decide_eq_true_eq, wfJs_iff] at hw
    obtain ⟨⟨hlen, hnd⟩, hwv⟩ := hw
    have hm : vs.mapM J.getType = some ts := getTypes_eq_mapM vs ▸ hts
    have pair : ∀ p ∈ sortFields (ks.zip ts), jok p.2 = true ∧ acc p.2 ((J.obj ks vs).get p.1) = true := by
      intro p hp
      obtain ⟨v, hv, e⟩ := List.mem_zip_of_mapM hm ((mem_sortFields p _).mp hp)
      rw [show (J.obj ks vs).get p.1 = some v from lookup_of_mem_zip hnd hv]
      exact ih v (List.of_mem_zip hv).2 p.2 (hwv v (List.of_mem_zip hv).2) e
    refine ⟨?_, (acc_struct ..).mpr ⟨fun k hk => ?_, accFields_of_pairs _ _ fun p hp => (pair p hp).2⟩⟩
    · simp only [jok, List.length_map, beq_self_eq_true, Bool.true_and]
      exact (jokList_iff _).mpr fun t' ht' => by
        obtain ⟨p, hp, rfl⟩ := List.mem_map.mp ht'
        exact (pair p hp).1
    · rw [← List.map_fst_zip (l₂ := ts) (Nat.le_of_eq (hlen.trans (List.mapM_length hm).symm))] at hk
      obtain ⟨p, hp, rfl⟩ := List.mem_map.mp hk
      exact List.mem_map.mpr ⟨p, (mem_sortFields p _).mpr hp, rfl⟩
  · intro ks vs hts _ t _ h; rw [J.getType, hts] at h; cases h
  · intro xs ts hts ih t hw h
    rw [J.getType, hts] at h
    rw [wfJ, wfJs_iff] at hw
    have hm : xs.mapM J.getType = some ts := getTypes_eq_mapM xs ▸ hts
    exact elemFold_acc (fun t ht => let ⟨x, hx, e⟩ := List.mapM_mem hm ht; (ih x hx t (hw x hx) e).1)
      (fun x hx => let ⟨t, ht, e⟩ := List.mapM_mem_left hm hx; ⟨t, ht, (ih x hx t (hw x hx) e).2⟩) h
  · intro xs hts _ t _ h; rw [J.getType, hts] at h; cases h
  · intro _ hx; nomatch hx
  · intro x xs t ts hts ht ih1 ih2; exact List.forall_mem_cons.mpr ⟨ih1, ih2⟩
  · intro x xs hn ih1 ih2; exact List.forall_mem_cons.mpr ⟨ih1, ih2⟩

theorem getType_acc (j : J) (t : Ty) (hw : wfJ j = true) (ht : j.getType = some t) :
    jok t = true ∧ acc t (some j) = true := getType_acc_all.1 j t hw ht

theorem find_set_same (k : Name) (t : Ty) (f : Fields) : Fields.find k (Fields.set k t f) = some t := by
  induction f with
  | nil => rw [Fields.set, Fields.find, if_pos rfl]
  | cons p rest ih =>
    rw [Fields.set]
    split
    · next h => rw [Fields.find, if_pos h]
    · next h => rw [Fields.find, if_neg h]; exact ih

theorem find_set_other (k k' : Name) (t : Ty) (h : k' ≠ k) (f : Fields) :
    Fields.find k' (Fields.set k t f) = Fields.find k' f := by
  induction f with
  | nil => rw [Fields.set, Fields.find.eq_2, if_neg (Ne.symm h)]
  | cons p rest ih =>
    rw [Fields.set]
    split
    · next hm => rw [Fields.find, Fields.find, hm, if_neg (Ne.symm h), if_neg (Ne.symm h)]
    · rw [Fields.find, Fields.find, ih]

theorem find_isSome_iff (k : Name) (f : Fields) : (Fields.find k f).isSome = true ↔ k ∈ f.map (·.1) := by
  induction f with
  | nil => simp [Fields.find]
  | cons p rest ih =>
    rw [Fields.find, List.map_cons, List.mem_cons]
    split
    · next h => exact ⟨fun _ => Or.inl h.symm, fun _ => rfl⟩
    · next h => rw [ih]; exact ⟨Or.inr, fun e => e.resolve_left (Ne.symm h)⟩

theorem names_set (k : Name) (t : Ty) (f : Fields) :
    (Fields.set k t f).map (·.1) = if (Fields.find k f).isSome then f.map (·.1) else f.map (·.1) ++ [k] := by
  induction f with
  | nil => rfl
  | cons p rest ih =>
    rw [Fields.set, Fields.find]
    by_cases h : p.1 = k
    · rw [if_pos h, if_pos h]; rfl
    · rw [if_neg h, if_neg h, List.map_cons, ih]
      cases (Fields.find k rest).isSome <;> rfl

theorem find_of_mem (n : Name) (t : Ty) (f : Fields) : (f.map (·.1)).Nodup → (n, t) ∈ f → Fields.find n f = some t := by
  induction f with
  | nil => intro _ h; nomatch h
  | cons p rest ih =>
    intro hn h
    obtain ⟨m, u⟩ := p
    rw [List.map_cons, List.nodup_cons] at hn
    rw [Fields.find]
    rcases List.mem_cons.mp h with e | h
    · cases e; rw [if_pos rfl]
    · rw [if_neg fun e : m = n => hn.1 (List.mem_map.mpr ⟨(n, t), h, e.symm⟩)]
      exact ih hn.2 h

theorem markMissing_spec (ks : List Name) (f : Fields) : ∀ (f'' : Fields), markMissing ks f = some f'' →
    f''.map (·.1) = f.map (·.1) ∧
    ∀ n t'', Fields.find n f'' = some t'' →
      ∃ t, Fields.find n f = some t ∧ (if ks.contains n then t'' = t else typeSum t .null = some t'') := by
  induction f with
  | nil => intro f'' h; cases h; exact ⟨rfl, fun _ _ hf => nomatch hf⟩
  | cons p rest ih =>
    intro f'' h
    obtain ⟨m, t⟩ := p
    rw [markMissing] at h
    split at h
    · next t' rest' h1 h2 =>
      cases h
      obtain ⟨hn, hs⟩ := ih rest' h2
      refine ⟨by rw [List.map_cons, List.map_cons, hn], fun n t'' hf => ?_⟩
      rw [Fields.find] at hf ⊢
      split at hf
      · next hm =>
        cases hf; cases hm
        refine ⟨t, if_pos rfl, ?_⟩
        split at h1
        · next hc => rw [if_pos hc]; exact (Option.some.inj h1).symm
        · next hc => rw [if_neg hc]; exact h1
      · next hm => rw [if_neg hm]; exact hs n t'' hf
    · cases h

/-- the invariant of the inference loop: the map built so far accepts every row seen so far -/
structure RowsInv (seen : List J) (f : Fields) : Prop where
  jokAll : ∀ n t, Fields.find n f = some t → jok t = true
  nodup : (f.map (·.1)).Nodup
  rows : ∀ r ∈ seen, ∃ ks vs, r = .obj ks vs ∧ (∀ k ∈ ks, (Fields.find k f).isSome = true) ∧
    ∀ n t, Fields.find n f = some t → acc t (r.get n) = true

def Fields.Le (f f' : Fields) : Prop := ∀ n t, Fields.find n f = some t → ∃ t', Fields.find n f' = some t' ∧ AccLe t t'

theorem get_none_of_not_found {f : Fields} {ks : List Name} {vs : List J} {k : Name}
    (hk : ∀ k' ∈ ks, (Fields.find k' f).isSome = true) (hn : Fields.find k f = none) :
    (J.obj ks vs).get k = none := by
  apply lookup_none_of_not_key
  intro hin
  have := hk k hin
  rw [hn] at this
  cases this

/-- the one lemma relating `Fields.set` to the invariant: the map only widens (a new key must accept the absence of the key in the rows
    seen so far) -/
theorem RowsInv.set {seen : List J} {f : Fields} (inv : RowsInv seen f) {k : Name} {t' : Ty} (jt' : jok t' = true)
    (hold : ∀ t, Fields.find k f = some t → AccLe t t')
    (hnew : Fields.find k f = none → seen ≠ [] → acc t' none = true) :
    RowsInv seen (Fields.set k t' f) ∧ Fields.Le f (Fields.set k t' f) := by
  refine ⟨⟨fun n t hf => ?_, ?_, fun r hr => ?_⟩, fun n t hf => ?_⟩
  · by_cases hnk : n = k
    · subst hnk; rw [find_set_same] at hf; cases hf; exact jt'
    · rw [find_set_other k n t' hnk] at hf; exact inv.jokAll n t hf
  · rw [names_set]
    split
    · exact inv.nodup
    · next hns =>
      refine List.nodup_append.mpr ⟨inv.nodup, by simp, fun a ha b hb e => ?_⟩
      cases List.mem_singleton.mp hb
      exact hns ((find_isSome_iff _ f).mpr (e ▸ ha))
  · obtain ⟨ks, vs, rfl, hkeys, hacc⟩ := inv.rows r hr
    refine ⟨ks, vs, rfl, fun k' hk' => ?_, fun n t hf => ?_⟩
    · by_cases e : k' = k
      · subst e; rw [find_set_same]; rfl
      · rw [find_set_other k k' t' e]; exact hkeys k' hk'
    · by_cases hnk : n = k
      · subst hnk
        rw [find_set_same] at hf; cases hf
        cases hfk : Fields.find n f with
        | some t0 => exact hold t0 hfk _ (hacc n t0 hfk)
        | none =>
          rw [get_none_of_not_found hkeys hfk]
          exact hnew hfk (List.ne_nil_of_mem hr)
      · rw [find_set_other k n t' hnk] at hf; exact hacc n t hf
  · by_cases hnk : n = k
    · subst hnk; exact ⟨t', find_set_same _ _ _, hold t hf⟩
    · exact ⟨t, by rw [find_set_other k n t' hnk]; exact hf, .refl t⟩

/-- `i` is the 1-based number of the row being visited: `visitKey` makes a new key nullable only when `i > 1`
    ("missing in the previous rows"), which is right because on row 1 no row has been seen (`hi`) -/
theorem visitKey_inv (i : Nat) (seen : List J) (f f1 : Fields) (k : Name) (v : J)
    (hi : i > 1 ∨ seen = []) (hw : wfJ v = true) (inv : RowsInv seen f) (h : visitKey i f k v = some f1) :
    RowsInv seen f1 ∧ Fields.Le f f1 ∧ ∃ t, Fields.find k f1 = some t ∧ acc t (some v) = true := by
  unfold visitKey at h
  cases htv : v.getType with
  | none => rw [htv] at h; cases h
  | some tv =>
    rw [htv] at h
    obtain ⟨jtv, atv⟩ := getType_acc v tv hw htv
    cases hfk : Fields.find k f with
    | some t =>
      rw [hfk] at h
      obtain ⟨t', hs, rfl⟩ := Option.map_eq_some_iff.mp h
      obtain ⟨jt', l, r⟩ := acc_typeSum t tv t' (inv.jokAll k t hfk) jtv hs
      obtain ⟨inv1, le⟩ := inv.set jt' (fun t0 h0 => Option.some.inj (hfk.symm.trans h0) ▸ l)
        fun h0 => nomatch hfk.symm.trans h0
      exact ⟨inv1, le, t', find_set_same _ _ _, r _ atv⟩
    | none =>
      rw [hfk] at h
      dsimp only at h
      split at h
      · obtain ⟨t', hs, rfl⟩ := Option.map_eq_some_iff.mp h
        obtain ⟨jt', l, r⟩ := acc_typeSum tv .null t' jtv jok_null hs
        obtain ⟨inv1, le⟩ := inv.set jt' (fun t0 h0 => nomatch hfk.symm.trans h0) fun _ _ => r _ acc_null_none
        exact ⟨inv1, le, t', find_set_same _ _ _, l _ atv⟩
      · next hi1 =>
        cases h
        obtain ⟨inv1, le⟩ := inv.set jtv (fun t0 h0 => nomatch hfk.symm.trans h0)
          fun _ hne => absurd (hi.resolve_left hi1) hne
        exact ⟨inv1, le, tv, find_set_same _ _ _, atv⟩

theorem visitKeys_inv (i : Nat) (seen : List J) (hi : i > 1 ∨ seen = []) (ks : List Name) : ∀ (vs : List J)
    (f f' : Fields), (∀ v ∈ vs, wfJ v = true) → RowsInv seen f → visitKeys i f ks vs = some f' →
    RowsInv seen f' ∧ Fields.Le f f' ∧
      ∀ p ∈ ks.zip vs, ∃ t, Fields.find p.1 f' = some t ∧ acc t (some p.2) = true := by
  induction ks with
  | nil => intro vs f f' _ inv h; cases h; exact ⟨inv, fun n t hf => ⟨t, hf, .refl t⟩, fun _ hp => nomatch hp⟩
  | cons k ks ih =>
    intro vs f f' hw inv h
    cases vs with
    | nil => cases h; exact ⟨inv, fun n t hf => ⟨t, hf, .refl t⟩, fun _ hp => nomatch hp⟩
    | cons v vs =>
      rw [visitKeys] at h
      split at h
      · next f1 h1 =>
        obtain ⟨inv1, le1, t1, ht1, a1⟩ := visitKey_inv i seen f f1 k v hi (hw v List.mem_cons_self) inv h1
        obtain ⟨inv', le', hd'⟩ := ih vs f1 f' (fun v' hv' => hw v' (List.mem_cons_of_mem _ hv')) inv1 h
        refine ⟨inv', fun n t hf => ?_, fun p hp => ?_⟩
        · obtain ⟨t1, h1, l1⟩ := le1 n t hf
          obtain ⟨t', h', l'⟩ := le' n t1 h1
          exact ⟨t', h', l1.trans l'⟩
        · rcases List.mem_cons.mp hp with rfl | hp
          · obtain ⟨t', h', l'⟩ := le' k t1 ht1
            exact ⟨t', h', l' _ a1⟩
          · exact hd' p hp
      · cases h

theorem visitRow_inv (i : Nat) (seen : List J) (hi : i > 1 ∨ seen = []) (f f'' : Fields) (r : J)
    (hw : wfJ r = true) (inv : RowsInv seen f) (h : visitRow i f r = .ok f'') : RowsInv (r :: seen) f'' := by
  unfold visitRow at h
  split at h
  · next ks vs =>
    split at h
    · cases h
    · next f' h1 =>
      split at h
      · cases h
      · next f2 h2 =>
        cases h
        simp only [wfJ, Bool.and_eq_true, beq_iff_eq, decide_eq_true_eq] at hw
        obtain ⟨⟨hlen, hnd⟩, hwv⟩ := hw
        obtain ⟨inv1, _, hd1⟩ := visitKeys_inv i seen hi ks vs f f' ((wfJs_iff vs).mp hwv) inv h1
        obtain ⟨hnames, hspec⟩ := markMissing_spec ks f' f'' h2
        have someIff : ∀ k, (Fields.find k f'').isSome = true ↔ (Fields.find k f').isSome = true := by
          intro k; rw [find_isSome_iff, find_isSome_iff, hnames]
        have paired : ∀ k ∈ ks, ∃ v, (k, v) ∈ ks.zip vs := by
          intro k hk
          rw [← List.map_fst_zip (l₂ := vs) (Nat.le_of_eq hlen)] at hk
          obtain ⟨⟨_, v⟩, hv, rfl⟩ := List.mem_map.mp hk
          exact ⟨v, hv⟩
        -- what `markMissing` does to one field: the type is unchanged if the row has the key, otherwise it is widened
        -- by NULL, so that it accepts the absent key
        have step : ∀ n t'', Fields.find n f'' = some t'' → ∃ t, Fields.find n f' = some t ∧ jok t'' = true ∧
            AccLe t t'' ∧ (n ∉ ks → acc t'' none = true) := by
          intro n t'' hf
          obtain ⟨t, ht, hc⟩ := hspec n t'' hf
          by_cases hk : n ∈ ks
          · rw [if_pos (List.contains_iff_mem.mpr hk)] at hc
            subst hc
            exact ⟨t'', ht, inv1.jokAll n t'' ht, .refl t'', fun h => absurd hk h⟩
          · rw [if_neg (fun h => hk (List.contains_iff_mem.mp h))] at hc
            obtain ⟨j, l, r⟩ := acc_typeSum t .null t'' (inv1.jokAll n t ht) jok_null hc
            exact ⟨t, ht, j, l, fun _ => r _ acc_null_none⟩
        refine ⟨fun n t'' hf => let ⟨_, _, j, _⟩ := step n t'' hf; j, hnames ▸ inv1.nodup, fun r hr => ?_⟩
        rcases List.mem_cons.mp hr with rfl | hr
        · refine ⟨ks, vs, rfl, fun k hk => ?_, fun n t'' hf => ?_⟩
          · obtain ⟨v, hv⟩ := paired k hk
            obtain ⟨t, ht, _⟩ := hd1 _ hv
            rw [someIff, ht]; rfl
          · obtain ⟨t, ht, _, l, hout⟩ := step n t'' hf
            by_cases hk : n ∈ ks
            · obtain ⟨v, hv⟩ := paired n hk
              obtain ⟨t0, ht0, ha0⟩ := hd1 _ hv
              rw [show (J.obj ks vs).get n = some v from lookup_of_mem_zip hnd hv]
              exact l _ (Option.some.inj (ht0.symm.trans ht) ▸ ha0)
            · rw [show (J.obj ks vs).get n = none from lookup_none_of_not_key n ks vs hk]
              exact hout hk
        · obtain ⟨ks', vs', rfl, hkeys, hacc⟩ := inv1.rows r hr
          refine ⟨ks', vs', rfl, fun k hk => (someIff k).mpr (hkeys k hk), fun n t'' hf => ?_⟩
          obtain ⟨t, ht, _, l, _⟩ := step n t'' hf
          exact l _ (hacc n t ht)
  · cases h

theorem inferRows_inv (rows : List J) : ∀ (i : Nat) (seen : List J) (f f' : Fields),
    i = seen.length + 1 → (∀ r ∈ rows, wfJ r = true) → RowsInv seen f → inferRowsFrom i f rows = .ok f' →
    RowsInv (rows.reverse ++ seen) f' := by
  induction rows with
  | nil => intro i seen f f' _ _ inv h; cases h; exact inv
  | cons r rows ih =>
    intro i seen f f' hi hw inv h
    rw [inferRowsFrom] at h
    split at h
    · next f1 h1 =>
      have hi' : i > 1 ∨ seen = [] := by
        cases seen with
        | nil => exact Or.inr rfl
        | cons _ _ => exact Or.inl (by rw [hi]; simp)
      have inv1 := visitRow_inv i seen hi' f f1 r (hw r List.mem_cons_self) inv h1
      rw [List.reverse_cons, List.append_assoc]
      exact ih (i + 1) (r :: seen) f1 f' (by rw [hi]; rfl) (fun r' hr' => hw r' (List.mem_cons_of_mem _ hr')) inv1 h
    · next hne => exact (hne _ h).elim

/-- nothing of a previewed row is dropped or refused: the schema has a field for every key of the row and accepts
    the row field by field (`acc`) -/
theorem jsonCreate_accepts (rows : List J) (schema : Fields)
    (hw : ∀ r ∈ rows.take jsonPreviewRows, wfJ r = true) (h : jsonCreate rows = .ok schema) :
    ∀ r ∈ rows.take jsonPreviewRows, ∃ ks vs, r = .obj ks vs ∧ (∀ k ∈ ks, k ∈ schema.map (·.1)) ∧
      ∀ p ∈ schema, acc p.2 (r.get p.1) = true := by
  unfold jsonCreate at h
  split at h
  · next fields h1 =>
    cases h
    have inv := inferRows_inv _ 1 [] [] fields rfl hw ⟨fun _ _ hf => (nomatch hf), List.nodup_nil, fun _ hr => (nomatch hr)⟩ h1
    intro r hr
    obtain ⟨ks, vs, rfl, hkeys, hacc⟩ := inv.rows r (List.mem_append_left _ (List.mem_reverse.mpr hr))
    refine ⟨ks, vs, rfl, fun k hk => ?_, fun p hp =>
      hacc p.1 p.2 (find_of_mem p.1 p.2 fields inv.nodup ((mem_sortFields p fields).mp hp))⟩
    obtain ⟨p, hp, rfl⟩ := List.mem_map.mp ((find_isSome_iff k fields).mp (hkeys k hk))
    exact List.mem_map.mpr ⟨p, (mem_sortFields p fields).mpr hp, rfl⟩
  · next hne => exact (hne _ h).elim

end Octo.Files
