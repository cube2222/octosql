import Octo.Lemmas.FilesJsonAcc
import Octo.Lemmas.TySum
/-! JSON schema inference: `TypeSum` of two JSON-shaped types accepts everything either operand accepts
    (including the merge of two object types with different key sets, which is NOT an upper bound w.r.t. `Is`). -/
namespace Octo.Files
open Octo Octo.Ty

/-- what the induction hypothesis gives for the recursive calls of `TypeSum` -/
def AccFor (f : Ty → Ty → Option Ty) : Prop :=
  ∀ a b c, jok a = true → jok b = true → f a b = some c →
    jok c = true ∧ AccLe a c ∧ AccLe b c

theorem lookupLast_acc (o : J) (k : Name) (ns : List Name) : ∀ (ts : List Ty) (a : Ty),
    accFields ns ts o → lookupLast k ns ts = some a → acc a (o.get k) = true := by
  induction ns with
  | nil => intro _ _ _ h; nomatch h
  | cons n ns ih =>
    intro ts a ha h
    cases ts with
    | nil => nomatch h
    | cons t ts =>
      rw [lookupLast] at h
      split at h
      · next r hr => cases h; exact ih ts _ ha.2 hr
      · split at h
        · next hnk => cases h; subst hnk; exact ha.1
        · cases h

theorem jok_lookupLast {k : Name} {ns : List Name} {ts : List Ty} {a : Ty} (h : lookupLast k ns ts = some a)
    (j : jokList ts = true) : jok a = true :=
  (jokList_iff ts).mp j a (lookupLast_mem k ns ts a h)

theorem get_none_of_lookupLast_none {k : Name} {ns : List Name} {ts : List Ty} {ks : List Name} (vs : List J)
    (hl : ns.length = ts.length) (h : lookupLast k ns ts = none) (hk : ∀ k' ∈ ks, k' ∈ ns) :
    (J.obj ks vs).get k = none :=
  lookup_none_of_not_key k ks vs fun hin => by
    have := lookupLast_isSome k ns ts hl (hk k hin)
    rw [h] at this; cases this

/-- one field of the merged object type (the struct / struct case): a key only one operand knows is made nullable,
    and a missing key reads as NULL -/
theorem structField_acc {f : Ty → Ty → Option Ty} (hf : AccFor f) {ns1 : List Name} {ts1 : List Ty}
    {ns2 : List Name} {ts2 : List Ty} (l1 : ns1.length = ts1.length) (l2 : ns2.length = ts2.length)
    (j1 : jokList ts1 = true) (j2 : jokList ts2 = true) {name : Name} {ty : Ty}
    (hx : structField f ns1 ts1 ns2 ts2 name = some ty) :
    jok ty = true ∧
    (∀ ks vs, (∀ k ∈ ks, k ∈ ns1) → accFields ns1 ts1 (.obj ks vs) → acc ty ((J.obj ks vs).get name) = true) ∧
    (∀ ks vs, (∀ k ∈ ks, k ∈ ns2) → accFields ns2 ts2 (.obj ks vs) → acc ty ((J.obj ks vs).get name) = true) := by
  unfold structField at hx
  cases h1 : lookupLast name ns1 ts1 <;> cases h2 : lookupLast name ns2 ts2 <;> rw [h1, h2] at hx
  · cases hx
  · next b =>
    obtain ⟨j, l, r⟩ := hf b .null ty (jok_lookupLast h2 j2) jok_null hx
    exact ⟨j, fun ks vs hk _ => get_none_of_lookupLast_none vs l1 h1 hk ▸ r _ acc_null_none,
      fun ks vs _ ha => l _ (lookupLast_acc _ name ns2 ts2 b ha h2)⟩
  · next a =>
    obtain ⟨j, l, r⟩ := hf a .null ty (jok_lookupLast h1 j1) jok_null hx
    exact ⟨j, fun ks vs _ ha => l _ (lookupLast_acc _ name ns1 ts1 a ha h1),
      fun ks vs hk _ => get_none_of_lookupLast_none vs l2 h2 hk ▸ r _ acc_null_none⟩
  · next a b =>
    obtain ⟨j, l, r⟩ := hf a b ty (jok_lookupLast h1 j1) (jok_lookupLast h2 j2) hx
    exact ⟨j, fun ks vs _ ha => l _ (lookupLast_acc _ name ns1 ts1 a ha h1),
      fun ks vs _ ha => r _ (lookupLast_acc _ name ns2 ts2 b ha h2)⟩

theorem structFields_acc {f : Ty → Ty → Option Ty} (hf : AccFor f) {ns1 : List Name} {ts1 : List Ty}
    {ns2 : List Name} {ts2 : List Ty} (l1 : ns1.length = ts1.length) (l2 : ns2.length = ts2.length)
    (j1 : jokList ts1 = true) (j2 : jokList ts2 = true) :
    ∀ (names : List Name) (tys : List Ty), optMap (structField f ns1 ts1 ns2 ts2) names = some tys →
      jokList tys = true ∧
      (∀ ks vs, (∀ k ∈ ks, k ∈ ns1) → accFields ns1 ts1 (.obj ks vs) → accFields names tys (.obj ks vs)) ∧
      (∀ ks vs, (∀ k ∈ ks, k ∈ ns2) → accFields ns2 ts2 (.obj ks vs) → accFields names tys (.obj ks vs)) := by
  intro names
  induction names with
  | nil => intro tys h; cases h; exact ⟨rfl, fun _ _ _ _ => trivial, fun _ _ _ _ => trivial⟩
  | cons name names ih =>
    intro tys h
    obtain ⟨ty, tys', hx, hxs, rfl⟩ := optMap_cons_some h
    obtain ⟨j, l, r⟩ := structField_acc hf l1 l2 j1 j2 hx
    obtain ⟨js, ls, rs⟩ := ih tys' hxs
    exact ⟨by rw [jokList, j, js]; rfl, fun ks vs hk ha => ⟨l ks vs hk ha, ls ks vs hk ha⟩,
      fun ks vs hk ha => ⟨r ks vs hk ha, rs ks vs hk ha⟩⟩

/-- the union / union loop `out = TypeSum(out, alternative)` -/
theorem fold_acc {f : Ty → Ty → Option Ty} (hf : AccFor f) (alts : List Ty) : ∀ (out c : Ty),
    jok out = true → jokList alts = true → optFoldl f out alts = some c →
    jok c = true ∧ AccLe out c ∧ ∀ x ∈ alts, AccLe x c := by
  induction alts with
  | nil => intro out c jo _ h; cases h; exact ⟨jo, .refl _, fun _ hx => nomatch hx⟩
  | cons x xs ih =>
    intro out c jo ja h
    rw [jokList, Bool.and_eq_true] at ja
    obtain ⟨out', hx, h⟩ := optFoldl_cons_some h
    obtain ⟨j1, a1, a2⟩ := hf out x out' jo ja.1 hx
    obtain ⟨j2, b1, b2⟩ := ih out' c j1 ja.2 h
    exact ⟨j2, a1.trans b1, List.forall_mem_cons.mpr ⟨a2.trans b1, b2⟩⟩

theorem acc_step {f : Ty → Ty → Option Ty} (hf : AccFor f) : AccFor (typeSumStep f) := by
  intro a b c ja jb hc
  obtain ⟨_, -, hcase⟩ := typeSumStep_cases (fun _ _ => true) hc
  cases hcase with
  | below h => exact ⟨jb, acc_of_is ja jb h, .refl _⟩
  | above h => exact ⟨ja, .refl _, acc_of_is jb ja h⟩
  | @struct ns1 ts1 ns2 ts2 tys hz =>
    simp only [jok, Bool.and_eq_true, beq_iff_eq] at ja jb ⊢
    obtain ⟨js, ls, rs⟩ := structFields_acc hf ja.1 jb.1 ja.2 jb.2 _ tys hz
    exact ⟨⟨(optMap_spec _ _ hz).1.symm, js⟩,
      .struct (fun k hk => (mem_sortNames k _).mpr (List.mem_append_left _ hk)) ls,
      .struct (fun k hk => (mem_sortNames k _).mpr (List.mem_append_right _ hk)) rs⟩
  | list hs =>
    rw [jok] at ja jb ⊢
    obtain ⟨js, s1, s2⟩ := hf _ _ _ ja jb hs
    exact ⟨js, s1.list, s2.list⟩
  | tuple _ => cases ja
  | unions h =>
    rw [jok] at jb
    obtain ⟨jc, c1, c2⟩ := fold_acc hf _ _ c ja jb h
    exact ⟨jc, c1, .union c2⟩
  | swap _ h =>
    obtain ⟨jc, c1, c2⟩ := hf _ _ c jb ja h
    exact ⟨jc, c2, c1⟩
  | @merge pre a0 post _ r _ _ hsum =>
    rw [jok, jokList_iff] at ja ⊢
    have hr' : r ∈ pre ++ r :: post := List.mem_append_right _ List.mem_cons_self
    obtain ⟨jr, h1, h2⟩ := hf a0 b r (ja a0 (List.mem_append_right _ List.mem_cons_self)) jb hsum
    refine ⟨forall_mem_replace ja jr, .union fun x hx => ?_, h2.trans (.of_mem hr')⟩
    rcases List.mem_append.mp hx with hx | hx
    · exact .of_mem (List.mem_append_left _ hx)
    · cases hx with
      | head => exact h1.trans (.of_mem hr')
      | tail _ hx => exact .of_mem (List.mem_append_right _ (List.mem_cons_of_mem _ hx))
  | add _ _ =>
    rw [jok, jokList_iff] at ja ⊢
    exact ⟨forall_mem_sortById_snoc ja jb,
      .union fun x hx => .of_mem ((mem_sortById _ _).mpr (List.mem_append_left _ hx)),
      .of_mem ((mem_sortById _ _).mpr (List.mem_append_right _ List.mem_cons_self))⟩
  | pair _ _ _ =>
    rw [jok, jokList_iff]
    exact ⟨forall_mem_sortById_pair ja jb, .of_mem ((mem_sortById _ _).mpr List.mem_cons_self),
      .of_mem ((mem_sortById _ _).mpr (List.mem_cons_of_mem _ List.mem_cons_self))⟩

theorem acc_F : ∀ (n : Nat), AccFor (typeSumF n)
  | 0 => by intro a b c _ _ h; simp [typeSumF] at h
  | n + 1 => by
    intro a b c ja jb hc
    simp only [typeSumF] at hc
    exact acc_step (acc_F n) a b c ja jb hc

theorem acc_typeSum : AccFor typeSum := fun a b c ja jb hc => acc_F (sumFuel a b) a b c ja jb hc

end Octo.Files
