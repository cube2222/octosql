import Octo.Model.FileQueue
/-! The reorder queue: the invariant that ties queue / startIndex / produced records to the set of lines that have
    arrived, preserved by every arrival, and what it implies when the consumer decides to stop. -/
namespace Octo.Files

variable {α : Type}

theorem extendTo_get (q : List (Option α)) (idx i : Nat) :
    (extendTo q idx)[i]? = if i < q.length then q[i]? else if i ≤ idx then some none else none := by
  unfold extendTo
  by_cases h : i < q.length
  · simp [h, List.getElem?_append_left h]
  · simp only [h, if_false]
    rw [List.getElem?_append_right (by omega)]
    by_cases h2 : i ≤ idx
    · simp only [h2, if_true]
      rw [List.getElem?_replicate]
      simp; omega
    · simp only [h2, if_false]
      rw [List.getElem?_replicate]
      simp; omega

theorem extendTo_get_some (q : List (Option α)) (idx i : Nat) (r : α) :
    (extendTo q idx)[i]? = some (some r) ↔ q[i]? = some (some r) := by
  rw [extendTo_get]
  split
  · exact Iff.rfl
  · next h => split <;> simp [List.getElem?_eq_none (Nat.le_of_not_lt h)]

theorem extendTo_length (q : List (Option α)) (idx : Nat) : idx < (extendTo q idx).length := by
  unfold extendTo; simp only [List.length_append, List.length_replicate]; omega

theorem setAt_eq_set : ∀ (q : List (Option α)) (idx : Nat) (r : α), setAt q idx r = q.set idx (some r)
  | [], _, _ => rfl
  | _ :: _, 0, _ => rfl
  | x :: xs, idx + 1, r => congrArg (x :: ·) (setAt_eq_set xs idx r)

theorem stored_get (q : List (Option α)) (idx : Nat) (r : α) (i : Nat) (r' : α) :
    (setAt (extendTo q idx) idx r)[i]? = some (some r') ↔ (i = idx ∧ r' = r) ∨ (i ≠ idx ∧ q[i]? = some (some r')) := by
  rw [setAt_eq_set, List.getElem?_set]
  split
  · next h => simp [← h, extendTo_length, eq_comm]
  · next h => simp [Ne.symm h, extendTo_get_some]

structure Inv (recs : List α) (A : Nat → Prop) (st : QState α) : Prop where
  out_eq : st.out = recs.take st.start
  start_le : st.start ≤ recs.length
  pend : ∀ i r, st.queue[i]? = some (some r) → recs[st.start + i]? = some r
  head : ∀ r, st.queue[0]? ≠ some (some r)
  arr : ∀ l, A l ↔ (l < st.start ∨ ∃ i r, l = st.start + i ∧ st.queue[i]? = some (some r))

theorem Inv.init (recs : List α) : Inv recs (fun _ => False) (QState.init : QState α) :=
  ⟨by simp [QState.init], by simp [QState.init], by simp [QState.init], by simp [QState.init],
   by simp [QState.init]⟩

/-- what holds between the store and the flush: the invariant without "the head of the queue is not ready" -/
structure PreInv (recs : List α) (A : Nat → Prop) (q : List (Option α)) (s : Nat) (out : List α) : Prop where
  out_eq : out = recs.take s
  start_le : s ≤ recs.length
  pend : ∀ i r, q[i]? = some (some r) → recs[s + i]? = some r
  arr : ∀ l, A l ↔ (l < s ∨ ∃ i r, l = s + i ∧ q[i]? = some (some r))

theorem flush_inv (recs : List α) (A : Nat → Prop) (q : List (Option α)) : ∀ (s : Nat) (out : List α),
    PreInv recs A q s out → Inv recs A (flush q s out) := by
  induction q with
  | nil => intro s out h; exact ⟨h.out_eq, h.start_le, h.pend, by simp [flush], h.arr⟩
  | cons o q ih =>
    intro s out h
    cases o with
    | none => exact ⟨h.out_eq, h.start_le, h.pend, by simp [flush], h.arr⟩
    | some r =>
    have h0 : recs[s]? = some r := h.pend 0 r rfl
    have hlt : s < recs.length := (List.getElem?_eq_some_iff.mp h0).1
    refine ih (s + 1) (out ++ [r]) ⟨?_, hlt, ?_, ?_⟩
    · rw [List.take_add_one, h.out_eq, h0]; rfl
    · intro i r' hi
      rw [Nat.add_assoc, Nat.add_comm 1]
      exact h.pend (i + 1) r' hi
    · intro l
      rw [h.arr l]
      constructor
      · rintro (hl | ⟨i, r', rfl, hi⟩)
        · exact Or.inl (by omega)
        · cases i with
          | zero => exact Or.inl (by omega)
          | succ i => exact Or.inr ⟨i, r', by omega, hi⟩
      · rintro (hl | ⟨i, r', rfl, hi⟩)
        · by_cases e : l = s
          · exact Or.inr ⟨0, r, e, rfl⟩
          · exact Or.inl (by omega)
        · exact Or.inr ⟨i + 1, r', by omega, hi⟩

theorem placeOne_inv (recs : List α) (A : Nat → Prop) (st : QState α) (l : Nat) (r : α)
    (inv : Inv recs A st) (hl : ¬ A l) (hr : recs[l]? = some r) :
    ∃ st', placeOne st l r = some st' ∧ Inv recs (fun x => x = l ∨ A x) st' := by
  have hge : ¬ l < st.start := fun h => hl ((inv.arr l).mpr (Or.inl h))
  unfold placeOne
  rw [if_neg hge]
  refine ⟨_, rfl, flush_inv recs _ _ _ _ ⟨inv.out_eq, inv.start_le, ?_, ?_⟩⟩
  · intro i r' hi
    rcases (stored_get _ _ _ i r').mp hi with ⟨rfl, rfl⟩ | ⟨_, hi⟩
    · rw [← hr]; congr 1; omega
    · exact inv.pend i r' hi
  · intro x
    simp only [stored_get, inv.arr x]
    constructor
    · rintro (rfl | hx | ⟨i, r', rfl, hi⟩)
      · exact Or.inr ⟨x - st.start, r, by omega, Or.inl ⟨rfl, rfl⟩⟩
      · exact Or.inl hx
      · refine Or.inr ⟨i, r', rfl, Or.inr ⟨fun e => hl ((inv.arr l).mpr (Or.inr ⟨i, r', by omega, hi⟩)), hi⟩⟩
    · rintro (hx | ⟨i, r', rfl, ⟨rfl, _⟩ | ⟨_, hi⟩⟩)
      · exact Or.inr (Or.inl hx)
      · exact Or.inl (by omega)
      · exact Or.inr (Or.inr ⟨i, r', rfl, hi⟩)

theorem Inv.lt_length {recs : List α} {A : Nat → Prop} {st : QState α} (inv : Inv recs A st) {l : Nat} (h : A l) :
    l < recs.length := by
  rcases (inv.arr l).mp h with h | ⟨i, r, hl, hq⟩
  · have := inv.start_le; omega
  · have := inv.pend i r hq
    have := (List.getElem?_eq_some_iff.mp this).1
    omega

theorem Inv.start_eq_iff {recs : List α} {A : Nat → Prop} {st : QState α} (inv : Inv recs A st) :
    st.start = recs.length ↔ ∀ l, l < recs.length → A l := by
  refine ⟨fun h l hl => (inv.arr l).mpr (Or.inl (by omega)), fun hall => ?_⟩
  have h1 := inv.start_le
  by_cases h : st.start < recs.length
  · exfalso
    rcases (inv.arr st.start).mp (hall _ h) with h' | ⟨i, r, hl, hq⟩
    · omega
    · have : i = 0 := by omega
      subst this
      exact inv.head r hq
  · omega

theorem Inv.congr {recs : List α} {A B : Nat → Prop} {st : QState α} (inv : Inv recs A st) (h : ∀ l, B l ↔ A l) :
    Inv recs B st :=
  ⟨inv.out_eq, inv.start_le, inv.pend, inv.head, fun l => (h l).trans (inv.arr l)⟩

structure ItemsOK (recs : List α) (A : Nat → Prop) (items : List (Nat × Option α)) : Prop where
  nodup : (items.map Prod.fst).Nodup
  parsed : ∀ p ∈ items, ∃ r, p.2 = some r ∧ recs[p.1]? = some r
  fresh : ∀ l ∈ items.map Prod.fst, ¬ A l

def after (A : Nat → Prop) (items : List (Nat × Option α)) (y : Nat) : Prop := A y ∨ y ∈ items.map Prod.fst

theorem placeAll_inv (recs : List α) (items : List (Nat × Option α)) : ∀ (A : Nat → Prop) (st : QState α),
    Inv recs A st → ItemsOK recs A items →
    ∃ st', placeAll st items = .ok st' ∧ Inv recs (after A items) st' := by
  induction items with
  | nil => exact fun _ st inv _ => ⟨st, rfl, inv.congr fun l => or_iff_left List.not_mem_nil⟩
  | cons p rest ih =>
    intro A st inv h
    obtain ⟨l, x⟩ := p
    obtain ⟨r, rfl, hr⟩ := h.parsed _ List.mem_cons_self
    have hn := List.nodup_cons.mp h.nodup
    obtain ⟨st1, h1, inv1⟩ := placeOne_inv recs A st l r inv (h.fresh l List.mem_cons_self) hr
    obtain ⟨st2, h2, inv2⟩ := ih _ st1 inv1 ⟨hn.2, fun p hp => h.parsed p (List.mem_cons_of_mem _ hp),
      fun l' hl' h' => h'.elim (fun e => hn.1 (e ▸ hl')) (h.fresh l' (List.mem_cons_of_mem _ hl'))⟩
    exact ⟨st2, by simp only [placeAll, h1, h2], inv2.congr fun y => by
      rw [after, after, List.map_cons, List.mem_cons, ← or_assoc, or_comm (a := A y)]⟩

/-- the events still to come: non-empty batches of fresh, correctly parsed lines; `done` exactly once iff
    `needDone`; and when nothing is left every line has arrived -/
def EvOK (recs : List α) : (Nat → Prop) → Bool → List (Event α) → Prop
  | A, needDone, [] => needDone = false ∧ ∀ l, l < recs.length → A l
  | A, needDone, .batch items :: evs => items ≠ [] ∧ ItemsOK recs A items ∧ EvOK recs (after A items) needDone evs
  | A, needDone, .done e :: evs => e = false ∧ needDone = true ∧ EvOK recs A false evs

theorem EvOK.nil_of_all {recs : List α} {A : Nat → Prop} {evs : List (Event α)}
    (h : EvOK recs A false evs) (hall : ∀ l, l < recs.length → A l) : evs = [] := by
  cases evs with
  | nil => rfl
  | cons e evs =>
    exfalso
    cases e with
    | done e => exact absurd h.2.1 (by simp)
    | batch items =>
      obtain ⟨hne, hi, _⟩ := h
      cases items with
      | nil => exact hne rfl
      | cons p rest =>
        obtain ⟨r, _, hr⟩ := hi.parsed p List.mem_cons_self
        exact hi.fresh p.1 List.mem_cons_self (hall p.1 (List.getElem?_eq_some_iff.mp hr).1)

theorem Inv.stop {recs : List α} {A : Nat → Prop} {st : QState α} {evs : List (Event α)} (inv : Inv recs A st)
    (h : st.start = recs.length) (hev : EvOK recs A false evs) : Result.stopped st.out evs = .stopped recs [] := by
  rw [hev.nil_of_all (inv.start_eq_iff.mp h), inv.out_eq, h, List.take_length]

/-- **the consumer loop**, from any state satisfying the invariant, on any well-formed remaining schedule.  `done` is
    still to come exactly when the reader is not yet known to be done (`!readerDone`); once it is, the loop is still
    running only because not everything has been produced: it tests `startIndex == linesRead` after every batch
    (third hypothesis). -/
theorem consume_ok (recs : List α) (evs : List (Event α)) : ∀ (A : Nat → Prop) (st : QState α) (readerDone : Bool),
    Inv recs A st → EvOK recs A (!readerDone) evs → (readerDone = true → st.start ≠ recs.length) →
    consume recs.length st readerDone evs = .stopped recs [] := by
  induction evs with
  | nil => intro A st readerDone inv h hnd; exact absurd (inv.start_eq_iff.mpr h.2) (hnd (by simpa using h.1))
  | cons e evs ih =>
    intro A st readerDone inv h hnd
    cases e with
    | batch items =>
      obtain ⟨_, hi, hrest⟩ := h
      obtain ⟨st', hp, inv'⟩ := placeAll_inv recs items A st inv hi
      simp only [consume, hp]
      by_cases hstop : (readerDone && st'.start == recs.length) = true
      · rw [if_pos hstop]
        simp only [Bool.and_eq_true, beq_iff_eq] at hstop
        rw [hstop.1] at hrest
        exact inv'.stop hstop.2 hrest
      · rw [if_neg hstop]
        exact ih _ st' readerDone inv' hrest (by
          intro hd; simp only [hd, Bool.true_and, beq_iff_eq] at hstop; exact hstop)
    | done e =>
      obtain ⟨he, hneed, hrest⟩ := h
      subst he
      simp only [consume, Bool.false_eq_true, if_false]
      by_cases hstop : (st.start == recs.length) = true
      · rw [if_pos hstop]
        exact inv.stop (beq_iff_eq.mp hstop) hrest
      · rw [if_neg hstop]
        exact ih A st true inv (by simpa using hrest) (by intro _; simpa using hstop)

structure Fresh (recs : List α) (A : Nat → Prop) (bs : List (List (Nat × Option α))) : Prop where
  nodup : (bs.flatten.map Prod.fst).Nodup
  parsed : ∀ p ∈ bs.flatten, ∃ r, p.2 = some r ∧ recs[p.1]? = some r
  nonempty : ∀ b ∈ bs, b ≠ []
  cover : ∀ l, l < recs.length → A l ∨ l ∈ bs.flatten.map Prod.fst
  fresh : ∀ l ∈ bs.flatten.map Prod.fst, ¬ A l

theorem Fresh.uncons {recs : List α} {A : Nat → Prop} {b : List (Nat × Option α)} {bs : List (List (Nat × Option α))}
    (h : Fresh recs A (b :: bs)) : ItemsOK recs A b ∧ b ≠ [] ∧ Fresh recs (after A b) bs := by
  have hn := h.nodup
  have hmem : ∀ l, l ∈ (b :: bs).flatten.map Prod.fst ↔ l ∈ b.map Prod.fst ∨ l ∈ bs.flatten.map Prod.fst := by
    intro l; rw [List.flatten_cons, List.map_append, List.mem_append]
  rw [List.flatten_cons, List.map_append, List.nodup_append] at hn
  have hsub : ∀ p ∈ bs.flatten, p ∈ (b :: bs).flatten := fun p hp => List.mem_append_right _ hp
  refine ⟨⟨hn.1, fun p hp => h.parsed p (List.mem_append_left _ hp), fun l hl => h.fresh l ((hmem l).mpr (Or.inl hl))⟩,
    h.nonempty b List.mem_cons_self,
    hn.2.1, fun p hp => h.parsed p (hsub p hp), fun b' hb' => h.nonempty b' (List.mem_cons_of_mem _ hb'), ?_, ?_⟩
  · intro l hl
    rw [after, or_assoc, ← hmem]
    exact h.cover l hl
  · rintro l hl (hA | hb)
    · exact h.fresh l ((hmem l).mpr (Or.inr hl)) hA
    · exact hn.2.2 l hb l hl rfl

theorem batches_evok (recs : List α) (bs : List (List (Nat × Option α))) : ∀ (A : Nat → Prop),
    Fresh recs A bs → EvOK recs A false (bs.map .batch) := by
  induction bs with
  | nil => exact fun A h => ⟨rfl, fun l hl => (h.cover l hl).resolve_right (List.not_mem_nil)⟩
  | cons b bs ih =>
    intro A h
    obtain ⟨h1, h2, h3⟩ := h.uncons
    exact ⟨h2, h1, ih _ h3⟩

theorem evok_done_between (recs : List α) (l1 l2 : List (List (Nat × Option α))) : ∀ (A : Nat → Prop),
    Fresh recs A (l1 ++ l2) → EvOK recs A true (l1.map .batch ++ .done false :: l2.map .batch) := by
  induction l1 with
  | nil => exact fun A h => ⟨rfl, rfl, batches_evok recs _ A h⟩
  | cons _ l1 ih =>
    intro A h
    obtain ⟨h1, h2, h3⟩ := h.uncons
    exact ⟨h2, h1, ih _ h3⟩

theorem schedule_evok (recs : List α) (bs : List (List (Nat × Option α))) (pos : Nat) (A : Nat → Prop)
    (h : Fresh recs A bs) : EvOK recs A true (schedule bs pos) := by
  rw [schedule, List.append_assoc]
  exact evok_done_between recs (bs.take pos) _ A (by rw [List.take_append_drop]; exact h)

theorem number_eq : ∀ (xs : List α) (s : Nat), number s xs = (xs.zipIdx s).map fun p => (p.2, p.1)
  | [], _ => rfl
  | x :: xs, s => by rw [number, number_eq xs, List.zipIdx_cons, List.map_cons]

theorem number_append (l1 l2 : List α) (s : Nat) : number s (l1 ++ l2) = number s l1 ++ number (s + l1.length) l2 := by
  simp only [number_eq, List.zipIdx_append, List.map_append]

theorem number_fst (xs : List α) (s : Nat) : (number s xs).map Prod.fst = List.range' s xs.length := by
  rw [number_eq, List.map_map, ← List.zipIdx_map_snd]; rfl

theorem number_mem (xs : List α) (s : Nat) (p : Nat × α) (h : p ∈ number s xs) : s ≤ p.1 ∧ xs[p.1 - s]? = some p.2 := by
  rw [number_eq] at h
  obtain ⟨q, hq, rfl⟩ := List.mem_map.mp h
  exact List.mem_zipIdx_iff_le_and_getElem?_sub.mp hq

theorem mkBatchesFrom_flatten (b : Nat) (hb : 0 < b) (fuel : Nat) : ∀ (s : Nat) (xs : List α), xs.length ≤ fuel →
    (mkBatchesFrom b fuel s xs).flatten = number s xs := by
  induction fuel with
  | zero => intro s xs h; rw [List.length_eq_zero_iff.mp (Nat.le_zero.mp h)]; rfl
  | succ fuel ih =>
    intro s xs h
    cases xs with
    | nil => rfl
    | cons x xs =>
    rw [mkBatchesFrom, List.flatten_cons, ih (s + b) _
      (by simp only [List.length_drop, List.length_cons] at h ⊢; omega)]
    conv => rhs; rw [← List.take_append_drop b (x :: xs), number_append]
    -- a short last job is followed by nothing, so its length does not matter
    rcases Nat.le_total b (x :: xs).length with hle | hle
    · rw [List.length_take, Nat.min_eq_left hle]
    · rw [List.drop_eq_nil_of_le hle]; rfl

theorem mkBatchesFrom_nonempty (b : Nat) (hb : 0 < b) (fuel : Nat) : ∀ (s : Nat) (xs : List α),
    ∀ batch ∈ mkBatchesFrom b fuel s xs, batch ≠ [] := by
  induction fuel with
  | zero => intro _ _ _ hm; nomatch hm
  | succ fuel ih =>
    intro s xs batch hm
    cases xs with
    | nil => nomatch hm
    | cons x xs =>
      rcases List.mem_cons.mp hm with rfl | hm
      · cases b with
        | zero => exact absurd hb (Nat.lt_irrefl 0)
        | succ b => exact List.cons_ne_nil _ _
      · exact ih _ _ batch hm

/-- what the parser workers hand to the consumer when every line parses: the reader's jobs with records -/
def parsedBatches (b : Nat) (recs : List α) : List (List (Nat × Option α)) :=
  (mkBatches b recs).map (parseBatch some)

variable {β : Type}

theorem number_map (g : α → β) (xs : List α) (s : Nat) :
    (number s xs).map (fun p => (p.1, g p.2)) = number s (xs.map g) := by
  simp only [number_eq, List.zipIdx_map, List.map_map]; rfl

theorem fresh_of_perm (parse : β → Option α) (jobs : List (List (Nat × β))) (lines : List β) (recs : List α)
    (hjobs : jobs.flatten = number 0 lines) (hne : ∀ job ∈ jobs, job ≠ []) (hparse : lines.map parse = recs.map some)
    (bs : List (List (Nat × Option α))) (hp : bs.Perm (jobs.map (parseBatch parse))) :
    Fresh recs (fun _ => False) bs := by
  have hflat : bs.flatten.Perm ((number 0 recs).map (fun p => (p.1, some p.2))) := by
    have e : (jobs.map (parseBatch parse)).flatten = (number 0 lines).map (fun p => (p.1, parse p.2)) := by
      rw [← hjobs, List.map_flatten]; rfl
    rw [number_map, ← hparse, ← number_map, ← e]; exact hp.flatten
  have hlines : (bs.flatten.map Prod.fst).Perm (List.range' 0 recs.length) := by
    have := hflat.map Prod.fst
    rw [List.map_map] at this
    rw [← number_fst]
    exact this
  refine ⟨hlines.symm.nodup (List.nodup_range' (step := 1)), ?_, ?_, ?_, by simp⟩
  · intro p hp'
    obtain ⟨q, hq, rfl⟩ := List.mem_map.mp (hflat.mem_iff.mp hp')
    exact ⟨q.2, rfl, (number_mem recs 0 q hq).2⟩
  · intro batch hb'
    obtain ⟨job, hj, rfl⟩ := List.mem_map.mp (hp.mem_iff.mp hb')
    exact fun e => hne job hj (List.map_eq_nil_iff.mp e)
  · intro l hl
    right
    exact hlines.mem_iff.mpr (by simp [List.mem_range']; omega)

/-- **the reorder queue** about variables: any cutting `jobs` of the numbered lines into non-empty jobs, any parser
    that succeeds on every line, any order of arrival, any position of the reader's `done` -/
theorem consume_jobs (parse : β → Option α) (jobs : List (List (Nat × β))) (lines : List β) (recs : List α)
    (hjobs : jobs.flatten = number 0 lines) (hne : ∀ job ∈ jobs, job ≠ []) (hparse : lines.map parse = recs.map some)
    (bs : List (List (Nat × Option α))) (hp : bs.Perm (jobs.map (parseBatch parse))) (pos : Nat) :
    consume recs.length QState.init false (schedule bs pos) = .stopped recs [] :=
  consume_ok recs _ _ _ false (Inv.init recs)
    (schedule_evok recs bs pos _ (fresh_of_perm parse jobs lines recs hjobs hne hparse bs hp)) (by simp)

end Octo.Files
