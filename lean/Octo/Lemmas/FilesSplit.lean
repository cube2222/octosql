import Octo.Model.LineSplit
/-! The lines splitter under the Scanner contract.  The loop invariant is
    `tokens so far ++ spec (window ++ unread) = spec content`. -/
namespace Octo.Files

theorem isPrefix_length (sep : Bytes) : ∀ (d : Bytes), isPrefix sep d = true → sep.length ≤ d.length := by
  induction sep with
  | nil => exact fun _ _ => Nat.zero_le _
  | cons s ss ih =>
    intro d h
    cases d with
    | nil => simp [isPrefix] at h
    | cons d ds =>
      simp only [isPrefix, Bool.and_eq_true] at h
      exact Nat.succ_le_succ (ih ds h.2)

theorem isPrefix_append (sep : Bytes) : ∀ (w r : Bytes), sep.length ≤ w.length → isPrefix sep (w ++ r) = isPrefix sep w := by
  induction sep with
  | nil => intro _ _ _; simp [isPrefix]
  | cons s ss ih =>
    intro w r h
    cases w with
    | nil => simp at h
    | cons d ds =>
      simp only [List.cons_append, isPrefix]
      rw [ih ds r (Nat.le_of_succ_le_succ h)]

theorem indexOf_bound (sep d : Bytes) : ∀ (i : Nat), indexOf sep d = some i → i + sep.length ≤ d.length := by
  induction d with
  | nil =>
    intro i h
    cases sep with
    | nil => simp only [indexOf, List.isEmpty_nil, if_true, Option.some.injEq] at h; simp [← h]
    | cons _ _ => simp [indexOf] at h
  | cons d ds ih =>
    intro i h
    simp only [indexOf] at h
    split at h
    · next hp => cases h; have := isPrefix_length _ _ hp; omega
    · obtain ⟨j, hj, rfl⟩ := Option.map_eq_some_iff.mp h
      have := ih j hj
      simp only [List.length_cons]; omega

theorem indexOf_append_iff (sep : Bytes) (hsep : sep ≠ []) (w r : Bytes) : ∀ (i : Nat), i + sep.length ≤ w.length →
    (indexOf sep (w ++ r) = some i ↔ indexOf sep w = some i) := by
  induction w with
  | nil => intro i hb; have := List.length_pos_iff.mpr hsep; simp only [List.length_nil] at hb; omega
  | cons d ds ih =>
    intro i hb
    have hp : isPrefix sep (d :: (ds ++ r)) = isPrefix sep (d :: ds) := isPrefix_append sep (d :: ds) r (by omega)
    simp only [List.cons_append, indexOf, hp]
    split
    · exact Iff.rfl
    · cases i with
      | zero => simp
      | succ j =>
        simp only [Option.map_eq_some_iff, Nat.add_right_cancel_iff, exists_eq_right]
        exact ih j (by simp only [List.length_cons] at hb; omega)

theorem indexOf_append (sep : Bytes) (hsep : sep ≠ []) (w r : Bytes) (i : Nat) (h : indexOf sep w = some i) :
    indexOf sep (w ++ r) = some i :=
  (indexOf_append_iff sep hsep w r i (indexOf_bound sep w i h)).mpr h

theorem window_lt (sep : Bytes) (hsep : sep ≠ []) (w r : Bytes) (i : Nat) (hw : indexOf sep w = none)
    (h : indexOf sep (w ++ r) = some i) : w.length < i + sep.length := by
  apply Nat.lt_of_not_le
  intro hle
  rw [(indexOf_append_iff sep hsep w r i hle).mp h] at hw
  cases hw

theorem indexOf_nil (sep : Bytes) (hsep : sep ≠ []) : indexOf sep [] = none := by
  cases sep with
  | nil => exact absurd rfl hsep
  | cons _ _ => rfl

theorem drop_found_lt {sep : Bytes} (hsep : sep ≠ []) {s : Bytes} {i : Nat} (h : indexOf sep s = some i) :
    (s.drop (i + sep.length)).length < s.length := by
  have := indexOf_bound sep s i h
  have := List.length_pos_iff.mpr hsep
  simp only [List.length_drop]; omega

theorem splitOnF_ne_nil (sep : Bytes) : ∀ (f : Nat) (s : Bytes), splitOnF sep f s ≠ []
  | 0, _ => by simp [splitOnF]
  | f + 1, s => by
    simp only [splitOnF]
    split <;> simp

/-- `splitOnF` recurses on what follows the first occurrence, which is shorter: any fuel above the length will do -/
theorem splitOnF_fuel (sep : Bytes) (hsep : sep ≠ []) (f1 : Nat) : ∀ (f2 : Nat) (s : Bytes),
    s.length < f1 → s.length < f2 → splitOnF sep f1 s = splitOnF sep f2 s := by
  induction f1 with
  | zero => intro _ _ h; exact absurd h (Nat.not_lt_zero _)
  | succ f1 ih =>
    intro f2 s h1 h2
    cases f2 with
    | zero => exact absurd h2 (Nat.not_lt_zero _)
    | succ f2 =>
    simp only [splitOnF]
    cases hi : indexOf sep s with
    | none => rfl
    | some i =>
      have := drop_found_lt hsep hi
      simp only
      rw [ih f2 (s.drop (i + sep.length)) (by omega) (by omega)]

theorem fitsTokF_fuel (m : Nat) (sep : Bytes) (hsep : sep ≠ []) (f1 : Nat) : ∀ (f2 : Nat) (s : Bytes),
    s.length < f1 → s.length < f2 → fitsTokF m sep f1 s = fitsTokF m sep f2 s := by
  induction f1 with
  | zero => intro _ _ h; exact absurd h (Nat.not_lt_zero _)
  | succ f1 ih =>
    intro f2 s h1 h2
    cases f2 with
    | zero => exact absurd h2 (Nat.not_lt_zero _)
    | succ f2 =>
    simp only [fitsTokF]
    cases hi : indexOf sep s with
    | none => rfl
    | some i =>
      have := drop_found_lt hsep hi
      simp only
      rw [ih f2 (s.drop (i + sep.length)) (by omega) (by omega)]

theorem dropLastEmpty_cons (x : Bytes) (l : List Bytes) (h : l ≠ []) : dropLastEmpty (x :: l) = x :: dropLastEmpty l := by
  cases l with
  | nil => exact absurd rfl h
  | cons y r => rfl

theorem specLines_found (sep : Bytes) (hsep : sep ≠ []) (s : Bytes) (i : Nat) (h : indexOf sep s = some i) :
    specLines sep s = s.take i :: specLines sep (s.drop (i + sep.length)) := by
  unfold specLines splitOn
  rw [show splitOnF sep (s.length + 1) s = s.take i :: splitOnF sep s.length (s.drop (i + sep.length)) by
      simp only [splitOnF, h],
    dropLastEmpty_cons _ _ (splitOnF_ne_nil _ _ _),
    splitOnF_fuel sep hsep s.length _ _ (drop_found_lt hsep h) (Nat.lt_succ_self _)]

theorem specLines_none (sep s : Bytes) (h : indexOf sep s = none) :
    specLines sep s = if s.isEmpty then [] else [s] := by
  unfold specLines splitOn
  simp only [splitOnF, h, dropLastEmpty]

theorem fitsTok_found (m : Nat) (sep : Bytes) (hsep : sep ≠ []) (s : Bytes) (i : Nat) (h : indexOf sep s = some i) :
    fitsTok m sep s = (decide (i + sep.length ≤ m) && fitsTok m sep (s.drop (i + sep.length))) := by
  unfold fitsTok
  rw [show fitsTokF m sep (s.length + 1) s =
      (decide (i + sep.length ≤ m) && fitsTokF m sep s.length (s.drop (i + sep.length))) by simp only [fitsTokF, h],
    fitsTokF_fuel m sep hsep s.length _ _ (drop_found_lt hsep h) (Nat.lt_succ_self _)]

theorem fitsTok_none (m : Nat) (sep s : Bytes) (h : indexOf sep s = none) :
    fitsTok m sep s = decide (s.length < m) := by
  unfold fitsTok
  simp only [fitsTokF, h]

theorem specLines_window (sep : Bytes) (hsep : sep ≠ []) (win rest : Bytes) (i : Nat) (h : indexOf sep win = some i) :
    specLines sep (win ++ rest) = win.take i :: specLines sep (win.drop (i + sep.length) ++ rest) := by
  have hb := indexOf_bound sep win i h
  rw [specLines_found sep hsep _ i (indexOf_append sep hsep win rest i h),
    List.take_append_of_le_length (by omega), List.drop_append_of_le_length hb]

theorem fitsTok_window (m : Nat) (sep : Bytes) (hsep : sep ≠ []) (win rest : Bytes) (i : Nat)
    (h : indexOf sep win = some i) (hfit : fitsTok m sep (win ++ rest) = true) :
    fitsTok m sep (win.drop (i + sep.length) ++ rest) = true := by
  rw [fitsTok_found m sep hsep _ i (indexOf_append sep hsep win rest i h),
    List.drop_append_of_le_length (indexOf_bound sep win i h), Bool.and_eq_true] at hfit
  exact hfit.2

theorem fitsTok_window_lt (m : Nat) (sep : Bytes) (hsep : sep ≠ []) (win rest : Bytes)
    (hw : indexOf sep win = none) (hfit : fitsTok m sep (win ++ rest) = true) : win.length < m := by
  cases hi : indexOf sep (win ++ rest) with
  | some i =>
    rw [fitsTok_found m sep hsep _ i hi, Bool.and_eq_true, decide_eq_true_eq] at hfit
    have := window_lt sep hsep win rest i hw hi
    omega
  | none =>
    rw [fitsTok_none m sep _ hi, decide_eq_true_eq, List.length_append] at hfit
    omega

/-- "We cannot generate a token with what we are holding": the continuation `readMore` of `scanLoop` -/
def scanMore (split : Bytes → Bool → SplitRes) (m fuel : Nat) (rest : Bytes) (eof : Bool) (sched : List Nat)
    (acc : List Bytes) (win : Bytes) : ScanResult :=
  if eof then .tokens acc.reverse
  else if win.length ≥ m then .tooLong acc.reverse
  else match rest with
    | [] => scanLoop split m fuel win [] true sched acc
    | _ :: _ =>
      let k := min (sched.headD 0 + 1) (m - win.length)
      scanLoop split m fuel (win ++ rest.take k) (rest.drop k) false sched.tail acc

theorem scanLoop_succ (split : Bytes → Bool → SplitRes) (m fuel : Nat) (win rest : Bytes) (eof : Bool)
    (sched : List Nat) (acc : List Bytes) :
    scanLoop split m (fuel + 1) win rest eof sched acc =
      if !win.isEmpty || eof then
        if (split win eof).advance > win.length then .advanceTooFar acc.reverse
        else match (split win eof).token with
          | some t => scanLoop split m fuel (win.drop (split win eof).advance) rest eof sched (t :: acc)
          | none => scanMore split m fuel rest eof sched acc (win.drop (split win eof).advance)
      else scanMore split m fuel rest eof sched acc win := rfl

theorem splitFixed_eq (sep data : Bytes) (atEOF : Bool) :
    splitFixed sep data atEOF =
      if atEOF && data.isEmpty then ⟨0, none⟩
      else match indexOf sep data with
        | some i => ⟨i + sep.length, some (data.take i)⟩
        | none => if atEOF then ⟨data.length, some data⟩ else ⟨0, none⟩ := rfl

/-- what is left to do, which every turn of `scanLoop` lowers: a token drops at least one window byte (weight 2), a
    read moves at least one unread byte (weight 3) into the window (weight 2), the EOF read clears the last summand.
    On the initial state it is `3 * content.length + 1`, below `scanFuel content = 3 * content.length + 4`. -/
def scanMeasure (win rest : Bytes) (eof : Bool) : Nat :=
  2 * win.length + 3 * rest.length + (if eof then 0 else 1)

/-- the loop invariant, for any split function `g` that answers what `splitFixed sep` answers with every token sent
    through `f` (`bufio.ScanLines` is `splitFixed "\n"` with `dropCR`) -/
def ScanOK (sep : Bytes) (f : Bytes → Bytes) (g : Bytes → Bool → SplitRes) (m fuel : Nat) : Prop :=
  ∀ (win rest : Bytes) (eof : Bool) (sched : List Nat) (acc : List Bytes),
    (eof = true → rest = []) → scanMeasure win rest eof < fuel → fitsTok m sep (win ++ rest) = true →
    scanLoop g m fuel win rest eof sched acc = .tokens (acc.reverse ++ (specLines sep (win ++ rest)).map f)

theorem scanMore_fixed {sep : Bytes} (hsep : sep ≠ []) {f : Bytes → Bytes} {g : Bytes → Bool → SplitRes} {m fuel : Nat}
    (ih : ScanOK sep f g m fuel) (win rest : Bytes)
    (sched : List Nat) (acc : List Bytes) (hw : indexOf sep win = none)
    (hm : scanMeasure win rest false < fuel + 1) (hfit : fitsTok m sep (win ++ rest) = true) :
    scanMore g m fuel rest false sched acc win = .tokens (acc.reverse ++ (specLines sep (win ++ rest)).map f) := by
  have hlt := fitsTok_window_lt m sep hsep win rest hw hfit
  simp only [scanMeasure, Bool.false_eq_true, if_false] at hm
  unfold scanMore
  rw [if_neg Bool.false_ne_true, if_neg (by omega)]
  cases rest with
  | nil => exact ih win [] true sched acc (fun _ => rfl) (by simp only [scanMeasure, if_true]; omega) hfit
  | cons x xs =>
    simp only
    rw [ih _ _ false sched.tail acc (fun h => absurd h Bool.false_ne_true)
      (by simp only [scanMeasure, Bool.false_eq_true, if_false, List.length_append, List.length_take,
            List.length_drop, List.length_cons] at hm ⊢
          omega)
      (by rwa [List.append_assoc, List.take_append_drop]),
      List.append_assoc, List.take_append_drop]

theorem scanLoop_fixed (sep : Bytes) (hsep : sep ≠ []) (f : Bytes → Bytes) (g : Bytes → Bool → SplitRes)
    (hg : ∀ d e, g d e = ⟨(splitFixed sep d e).advance, (splitFixed sep d e).token.map f⟩) (m fuel : Nat) :
    ScanOK sep f g m fuel := by
  induction fuel with
  | zero => exact fun _ _ _ _ _ _ h _ => absurd h (Nat.not_lt_zero _)
  | succ fuel ih =>
    intro win rest eof sched acc heof hm hfit
    rw [scanLoop_succ, hg, splitFixed_eq]
    cases hi : indexOf sep win with
    | some i =>
      have hb := indexOf_bound sep win i hi
      have hl := List.length_pos_iff.mpr hsep
      have hne : win.isEmpty = false := by
        cases win with
        | nil => simp only [List.length_nil] at hb; omega
        | cons _ _ => rfl
      simp only [hne, Bool.not_false, Bool.true_or, Bool.and_false, Bool.false_eq_true, if_true, if_false, Option.map_some]
      rw [if_neg (by omega), ih _ _ eof sched _ heof
        (by simp only [scanMeasure, List.length_drop] at hm ⊢; omega) (fitsTok_window m sep hsep win rest i hi hfit),
        specLines_window sep hsep win rest i hi, List.map_cons, List.reverse_cons, List.append_assoc]
      rfl
    | none =>
      cases eof with
      | false =>
        -- no separator yet: read more (an empty window is not even shown to the split function)
        -- after `cases win` the goal shows the window as `[]` or as `(x :: xs).drop 0`: `this _ rfl` fits both
        have : ∀ w, w = win → scanMore g m fuel rest false sched acc w =
            .tokens (acc.reverse ++ (specLines sep (win ++ rest)).map f) :=
          fun w e => e ▸ scanMore_fixed hsep ih win rest sched acc hi hm hfit
        cases win <;> simp only [List.isEmpty_nil, List.isEmpty_cons, Bool.not_true, Bool.not_false, Bool.or_false,
          Bool.false_and, Bool.false_eq_true, if_true, if_false, Option.map_none] <;> exact this _ rfl
      | true =>
        have hr := heof rfl
        subst hr
        rw [List.append_nil, specLines_none sep win hi]
        cases win with
        | nil => simp [scanMore]
        | cons x xs =>
          simp only [List.isEmpty_cons, Bool.not_false, Bool.true_or, Bool.and_false, Bool.false_eq_true, if_true,
            if_false, Nat.lt_irrefl, List.drop_length, Option.map_some]
          rw [List.append_nil, fitsTok_none m sep _ hi, decide_eq_true_eq] at hfit
          rw [ih [] [] true sched _ (fun _ => rfl)
            (by simp only [scanMeasure, List.length_nil, List.length_cons, if_true] at hm ⊢; omega)
            (by rw [List.append_nil, fitsTok_none m sep _ (indexOf_nil sep hsep), decide_eq_true_eq]
                simp only [List.length_cons] at hfit; exact Nat.lt_of_le_of_lt (Nat.zero_le _) hfit),
            List.append_nil, specLines_none sep [] (indexOf_nil sep hsep), List.reverse_cons]
          exact congrArg _ (List.append_nil _)

theorem scanAll_fixed (sep : Bytes) (hsep : sep ≠ []) (f : Bytes → Bytes) (g : Bytes → Bool → SplitRes)
    (hg : ∀ d e, g d e = ⟨(splitFixed sep d e).advance, (splitFixed sep d e).token.map f⟩) (m : Nat)
    (content : Bytes) (sched : List Nat) (hfit : fitsTok m sep content = true) :
    scanAll g m content sched = .tokens ((specLines sep content).map f) :=
  scanLoop_fixed sep hsep f g hg m _ [] content false sched [] (fun h => absurd h Bool.false_ne_true)
    (by simp only [scanMeasure, scanFuel, List.length_nil, Bool.false_eq_true, if_false]; omega) hfit

theorem scanLines_eq (d : Bytes) (e : Bool) :
    scanLines d e = ⟨(splitFixed [10] d e).advance, (splitFixed [10] d e).token.map dropCR⟩ := by
  unfold scanLines
  rw [splitFixed_eq]
  split
  · rfl
  · cases indexOf [10] d with
    | some i => rfl
    | none => cases e <;> rfl

end Octo.Files
