import Octo.Model.StdinPreview
/-! stdin preview replay: the invariant `previewed ++ unread = original input`, and every preview reader sees a
    prefix of the input. -/
namespace Octo.Files

/-- one read keeps the invariant `previewed ++ unread = input`; and, `done` being the part of the replayed copy this
    session has already delivered, `done` followed by what this read delivers and by what is left of the copy is
    again `previewed`, so the reader sees a prefix of the input -/
theorem previewRead_inv (copy : BytesS) (st : StdinState) (req got : Nat) :
    (previewRead copy st req got).2.2.previewed ++ (previewRead copy st req got).2.2.unread
      = st.previewed ++ st.unread ∧
    ∀ done, done ++ copy = st.previewed →
      done ++ (previewRead copy st req got).1 ++ (previewRead copy st req got).2.1
        = (previewRead copy st req got).2.2.previewed := by
  unfold previewRead
  by_cases h0 : req = 0
  · rw [if_pos h0]
    exact ⟨rfl, fun done h => by simpa using h⟩
  rw [if_neg h0]
  by_cases hc : (!copy.isEmpty) = true
  · rw [if_pos hc]
    exact ⟨rfl, fun done h => by simp [List.append_assoc, List.take_append_drop, h]⟩
  · rw [if_neg hc]
    have : copy = [] := by simpa using hc
    subst this
    exact ⟨by simp [List.append_assoc, List.take_append_drop], fun done h => by simp [← h]⟩

theorem previewRead_prefix (copy : BytesS) (st : StdinState) (req got : Nat) (done : BytesS)
    (h : done ++ copy = st.previewed) :
    done ++ (previewRead copy st req got).1 ++ (previewRead copy st req got).2.1
      = (previewRead copy st req got).2.2.previewed :=
  (previewRead_inv copy st req got).2 done h

theorem previewReads_inv : ∀ (reads : List (Nat × Nat)) (copy : BytesS) (st : StdinState),
    (previewReads copy st reads).2.previewed ++ (previewReads copy st reads).2.unread = st.previewed ++ st.unread ∧
    ∀ done, done ++ copy = st.previewed →
      ∃ copy', done ++ (previewReads copy st reads).1 ++ copy' = (previewReads copy st reads).2.previewed := by
  intro reads
  induction reads with
  | nil => exact fun copy _ => ⟨rfl, fun done h => ⟨copy, by simpa [previewReads] using h⟩⟩
  | cons p rs ih =>
    intro copy st
    obtain ⟨req, got⟩ := p
    obtain ⟨h1, h2⟩ := previewRead_inv copy st req got
    obtain ⟨i1, i2⟩ := ih (previewRead copy st req got).2.1 (previewRead copy st req got).2.2
    refine ⟨by simp only [previewReads]; rw [i1, h1], fun done h => ?_⟩
    obtain ⟨c', hc'⟩ := i2 (done ++ (previewRead copy st req got).1) (h2 done h)
    exact ⟨c', by simpa [previewReads, List.append_assoc] using hc'⟩

theorem previewReads_prefix (reads : List (Nat × Nat)) (copy : BytesS) (st : StdinState) (done : BytesS)
    (h : done ++ copy = st.previewed) :
    ∃ copy', done ++ (previewReads copy st reads).1 ++ copy' = (previewReads copy st reads).2.previewed :=
  (previewReads_inv reads copy st).2 done h

theorem previewSessions_inv : ∀ (ss : List (List (Nat × Nat))) (st : StdinState),
    (previewSessions st ss).previewed ++ (previewSessions st ss).unread = st.previewed ++ st.unread
  | [], _ => rfl
  | s :: ss, st => by
    simp only [previewSessions]
    rw [previewSessions_inv ss]
    exact (previewReads_inv s st.previewed st).1

end Octo.Files
