import Octo.Lemmas.FsLemmas
/-!
  Every primitive step keeps a tree closed (every entry's parent is a directory). With this, the state left by a
  killed operation is again a legitimate starting state, so the crash theorems of C27 compose over sequences of
  (killed or completed) operations.
-/
namespace Octo.Plugins
open Octo.Fs

theorem closed_removeAll {fs : Fs} (h : Closed fs) (a : Path) : Closed (removeAll a fs) := by
  intro p x hp hs
  rw [get_removeAll] at hs ⊢
  split at hs
  · cases hs
  · next hn =>
    rw [if_neg fun hh => hn (isPre_concat_of_isPre x hh)]
    exact h p x hp hs

/-- a node may be put where the parent is a directory; a file only where no directory was (it could have children) -/
theorem closed_set {fs : Fs} (h : Closed fs) {q : Path} {n : Node}
    (hpar : ∀ p y, q = p ++ [y] → p ≠ [] → get fs p = some .dir) (hn : n = .dir ∨ get fs q ≠ some .dir) :
    Closed (set q n fs) := by
  intro p y hp hs
  rw [get_set] at hs ⊢
  by_cases he : q = p ++ [y]
  · rw [if_neg (he ▸ concat_ne_self p y)]; exact hpar p y he hp
  · rw [if_neg he] at hs
    have hd := h p y hp hs
    by_cases hq : q = p
    · rcases hn with rfl | hn
      · rw [if_pos hq]
      · exact absurd (hq ▸ hd) hn
    · rw [if_neg hq]; exact hd

theorem closed_mkdirFrom {pre rest : Path} {fs fs' : Fs} (h : Closed fs) (hpre : pre = [] ∨ get fs pre = some .dir)
    (hm : mkdirFrom pre rest fs = .ok fs') : Closed fs' := by
  induction rest generalizing pre fs with
  | nil => simp only [mkdirFrom] at hm; cases hm; exact h
  | cons x rest ih =>
    simp only [mkdirFrom] at hm
    split at hm
    · cases hm
    · next hd => exact ih h (Or.inr hd) hm
    · refine ih (closed_set h (fun p y he hp => ?_) (Or.inl rfl)) (Or.inr (by rw [get_set, if_pos rfl])) hm
      cases (List.append_inj' he rfl).1
      exact hpre.resolve_left hp

theorem closed_create {p : Path} {fs fs' : Fs} (h : Closed fs) (hc : create p fs = .ok fs') : Closed fs' := by
  obtain ⟨hpar, hnd, rfl⟩ := create_ok hc
  exact closed_set h (fun _ _ he hp => parentIsDir_spec (he ▸ hpar) hp) (Or.inr hnd)

theorem closed_append {p : Path} {bs : Bytes} {fs fs' : Fs} (h : Closed fs) (ha : append p bs fs = .ok fs') : Closed fs' := by
  obtain ⟨c, hc, rfl⟩ := append_ok ha
  exact closed_set h (fun q y he hq => h q y hq (by rw [← he, hc]; rfl)) (Or.inr (by rw [hc]; exact fun hh => nomatch hh))

theorem closed_erase {fs : Fs} (h : Closed fs) {p : Path} (hleaf : p ≠ [] → ∀ y, get fs (p ++ [y]) = none) :
    Closed (erase p fs) := by
  intro q y hq hs
  rw [get_erase] at hs ⊢
  split at hs
  · cases hs
  · have hd := h q y hq hs
    have : ¬ (q = p) := by
      intro hh; subst hh; rw [hleaf hq y] at hs; cases hs
    simp only [this, if_false]; exact hd

theorem no_children_of_file {fs : Fs} (h : Closed fs) {p : Path} {c : Bytes} (hc : get fs p = some (.file c))
    (hp : p ≠ []) (y : FName) : get fs (p ++ [y]) = none := by
  cases hg : get fs (p ++ [y]) with
  | none => rfl
  | some n => have := h p y hp (by rw [hg]; rfl); rw [hc] at this; cases this

theorem closed_remove {p : Path} {fs fs' : Fs} (h : Closed fs) (hr : remove p fs = .ok fs') : Closed fs' := by
  obtain ⟨hsome, hleaf, rfl⟩ := remove_ok hr
  apply closed_erase h
  intro hp y
  cases hg : get fs p with
  | none => rw [hg] at hsome; cases hsome
  | some n =>
    cases n with
    | dir => exact no_children_of (hleaf hg) y
    | file c => exact no_children_of_file h hg hp y

theorem closed_rename {a b : Path} {fs fs' : Fs} (h : Closed fs) (hr : rename a b fs = .ok fs') : Closed fs' := by
  obtain ⟨hab, hba, hpar, ⟨c, hc, hnd, rfl⟩ | ⟨hd, hfree, rfl⟩⟩ := rename_ok hr
  · refine closed_set (closed_erase h fun ha => no_children_of_file h hc ha) (fun p y he hp => ?_) (Or.inr ?_)
    · -- the parent of `b` is a directory, so it is not the file `a` that went away
      have hd := parentIsDir_spec (he ▸ hpar) hp
      rw [get_erase, if_neg fun hh => by rw [hh, hc] at hd; cases hd]; exact hd
    · rw [get_erase, if_neg (ne_of_isPre_eq_false hba)]; exact hnd
  · have G := fun q => get_map_reroot (a := a) hfree q
    have same : ∀ p, isPre b p = false → isPre a p = false → get (fs.map (reroot a b)) p = get fs p :=
      fun p h1 h2 => by rw [G, h1, h2]; rfl
    intro p y hp hs
    by_cases hb : isPre b (p ++ [y]) = true
    · rcases pre_concat hb with he | hbp
      · -- the entry is `b` itself: its parent is the old parent of `b`
        -- `p` is shorter than `b`, so not below it; and if it were below `a`, so would `b` be
        have hbp : isPre b p = false := Bool.eq_false_iff.2 fun hh => by
          have := isPre_len hh
          rw [he, List.length_append] at this
          exact absurd this (by simp)
        have hap : isPre a p = false := Bool.eq_false_iff.2 fun hh => by
          rw [he, isPre_concat_of_isPre y hh] at hab; cases hab
        rw [same p hbp hap]
        exact parentIsDir_spec (he ▸ hpar) hp
      · -- below `b`: what was below `a`
        obtain ⟨t, rfl⟩ := isPre_iff.1 hbp
        rw [G, if_pos hb, List.append_assoc, List.drop_left, ← List.append_assoc] at hs
        rw [G, if_pos hbp, List.drop_left]
        exact h (a ++ t) y (fun hh => by rw [(List.append_eq_nil_iff.1 hh).1] at hab; cases hab) hs
    · rw [G, if_neg hb] at hs
      split at hs
      · cases hs
      · next ha =>
        rw [same p (Bool.eq_false_iff.2 fun hh => hb (isPre_concat_of_isPre y hh))
          (Bool.eq_false_iff.2 fun hh => ha (isPre_concat_of_isPre y hh))]
        exact h p y hp hs

theorem closed_apply {p : Prim} {fs fs' : Fs} (h : Closed fs) (hp : p.apply fs = .ok fs') : Closed fs' := by
  cases p with
  | removeAll a => cases hp; exact closed_removeAll h a
  | mkdirAll a => exact closed_mkdirFrom h (Or.inl rfl) hp
  | create a => exact closed_create h hp
  | append a bs => exact closed_append h hp
  | remove a => exact closed_remove h hp
  | rename a b => exact closed_rename h hp
  | renameIfExists a b => exact (renameIfExists_ok hp).elim (fun h' => h'.2 ▸ h) fun h' => closed_rename h h'.2

theorem closed_crashed {ps : List Prim} {fs s : Fs} (h : Closed fs) (hs : Crashed ps fs s) : Closed s := by
  induction hs with
  | stop => exact h
  | torn n ha => exact closed_append h ha
  | step hp _ ih => exact ih (closed_apply h hp)

theorem closed_crash {ps : List Prim} {fs : Fs} (h : Closed fs) (k t : Nat) : Closed (crash k t ps fs) :=
  closed_crashed h (crashed_crash k t ps fs)

end Octo.Plugins
