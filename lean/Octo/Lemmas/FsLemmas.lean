import Octo.Model.Fs
/-!
  The crash-safety proofs (C27) see the file-system model through `get` only: what each primitive step does to `get`,
  and `children`/`readDir` in terms of `get`. A kill is reasoned about through the relation `Crashed`, not through the
  step count and tear of `crash`.
-/
namespace Octo.Fs

theorem isPre_iff {p q : Path} : isPre p q = true ↔ ∃ t, q = p ++ t := by
  simp only [isPre, List.isPrefixOf_iff_prefix]
  exact ⟨fun ⟨t, h⟩ => ⟨t, h.symm⟩, fun ⟨t, h⟩ => ⟨t, h.symm⟩⟩

theorem isPre_refl (p : Path) : isPre p p = true := isPre_iff.2 ⟨[], by simp⟩

theorem isPre_append (p t : Path) : isPre p (p ++ t) = true := isPre_iff.2 ⟨t, rfl⟩

theorem isPre_trans {p q r : Path} (h1 : isPre p q = true) (h2 : isPre q r = true) : isPre p r = true := by
  obtain ⟨t, rfl⟩ := isPre_iff.1 h1
  obtain ⟨u, rfl⟩ := isPre_iff.1 h2
  exact isPre_iff.2 ⟨t ++ u, by simp⟩

theorem isPre_concat_of_isPre {a p : Path} (y : FName) (h : isPre a p = true) : isPre a (p ++ [y]) = true :=
  isPre_trans h (isPre_append p [y])

theorem concat_ne_self (p : Path) (y : FName) : p ++ [y] ≠ p := by simp

theorem ne_of_isPre_eq_false {a q : Path} (h : isPre a q = false) : a ≠ q := by
  rintro rfl; rw [isPre_refl] at h; cases h

theorem isPre_len {p q : Path} (h : isPre p q = true) : p.length ≤ q.length := by
  obtain ⟨t, rfl⟩ := isPre_iff.1 h; simp

theorem isPre_eq_of_len {p q : Path} (h : isPre p q = true) (hl : p.length = q.length) : p = q := by
  obtain ⟨t, rfl⟩ := isPre_iff.1 h
  simp at hl
  simp [hl]

theorem pre_concat {b p : Path} {y : FName} (h : isPre b (p ++ [y]) = true) : b = p ++ [y] ∨ isPre b p = true := by
  rcases List.prefix_concat_iff.1 (List.isPrefixOf_iff_prefix.1 h) with h' | h'
  · exact Or.inl h'
  · exact Or.inr (List.isPrefixOf_iff_prefix.2 h')

theorem get_cons (q : Path) (n : Node) (fs : Fs) (p : Path) :
    get ((q, n) :: fs) p = if q = p then some n else get fs p := rfl

theorem get_set (p : Path) (n : Node) (fs : Fs) (q : Path) :
    get (set p n fs) q = if p = q then some n else get fs q := rfl

theorem get_filter (k : Path → Bool) (fs : Fs) (q : Path) :
    get (fs.filter (fun e => k e.1)) q = if k q = true then get fs q else none := by
  induction fs with
  | nil => simp [get]
  | cons e rest ih =>
    obtain ⟨p, n⟩ := e
    by_cases hpq : p = q
    · subst hpq; cases hk : k p <;> simp [hk, get_cons, ih]
    · cases hk : k p <;> simp [hk, get_cons, hpq, ih]

theorem get_erase (p : Path) (fs : Fs) (q : Path) : get (erase p fs) q = if q = p then none else get fs q := by
  rw [erase, get_filter fun x => !decide (x = p)]
  by_cases h : q = p <;> simp [h]

theorem get_removeAll (p : Path) (fs : Fs) (q : Path) :
    get (removeAll p fs) q = if isPre p q = true then none else get fs q := by
  rw [removeAll, get_filter fun x => !isPre p x]
  by_cases h : isPre p q = true <;> simp [h]

theorem get_isSome_iff {fs : Fs} {q : Path} : (get fs q).isSome = true ↔ ∃ e ∈ fs, e.1 = q := by
  induction fs with
  | nil => simp [get]
  | cons e rest ih =>
    obtain ⟨p, n⟩ := e
    by_cases hpq : p = q
    · subst hpq; simp [get_cons]
    · simp only [get_cons, hpq, if_false, ih, List.mem_cons, or_and_right, exists_or, exists_eq_left, false_or]

theorem get_eq_none_iff {fs : Fs} {q : Path} : get fs q = none ↔ ∀ e ∈ fs, e.1 ≠ q := by
  rw [← Option.not_isSome_iff_eq_none, get_isSome_iff]
  exact ⟨fun h e he hq => h ⟨e, he, hq⟩, fun h ⟨e, he, hq⟩ => h e he hq⟩

theorem no_children_of {fs : Fs} {p : Path} (h : hasChildren fs p = false) (y : FName) : get fs (p ++ [y]) = none := by
  rw [get_eq_none_iff]
  intro e he heq
  have : hasChildren fs p = true := by
    simp only [hasChildren, List.any_eq_true]
    refine ⟨e, he, ?_⟩
    rw [heq]
    simp only [isPre_append, Bool.true_and, Bool.not_eq_true', decide_eq_false_iff_not]
    exact concat_ne_self p y
  rw [h] at this; cases this

theorem reroot_fst_of_pre {a b : Path} {e : Path × Node} (h : isPre a e.1 = true) :
    (reroot a b e).1 = b ++ e.1.drop a.length := by simp [reroot, h]

theorem reroot_of_not_pre {a b : Path} {e : Path × Node} (h : isPre a e.1 = false) : reroot a b e = e := by
  simp [reroot, h]

/-- where an entry at `p` (not below the target `b`) ends up: the new path is `q` iff `p` is the path `q` comes from -/
theorem reroot_fst_eq_iff {a b p q : Path} (n : Node) (hbp : isPre b p = false) :
    (reroot a b (p, n)).1 = q ↔
      if isPre b q = true then p = a ++ q.drop b.length else isPre a q = false ∧ p = q := by
  by_cases hap : isPre a p = true
  · obtain ⟨t, rfl⟩ := isPre_iff.1 hap
    rw [reroot_fst_of_pre hap, List.drop_left]
    constructor
    · rintro rfl; rw [if_pos (isPre_append b t), List.drop_left]
    · intro h
      split at h
      · next hbq => obtain ⟨u, rfl⟩ := isPre_iff.1 hbq; rw [List.drop_left] at h; rw [List.append_cancel_left h]
      · rw [← h.2, hap] at h; cases h.1
  · rw [reroot_of_not_pre (Bool.eq_false_iff.2 hap)]
    constructor
    · rintro rfl; rw [if_neg (Bool.eq_false_iff.1 hbp)]; exact ⟨Bool.eq_false_iff.2 hap, rfl⟩
    · intro h
      split at h
      · exact absurd (h ▸ isPre_append a _) hap
      · exact h.2

theorem get_map_reroot {a b : Path} {fs : Fs} (hfree : ∀ e ∈ fs, isPre b e.1 = false) (q : Path) :
    get (fs.map (reroot a b)) q =
      if isPre b q = true then get fs (a ++ q.drop b.length)
      else if isPre a q = true then none else get fs q := by
  induction fs with
  | nil => simp [get]
  | cons e rest ih =>
    obtain ⟨p, n⟩ := e
    have key := reroot_fst_eq_iff (a := a) (q := q) n (hfree (p, n) (.head _))
    have h2 : (reroot a b (p, n)).2 = n := by unfold reroot; split <;> rfl
    rw [List.map_cons, get_cons (reroot a b (p, n)).1 (reroot a b (p, n)).2, h2, ih fun e he => hfree e (.tail _ he), get_cons, get_cons]
    by_cases hbq : isPre b q = true
    · rw [if_pos hbq] at key
      rw [if_pos hbq, if_pos hbq]; simp only [key]
    · rw [if_neg hbq] at key
      rw [if_neg hbq, if_neg hbq]
      by_cases haq : isPre a q = true
      · rw [if_pos haq, if_pos haq, if_neg]
        rw [key, haq]; exact fun h => nomatch h.1
      · rw [if_neg haq, if_neg haq]; simp only [key, Bool.eq_false_iff.2 haq, true_and]

theorem mem_sinsert {x y : FName} {l : List FName} : y ∈ sinsert x l ↔ y = x ∨ y ∈ l := by
  induction l with
  | nil => simp [sinsert]
  | cons z zs ih =>
    simp only [sinsert]
    split
    · next h => subst h; simp
    · split
      · simp
      · simp only [List.mem_cons, ih, or_left_comm]

theorem mem_foldr_sinsert {y : FName} {l : List FName} : y ∈ l.foldr sinsert [] ↔ y ∈ l := by
  induction l with
  | nil => simp
  | cons z zs ih => simp [mem_sinsert, ih]

theorem childName?_eq_some {p q : Path} {x : FName} : childName? p q = some x ↔ q = p ++ [x] := by
  simp only [childName?]
  constructor
  · intro h
    split at h
    · next hp =>
      obtain ⟨t, rfl⟩ := isPre_iff.1 hp
      simp only [List.drop_left] at h
      match t, h with
      | [y], h => simp at h; subst h; rfl
    · cases h
  · rintro rfl
    simp [isPre_append]

theorem mem_children {fs : Fs} {p : Path} {x : FName} : x ∈ children fs p ↔ (get fs (p ++ [x])).isSome = true := by
  simp only [children, mem_foldr_sinsert, List.mem_filterMap, get_isSome_iff, childName?_eq_some]

theorem readDir_ok_iff {fs : Fs} {p : Path} {ns : List FName} :
    readDir fs p = .ok ns ↔ get fs p = some .dir ∧ ns = children fs p := by
  simp only [readDir]
  split
  · simp_all
  · simp_all
  · next h => simp [h]; constructor <;> (intro h'; exact h'.symm)

theorem readDir_error {fs : Fs} {p : Path} {e : FsErr} (h : readDir fs p = .error e) :
    (e = .notExist ∧ get fs p = none) ∨ (e = .notDir ∧ ∃ c, get fs p = some (.file c)) := by
  simp only [readDir] at h
  split at h
  · next hn => cases h; exact Or.inl ⟨rfl, hn⟩
  · next c hc => cases h; exact Or.inr ⟨rfl, c, hc⟩
  · cases h

theorem readDir_notExist_iff {fs : Fs} {p : Path} : readDir fs p = .error .notExist ↔ get fs p = none := by
  simp only [readDir]
  split <;> simp_all

/-- `rw` and `simp` do not find this `match` pattern inside a definition: use the lemma as a term (`Iff.trans`, `:=`) -/
theorem readDir_then {ε α : Type} {fs : Fs} {p : Path} {e : ε} {f : List FName → Except ε α} {y : α} :
    (match readDir fs p with | .error _ => (.error e : Except ε α) | .ok ns => f ns) = .ok y ↔
      get fs p = some .dir ∧ f (children fs p) = .ok y := by
  cases hrd : readDir fs p with
  | error e' => rcases readDir_error hrd with ⟨_, hg⟩ | ⟨_, c, hg⟩ <;> simp [hg]
  | ok ns => obtain ⟨hdir, rfl⟩ := readDir_ok_iff.1 hrd; simp [hdir]

theorem readDir_orEmpty_then {ε α : Type} {fs : Fs} {p : Path} {e : ε} {d : α} {f : List FName → Except ε α} {y : α} :
    (match readDir fs p with
      | .error .notExist => (.ok d : Except ε α)
      | .error _ => .error e
      | .ok ns => f ns) = .ok y ↔
      (get fs p = none ∧ d = y) ∨ (get fs p = some .dir ∧ f (children fs p) = .ok y) := by
  cases hrd : readDir fs p with
  | error e' => rcases readDir_error hrd with ⟨rfl, hg⟩ | ⟨rfl, c, hg⟩ <;> simp [hg]
  | ok ns => obtain ⟨hdir, rfl⟩ := readDir_ok_iff.1 hrd; simp [hdir]

theorem parentIsDir_spec {fs : Fs} {p : Path} {y : FName} (h : parentIsDir fs (p ++ [y]) = true) (hp : p ≠ []) :
    get fs p = some .dir := by
  simp only [parentIsDir, List.dropLast_concat] at h
  cases p with
  | nil => exact absurd rfl hp
  | cons a as => simpa using h

theorem create_ok {p : Path} {fs fs' : Fs} (h : create p fs = .ok fs') :
    parentIsDir fs p = true ∧ get fs p ≠ some .dir ∧ fs' = set p (.file []) fs := by
  simp only [create] at h
  split at h
  · cases h
  · next hpar =>
    split at h
    · cases h
    · next hnd => cases h; exact ⟨by simpa using hpar, fun hh => hnd hh, rfl⟩

theorem append_ok {p : Path} {bs : Bytes} {fs fs' : Fs} (h : append p bs fs = .ok fs') :
    ∃ c, get fs p = some (.file c) ∧ fs' = set p (.file (c ++ bs)) fs := by
  simp only [append] at h
  split at h
  · next c hc => cases h; exact ⟨c, hc, rfl⟩
  · cases h
  · cases h

theorem remove_ok {p : Path} {fs fs' : Fs} (h : remove p fs = .ok fs') :
    (get fs p).isSome = true ∧ (get fs p = some .dir → hasChildren fs p = false) ∧ fs' = erase p fs := by
  simp only [remove] at h
  split at h
  · cases h
  · next c hc => cases h; exact ⟨by rw [hc]; rfl, fun hd => (by rw [hc] at hd; cases hd), rfl⟩
  · next hd =>
    split at h
    · cases h
    · next hch => cases h; exact ⟨by rw [hd]; rfl, fun _ => by simpa using hch, rfl⟩

theorem rename_ok {a b : Path} {fs fs' : Fs} (h : rename a b fs = .ok fs') :
    isPre a b = false ∧ isPre b a = false ∧ parentIsDir fs b = true ∧
    ((∃ c, get fs a = some (.file c) ∧ get fs b ≠ some .dir ∧ fs' = set b (.file c) (erase a fs)) ∨
     (get fs a = some .dir ∧ (∀ e ∈ fs, isPre b e.1 = false) ∧ fs' = fs.map (reroot a b))) := by
  simp only [rename] at h
  by_cases hpre : (isPre a b || isPre b a) = true
  · rw [if_pos hpre] at h; cases h
  by_cases hpar : (!parentIsDir fs b) = true
  · rw [if_neg hpre, if_pos hpar] at h; cases h
  rw [if_neg hpre, if_neg hpar] at h
  simp only [Bool.or_eq_true, not_or, Bool.not_eq_true] at hpre
  refine ⟨hpre.1, hpre.2, by simpa using hpar, ?_⟩
  split at h
  · cases h
  · next c hc =>
    split at h
    · cases h
    · next hnd => cases h; exact Or.inl ⟨c, hc, fun hh => hnd hh, rfl⟩
  · next hd =>
    by_cases hany : fs.any (fun e => isPre b e.1) = true
    · rw [if_pos hany] at h; cases h
    · rw [if_neg hany] at h; cases h
      exact Or.inr ⟨hd, fun e he => Bool.eq_false_iff.2 fun hbe => hany (List.any_eq_true.2 ⟨e, he, hbe⟩), rfl⟩

theorem renameIfExists_ok {a b : Path} {fs fs' : Fs} (h : renameIfExists a b fs = .ok fs') :
    (get fs a = none ∧ fs' = fs) ∨ ((get fs a).isSome = true ∧ rename a b fs = .ok fs') := by
  rw [renameIfExists] at h
  split at h
  · next hn => cases h; exact Or.inl ⟨hn, rfl⟩
  · next hs => exact Or.inr ⟨by rw [hs]; rfl, h⟩

theorem get_mkdirFrom {pre rest : Path} {fs fs' : Fs} (h : mkdirFrom pre rest fs = .ok fs') (q : Path) :
    get fs' q = get fs q ∨ (get fs q = none ∧ get fs' q = some .dir ∧ isPre q (pre ++ rest) = true ∧ q ≠ []) := by
  induction rest generalizing pre fs with
  | nil => simp only [mkdirFrom] at h; cases h; exact Or.inl rfl
  | cons x rest ih =>
    simp only [mkdirFrom] at h
    rw [show pre ++ x :: rest = (pre ++ [x]) ++ rest by simp]
    split at h
    · cases h
    · exact ih h
    · next hnone =>
      by_cases hq : pre ++ [x] = q
      · subst hq
        rcases ih h with h' | ⟨h1, _⟩
        · exact Or.inr ⟨hnone, by rw [h', get_set, if_pos rfl], isPre_append _ _, by simp⟩
        · rw [get_set, if_pos rfl] at h1; cases h1
      · have := ih h
        rwa [get_set, if_neg hq] at this

theorem get_mkdirAll {p : Path} {fs fs' : Fs} (h : mkdirAll p fs = .ok fs') (q : Path) :
    get fs' q = get fs q ∨ (get fs q = none ∧ get fs' q = some .dir ∧ isPre q p = true ∧ q ≠ []) :=
  get_mkdirFrom (pre := []) h q

/-- `q` is in `fs'` what it is in `fs`, or it is an ancestor of `D` that `fs` did not have and that is a directory in
    `fs'`: all that `MkdirAll` of a path below `D` can do above `D` -/
def SameOrNewDir (D : Path) (fs fs' : Fs) (q : Path) : Prop :=
  get fs' q = get fs q ∨ (isPre q D = true ∧ get fs q = none ∧ get fs' q = some .dir)

theorem SameOrNewDir.trans {D : Path} {a b c : Fs} {q : Path} (h1 : SameOrNewDir D a b q) (h2 : SameOrNewDir D b c q) :
    SameOrNewDir D a c q := by
  rcases h2 with e | ⟨hD, hn, hd⟩
  · exact h1.imp e.trans fun ⟨hD, hn, hd⟩ => ⟨hD, hn, e.trans hd⟩
  · rcases h1 with e | ⟨_, _, hdir⟩
    · exact Or.inr ⟨hD, e ▸ hn, hd⟩
    · rw [hn] at hdir; cases hdir

theorem SameOrNewDir.eq_of_not_pre {D : Path} {fs fs' : Fs} {q : Path} (h : SameOrNewDir D fs fs' q)
    (hD : isPre q D = false) : get fs' q = get fs q :=
  h.resolve_right fun h' => by rw [hD] at h'; cases h'.1

theorem SameOrNewDir.dir {D : Path} {fs fs' : Fs} {q : Path} (h : SameOrNewDir D fs fs' q)
    (hd : get fs q = some .dir) : get fs' q = some .dir := by
  rcases h with e | ⟨_, hn, _⟩
  · rw [e]; exact hd
  · rw [hn] at hd; cases hd

theorem get_create {p : Path} {fs fs' : Fs} (h : create p fs = .ok fs') (q : Path) :
    get fs' q = if p = q then some (.file []) else get fs q := by
  obtain ⟨_, _, rfl⟩ := create_ok h; rfl

theorem get_append_of_ne {p : Path} {bs : Bytes} {fs fs' : Fs} (h : append p bs fs = .ok fs') (q : Path) :
    q ≠ p → get fs' q = get fs q := by
  obtain ⟨c, _, rfl⟩ := append_ok h
  intro hq; rw [get_set, if_neg (Ne.symm hq)]

theorem get_append_self {p : Path} {bs : Bytes} {fs fs' : Fs} (h : append p bs fs = .ok fs') :
    ∃ c, get fs p = some (.file c) ∧ get fs' p = some (.file (c ++ bs)) := by
  obtain ⟨c, hc, rfl⟩ := append_ok h
  exact ⟨c, hc, by rw [get_set, if_pos rfl]⟩

theorem get_remove {p : Path} {fs fs' : Fs} (h : remove p fs = .ok fs') (q : Path) :
    get fs' q = if q = p then none else get fs q := by
  obtain ⟨_, _, rfl⟩ := remove_ok h; exact get_erase p fs q

theorem get_rename_of_not_below {a b : Path} {fs fs' : Fs} (h : rename a b fs = .ok fs') (q : Path)
    (haq : isPre a q = false) (hbq : isPre b q = false) : get fs' q = get fs q := by
  obtain ⟨_, _, _, ⟨c, _, _, rfl⟩ | ⟨_, hfree, rfl⟩⟩ := rename_ok h
  · rw [get_set, if_neg (ne_of_isPre_eq_false hbq), get_erase, if_neg (ne_of_isPre_eq_false haq).symm]
  · rw [get_map_reroot hfree, hbq, haq]; rfl

theorem get_rename_dir {a b : Path} {fs fs' : Fs} (h : rename a b fs = .ok fs') (hd : get fs a = some .dir) (t : Path) :
    get fs' (b ++ t) = get fs (a ++ t) := by
  obtain ⟨_, _, _, ⟨c, hc, _⟩ | ⟨_, hfree, rfl⟩⟩ := rename_ok h
  · rw [hc] at hd; cases hd
  · rw [get_map_reroot hfree, isPre_append, if_pos rfl, List.drop_left]

theorem rename_src_isSome {a b : Path} {fs fs' : Fs} (h : rename a b fs = .ok fs') : (get fs a).isSome = true := by
  obtain ⟨_, _, _, ⟨c, hc, _⟩ | ⟨hd, _⟩⟩ := rename_ok h
  · rw [hc]; rfl
  · rw [hd]; rfl

theorem get_rename_src {a b : Path} {fs fs' : Fs} (h : rename a b fs = .ok fs') : get fs' a = none := by
  obtain ⟨hab, hba, _, ⟨c, _, _, rfl⟩ | ⟨_, hfree, rfl⟩⟩ := rename_ok h
  · rw [get_set, if_neg (ne_of_isPre_eq_false hba), get_erase, if_pos rfl]
  · rw [get_map_reroot hfree, hba, isPre_refl]; rfl

theorem get_rename_file {a b : Path} {fs fs' : Fs} {c : Bytes} (h : rename a b fs = .ok fs')
    (ha : get fs a = some (.file c)) (q : Path) :
    get fs' q = if b = q then some (.file c) else if q = a then none else get fs q := by
  obtain ⟨_, _, _, ⟨c', hc', _, rfl⟩ | ⟨hd, _⟩⟩ := rename_ok h
  · rw [ha] at hc'; cases hc'; rw [get_set, get_erase]
  · rw [ha] at hd; cases hd

theorem rename_dst_isSome {a b : Path} {fs fs' : Fs} (h : rename a b fs = .ok fs') : (get fs' b).isSome = true := by
  obtain ⟨_, _, _, ⟨c, hc, _⟩ | ⟨hd, _⟩⟩ := rename_ok h
  · rw [get_rename_file h hc, if_pos rfl]; rfl
  · rw [← List.append_nil b, get_rename_dir h hd, List.append_nil, hd]; rfl

theorem run_nil (fs : Fs) : run [] fs = fs := rfl

theorem run_cons_ok {p : Prim} {ps : List Prim} {fs fs' : Fs} (h : p.apply fs = .ok fs') :
    run (p :: ps) fs = run ps fs' := by simp [run, h]

theorem run_cons_err {p : Prim} {ps : List Prim} {fs : Fs} {e : FsErr} (h : p.apply fs = .error e) :
    run (p :: ps) fs = fs := by simp [run, h]

theorem run_append (xs ys : List Prim) (fs : Fs) :
    run (xs ++ ys) fs = run xs fs ∨ run (xs ++ ys) fs = run ys (run xs fs) := by
  induction xs generalizing fs with
  | nil => exact Or.inr rfl
  | cons p ps ih =>
    cases hp : p.apply fs with
    | error e => exact Or.inl (by rw [List.cons_append, run_cons_err hp, run_cons_err hp])
    | ok s => rw [List.cons_append, run_cons_ok hp, run_cons_ok hp]; exact ih s

theorem crashPrims_of_le {xs : List Prim} {k : Nat} (t : Nat) (h : xs.length ≤ k) : crashPrims k t xs = xs := by
  simp [crashPrims, List.take_of_length_le h, List.getElem?_eq_none h]

theorem crashPrims_cons_zero (t : Nat) (p : Prim) (ps : List Prim) : crashPrims 0 t (p :: ps) = tearPrim t p := by
  simp [crashPrims]

theorem crashPrims_cons_succ (k t : Nat) (p : Prim) (ps : List Prim) :
    crashPrims (k + 1) t (p :: ps) = p :: crashPrims k t ps := by
  simp [crashPrims]

theorem crashPrims_append_lt {xs ys : List Prim} {k : Nat} (t : Nat) (h : k < xs.length) :
    crashPrims k t (xs ++ ys) = crashPrims k t xs := by
  simp only [crashPrims, List.take_append, List.getElem?_append_left h]
  have : k - xs.length = 0 := by omega
  simp [this]

theorem crashPrims_append_ge {xs ys : List Prim} {k : Nat} (t : Nat) (h : xs.length ≤ k) :
    crashPrims k t (xs ++ ys) = xs ++ crashPrims (k - xs.length) t ys := by
  simp only [crashPrims, List.take_append, List.getElem?_append_right h, List.take_of_length_le h, List.append_assoc]

theorem run_eq_crash (ps : List Prim) (fs : Fs) : run ps fs = crash ps.length 0 ps fs := by
  rw [crash, crashPrims_of_le 0 (Nat.le_refl _)]

/-- `Crashed ps fs s`: running `ps` from `fs` can be killed in state `s`. `stop` stands for three things: the next step
    has not taken effect, a step failed and ended the run, the run is over.
    The relation is wider than `fun s => ∃ k t, s = crash k t ps fs`: in front of a write, `stop` gives `fs` itself,
    where `crash k 0` conses the entry of an empty `append` (same `get`, another list). Only `crashed_crash` is needed:
    what holds of all `Crashed` states holds of the `crash k t` states. -/
inductive Crashed : List Prim → Fs → Fs → Prop
  | stop {ps : List Prim} {fs : Fs} : Crashed ps fs fs
  | torn {a : Path} {bs : Bytes} {ps : List Prim} {fs s : Fs} (n : Nat) :
      append a (bs.take n) fs = .ok s → Crashed (.append a bs :: ps) fs s
  | step {p : Prim} {ps : List Prim} {fs fs' s : Fs} : p.apply fs = .ok fs' → Crashed ps fs' s → Crashed (p :: ps) fs s

theorem crashed_crash (k t : Nat) (ps : List Prim) (fs : Fs) : Crashed ps fs (crash k t ps fs) := by
  induction ps generalizing k fs with
  | nil => rw [crash, crashPrims_of_le t (Nat.zero_le _)]; exact .stop
  | cons p ps ih =>
    cases k with
    | zero =>
      -- killed during `p`: a torn write, or nothing
      rw [crash, crashPrims_cons_zero]
      cases p with
      | append a bs =>
        cases ha : append a (bs.take t) fs with
        | ok s => rw [tearPrim, run_cons_ok (p := .append a (bs.take t)) ha]; exact .torn t ha
        | error e => rw [tearPrim, run_cons_err (p := .append a (bs.take t)) ha]; exact .stop
      | _ => exact .stop
    | succ k =>
      cases hp : p.apply fs with
      | error e' => rw [crash, crashPrims_cons_succ, run_cons_err hp]; exact .stop
      | ok fs' => rw [crash, crashPrims_cons_succ, run_cons_ok hp]; exact .step hp (ih k fs')

theorem crashed_run (ps : List Prim) (fs : Fs) : Crashed ps fs (run ps fs) := run_eq_crash ps fs ▸ crashed_crash _ 0 ps fs

theorem Crashed.append_cases {xs ys : List Prim} {fs s : Fs} (h : Crashed (xs ++ ys) fs s) :
    Crashed xs fs s ∨ (run (xs ++ ys) fs = run ys (run xs fs) ∧ Crashed ys (run xs fs) s) := by
  induction xs generalizing fs with
  | nil => exact Or.inr ⟨rfl, h⟩
  | cons p ps ih =>
    cases h with
    | stop => exact Or.inl (.stop)
    | torn n ha => exact Or.inl (.torn n ha)
    | step hp h =>
      rw [List.cons_append, run_cons_ok hp, run_cons_ok hp]
      exact (ih h).imp (.step hp) id

end Octo.Fs

namespace Octo.Plugins
open Octo.Fs

/-- every entry's parent is a directory (true of any real tree) -/
def Closed (fs : Fs) : Prop := ∀ p x, p ≠ [] → (get fs (p ++ [x])).isSome = true → get fs p = some .dir

end Octo.Plugins
