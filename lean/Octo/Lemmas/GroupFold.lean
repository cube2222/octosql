import Octo.Lemmas.SqlOps
import Octo.Spec.GroupSem
/-!
  The hash map of `SimpleGroupBy` (`Octo.Grp.gUpd` / `gFold`): after the rows `done` the stored keys are the first
  representative of each class of key tuples, in order of first occurrence (`keyClasses`), and the item under a key
  holds, per aggregate, the non-NULL inputs of the rows of that key's class in arrival order (`groupCells`);
  `gFold_inv` carries both through the fold.

  Two equalities of rows are in scope in the GROUP BY files, `Octo.Sql.rowEq` (`Model/Sql`) and `Octo.rowEq`
  (`Model/Changelog`), one function under two names (`Sql.rowEq_eq`); inside `namespace Octo.Grp` a bare `rowEq` means
  the second as soon as `Model/Changelog` is imported. The specification (`keyClasses`, `groupRows`, `countRow`,
  `RowsEqv`) is written with the first, so the lemmas of these files say `Sql.rowEq` explicitly; the lemmas of `Net` and of
  C16 speak of `Octo.rowEq` and apply by unfolding, or after `rw [← Sql.rowEq_eq]` where a rewrite has to see one name.
-/
namespace Octo.Grp
open Octo Octo.Sql

theorem keyClasses_pairwise (ks : List Row) : (keyClasses ks).Pairwise fun a b => Sql.rowEq b a = false := by
  induction ks with
  | nil => simp [keyClasses]
  | cons k ks ih =>
    simp only [keyClasses]
    rw [List.pairwise_cons]
    refine ⟨?_, ih.sublist List.filter_sublist⟩
    intro b hb
    simpa using (List.mem_filter.mp hb).2

theorem mem_keyClasses {k : Row} {ks : List Row} (h : k ∈ keyClasses ks) : k ∈ ks := by
  induction ks with
  | nil => simp [keyClasses] at h
  | cons x xs ih =>
    simp only [keyClasses, List.mem_cons] at h ⊢
    exact h.imp_right fun h => ih (List.mem_filter.mp h).1

theorem keyClasses_covers (ks : List Row) (k : Row) (h : k ∈ ks) : ∃ c ∈ keyClasses ks, Sql.rowEq k c = true := by
  induction ks with
  | nil => simp at h
  | cons x xs ih =>
    simp only [keyClasses]
    rcases List.mem_cons.mp h with h | h
    · subst h; exact ⟨k, List.mem_cons_self, Sql.rowEq_eqv.refl k⟩
    · obtain ⟨c, hc, hkc⟩ := ih h
      by_cases hx : Sql.rowEq c x = true
      · exact ⟨x, List.mem_cons_self, Sql.rowEq_eqv.trans hkc hx⟩
      · refine ⟨c, List.mem_cons_of_mem _ (List.mem_filter.mpr ⟨hc, ?_⟩), hkc⟩
        simpa using hx

theorem keyClasses_any (ks : List Row) (k : Row) : (keyClasses ks).any (Sql.rowEq k) = ks.any (Sql.rowEq k) := by
  rw [Bool.eq_iff_iff, List.any_eq_true, List.any_eq_true]
  constructor
  · rintro ⟨c, hc, h⟩; exact ⟨c, mem_keyClasses hc, h⟩
  · rintro ⟨x, hx, h⟩
    obtain ⟨c, hc, hxc⟩ := keyClasses_covers ks x hx
    exact ⟨c, hc, Sql.rowEq_eqv.trans h hxc⟩

theorem groupRows_isEmpty (keys : List SExpr) (k : Row) (rows : List Row) :
    (groupRows keys k rows).isEmpty = !(rows.map (keyOfRow keys)).any (Sql.rowEq k) := by
  induction rows with
  | nil => rfl
  | cons r rs ih =>
    rw [groupRows, List.filter_cons] at *
    rw [List.map_cons, List.any_cons, Bool.not_or, ← ih, Sql.rowEq_eqv.beq_comm k]
    cases Sql.rowEq (keyOfRow keys r) k <;> rfl

theorem keyClasses_snoc (ks : List Row) (k : Row) :
    keyClasses (ks ++ [k]) = if (keyClasses ks).any (Sql.rowEq k) then keyClasses ks else keyClasses ks ++ [k] := by
  induction ks with
  | nil => rfl
  | cons x xs ih =>
    simp only [List.cons_append, keyClasses, ih, List.any_cons]
    by_cases hkx : Sql.rowEq k x = true
    · split <;> simp [hkx]
    · -- `k` is not of the class of `x`: dropping that class keeps every representative of the class of `k`
      rw [Bool.not_eq_true] at hkx
      have : ((keyClasses xs).filter fun c => !Sql.rowEq c x).any (Sql.rowEq k) = (keyClasses xs).any (Sql.rowEq k) := by
        rw [List.any_filter]
        congr 1; funext c
        cases hkc : Sql.rowEq k c
        · rw [Bool.and_false]
        · rw [← Sql.rowEq_eqv.beq_congr_left hkc x, hkx]; rfl
      simp only [hkx, Bool.false_or, this]
      split
      · rfl
      · simp [hkx]

theorem keyOfRow_of_evalAll {keys : List SExpr} {r k : Row} (h : evalAll r keys = some k) : keyOfRow keys r = k := by
  rw [keyOfRow, h]; rfl

theorem groupRows_snoc (keys : List SExpr) (c : Row) (done : List Row) (r : Row) :
    groupRows keys c (done ++ [r]) = groupRows keys c done ++ if Sql.rowEq (keyOfRow keys r) c then [r] else [] := by
  rw [groupRows, List.filter_append, List.filter_cons, List.filter_nil]; rfl

theorem evalsOk_mem {keys : List SExpr} {aggs : List PAgg} {rows : List Row} (hok : evalsOk keys aggs rows = true)
    {r : Row} (hr : r ∈ rows) : ∃ k ins, evalAll r keys = some k ∧ evalArgs r aggs = some ins := by
  have := List.all_eq_true.mp hok r hr
  rw [Bool.and_eq_true] at this
  obtain ⟨k, hk⟩ := Option.isSome_iff_exists.mp this.1
  obtain ⟨ins, hins⟩ := Option.isSome_iff_exists.mp this.2
  exact ⟨k, ins, hk, hins⟩

def groupCells (keys : List SExpr) (aggs : List PAgg) (done : List Row) (k : Row) : List (List Value) :=
  aggs.map fun p => aggInputs p (groupRows keys k done)

theorem aggInputs_append (p : PAgg) (a b : List Row) : aggInputs p (a ++ b) = aggInputs p a ++ aggInputs p b := by
  rw [aggInputs, List.filterMap_append, List.filter_append]; rfl

theorem emptyCells_get (n i : Nat) : (emptyCells n)[i]? = if i < n then some [] else none := by
  rw [emptyCells, List.getElem?_replicate]

theorem addCells_get (cells : List (List Value)) (ins : Row) (i : Nat) :
    (addCells cells ins)[i]? = cells[i]?.map fun c =>
      match ins[i]? with
      | some v => if isNullV v then c else c ++ [v]
      | none => c := by
  fun_induction addCells cells ins generalizing i with
  | case1 c cs v vs ih => cases i with
    | zero => rfl
    | succ j => rw [List.getElem?_cons_succ, ih, List.getElem?_cons_succ, List.getElem?_cons_succ]
  | case2 cs vs h =>
    -- no cell or no input is left: nothing is added
    cases cs with
    | nil => rfl
    | cons c cs => cases vs with
      | nil => cases (c :: cs)[i]? <;> rfl
      | cons v vs => exact (h c cs v vs rfl rfl).elim

theorem addCells_length (cells : List (List Value)) (ins : Row) : (addCells cells ins).length = cells.length := by
  fun_induction addCells cells ins with
  | case1 c cs v vs ih => rw [List.length_cons, List.length_cons, ih]
  | case2 => rfl

theorem addCells_evalArgs {r : Row} {aggs : List PAgg} {ins : Row} (h : evalArgs r aggs = some ins)
    (f : PAgg → List Value) : addCells (aggs.map f) ins = aggs.map fun p => f p ++ aggInputs p [r] := by
  fun_induction evalArgs r aggs generalizing ins with
  | case1 => cases h; rfl
  | case2 p ps v vs hvs hv ih =>
    cases h
    simp only [List.map_cons, addCells, ih hvs, aggInputs, List.filterMap_cons, hv, List.filterMap_nil]
    cases hn : isNullV v <;> simp [hn]
  | case3 => cases h

theorem evalArgs_length {r : Row} {aggs : List PAgg} {ins : Row} (h : evalArgs r aggs = some ins) :
    ins.length = aggs.length := by
  fun_induction evalArgs r aggs generalizing ins with
  | case1 => cases h; rfl
  | case2 p ps v vs hvs hv ih => cases h; rw [List.length_cons, List.length_cons, ih hvs]
  | case3 => cases h

theorem evalArgs_get {r : Row} {aggs : List PAgg} {ins : Row} (h : evalArgs r aggs = some ins) (i : Nat) :
    ins[i]? = aggs[i]?.bind fun p => evalArg r p := by
  fun_induction evalArgs r aggs generalizing ins i with
  | case1 => cases h; rfl
  | case2 p ps v vs hvs hv ih =>
    cases h
    cases i with
    | zero => exact hv.symm
    | succ j => exact ih hvs j
  | case3 => cases h

theorem evalArg_of_evalArgs {r : Row} {aggs : List PAgg} {ins : Row} (h : evalArgs r aggs = some ins) {p : PAgg}
    (hp : p ∈ aggs) : ∃ v, evalArg r p = some v := by
  fun_induction evalArgs r aggs generalizing ins with
  | case1 => cases hp
  | case2 q qs v vs hvs hv ih =>
    rcases List.mem_cons.mp hp with rfl | hp
    · exact ⟨v, hv⟩
    · exact ih hvs hp
  | case3 => cases h

theorem gUpd_keys (n : Nat) (key ins : Row) (st : List GItem) :
    (gUpd n key ins st).map (·.key) =
      if (st.map (·.key)).any (Sql.rowEq key) then st.map (·.key) else st.map (·.key) ++ [key] := by
  induction st with
  | nil => rfl
  | cons it rest ih =>
    rw [gUpd, List.map_cons, List.any_cons]
    cases Sql.rowEq key it.key
    · rw [if_neg Bool.false_ne_true, List.map_cons, ih, Bool.false_or]
      split <;> rfl
    · rfl

/-- one record of key `k`: if the cells were `f` of the keys before, they are `f'` of the keys after, where `f'` differs
    from `f` on the class of `k` only, by the record's inputs -/
theorem gUpd_cells (n : Nat) (k ins : Row) (f f' : Row → List (List Value)) (st : List GItem)
    (hpw : (st.map (·.key)).Pairwise fun a b => Sql.rowEq b a = false)
    (h_other : ∀ c, Sql.rowEq k c = false → f' c = f c)
    (h_same : ∀ c, Sql.rowEq k c = true → f' c = addCells (f c) ins)
    (h_fresh : (st.map (·.key)).any (Sql.rowEq k) = false → f k = emptyCells n)
    (hC : ∀ it ∈ st, it.cells = f it.key) :
    ∀ it ∈ gUpd n k ins st, it.cells = f' it.key := by
  induction st with
  | nil =>
    intro it hit
    cases List.mem_singleton.mp hit
    exact ((h_same k (Sql.rowEq_eqv.refl k)).trans (congrArg (addCells · ins) (h_fresh rfl))).symm
  | cons x xs ih =>
    rw [List.map_cons, List.pairwise_cons] at hpw
    obtain ⟨hx, hxs⟩ := List.forall_mem_cons.mp hC
    intro it hit
    rw [gUpd] at hit
    cases hkx : Sql.rowEq k x.key
    · rw [hkx, if_neg Bool.false_ne_true] at hit
      rcases List.mem_cons.mp hit with rfl | hit
      · rw [h_other _ hkx]; exact hx
      · exact ih hpw.2 (fun hf => h_fresh (by rw [List.map_cons, List.any_cons, hkx, Bool.false_or]; exact hf)) hxs it hit
    · rw [hkx, if_pos rfl] at hit
      rcases List.mem_cons.mp hit with rfl | hit
      · exact (congrArg (addCells · ins) hx).trans (h_same _ hkx).symm
      · -- a later item is of another class than `x`, hence than `k`
        have : Sql.rowEq k it.key = false := by
          rw [Sql.rowEq_eqv.beq_congr_left hkx it.key, Sql.rowEq_eqv.beq_comm]
          exact hpw.1 it.key (List.mem_map_of_mem hit)
        rw [h_other _ this]; exact hxs it hit

theorem gFold_inv (keys : List SExpr) (aggs : List PAgg) (done rows : List Row) (st : List GItem)
    (hK : st.map (·.key) = keyClasses (done.map (keyOfRow keys)))
    (hC : ∀ it ∈ st, it.cells = groupCells keys aggs done it.key)
    (hok : evalsOk keys aggs rows = true) :
    ∃ items, gFold keys aggs st rows = some items ∧
      items.map (·.key) = keyClasses ((done ++ rows).map (keyOfRow keys)) ∧
      ∀ it ∈ items, it.cells = groupCells keys aggs (done ++ rows) it.key := by
  induction rows generalizing done st with
  | nil => exact ⟨st, rfl, by rwa [List.append_nil], by rwa [List.append_nil]⟩
  | cons r rs ih =>
    obtain ⟨k, ins, hk, hins⟩ := evalsOk_mem hok List.mem_cons_self
    rw [evalsOk, List.all_cons, Bool.and_eq_true] at hok
    have hkr := keyOfRow_of_evalAll hk
    have hrows := fun c => hkr ▸ groupRows_snoc keys c done r
    simp only [gFold, hk, hins]
    rw [List.append_cons done r rs]
    refine ih (done ++ [r]) _ ?_ ?_ hok.2
    · rw [gUpd_keys, List.map_append, List.map_singleton, hkr, keyClasses_snoc, hK]
    · refine gUpd_cells aggs.length k ins (groupCells keys aggs done) (groupCells keys aggs (done ++ [r])) st
        (hK ▸ keyClasses_pairwise _) ?_ ?_ ?_ hC
      · intro c hc
        rw [groupCells, hrows, hc]; simp [groupCells]
      · intro c hc
        simp only [groupCells, hrows, hc, if_true, aggInputs_append, addCells_evalArgs hins]
      · -- no stored key of the class of `k`: no row so far is of that class
        intro hf
        have : groupRows keys k done = [] :=
          List.isEmpty_iff.mp (by rw [groupRows_isEmpty, ← keyClasses_any, ← hK, hf]; rfl)
        simp [groupCells, this, emptyCells, aggInputs, List.map_const']

theorem evalsOk_of_gFold (keys : List SExpr) (aggs : List PAgg) (rows : List Row) (st items : List GItem)
    (h : gFold keys aggs st rows = some items) : evalsOk keys aggs rows = true := by
  fun_induction gFold keys aggs st rows with
  | case1 => rfl
  | case2 st r rs k ins hk hins ih =>
    rw [evalsOk, List.all_cons, hk, hins]
    exact ih h
  | case3 => cases h

end Octo.Grp
