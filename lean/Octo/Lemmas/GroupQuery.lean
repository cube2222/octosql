import Octo.Lemmas.GroupFold
/-! The stages of a grouping query around the GroupBy node (`denoteG`, `groupCore`): what an `.ok` outcome of a stage says
    about the stage before. -/
namespace Octo.Grp
open Octo Octo.Sql

theorem Res.bind_ok {α β : Type} {r : Res α} {f : α → Res β} {b : β} (h : r.bind f = .ok b) :
    ∃ a, r = .ok a ∧ f a = .ok b := by
  cases r with
  | ok a => exact ⟨a, rfl, h⟩
  | err => cases h
  | panic => cases h

theorem Res.ofOption_ok {α : Type} {o : Option α} {a : α} (h : Res.ofOption o = .ok a) : o = some a := by
  cases o with
  | none => cases h
  | some x => cases h; rfl

theorem evalsOk_of_groupNode {keys : List SExpr} {aggs : List PAgg} {rows out : List Row}
    (h : groupNode keys aggs rows = .ok out) : evalsOk keys aggs rows = true := by
  rw [groupNode] at h
  split at h
  · cases h
  · exact evalsOk_of_gFold keys aggs rows [] _ ‹_›

theorem typecheckGroup_some {tys : List Ty} {src : Query} {g : GroupBlock} {aggs : List PAgg}
    (h : typecheckGroup tys src g = some aggs) :
    ∃ cols, queryTys tys src = some cols ∧ typecheckAggs cols g.aggs = some aggs := by
  rw [typecheckGroup] at h
  split at h
  · cases h
  · exact ⟨_, ‹_›, h⟩

theorem denoteGNested_eq (tys : List Ty) (q : GQuery) (t : List Row) :
    denoteGNested tys q t = denoteG .eager tys q t := by
  cases q <;> simp only [denoteGNested, denoteG, skipsSource, sink, Bool.and_true, GroupBlock.post]

end Octo.Grp
