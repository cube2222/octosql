import Octo.Model.SqlGroup
/-!
  `GroupBy.Typecheck`'s two loops over the descriptors of an aggregate: what `firstPass` / `secondPass` / `resolve`
  return, for every descriptor list and every argument type.
-/
namespace Octo.Grp
open Octo

def AcceptsB (t : Ty) (d : Gen.Agg.Desc) : Bool :=
  match d.arg with
  | none => true
  | some a => Ty.is t (addNull a) == .is

def MayFitB (t : Ty) (d : Gen.Agg.Desc) : Bool := Ty.is (Ty.nonNullable t) (Desc.argTy d) == .maybe

/-- the first element satisfying `p`, with its index: the shape of both loops -/
def firstIdx {α : Type} (p : α → Bool) : List α → Option (Nat × α)
  | [] => none
  | d :: ds => if p d then some (0, d) else (firstIdx p ds).map fun q => (q.1 + 1, q.2)

theorem firstIdx_spec {α : Type} (p : α → Bool) (l : List α) :
    match firstIdx p l with
    | some (i, d) => l[i]? = some d ∧ p d = true ∧ ∀ j e, j < i → l[j]? = some e → p e = false
    | none => ∀ e ∈ l, p e = false := by
  fun_induction firstIdx p l with
  | case1 => intro e he; cases he
  | case2 d ds hd => exact ⟨rfl, hd, fun j e hj => absurd hj (Nat.not_lt_zero j)⟩
  | case3 d ds hd ih =>
    rw [Bool.not_eq_true] at hd
    cases hf : firstIdx p ds with
    | none =>
      rw [hf] at ih
      intro e he
      rcases List.mem_cons.mp he with rfl | he
      · exact hd
      · exact ih e he
    | some q =>
      rw [hf] at ih
      refine ⟨ih.1, ih.2.1, fun j e hj hje => ?_⟩
      cases j with
      | zero => cases hje; exact hd
      | succ j' => exact ih.2.2 j' e (Nat.lt_of_succ_lt_succ hj) hje

theorem firstPass_eq (t : Ty) (descs : List Gen.Agg.Desc) : firstPass t descs = firstIdx (AcceptsB t) descs := by
  induction descs with
  | nil => rfl
  | cons d ds ih =>
    rw [firstPass, firstIdx, AcceptsB, ← ih]
    cases d.arg <;> rfl

theorem secondPass_eq (t : Ty) (descs : List Gen.Agg.Desc) : secondPass t descs = firstIdx (MayFitB t) descs := by
  induction descs with
  | nil => rfl
  | cons d ds ih => rw [secondPass, firstIdx, MayFitB, ← ih]

theorem firstPass_spec (t : Ty) (descs : List Gen.Agg.Desc) :
    match firstPass t descs with
    | some (i, d) => descs[i]? = some d ∧ AcceptsB t d = true ∧ ∀ j e, j < i → descs[j]? = some e → AcceptsB t e = false
    | none => ∀ e ∈ descs, AcceptsB t e = false := by
  have h := firstIdx_spec (AcceptsB t) descs
  rw [firstPass_eq]
  cases hf : firstIdx (AcceptsB t) descs <;> rw [hf] at h <;> exact h

theorem secondPass_spec (t : Ty) (descs : List Gen.Agg.Desc) :
    match secondPass t descs with
    | some (i, d) => descs[i]? = some d ∧ MayFitB t d = true ∧ ∀ j e, j < i → descs[j]? = some e → MayFitB t e = false
    | none => ∀ e ∈ descs, MayFitB t e = false := by
  have h := firstIdx_spec (MayFitB t) descs
  rw [secondPass_eq]
  cases hf : firstIdx (MayFitB t) descs <;> rw [hf] at h <;> exact h

/-- a descriptor accepts the argument type outright (first loop): it has a TypeFn, or the type is
    `ArgumentType | NULL` -/
def Accepts (t : Ty) (d : Gen.Agg.Desc) : Prop :=
  d.arg = none ∨ ∃ a, d.arg = some a ∧ Ty.is t (addNull a) = .is

/-- the non-nullable part of the argument type may be the descriptor's `ArgumentType` (second loop) -/
def MayFit (t : Ty) (d : Gen.Agg.Desc) : Prop := Ty.is (Ty.nonNullable t) (Desc.argTy d) = .maybe

theorem acceptsB_iff (t : Ty) (d : Gen.Agg.Desc) : AcceptsB t d = true ↔ Accepts t d := by
  simp only [AcceptsB, Accepts]
  cases d.arg with
  | none => simp
  | some a => simp

theorem mayFitB_iff (t : Ty) (d : Gen.Agg.Desc) : MayFitB t d = true ↔ MayFit t d := by
  simp [MayFitB, MayFit]

theorem not_accepts {t : Ty} {d : Gen.Agg.Desc} (h : AcceptsB t d = false) : ¬ Accepts t d := by
  rw [← acceptsB_iff]; simp [h]

theorem not_mayFit {t : Ty} {d : Gen.Agg.Desc} (h : MayFitB t d = false) : ¬ MayFit t d := by
  rw [← mayFitB_iff]; simp [h]

theorem resolve_spec (descs : List Gen.Agg.Desc) (t : Ty) :
    match resolve descs t with
    | some ch =>
      descs[ch.idx]? = some ch.desc ∧
      (match ch.assertIds with
       | none => Accepts t ch.desc ∧ ∀ j d, j < ch.idx → descs[j]? = some d → ¬ Accepts t d
       | some ids => (∀ d ∈ descs, ¬ Accepts t d) ∧ MayFit t ch.desc ∧
                     (∀ j d, j < ch.idx → descs[j]? = some d → ¬ MayFit t d) ∧
                     ids = typeIds (addNull (Desc.argTy ch.desc)))
    | none => ∀ d ∈ descs, ¬ Accepts t d ∧ ¬ MayFit t d := by
  have h1 := firstIdx_spec (AcceptsB t) descs
  have h2 := firstIdx_spec (MayFitB t) descs
  simp only [resolve, firstPass_eq, secondPass_eq]
  rcases hf : firstIdx (AcceptsB t) descs with _ | ⟨i, d⟩ <;> rw [hf] at h1
  · rcases hs : firstIdx (MayFitB t) descs with _ | ⟨i, d⟩ <;> rw [hs] at h2
    · exact fun e he => ⟨not_accepts (h1 e he), not_mayFit (h2 e he)⟩
    · exact ⟨h2.1, fun e he => not_accepts (h1 e he), (mayFitB_iff t d).mp h2.2.1,
        fun j e hj hje => not_mayFit (h2.2.2 j e hj hje), rfl⟩
  · exact ⟨h1.1, (acceptsB_iff t d).mp h1.2.1, fun j e hj hje => not_accepts (h1.2.2 j e hj hje)⟩

end Octo.Grp
