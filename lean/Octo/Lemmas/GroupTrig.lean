import Octo.Props.C16
import Octo.Model.SqlGroupTrig
import Octo.Lemmas.SqlOps
import Octo.Spec.GroupSem
/-!
  The `TRIGGER` clause at the SQL level: for the node configuration `gbConf` the planner builds from a grouping
  block, C16's theorems apply — whatever trigger (`COUNTING k`, with or without `ON END OF STREAM`) selects
  `CustomTriggerGroupBy`, the changelog it emits on a batch input consolidates to C16's `groupSpec` of the input
  (`run_gbConf`).
-/
namespace Octo.Grp
open Octo Octo.Sql

theorem gbConf_keyLen (keys : List SExpr) (aggs : List PAgg) (t : Trig) :
    Trig.KeyLen (gbConf keys aggs t) keys.length := by
  intro vals
  simp only [gbConf]
  cases h : evalAll vals keys with
  | none => simp
  | some k => simpa using evalAll_length vals keys k h

theorem gbConf_keyOf {keys : List SExpr} (aggs : List PAgg) (t : Trig) {r k : Row} (h : evalAll r keys = some k) :
    (gbConf keys aggs t).keyOf r = k := by
  simp [gbConf, h]

/-- the aggregate the planner hands to the node for `p`: C14's model behind the argument expression (and its assertion) -/
def aggSpecOf (p : PAgg) : Trig.AggSpec := ⟨aggF p, fun vals => (evalArg vals p).getD .null⟩

theorem gbConf_aggs (keys : List SExpr) (aggs : List PAgg) (t : Trig) : (gbConf keys aggs t).aggs = aggs.map aggSpecOf := rfl

theorem gbConf_live (keys : List SExpr) (aggs : List PAgg) (t : Trig) : (gbConf keys aggs t).cfg.live = true := by
  cases t <;> rfl

/-- a row of a file source as a record: an addition without event time -/
def mkRec (r : Row) : Rec := ⟨r, false, none⟩

theorem recs_toMsgs (rows : List Row) : recs (toMsgs rows) = rows.map mkRec := recs_data_map mkRec rows

theorem mkRec_adds (rows : List Row) : ∀ r ∈ rows.map mkRec, r.retr = false := List.forall_mem_map.mpr fun _ _ => rfl

/-- records without an event time are not buffered: on a batch input the event-time buffer is the identity -/
theorem bufFold_toMsgs (rows : List Row) (b : Trig.Buf) : Trig.bufFold b (toMsgs rows) = (b, toMsgs rows) := by
  induction rows generalizing b with
  | nil => rfl
  | cons r rs ih =>
    simp only [toMsgs, List.map_cons, Ops.addRec, Trig.bufFold, Trig.bufStep] at *
    rw [ih]
    rfl

theorem buffer_toMsgs (rows : List Row) : Trig.buffer (toMsgs rows) = toMsgs rows := by
  simp [Trig.buffer, bufFold_toMsgs, Trig.bufEmit]

theorem stepOk_gbConf (keys : List SExpr) (aggs : List PAgg) (t : Trig) (vals : Row)
    (h : ((evalAll vals keys).isSome && (evalArgs vals aggs).isSome) = true) :
    Trig.stepOk (gbConf keys aggs t) vals = true := by
  simp only [Trig.stepOk, gbConf, h, Bool.true_and, Bool.and_true]
  cases t <;> rfl

/-- C16 at the planner's configuration, without `ConfGood`: a batch input has no retractions (`table_eq_spec_adds`) -/
theorem run_gbConf (keys : List SExpr) (aggs : List PAgg) (t : Trig) (rows : List Row)
    (hok : evalsOk keys aggs rows = true) :
    ∃ out, Trig.run Trig.wlessFixed (gbConf keys aggs t) (toMsgs rows) = some out ∧
      ∀ row, net (recs out) row = Trig.groupSpec (gbConf keys aggs t) keys.length (rows.map mkRec) row := by
  have hall : (recs (toMsgs rows)).all (fun r => Trig.stepOk (gbConf keys aggs t) r.vals) = true := by
    rw [recs_toMsgs, List.all_map]
    exact List.all_eq_true.mpr fun x hx => stepOk_gbConf keys aggs t x (List.all_eq_true.mp hok x hx)
  refine ⟨Trig.gbRun Trig.wlessFixed (gbConf keys aggs t) (Trig.buffer (toMsgs rows)), ?_, fun row => ?_⟩
  · simp only [Trig.run, hall, if_true]
  · rw [buffer_toMsgs,
      C16.trigger_transparent _ _ (gbConf_keyLen keys aggs t) (gbConf_live keys aggs t), recs_toMsgs,
      Trig.table_eq_spec_adds _ _ _ (mkRec_adds rows)]

end Octo.Grp
