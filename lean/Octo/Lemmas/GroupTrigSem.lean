import Octo.Lemmas.GroupTrig
import Octo.Lemmas.GroupAgg
import Octo.Lemmas.NetCount
/-!
  `CustomTriggerGroupBy` at the SQL level. By `run_gbConf` the changelog the node emits consolidates to C16's reference
  semantics `Trig.groupSpec` at the planner's configuration; what is left is a statement between two specifications: on a
  batch input that `groupSpec` is C03's `groupSem` counted as a bag (`groupSpec_eq_groupSem`).
-/
namespace Octo.Grp
open Octo Octo.Sql

theorem isNull_eq (v : Value) : Trig.isNull v = isNullV v := by cases v <;> rfl

theorem ofKey_rows (keys : List SExpr) (aggs : List PAgg) (t : Trig) (rows : List Row)
    (hok : evalsOk keys aggs rows = true) (k : Row) :
    Trig.ofKey (gbConf keys aggs t) k (rows.map mkRec) = (groupRows keys k rows).map mkRec := by
  simp only [Trig.ofKey, groupRows, List.filter_map, Function.comp_def, mkRec]
  congr 1
  apply List.filter_congr
  intro r hr
  obtain ⟨kr, _, hk, _⟩ := evalsOk_mem hok hr
  rw [gbConf_keyOf aggs t hk, keyOfRow_of_evalAll hk]
  rfl

theorem trigHist_eq (p : PAgg) (grp : List Row) :
    Trig.histOf (aggSpecOf p) (grp.map mkRec) = histOf (aggInputs p grp) := by
  induction grp with
  | nil => rfl
  | cons r rs ih =>
    simp only [Trig.histOf, aggSpecOf, histOf, aggInputs, List.map_cons, List.filter_cons, List.filterMap_cons, mkRec,
      isNull_eq] at ih ⊢
    -- a failing argument reads as NULL on the left and is dropped by `filterMap` on the right
    cases hv : evalArg r p with
    | none => simpa [isNullV] using ih
    | some v => cases hn : isNullV v <;> simp [ih, hn, hv]

theorem histSize_histOf (xs : List Value) : Trig.histSize (histOf xs) = xs.length := by
  induction xs with
  | nil => rfl
  | cons x r ih =>
    simp only [histOf, List.map_cons, Trig.histSize, List.sum_cons, Bool.false_eq_true, if_false, List.length_cons] at *
    omega

/-- one aggregate column of C16's specification on an all-additions history, against `aggValue` (C14) -/
theorem aggF_spec (p : PAgg) (xs : List Value) (hf : FiniteInputs p xs) :
    cmp (if Trig.histSize (histOf xs) > 0 then aggF p (histOf xs) else Value.null) (aggValue p xs) = 0 := by
  obtain ⟨v, hv, hc⟩ := cellOut_spec p xs hf
  rw [histSize_histOf]
  cases xs with
  | nil => exact cmp_refl _
  | cons x r =>
    rw [cellOut, if_pos (by simp)] at hv
    rw [if_pos (by simp), aggF, ← trigAgg, hv]
    exact hc

theorem specResults_spec (keys : List SExpr) (aggs : List PAgg) (t : Trig) (rows : List Row)
    (hf : FiniteArgs aggs rows) (k : Row) :
    Sql.rowEq (Trig.specResults (gbConf keys aggs t).aggs ((groupRows keys k rows).map mkRec))
      (specVals keys aggs rows k) = true := by
  rw [Trig.specResults, gbConf_aggs, List.map_map]
  refine rowEq_map aggs _ _ fun p hp => ?_
  have hin : ∀ r ∈ groupRows keys k rows, r ∈ rows := fun r hr => (List.mem_filter.mp hr).1
  dsimp only [Function.comp]
  rw [trigHist_eq]
  exact aggF_spec p _ (finiteInputs_of_args hf hp _ hin)

theorem net_mkRec (rows : List Row) (row : Row) : net (rows.map mkRec) row = (countRow row rows : Int) :=
  net_map_add rows row

theorem groupRows_congr (keys : List SExpr) (rows : List Row) {k k' : Row} (h : Sql.rowEq k k' = true) :
    groupRows keys k rows = groupRows keys k' rows := by
  simp only [groupRows]
  apply List.filter_congr
  intro r _
  exact Sql.rowEq_eqv.beq_congr_right h _

theorem groupSpec_eq_groupSem (keys : List SExpr) (aggs : List PAgg) (t : Trig) (rows : List Row)
    (hok : evalsOk keys aggs rows = true) (hf : FiniteArgs aggs rows) (row : Row) :
    Trig.groupSpec (gbConf keys aggs t) keys.length (rows.map mkRec) row =
      (countRow row (groupSem keys aggs rows) : Int) := by
  have hlen : ∀ k ∈ rows.map (keyOfRow keys), k.length = keys.length := List.forall_mem_map.mpr fun r hr => by
    obtain ⟨k, _, hk, _⟩ := evalsOk_mem hok hr
    rw [keyOfRow_of_evalAll hk]; exact evalAll_length r keys k hk
  -- `groupSem` lists one row `k ++ specVals k` per class of keys: as an indicator (`Trig.net_key_rows`)
  rw [← net_mkRec, groupSem_eq, List.map_map]
  refine Eq.trans ?_ (Trig.net_key_rows keys.length _ (specVals keys aggs rows)
    (fun k hk => hlen k (mem_keyClasses hk))
    ((keyClasses_pairwise _).imp fun h => (Sql.rowEq_eqv.beq_comm _ _).trans h)
    (fun a b h => by rw [specVals, groupRows_congr keys rows h]; rfl) row).symm
  -- C16's `groupSpec` and `net_key_rows` say `Octo.rowEq`, the lemmas about `keyClasses` and `groupRows` `Sql.rowEq`
  rw [Trig.groupSpec, ← Sql.rowEq_eq, keyClasses_any, ofKey_rows keys aggs t rows hok]
  generalize row.take keys.length = kk
  -- the class has records iff the group is not empty iff some key is of the class
  have hne : (Trig.countOf ((groupRows keys kk rows).map mkRec) != 0) =
      (rows.map (keyOfRow keys)).any (Sql.rowEq kk) := by
    rw [Trig.countOf_adds _ (mkRec_adds _), List.length_map, ← Bool.not_not (List.any _ _), ← groupRows_isEmpty]
    cases groupRows keys kk rows
    · rfl
    · exact bne_iff_ne.mpr (Int.natCast_ne_zero.mpr (Nat.succ_ne_zero _))
  have hres : Sql.rowEq (kk ++ Trig.specResults (gbConf keys aggs t).aggs ((groupRows keys kk rows).map mkRec)) row =
      Sql.rowEq (kk ++ specVals keys aggs rows kk) row :=
    Sql.rowEq_eqv.beq_congr_left (rowEq_append (Sql.rowEq_eqv.refl kk) (specResults_spec keys aggs t rows hf kk)) row
  rw [hne, hres]

theorem custom_trigger_groupSem (keys : List SExpr) (aggs : List PAgg) (t : Trig) (rows : List Row)
    (hok : evalsOk keys aggs rows = true) (hf : FiniteArgs aggs rows) :
    ∃ out, Trig.run Trig.wlessFixed (gbConf keys aggs t) (toMsgs rows) = some out ∧
      ∀ row, net (recs out) row = (countRow row (groupSem keys aggs rows) : Int) :=
  (run_gbConf keys aggs t rows hok).imp fun _ h =>
    ⟨h.1, fun row => (h.2 row).trans (groupSpec_eq_groupSem keys aggs t rows hok hf row)⟩

end Octo.Grp
