import Octo.Lemmas.CmpLaws
/-! `cmp a b = 0 → hash a = hash b` for values of any depth. -/
namespace Octo
open Value
variable {cf : Nat → Nat → Int} {fb : Nat → Nat}

/-- what the bits fed to the hash must satisfy for a float comparison `cf`: patterns that `cf` calls equal get the same
    bits. Only 64-bit patterns are asked about: that is what `Value.wf` guarantees of a float. -/
def FloatHashOk (cf : Nat → Nat → Int) (fb : Nat → Nat) : Prop :=
  ∀ a b, a < 2^64 → b < 2^64 → cf a b = 0 → fb a = fb b

mutual
theorem hashWith_congr (H : FloatHashOk cf fb) (deep : Bool) : ∀ (a b : Value),
    a.wf = true → b.wf = true → cmpWith cf a b = 0 → ∀ h : UInt64, hashWith fb deep h a = hashWith fb deep h b
  | a, b, wa, wb, hc, h => by
    cases Value.cmpEq_of_zero hc with
    | null | int _ | bool _ | str _ | time _ _ _ | dur _ => rfl
    | float x y h0 =>
      simp only [hashWith]
      rw [H x y (of_decide_eq_true wa) (of_decide_eq_true wb) h0]
    | list xs ys h0 => exact hashListWith_congr H deep xs ys wa wb h0 h
    | struct xs ys h0 | tuple xs ys h0 =>
      simp only [hashWith]; split
      · exact hashListWith_congr H deep xs ys wa wb h0 h
      · rfl
theorem hashListWith_congr (H : FloatHashOk cf fb) (deep : Bool) : ∀ (xs ys : List Value),
    Value.wfList xs = true → Value.wfList ys = true → cmpListWith cf xs ys = 0 →
    ∀ h : UInt64, hashListWith fb deep h xs = hashListWith fb deep h ys
  | [], [], _, _, _, _ => rfl
  | [], _ :: _, _, _, hc, _ | _ :: _, [], _, _, hc, _ => by simp [cmpListWith] at hc
  | x :: xs, y :: ys, wx, wy, hc, h => by
    simp only [Value.wfList, Bool.and_eq_true] at wx wy
    obtain ⟨h0, ht⟩ := cmpListWith_cons_eq_zero.mp hc
    simp only [hashListWith]
    rw [hashWith_congr H deep x y wx.1 wy.1 h0 h]
    exact hashListWith_congr H deep xs ys wx.2 wy.2 ht _
end

open F64 in
theorem floatHashOk_fixed : FloatHashOk cmpFloatFixed hashBitsFixed := by
  intro a b ha hb h
  rcases (cmpFloatFixed_eq_zero_iff a b).mp h with ⟨h1, h2⟩ | ⟨h1, h2, h3⟩
  · simp [hashBitsFixed, h1, h2]
  · rcases key_eq a b ha hb h3 with rfl | ⟨z1, z2⟩
    · rfl
    · simp [hashBitsFixed, h1, h2, z1, z2]

end Octo
