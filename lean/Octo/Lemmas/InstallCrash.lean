import Octo.Lemmas.PluginsFrame
/-!
  Crash analysis of `installPrims` and `addRepoPrims` (C27).

  The hidden region of an installation job is everything at or below its staging directory `.installing-<v>` and
  its trash directory `.old-<v>`, plus the temporary registry file. Steps confined to the hidden region leave the
  visible tree alone, except that `MkdirAll(stagingDir)` may create the (empty) ancestors of the plugin directory.
  The registry write of an installation and the entry write of `AddRepository` are both a write to a temporary file
  followed by a rename; `atomicWrite_crash`, for any two paths, comes first.
-/
namespace Octo.Plugins
open Octo.Fs

/-- write-to-temporary-then-rename -/
def atomicWritePrims (tmp dst : Path) (data : Bytes) : List Prim :=
  [.create tmp, .append tmp data, .rename tmp dst]

theorem atomicWrite_crash {tmp dst : Path} (hne : dst ≠ tmp) {data : Bytes} {fs s : Fs}
    (h : Crashed (atomicWritePrims tmp dst data) fs s) :
    (∀ q, q ≠ tmp → q ≠ dst → get s q = get fs q) ∧ (get s dst = get fs dst ∨ get s dst = some (.file data)) := by
  -- as long as the rename has not happened, only `tmp` has changed
  have early : ∀ {s : Fs}, (∀ q, q ≠ tmp → get s q = get fs q) →
      (∀ q, q ≠ tmp → q ≠ dst → get s q = get fs q) ∧ (get s dst = get fs dst ∨ get s dst = some (.file data)) :=
    fun h => ⟨fun q hq _ => h q hq, Or.inl (h _ hne)⟩
  cases h with
  | stop => exact early fun _ _ => rfl
  | step h1 h =>
    have g1 : ∀ q, q ≠ tmp → get _ q = get fs q := fun q hq => by rw [get_create h1, if_neg (Ne.symm hq)]
    cases h with
    | stop => exact early g1
    | torn n ha => exact early fun q hq => (get_append_of_ne ha q hq).trans (g1 q hq)
    | step h2 h =>
      have g2 : ∀ q, q ≠ tmp → get _ q = get fs q := fun q hq => (get_append_of_ne h2 q hq).trans (g1 q hq)
      cases h with
      | stop => exact early g2
      | step h3 h =>
        -- both writes succeeded: `tmp` holds exactly `data`, and the rename moves it to `dst`
        cases h
        obtain ⟨c, hc, hc'⟩ := get_append_self h2
        rw [get_create h1, if_pos rfl] at hc
        cases hc
        have g3 := get_rename_file h3 hc'
        exact ⟨fun q hq hq' => by rw [g3, if_neg (Ne.symm hq'), if_neg hq]; exact g2 q hq, Or.inr (by rw [g3, if_pos rfl]; rfl)⟩

/-! The letters: `D` is the plugin directory, `Sg` the staging directory in it, `O` the trash directory (the old version,
  moved aside), `N` the version directory (where the new version goes). `A` and `B` are the steps before and after the
  two renames (`primsA`, `ExtA`; `primsB`), `W` is the window between the renames (`ExtW`), and `AtN`, `FrameN` speak of
  the states from the move-in on. -/

def InstallJob.D (j : InstallJob) : Path := pluginDir j.ref
def InstallJob.Sg (j : InstallJob) : Path := stagingDir j.ref j.v
def InstallJob.O (j : InstallJob) : Path := oldDir j.ref j.v
def InstallJob.N (j : InstallJob) : Path := versionDir j.ref j.v

def Hid (j : InstallJob) (q : Path) : Prop :=
  isPre j.Sg q = true ∨ isPre j.O q = true ∨ q = handlersTmp

theorem N_eq (j : InstallJob) : j.N = j.D ++ [j.v] := rfl
theorem D_eq (j : InstallJob) : j.D = pluginsDir ++ [j.ref.repo, pluginDirName j.ref.name] := rfl

theorem hid_of_pre {j : InstallJob} {p q : Path} (hp : isPre j.Sg p = true ∨ isPre j.O p = true) (hpq : isPre p q = true) :
    Hid j q := by
  rcases hp with h | h
  · exact Or.inl (isPre_trans h hpq)
  · exact Or.inr (Or.inl (isPre_trans h hpq))

theorem not_pre_of_not_hid {j : InstallJob} {q : Path} (hq : ¬ Hid j q) : isPre j.Sg q = false ∧ isPre j.O q = false :=
  ⟨Bool.eq_false_iff.2 fun h => hq (Or.inl h), Bool.eq_false_iff.2 fun h => hq (Or.inr (Or.inl h))⟩

theorem pre_of_pre_child {D : Path} {s : FName} {p q : Path} (hq : isPre q p = true) (hp : isPre (D ++ [s]) p = true)
    (hn : isPre (D ++ [s]) q = false) : isPre q D = true := by
  rcases List.prefix_or_prefix_of_prefix (List.isPrefixOf_iff_prefix.1 hq) (List.isPrefixOf_iff_prefix.1 hp) with h | h
  · rcases pre_concat (List.isPrefixOf_iff_prefix.2 h) with rfl | h'
    · rw [isPre_refl] at hn; cases hn
    · exact h'
  · rw [show isPre (D ++ [s]) q = true from List.isPrefixOf_iff_prefix.2 h] at hn; cases hn

/-! ### which paths can coincide

  Below `plugins` the fourth component decides: that of the hidden directories starts with ".", that of a path the
  listing reads does not. Everything else is told apart by the first character of the first component: `p` for
  `plugins`, `f` for the two registry files, `r` for the repositories directory and its temporary files. -/

/-- To the kernel a string literal is `String.ofList` of its characters. A fact about `lit` stated for that form lets
    unification read a character off a literal, where evaluating `lit "…"` decodes the whole string (slowly). -/
theorem lit_ofList (cs : List Char) : lit (String.ofList cs) = cs := String.toList_ofList

theorem isDot_lit_append (cs : List Char) (v : FName) : isDot (lit (String.ofList ('.' :: cs)) ++ v) = true := by
  rw [lit_ofList]; rfl

def initial (q : Path) : Option Char := q.head?.bind List.head?

theorem initial_lit_cons (c : Char) (cs : List Char) (t : Path) :
    initial (lit (String.ofList (c :: cs)) :: t) = some c := by
  rw [initial, lit_ofList]; rfl

theorem initial_of_isPre {a q : Path} {c : Char} (ha : initial a = some c) (h : isPre a q = true) : initial q = some c := by
  obtain ⟨t, rfl⟩ := isPre_iff.1 h
  cases a with
  | nil => cases ha
  | cons x s => exact ha

theorem not_isPre_of_initial {a q : Path} {c d : Char} (ha : initial a = some c) (hq : initial q = some d) (hcd : c ≠ d) :
    isPre a q = false :=
  Bool.eq_false_iff.2 fun h => hcd (Option.some.inj ((initial_of_isPre ha h).symm.trans hq))

theorem ne_of_initial {a q : Path} {c d : Char} (ha : initial a = some c) (hq : initial q = some d) (hcd : c ≠ d) : a ≠ q :=
  ne_of_isPre_eq_false (not_isPre_of_initial ha hq hcd)

theorem initial_plugins (t : Path) : initial (pluginsDir ++ t) = some 'p' := initial_lit_cons _ _ _
theorem initial_handlersFile : initial handlersFile = some 'f' := initial_lit_cons _ _ _
theorem initial_handlersTmp : initial handlersTmp = some 'f' := initial_lit_cons _ _ _
theorem initial_repositories (t : Path) : initial (repositoriesDir ++ t) = some 'r' := initial_lit_cons _ _ _
theorem initial_repoTmp (slug : FName) : initial (repoTmp slug) = some 'r' := by
  rw [repoTmp, show lit "repositories-" = 'r' :: _ from lit_ofList _]; rfl

theorem handlersFile_ne_tmp : handlersFile ≠ handlersTmp := by
  intro h
  have : "file_extension_handlers.json" = "file_extension_handlers.json.tmp" := String.toList_inj.1 (List.cons.inj h).1
  simp at this

/-- the repositories directory, an entry in it and a temporary entry file beside it are three different paths: an
    entry has two components, and the name of a temporary file is longer than `repositories` -/
theorem repositoriesDir_ne_repoEntry (slug : FName) : repositoriesDir ≠ repoEntry slug :=
  fun h => by simpa [repoEntry] using congrArg List.length h

theorem repoEntry_ne_repoTmp (slug slug' : FName) : repoEntry slug ≠ repoTmp slug' :=
  fun h => by simpa [repoEntry, repoTmp, repositoriesDir] using congrArg List.length h

theorem repositoriesDir_ne_repoTmp (slug : FName) : repositoriesDir ≠ repoTmp slug := by
  intro h
  have := congrArg List.length (List.cons.inj h).1
  rw [List.length_append, List.length_append, lit_ofList, lit_ofList, lit_ofList] at this
  simp only [List.length_cons, List.length_nil] at this
  omega

def Dotted (q : Path) : Prop := ∃ s, q[3]? = some s ∧ isDot s = true

theorem hid_cases {j : InstallJob} {q : Path} (h : Hid j q) : Dotted q ∨ q = handlersTmp := by
  rcases h with h | h | h
  · obtain ⟨t, rfl⟩ := isPre_iff.1 h; exact Or.inl ⟨_, rfl, isDot_lit_append _ j.v⟩
  · obtain ⟨t, rfl⟩ := isPre_iff.1 h; exact Or.inl ⟨_, rfl, isDot_lit_append _ j.v⟩
  · exact Or.inr h

theorem initial_of_hid {j : InstallJob} {q : Path} (h : Hid j q) : initial q = some 'p' ∨ initial q = some 'f' := by
  rcases h with h | h | rfl
  · exact Or.inl (initial_of_isPre (initial_plugins _) h)
  · exact Or.inl (initial_of_isPre (initial_plugins _) h)
  · exact Or.inr initial_handlersTmp

theorem not_dotted_of_vis {q : Path} (hq : Vis q) : ¬ Dotted q := by
  rintro ⟨s, hs, hd⟩
  rcases hq with rfl | ⟨r, rfl⟩ | ⟨r, d, rfl⟩ | ⟨r, d, x, hx, rfl⟩
  · cases hs
  · cases hs
  · cases hs
  · cases hs; rw [hx] at hd; cases hd

theorem initial_of_vis {q : Path} (hq : Vis q) : initial q = some 'p' := by
  rcases hq with rfl | ⟨r, rfl⟩ | ⟨r, d, rfl⟩ | ⟨r, d, x, _, rfl⟩ <;> exact initial_plugins _

theorem vis_not_hid {j : InstallJob} {q : Path} (hq : Vis q) : ¬ Hid j q := fun h =>
  (hid_cases h).elim (not_dotted_of_vis hq) (ne_of_initial (initial_of_vis hq) initial_handlersTmp (by decide))

theorem handlersFile_not_hid (j : InstallJob) : ¬ Hid j handlersFile := fun h =>
  (hid_cases h).elim (fun ⟨_, hs, _⟩ => by cases hs) handlersFile_ne_tmp

/-- below a version directory whose name does not start with "." -/
def InVersionDir (q : Path) : Prop := ∃ ref x t, isDot x = false ∧ q = pluginDir ref ++ [x] ++ t

theorem initial_of_inVersionDir {q : Path} (hq : InVersionDir q) : initial q = some 'p' := by
  obtain ⟨ref, x, t, _, rfl⟩ := hq; exact initial_lit_cons _ _ _

theorem inVersionDir_not_hid {j : InstallJob} {q : Path} (hq : InVersionDir q) : ¬ Hid j q := by
  intro h
  rcases hid_cases h with ⟨s, hs, hd⟩ | h
  · obtain ⟨ref, x, t, hx, rfl⟩ := hq
    cases hs; rw [hx] at hd; cases hd
  · exact ne_of_initial (initial_of_inVersionDir hq) initial_handlersTmp (by decide) h

theorem inVersionDir_not_pre_D {j : InstallJob} {q : Path} (hq : InVersionDir q) : isPre q j.D = false := by
  obtain ⟨ref, x, t, _, rfl⟩ := hq
  refine Bool.eq_false_iff.2 fun h => ?_
  have := isPre_len h; simp [D_eq, pluginDir, pluginsDir] at this

theorem handlersFile_not_pre_D (j : InstallJob) : isPre handlersFile j.D = false :=
  not_isPre_of_initial initial_handlersFile (initial_plugins _) (by decide)

def Under (root : Path) : Prim → Prop
  | .removeAll p => isPre root p = true
  | .mkdirAll p => isPre root p = true
  | .create p => isPre root p = true
  | .append p _ => isPre root p = true
  | .remove p => isPre root p = true
  | .rename a b => isPre root a = true ∧ isPre root b = true
  | .renameIfExists a b => isPre root a = true ∧ isPre root b = true

def Confined (j : InstallJob) (p : Prim) : Prop := Under j.Sg p ∨ Under j.O p

/-- `fs` is `fs₀` outside the hidden region, except for new empty ancestors of the plugin directory -/
def ExtA (j : InstallJob) (fs₀ fs : Fs) : Prop :=
  ∀ q, ¬ Hid j q → SameOrNewDir j.D fs₀ fs q

theorem extA_refl (j : InstallJob) (fs : Fs) : ExtA j fs fs := fun _ _ => Or.inl rfl

theorem get_apply_under {D : Path} {s : FName} {p : Prim} {fs fs' : Fs} {q : Path} (hu : Under (D ++ [s]) p)
    (hq : isPre (D ++ [s]) q = false) (hp : p.apply fs = .ok fs') :
    SameOrNewDir D fs fs' q := by
  -- `q` is not below a path below `D ++ [s]`, let alone equal to one
  have out : ∀ {a}, isPre (D ++ [s]) a = true → isPre a q = false := fun ha =>
    Bool.eq_false_iff.2 fun h => by rw [isPre_trans ha h] at hq; cases hq
  cases p with
  | removeAll a => cases hp; exact Or.inl (by rw [get_removeAll, out hu]; rfl)
  | mkdirAll a =>
    exact (get_mkdirAll hp q).imp id fun ⟨hn, hd, hpre, _⟩ => ⟨pre_of_pre_child hpre hu hq, hn, hd⟩
  | create a => exact Or.inl (by rw [get_create hp, if_neg (ne_of_isPre_eq_false (out hu))])
  | append a bs => exact Or.inl (get_append_of_ne hp q (ne_of_isPre_eq_false (out hu)).symm)
  | remove a => exact Or.inl (by rw [get_remove hp, if_neg (ne_of_isPre_eq_false (out hu)).symm])
  | rename a b => exact Or.inl (get_rename_of_not_below hp q (out hu.1) (out hu.2))
  | renameIfExists a b =>
    rcases renameIfExists_ok hp with ⟨_, rfl⟩ | ⟨_, hp⟩
    · exact Or.inl rfl
    · exact Or.inl (get_rename_of_not_below hp q (out hu.1) (out hu.2))

theorem extA_step {j : InstallJob} {fs₀ fs fs' : Fs} {p : Prim} (h : ExtA j fs₀ fs) (hc : Confined j p)
    (hp : p.apply fs = .ok fs') : ExtA j fs₀ fs' := by
  intro q hq
  exact (h q hq).trans (hc.elim (fun hu => get_apply_under hu (not_pre_of_not_hid hq).1 hp)
    fun hu => get_apply_under hu (not_pre_of_not_hid hq).2 hp)

theorem extA_crashed {j : InstallJob} {fs₀ fs s : Fs} {ps : List Prim} (hc : ∀ p ∈ ps, Confined j p) (h : ExtA j fs₀ fs)
    (hs : Crashed ps fs s) : ExtA j fs₀ s := by
  induction hs with
  | stop => exact h
  | @torn a bs _ _ _ n ha =>
    -- `Under` does not look at the bytes of a write
    exact extA_step (p := .append a (bs.take n)) h (hc (.append a bs) (.head _)) ha
  | step hp _ ih => exact ih (fun p hp' => hc p (.tail _ hp')) (extA_step h (hc _ (.head _)) hp)

def primsA (j : InstallJob) : List Prim := [.removeAll j.Sg, .mkdirAll j.Sg] ++ j.staging ++ [.removeAll j.O]

def handlerPrims (j : InstallJob) : List Prim :=
  match j.newHandlers with
  | some data => saveHandlersPrims data
  | none => []

def primsB (j : InstallJob) : List Prim := .removeAll j.O :: handlerPrims j

theorem installPrims_eq (j : InstallJob) :
    installPrims j = primsA j ++ (.renameIfExists j.N j.O :: .rename j.Sg j.N :: primsB j) := by
  unfold installPrims primsA primsB handlerPrims
  cases j.newHandlers <;> simp [InstallJob.Sg, InstallJob.O, InstallJob.N]

section main
variable {V C : Type} (S : Sem V C)

/-- the state before the operation: a real tree (closed), plugin directories named by Install, and octosql starts -/
structure Healthy (fs₀ : Fs) (cfg : List (Db C)) : Prop where
  closed : Closed fs₀
  nu : NoUnprefixed fs₀
  start : ∃ res, startup S fs₀ cfg = .ok res

/-- what is assumed of an installation job: the staging work stays below the staging directory, the version
    directory name is a version (it is `Version.String()`) not starting with ".", the new registry content decodes -/
structure JobOk (j : InstallJob) : Prop where
  staging : ∀ p ∈ j.staging, Under j.Sg p
  vparse : (S.parse j.v).isSome = true
  vdot : isDot j.v = false
  handlers : ∀ data, j.newHandlers = some data → S.handlersOk data = true

theorem primsA_confined {j : InstallJob} (hst : ∀ p ∈ j.staging, Under j.Sg p) : ∀ p ∈ primsA j, Confined j p := by
  intro p hp
  simp only [primsA, List.mem_append, List.mem_cons, List.not_mem_nil, or_false] at hp
  rcases hp with ((rfl | rfl) | hp) | rfl
  · exact Or.inl (isPre_refl _)
  · exact Or.inl (isPre_refl _)
  · exact Or.inl (hst p hp)
  · exact Or.inr (isPre_refl _)

/-- start-up behaves the same, every version directory is byte for byte the same, and the plugin directories of `fs`
    all carry the `octosql-plugin-` prefix -/
def SameAs (fs fs' : Fs) (cfg : List (Db C)) : Prop :=
  startup S fs cfg = startup S fs' cfg ∧ (∀ q, InVersionDir q → get fs q = get fs' q) ∧ NoUnprefixed fs

variable {S} in
theorem SameAs.startup {fs fs' : Fs} {cfg : List (Db C)} (h : SameAs S fs fs' cfg) :
    startup S fs cfg = startup S fs' cfg := h.1
variable {S} in
theorem SameAs.versions {fs fs' : Fs} {cfg : List (Db C)} (h : SameAs S fs fs' cfg) :
    ∀ q, InVersionDir q → get fs q = get fs' q := h.2.1
variable {S} in
theorem SameAs.nu {fs fs' : Fs} {cfg : List (Db C)} (h : SameAs S fs fs' cfg) : NoUnprefixed fs := h.2.2

theorem N_inVersionDir {j : InstallJob} (hd : isDot j.v = false) : InVersionDir j.N :=
  ⟨j.ref, j.v, [], hd, (List.append_nil _).symm⟩

theorem listOk_of_healthy {fs₀ : Fs} {cfg : List (Db C)} (H : Healthy S fs₀ cfg) : ListOk S fs₀ := by
  obtain ⟨res, h⟩ := H.start
  obtain ⟨ms, hms, _, _⟩ := (startup_ok_iff S).1 h
  exact (listInstalled_isOk_iff S).1 ⟨ms, hms⟩

theorem loadHandlers_of_healthy {fs₀ : Fs} {cfg : List (Db C)} (H : Healthy S fs₀ cfg) : loadHandlers S fs₀ = .ok () := by
  obtain ⟨res, h⟩ := H.start
  obtain ⟨ms, _, _, hh⟩ := (startup_ok_iff S).1 h
  exact hh

/-- before the version directory is touched: exactly the old behaviour -/
theorem sameAs_of_extA (L : OrderLaws S.gt) {fs₀ fs : Fs} {cfg : List (Db C)} {j : InstallJob}
    (H : Healthy S fs₀ cfg) (h : ExtA j fs₀ fs) : SameAs S fs fs₀ cfg := by
  have hver : ∀ q, InVersionDir q → get fs q = get fs₀ q := fun q hq =>
    (h q (inVersionDir_not_hid hq)).eq_of_not_pre (inVersionDir_not_pre_D hq)
  have hvis : ExtVis j.ref (fun _ => False) fs₀ fs := fun q hq => Or.inr (h q (vis_not_hid hq))
  have hH := (h _ (handlersFile_not_hid j)).eq_of_not_pre (handlersFile_not_pre_D j)
  exact ⟨startup_eq_of_extVis S L H.closed hvis H.nu (listOk_of_healthy S H) hH cfg, hver,
    noUnprefixed_of_extVis hvis H.nu⟩

/-- like `ExtA`, but saying nothing about the version directory itself -/
def ExtW (j : InstallJob) (fs₀ fs : Fs) : Prop :=
  ∀ q, ¬ Hid j q → isPre j.N q = false →
    get fs q = get fs₀ q ∨ (isPre q j.D = true ∧ get fs₀ q = none ∧ get fs q = some .dir)

theorem extW_iff {j : InstallJob} {fs₀ fs : Fs} :
    ExtW j fs₀ fs ↔ ∀ q, ¬ Hid j q → isPre j.N q = false → SameOrNewDir j.D fs₀ fs q := Iff.rfl

/-- `if Stat(N) == nil { Rename(N, O) }`: either nothing happens, or the installed version is now out of sight -/
theorem moveAside {j : InstallJob} {fs₀ fsA fsW : Fs} (hd : isDot j.v = false) (hA : ExtA j fs₀ fsA)
    (h : (Prim.renameIfExists j.N j.O).apply fsA = .ok fsW) :
    ExtW j fs₀ fsW ∧ (fsW = fsA ∨ ((get fs₀ j.N).isSome = true ∧ get fsW j.N = none)) := by
  rcases renameIfExists_ok h with ⟨_, rfl⟩ | ⟨hn, h⟩
  · exact ⟨fun q hq _ => hA q hq, Or.inl rfl⟩
  · constructor
    · exact fun q hq hNq => (hA q hq).trans (Or.inl (get_rename_of_not_below h q hNq (not_pre_of_not_hid hq).2))
    · have hv := N_inVersionDir (j := j) hd
      rw [(hA _ (inVersionDir_not_hid hv)).eq_of_not_pre (inVersionDir_not_pre_D hv)] at hn
      exact Or.inr ⟨hn, get_rename_src h⟩

/-- what the tree looks like once the staging directory has been renamed to the version directory -/
structure AtN (j : InstallJob) (fs₀ fsN : Fs) : Prop where
  ext : ExtW j fs₀ fsN
  present : (get fsN j.N).isSome = true

theorem moveIn {j : InstallJob} {fs₀ fsW fsN : Fs} (hW : ExtW j fs₀ fsW)
    (h : (Prim.rename j.Sg j.N).apply fsW = .ok fsN) : AtN j fs₀ fsN := by
  simp only [Prim.apply] at h
  exact ⟨fun q hq hNq => (extW_iff.1 hW q hq hNq).trans (Or.inl (get_rename_of_not_below h q (not_pre_of_not_hid hq).1 hNq)), rename_dst_isSome h⟩

theorem vis_not_below_N {j : InstallJob} {q : Path} (hq : Vis q) (hne : q ≠ j.N) : isPre j.N q = false := by
  refine Bool.eq_false_iff.2 fun h => ?_
  have hl := isPre_len h
  have : q.length ≤ 4 := by
    rcases hq with rfl | ⟨r, rfl⟩ | ⟨r, d, rfl⟩ | ⟨r, d, x, _, rfl⟩ <;> simp [pluginsDir]
  have hl4 : j.N.length = 4 := by simp [N_eq, D_eq, pluginsDir]
  exact absurd (isPre_eq_of_len h (by omega)).symm hne

theorem extVis_of_atN {j : InstallJob} {fs₀ fsN : Fs} (h : AtN j fs₀ fsN) : ExtVis j.ref (· = j.v) fs₀ fsN := by
  intro q hq
  by_cases hN : q = j.N
  · exact Or.inl ⟨j.v, rfl, hN, hN ▸ h.present⟩
  · exact Or.inr (h.ext q (vis_not_hid hq) (vis_not_below_N hq hN))

theorem handlers_of_atN {j : InstallJob} {fs₀ fsN : Fs} (h : AtN j fs₀ fsN) : get fsN handlersFile = get fs₀ handlersFile :=
  (extW_iff.1 h.ext _ (handlersFile_not_hid j)
    (not_isPre_of_initial (initial_plugins _) initial_handlersFile (by decide))).eq_of_not_pre (handlersFile_not_pre_D j)

/-- `fs` is `fsN` outside the hidden region, except that the registry may already be the new one -/
structure FrameN (j : InstallJob) (fsN fs : Fs) : Prop where
  frame : ∀ q, ¬ Hid j q → q ≠ handlersFile → get fs q = get fsN q
  handlers : get fs handlersFile = get fsN handlersFile ∨
    ∃ data, j.newHandlers = some data ∧ get fs handlersFile = some (.file data)

theorem saveHandlersPrims_eq (data : Bytes) : saveHandlersPrims data = atomicWritePrims handlersTmp handlersFile data := rfl

theorem frameN_B {j : InstallJob} {fsN s : Fs} (h : Crashed (primsB j) fsN s) : FrameN j fsN s := by
  cases h with
  | stop => exact ⟨fun _ _ _ => rfl, Or.inl rfl⟩
  | step h1 h =>
    cases h1
    have g1 : ∀ q, ¬ Hid j q → get (removeAll j.O fsN) q = get fsN q := fun q hq => by
      rw [get_removeAll, (not_pre_of_not_hid hq).2]; rfl
    cases hn : j.newHandlers with
    | none =>
      rw [handlerPrims, hn] at h; cases h
      exact ⟨fun q hq _ => g1 q hq, Or.inl (g1 _ (handlersFile_not_hid j))⟩
    | some data =>
      simp only [handlerPrims, hn, saveHandlersPrims_eq] at h
      obtain ⟨f, hh⟩ := atomicWrite_crash handlersFile_ne_tmp h
      refine ⟨fun q hq hq' => by rw [← g1 q hq]; exact f q (fun he => hq (Or.inr (Or.inr he))) hq', ?_⟩
      rcases hh with hh | hh
      · exact Or.inl (hh.trans (g1 _ (handlersFile_not_hid j)))
      · exact Or.inr ⟨data, hn, hh⟩

/-- after the move: the behaviour of the completed installation -/
theorem sameAs_of_frameN (L : OrderLaws S.gt) {fs₀ fsN fs fin : Fs} {cfg : List (Db C)} {j : InstallJob}
    (H : Healthy S fs₀ cfg) (hj : JobOk S j) (hN : AtN j fs₀ fsN) (hfs : FrameN j fsN fs) (hfin : FrameN j fsN fin) :
    SameAs S fs fin cfg ∧ ∃ res, startup S fin cfg = .ok res := by
  have hvisN := extVis_of_atN hN
  have nuN : NoUnprefixed fsN := noUnprefixed_of_extVis hvisN H.nu
  have okN : ListOk S fsN := listOk_of_extVis S H.closed hvisN (fun _ hx => hx ▸ hj.vparse) (listOk_of_healthy S H)
  -- `fs` and `fin` are compared through the pivot `fsN`: every `FrameN` state agrees with `fsN` on what the listing
  -- reads, its registry loads, hence its plugin directories are prefixed and it lists
  have agree : ∀ {s : Fs}, FrameN j fsN s → AgreeVis fsN s := fun hs q hq =>
    (hs.frame q (vis_not_hid hq) (ne_of_initial (initial_of_vis hq) initial_handlersFile (by decide))).symm
  have hload : ∀ {s : Fs}, FrameN j fsN s → loadHandlers S s = .ok () := by
    intro s hs
    rcases hs.handlers with h | ⟨data, hd, h⟩
    · rw [loadHandlers_congr S (h.trans (handlers_of_atN hN))]; exact loadHandlers_of_healthy S H
    · simp [loadHandlers, h, hj.handlers data hd]
  have nu : ∀ {s : Fs}, FrameN j fsN s → NoUnprefixed s := fun hs => noUnprefixed_of_agree (agree hs) nuN
  have ok : ∀ {s : Fs}, FrameN j fsN s → ListOk S s := fun hs => listOk_of_agree S (agree hs) okN
  refine ⟨⟨?_, ?_, nu hfs⟩, ?_⟩
  · exact startup_eq_of_agree S L ((agree hfs).symm.trans (agree hfin)) (nu hfs) (ok hfs)
      ((hload hfs).trans (hload hfin).symm) cfg
  · intro q hq
    have hH : q ≠ handlersFile := ne_of_initial (initial_of_inVersionDir hq) initial_handlersFile (by decide)
    rw [hfs.frame q (inVersionDir_not_hid hq) hH, hfin.frame q (inVersionDir_not_hid hq) hH]
  · obtain ⟨res, hres⟩ := H.start
    apply startup_isOk_mono S H.nu (nu hfin) (ok hfin) _ (hload hfin) hres
    intro ref v hi
    exact installed_of_agree S (agree hfin) ref v (installed_mono_of_extVis S hvisN ref v hi)

/-- Stage, swap, finish — killed anywhere: for ANY steps `A` confined to the hidden region and ANY steps `B` that keep
    `FrameN`. The two renames are the only steps that are looked at; `installPrims` is put in by the callers. -/
theorem swap_crash_states {j : InstallJob} {A B ps : List Prim} (hA : ∀ p ∈ A, Confined j p)
    (hB : ∀ {fsN s}, Crashed B fsN s → FrameN j fsN s) (hd : isDot j.v = false)
    (hps : ps = A ++ (.renameIfExists j.N j.O :: .rename j.Sg j.N :: B)) {fs₀ s : Fs} (h : Crashed ps fs₀ s) :
    ExtA j fs₀ s ∨ (ExtW j fs₀ s ∧ (get fs₀ j.N).isSome = true ∧ get s j.N = none) ∨
    ∃ fsN, AtN j fs₀ fsN ∧ FrameN j fsN s ∧ FrameN j fsN (run ps fs₀) := by
  subst hps
  -- killed during the staging work, or a staging step failed and Install returned early
  rcases h.append_cases with h | ⟨hfin, h⟩
  · exact Or.inl (extA_crashed hA (extA_refl j fs₀) h)
  have extA_fsA := extA_crashed hA (extA_refl j fs₀) (crashed_run A fs₀)
  rw [hfin]
  cases h with
  | stop => exact Or.inl extA_fsA
  | step hW h =>
    obtain ⟨extW, hcase⟩ := moveAside hd extA_fsA hW
    cases h with
    | stop =>
      -- the old version is out of the way (if there was one), the new one not yet in
      exact hcase.elim (fun he => Or.inl (by rw [he]; exact extA_fsA)) fun hw => Or.inr (Or.inl ⟨extW, hw⟩)
    | @step _ _ _ fsN _ hN h =>
      -- after the move: the uninterrupted run passes through the same state
      rw [run_cons_ok hW, run_cons_ok hN]
      exact Or.inr (Or.inr ⟨fsN, moveIn extW hN, hB h, hB (crashed_run B fsN)⟩)

/-- **Crash safety of Install.** Kill the installation anywhere (after any number of filesystem steps, the last write
    torn at any byte). Unless the version directory existed before and is absent now (the swap window of a re-install),
    the next start-up behaves exactly as before the installation, or exactly as after the completed installation
    (which then starts fine); and every version directory is byte for byte the one of that state. -/
theorem install_crash_safe (L : OrderLaws S.gt) {fs₀ s : Fs} {cfg : List (Db C)} {j : InstallJob}
    (H : Healthy S fs₀ cfg) (hj : JobOk S j) (hs : Crashed (installPrims j) fs₀ s)
    (hwin : ¬ ((get fs₀ j.N).isSome = true ∧ get s j.N = none)) :
    SameAs S s fs₀ cfg ∨
    (SameAs S s (run (installPrims j) fs₀) cfg ∧ ∃ res, startup S (run (installPrims j) fs₀) cfg = .ok res) := by
  rcases swap_crash_states (primsA_confined hj.staging) frameN_B hj.vdot (installPrims_eq j) hs with
    h | ⟨_, hw⟩ | ⟨fsN, hN, hfs, hfin⟩
  · exact Or.inl (sameAs_of_extA S L H h)
  · exact absurd hw hwin
  · exact Or.inr (sameAs_of_frameN S L H hj hN hfs hfin)

/-- the condition under which getAdditionalPluginRepositoryURLs returns without error -/
def ReposOk (fs : Fs) : Prop :=
  get fs repositoriesDir = none ∨
  (get fs repositoriesDir = some .dir ∧ ∀ x, (get fs (repositoriesDir ++ [x])).isSome = true →
      ∃ c, get fs (repositoriesDir ++ [x]) = some (.file c) ∧ S.repoEntryOk c = true)

theorem loadRepositories_isOk_iff {fs : Fs} : (∃ us, loadRepositories S fs = .ok us) ↔ ReposOk S fs := by
  refine (exists_congr fun _ => readDir_orEmpty_then).trans ?_
  simp only [exists_or, exists_and_left, exists_eq', and_true, mapE_isOk_iff, mem_children, ReposOk]
  -- an entry is accepted exactly when it is a file whose content decodes
  refine or_congr_right (and_congr_right fun _ => forall_congr' fun x => imp_congr_right fun _ => ?_)
  cases get fs (repositoriesDir ++ [x]) with
  | none => simp
  | some n => cases n with
    | dir => simp
    | file c => cases h : S.repoEntryOk c <;> simp [h]

theorem ReposOk.congr {fs fs' : Fs} (h : ∀ q, isPre repositoriesDir q = true → get fs' q = get fs q)
    (hR : ReposOk S fs) : ReposOk S fs' := by
  unfold ReposOk
  rw [h _ (isPre_refl _)]
  simp only [h _ (isPre_append _ _)]
  exact hR

theorem addRepoPrims_eq (slug : FName) (data : Bytes) :
    addRepoPrims slug data = .mkdirAll repositoriesDir :: atomicWritePrims (repoTmp slug) (repoEntry slug) data := rfl

theorem addRepo_crash_states {slug : FName} {data : Bytes} {fs₀ s : Fs} (h : Crashed (addRepoPrims slug data) fs₀ s) :
    (∀ q, q ≠ repositoriesDir → q ≠ repoTmp slug → q ≠ repoEntry slug → get s q = get fs₀ q) ∧
    (get s repositoriesDir = get fs₀ repositoriesDir ∨ (get fs₀ repositoriesDir = none ∧ get s repositoriesDir = some .dir)) ∧
    (get s (repoEntry slug) = get fs₀ (repoEntry slug) ∨ get s (repoEntry slug) = some (.file data)) := by
  rw [addRepoPrims_eq] at h
  cases h with
  | stop => exact ⟨fun _ _ _ _ => rfl, Or.inl rfl, Or.inl rfl⟩
  | step h1 h =>
    -- `mkdirAll` creates the directory, and nothing else
    have g1 : ∀ q, q ≠ repositoriesDir → get _ q = get fs₀ q := fun q hq =>
      (get_mkdirAll h1 q).resolve_right fun ⟨_, _, hpre, hne⟩ =>
        -- `repositoriesDir` has one component: a non-empty prefix of it is as long as it is
        have hlen : repositoriesDir.length ≤ q.length := List.length_pos_iff.2 hne
        hq (isPre_eq_of_len hpre (Nat.le_antisymm (isPre_len hpre) hlen))
    obtain ⟨f, he⟩ := atomicWrite_crash (repoEntry_ne_repoTmp slug slug) h
    refine ⟨fun q hqR hqT hqE => (f q hqT hqE).trans (g1 q hqR), ?_, ?_⟩
    · rw [f _ (repositoriesDir_ne_repoTmp slug) (repositoriesDir_ne_repoEntry slug)]
      exact (get_mkdirAll h1 _).imp id fun ⟨hn, hd, _⟩ => ⟨hn, hd⟩
    · rw [← g1 _ (repositoriesDir_ne_repoEntry slug).symm]; exact he

/-- **Crash safety of AddRepository.** Kill it after any number of filesystem steps, the write torn at any byte:
    the repositories directory still loads, and start-up and every version directory are as before. -/
theorem addRepo_crash_safe (L : OrderLaws S.gt) {fs₀ fs : Fs} {cfg : List (Db C)} (H : Healthy S fs₀ cfg)
    (hR : ReposOk S fs₀) {slug : FName} {data : Bytes} (hdata : S.repoEntryOk data = true)
    (hs : Crashed (addRepoPrims slug data) fs₀ fs) : ReposOk S fs ∧ SameAs S fs fs₀ cfg := by
  obtain ⟨f, hdir, hent⟩ := addRepo_crash_states hs
  constructor
  · -- an entry of the directory is as it was, or it is the new one, complete
    have entry : ∀ x, (get fs (repositoriesDir ++ [x])).isSome = true →
        (get fs₀ (repositoriesDir ++ [x])).isSome = true ∧ get fs (repositoriesDir ++ [x]) = get fs₀ (repositoriesDir ++ [x]) ∨
        get fs (repositoriesDir ++ [x]) = some (.file data) := fun x hx => by
      by_cases hxs : x = slug
      · subst hxs; rw [repoEntry] at hent; exact hent.imp (fun h => ⟨by rwa [h] at hx, h⟩) id
      · have : get fs (repositoriesDir ++ [x]) = _ :=
          f (repoEntry x) (repositoriesDir_ne_repoEntry x).symm (repoEntry_ne_repoTmp x slug) (by simpa [repoEntry] using hxs)
        exact Or.inl ⟨by rwa [this] at hx, this⟩
    rcases hdir with hsame | ⟨hnone, hnew⟩
    · rw [ReposOk, hsame]
      refine hR.imp id fun ⟨hd, hall⟩ => ⟨hd, fun x hx => ?_⟩
      rcases entry x hx with ⟨hx₀, h'⟩ | h'
      · rw [h']; exact hall x hx₀
      · exact ⟨data, h', hdata⟩
    · -- the directory is new: in a closed tree nothing was in it
      refine Or.inr ⟨hnew, fun x hx => ?_⟩
      rcases entry x hx with ⟨hx₀, _⟩ | h'
      · have := H.closed _ x (by simp [repositoriesDir]) hx₀
        rw [hnone] at this; cases this
      · exact ⟨data, h', hdata⟩
  · -- the plugins: what start-up reads starts with `p` or `f`, the three paths with `r`
    have same : ∀ {q d}, initial q = some d → d ≠ 'r' → get fs q = get fs₀ q := fun hd hne =>
      f _ (ne_of_initial hd (initial_repositories []) hne) (ne_of_initial hd (initial_repoTmp slug) hne)
        (ne_of_initial hd (initial_repositories [slug]) hne)
    have agree : AgreeVis fs₀ fs := fun q hq => (same (initial_of_vis hq) (by decide)).symm
    exact ⟨(startup_eq_of_agree S L agree H.nu (listOk_of_healthy S H)
        (loadHandlers_congr S (same initial_handlersFile (by decide)).symm) cfg).symm,
      fun q hq => same (initial_of_inVersionDir hq) (by decide), noUnprefixed_of_agree agree H.nu⟩

theorem install_keeps_repositories {j : InstallJob} (hj : JobOk S j) {fs₀ s : Fs} (hs : Crashed (installPrims j) fs₀ s)
    (q : Path) (hq : isPre repositoriesDir q = true) : get s q = get fs₀ q := by
  -- `q` starts with `r`: it is not hidden, not below the plugin directory, not above it, not the registry
  have hr := initial_of_isPre (initial_repositories []) hq
  have hp : initial j.D = some 'p' := initial_plugins _
  have hH : ¬ Hid j q := fun h => by
    rcases initial_of_hid h with h | h <;> rw [hr] at h <;> cases h
  have hN : isPre j.N q = false := not_isPre_of_initial (initial_plugins _) hr (by decide)
  have hD : isPre q j.D = false := not_isPre_of_initial hr hp (by decide)
  rcases swap_crash_states (primsA_confined hj.staging) frameN_B hj.vdot (installPrims_eq j) hs with
    h | ⟨h, _⟩ | ⟨fsN, hAtN, hfs, _⟩
  · exact (h q hH).eq_of_not_pre hD
  · exact (extW_iff.1 h q hH hN).eq_of_not_pre hD
  · exact (hfs.frame q hH (ne_of_initial hr initial_handlersFile (by decide))).trans
      ((extW_iff.1 hAtN.ext q hH hN).eq_of_not_pre hD)

end main
end Octo.Plugins
