import Octo.Model.NumFuncs
/-!
  Octo.Lemmas.Int64 — the `BitVec 64` operators of the model against mathematical integers:
  every operator equals the exact result wrapped into the Int64 range (`wrap64`), and is exact when
  the exact result fits.
-/
namespace Octo.Num

/-- `2 ^ 64` written out, for `omega` -/
theorem wrap64_def (x : Int) : wrap64 x = x.bmod 18446744073709551616 := rfl

theorem inI64_iff (x : Int) : InI64 x ↔ (-9223372036854775808 ≤ x ∧ x ≤ 9223372036854775807) := by
  unfold InI64 minI64 maxI64; exact Iff.rfl

theorem inI64_wrap64 (x : Int) : InI64 (wrap64 x) := by
  rw [inI64_iff, wrap64_def]
  have h1 := @Int.le_bmod x 18446744073709551616 (by decide)
  have h2 := @Int.bmod_lt x 18446744073709551616 (by decide)
  omega

theorem wrap64_of_inI64 {x : Int} (h : InI64 x) : wrap64 x = x := by
  rw [inI64_iff] at h
  rw [wrap64_def]
  apply Int.bmod_eq_of_le <;> omega

theorem wrap64_wrap64 (x : Int) : wrap64 (wrap64 x) = wrap64 x := wrap64_of_inI64 (inI64_wrap64 x)

theorem toInt_bv (x : Int) : (bv x).toInt = wrap64 x := by
  unfold bv wrap64; exact BitVec.toInt_ofInt x

theorem toInt_bv_of_inI64 {x : Int} (h : InI64 x) : (bv x).toInt = x := by
  rw [toInt_bv, wrap64_of_inI64 h]

theorem addI64_eq (a b : Int) : addI64 a b = wrap64 (a + b) := by
  unfold addI64
  rw [BitVec.toInt_add, toInt_bv, toInt_bv]
  unfold wrap64
  rw [Int.bmod_add_bmod, Int.add_bmod_bmod]

theorem subI64_eq (a b : Int) : subI64 a b = wrap64 (a - b) := by
  unfold subI64
  rw [BitVec.toInt_sub, toInt_bv, toInt_bv]
  unfold wrap64
  rw [Int.bmod_sub_bmod, Int.sub_bmod_bmod]

theorem mulI64_eq (a b : Int) : mulI64 a b = wrap64 (a * b) := by
  unfold mulI64
  rw [BitVec.toInt_mul, toInt_bv, toInt_bv]
  unfold wrap64
  rw [Int.bmod_mul_bmod, Int.mul_bmod_bmod]

theorem negI64_eq (a : Int) : negI64 a = wrap64 (-a) := by
  unfold negI64
  rw [BitVec.toInt_neg, toInt_bv]
  unfold wrap64
  rw [Int.bmod_neg_bmod]

theorem negI64_exact {d : Int} (h : InI64 d) (hm : d ≠ minI64) : negI64 d = -d := by
  rw [negI64_eq]
  apply wrap64_of_inI64
  rw [inI64_iff] at *
  unfold minI64 at hm
  omega

theorem quoI64_eq {a b : Int} (ha : InI64 a) (hb : InI64 b) : quoI64 a b = wrap64 (Int.tdiv a b) := by
  unfold quoI64
  rw [BitVec.toInt_sdiv, toInt_bv_of_inI64 ha, toInt_bv_of_inI64 hb]
  rfl

end Octo.Num
