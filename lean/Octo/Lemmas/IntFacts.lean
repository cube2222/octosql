/-! Facts about division with remainder on `Int` that the windowing lemmas need and core Lean does not state. -/

/-- `d * k` is the only multiple of `d` in `(x - d, x]`, so `k` is the quotient and the distance the remainder -/
theorem Int.floor_unique {d k x : Int} (hd : 0 < d) (h1 : d * k ≤ x) (h2 : x < d * k + d) : k = x / d ∧ x - d * k = x % d :=
  have := (Int.ediv_emod_unique (r := x - d * k) (q := k) hd).2
    ⟨Int.sub_add_cancel x (d * k), Int.sub_nonneg.2 h1, Int.sub_left_lt_of_lt_add h2⟩
  ⟨this.1.symm, this.2.symm⟩
