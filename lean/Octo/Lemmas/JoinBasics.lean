import Octo.Lemmas.Net
import Octo.Model.JoinSpec
/-!
  Basics for the join proofs (C19 / C02): sums over record lists (`wsum` is `sumBy` of `Bag`, and its laws come from there),
  the weight and sign of a record, the order on `time.Time` values.
-/
namespace Octo.Join
open Octo

/-- `RowInv g` of `Net`, with row equivalence spelt `cmpList a b = 0` as the tree proofs have it -/
def Congr (g : Row → Int) : Prop := ∀ a b, cmpList a b = 0 → g a = g b

theorem cmpList_nil_left (b : Row) : cmpList [] b = 0 ↔ b = [] := by
  cases b <;> simp [cmpList, cmpListWith]
theorem cmpList_nil_right (a : Row) : cmpList a [] = 0 ↔ a = [] := by
  cases a <;> simp [cmpList, cmpListWith]

theorem cmpList_eq_length : ∀ {a b : Row}, cmpList a b = 0 → a.length = b.length := Octo.cmpList_eq_length

theorem cmp_null_left (v : Value) : cmp .null v = 0 ↔ v = .null := by
  cases v <;> simp [cmp, cmpWith, Value.rank]
theorem cmp_null_right (v : Value) : cmp v .null = 0 ↔ v = .null := by
  have := cmp_antisymm v .null
  rw [← cmp_null_left v]; omega

theorem hasNull_cons_ne {x : Value} (h : x ≠ .null) (xs : Row) : hasNull (x :: xs) = hasNull xs := by
  cases x <;> first | rfl | exact absurd rfl h

theorem hasNull_congr : ∀ {a b : Row}, cmpList a b = 0 → hasNull a = hasNull b :=
  cmpList_eq_rec (motive := fun a b => hasNull a = hasNull b) rfl fun {x y} _ _ hc _ ih => by
    by_cases hx : x = .null
    · subst hx; rw [(cmp_null_left y).mp hc]; rfl
    · have hy : y ≠ .null := fun hy => hx (by subst hy; exact (cmp_null_right x).mp hc)
      rw [hasNull_cons_ne hx, hasNull_cons_ne hy, ih]

def wsum (f : Rec → Int) : List Rec → Int
  | [] => 0
  | r :: rs => f r + wsum f rs

theorem wsum_nil (f : Rec → Int) : wsum f [] = 0 := rfl
theorem wsum_cons (f : Rec → Int) (r : Rec) (rs : List Rec) : wsum f (r :: rs) = f r + wsum f rs := rfl
theorem wsum_eq_sumBy (f : Rec → Int) (l : List Rec) : wsum f l = sumBy f l := by
  induction l with
  | nil => rfl
  | cons r rs ih => exact congrArg (f r + ·) ih
theorem wsum_append (f : Rec → Int) (a b : List Rec) : wsum f (a ++ b) = wsum f a + wsum f b := by
  simp only [wsum_eq_sumBy]; exact sumBy_append f a b
theorem wsum_single (f : Rec → Int) (r : Rec) : wsum f [r] = f r := Int.add_zero (f r)
theorem wsum_perm {f : Rec → Int} {a b : List Rec} (h : List.Perm a b) : wsum f a = wsum f b := by
  simp only [wsum_eq_sumBy]; exact sumBy_perm h
theorem wsum_congr {f g : Rec → Int} {l : List Rec} (h : ∀ r ∈ l, f r = g r) : wsum f l = wsum g l := by
  simp only [wsum_eq_sumBy]; exact sumBy_congr h
theorem wsum_zero (l : List Rec) : wsum (fun _ => 0) l = 0 :=
  (wsum_eq_sumBy _ l).trans (sumBy_eq_zero fun _ _ => rfl)
theorem wsum_mul_left (c : Int) (f : Rec → Int) (l : List Rec) : wsum (fun r => c * f r) l = c * wsum f l := by
  simp only [wsum_eq_sumBy]; exact sumBy_mul_left c f l
theorem wsum_filter (p : Rec → Bool) (f : Rec → Int) (l : List Rec) :
    wsum f (l.filter p) = wsum (fun r => if p r then f r else 0) l := by
  simp only [wsum_eq_sumBy]; exact sumBy_filter p f l
theorem wsum_map (f : Rec → Int) (g : Rec → Rec) (l : List Rec) : wsum f (l.map g) = wsum (f ∘ g) l := by
  simp only [wsum_eq_sumBy]; exact sumBy_map f g l
theorem wsum_add (f g : Rec → Int) (l : List Rec) : wsum (fun r => f r + g r) l = wsum f l + wsum g l := by
  induction l with
  | nil => rfl
  | cons r rs ih => simp only [wsum, ih]; omega
theorem wsum_sub (f g : Rec → Int) (l : List Rec) : wsum (fun r => f r - g r) l = wsum f l - wsum g l := by
  induction l with
  | nil => rfl
  | cons r rs ih => simp only [wsum, ih]; omega
theorem net_eq_wsum (l : List Rec) (row : Row) : net l row = wsum (fun r => r.weight row) l :=
  (net_eq_sumBy l row).trans (wsum_eq_sumBy _ l).symm

theorem net_perm {a b : List Rec} (h : List.Perm a b) (row : Row) : net a row = net b row :=
  Octo.net_perm h row

theorem net_flatMap (B : Rec → List Rec) (l : List Rec) (row : Row) :
    net (l.flatMap B) row = wsum (fun r => net (B r) row) l :=
  (Octo.net_flatMap B l row).trans (wsum_eq_sumBy _ l).symm

theorem net_map_filter (p : Rec → Bool) (f : Rec → Rec) (row : Row) (l : List Rec) :
    net ((l.filter p).map f) row = wsum (fun x => if p x then (f x).weight row else 0) l := by
  rw [net_eq_wsum, wsum_map, wsum_filter]; rfl

theorem sgn_eq (r : Rec) : sgn r = if r.retr then -1 else 1 := rfl

/-- the sign of the join specification and the sign of `Net` have the same body: the lemmas of `Net` apply to `sgn` -/
theorem sgn_eq_sign (r : Rec) : sgn r = r.sign := rfl

theorem weight_sgn (r : Rec) (row : Row) : r.weight row = if rowEq r.vals row then sgn r else 0 := by
  rw [sgn_eq_sign]; exact r.weight_eq row

theorem sgn_of_bne {q l r : Rec} (h : q.retr = (l.retr != r.retr)) : sgn q = sgn l * sgn r := by
  unfold sgn; rw [h]; cases l.retr <;> cases r.retr <;> rfl

theorem after_irrefl (a : T) : after a a = false := by
  cases a <;> simp [after]
theorem after_none_right (t : Int) : after (some t) none = true := rfl
theorem after_none_left (a : T) : after none a = false := by cases a <;> rfl
theorem after_some_of_after {e : T} {c : T} (h : after e c = true) : ∃ t, e = some t := by
  cases e with
  | none => simp [after] at h
  | some t => exact ⟨t, rfl⟩
theorem not_after_trans {a b c : T} (h1 : after a b = false) (h2 : after b c = false) : after a c = false := by
  cases a <;> cases b <;> cases c <;> simp_all [after] <;> omega
theorem after_of_after_of_not_after {a b c : T} (h1 : after a b = true) (h2 : after c b = false) : after a c = true := by
  cases a <;> cases b <;> cases c <;> simp_all [after] <;> omega
theorem not_after_of_after {a b : T} (h : after a b = true) : after b a = false := by
  cases a <;> cases b <;> simp_all [after] <;> omega
theorem after_trans' {a b c : T} (h1 : after a b = true) (h2 : after b c = true) : after a c = true :=
  after_of_after_of_not_after h1 (not_after_of_after h2)

end Octo.Join
