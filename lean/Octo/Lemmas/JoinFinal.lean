import Octo.Lemmas.JoinRunInd
import Octo.Lemmas.JoinOuter
/-!
  The two nodes as instances of `RecvOK`, and the run theorem from the initial state.
-/
namespace Octo.Join
open Octo

variable {cfg : Cfg}

theorem recvOK_inner (hc : cfg.nullMatch = false) (ho : cfg.outer = false) : RecvOK cfg (joinW cfg) where
  recv := by
    intro left osr my to Pm Po x hm hot _ _
    unfold recv; rw [ho]
    exact sjRecv_spec hc hm hot
  permL := fun R row h => joinW_perm_left h R row
  permR := fun L _ _ row h => joinW_perm_right L h row
  nil := fun _ => rfl

theorem recvOK_outer (hc : cfg.nullMatch = false) (ho : cfg.outer = true) : RecvOK cfg (outerW cfg) where
  recv := by
    intro left osr my to Pm Po x hm hot hosr hsh
    have h0 : osr = false := Bool.eq_false_iff.mpr fun h => by rw [hosr h] at ho; cases ho
    subst h0
    obtain ⟨tm, rfl, hr⟩ := hm
    unfold recv; rw [ho]
    exact ojRecv_store hc hr hot (hsh ho)
  permL := fun R row h => by unfold outerW; rw [joinW_perm_left h, padW_perm_my R row h, padW_perm_other R row h]
  permR := fun L _ _ row h => by unfold outerW; rw [joinW_perm_right L h, padW_perm_other L row h, padW_perm_my L row h]
  nil := by
    intro row
    unfold outerW joinW padW
    simp [wsum]

theorem specW_recvOK (hc : cfg.nullMatch = false) : RecvOK cfg (specW cfg) := by
  by_cases ho : cfg.outer = true
  · have : specW cfg = outerW cfg := by funext L R row; simp [specW, ho]
    rw [this]; exact recvOK_outer hc ho
  · have ho' : cfg.outer = false := Bool.eq_false_iff.mpr ho
    have : specW cfg = joinW cfg := by funext L R row; simp [specW, ho']
    rw [this]; exact recvOK_inner hc ho'

def sides {α : Type} (l r : α) (side : Bool) : α := if side then l else r

theorem inv_init {W : List Rec → List Rec → Row → Int} (ok : RecvOK cfg W) :
    Inv cfg W St.init none (fun _ => []) (fun _ => []) where
  core := { out := fun row => (ok.nil row).symm
            tree := fun side _ => ⟨[], by cases side <;> rfl, rep_nil cfg side⟩
            gone := nofun
            outer := nofun }
  perm := fun side => by cases side <;> exact List.Perm.refl _
  bufOK := fun side => by cases side <;> trivial
  untimed := fun _ => rfl

theorem timely_init : Timely St.init (.at none) (fun _ => []) :=
  fun side => by cases side <;> exact List.Perm.refl _

/-- for every schedule of the two inputs the node does not panic on good
    inputs; if it does not panic, its consolidated output is the specification of the complete
    inputs; and for fresh inputs (monotone watermarks, no late records) every forwarded watermark `w`
    comes after an output prefix that is the specification of the inputs up to `w`. -/
theorem run_post {W : List Rec → List Rec → Row → Int} (ok : RecvOK cfg W)
    (hsw : cfg.switchOsr = false) {ls rs : List Msg} {σ : List Ev}
    (hsh : ∀ side, ∀ x ∈ sides (recs ls) (recs rs) side, Shape cfg side x) (hI : Interleave ls rs σ) :
    Post (Good cfg (sides (recs ls) (recs rs))) (Final W (sides (recs ls) (recs rs)) (Fresh none ls ∧ Fresh none rs))
      (run cfg σ) := by
  refine runFrom_post ok hsw _ _ hsh σ St.init (sides ls rs) (fun _ => []) (fun _ => []) hI
    ⟨fun side => by cases side <;> rfl, inv_init ok, fun hF => ⟨trivial, timely_init, fun side => ?_⟩⟩
  cases side
  · exact ⟨rfl, hF.2⟩
  · exact ⟨rfl, hF.1⟩

end Octo.Join
