import Octo.Lemmas.JoinRecv
/-!
  The scheduling half of the join proofs, generic in the node (`RecvOK` is what the machine needs to know about
  `receiveRecord`) and in the side: the two inputs' variables of `Run` are read through `St.buf` / `St.tree`, and
  per-side lists are functions `Bool → List Rec` (`true` = left).
-/
namespace Octo.Join
open Octo

def upd {α : Type} (f : Bool → α) (side : Bool) (v : α) : Bool → α := fun sd => if sd = side then v else f sd

theorem upd_self {α : Type} (f : Bool → α) (side : Bool) (v : α) : upd f side v side = v := if_pos rfl
theorem upd_ne {α : Type} (f : Bool → α) {sd side : Bool} (v : α) (h : sd ≠ side) : upd f side v sd = f sd := if_neg h
theorem not_ne_self (b : Bool) : (!b) ≠ b := by cases b <;> decide
def St.buf (s : St) (left : Bool) : Buf := if left then s.bufL else s.bufR
def St.tree (s : St) (left : Bool) : Option Tree := if left then s.treeL else s.treeR

def St.put (s : St) (left : Bool) (buf : Buf) (tree : Option Tree) (out : List Msg) : St :=
  if left then { s with bufL := buf, treeL := tree, out := out } else { s with bufR := buf, treeR := tree, out := out }

def St.wm (s : St) (left : Bool) : T := if left then s.lw else s.rw

def St.setWm (s : St) (left : Bool) (w : Int) : St := if left then { s with lw := some w } else { s with rw := some w }

section put
variable (s : St) (left side : Bool) (b : Buf) (t : Option Tree) (o : List Msg)
theorem put_buf : (s.put left b t o).buf side = if side = left then b else s.buf side := by
  cases left <;> cases side <;> rfl
theorem put_tree : (s.put left b t o).tree side = if side = left then t else s.tree side := by
  cases left <;> cases side <;> rfl
theorem put_buf_same : (s.put left (s.buf left) t o).buf side = s.buf side := by
  cases left <;> cases side <;> rfl
theorem put_tree_same : (s.put left b (s.tree left) o).tree side = s.tree side := by
  cases left <;> cases side <;> rfl
theorem put_out : (s.put left b t o).out = o := by cases left <;> rfl
end put

theorem processSide_eq (cfg : Cfg) (left : Bool) (s : St) (b : Bound) (osr : Bool) :
    processSide cfg left s b osr =
      if (s.tree (!left)).isSome then
        let p := procList cfg left osr (s.tree (!left)) (s.tree left) (Buf.emit b (s.buf left)).1
        if p.2.2 then .ok (s.put left (Buf.emit b (s.buf left)).2 p.1 (s.out ++ dataMsgs p.2.1))
        else .error (s.out ++ dataMsgs p.2.1)
      else .ok s := by
  cases left <;> rfl

theorem directRecv_eq (cfg : Cfg) (left : Bool) (s : St) (r : Rec) (osr : Bool) :
    directRecv cfg left s r osr =
      match recv cfg (s.tree left) (s.tree (!left)) left r osr with
      | none => .error s.out
      | some (my', em) => .ok (s.put left (s.buf left) my' (s.out ++ dataMsgs em)) := by
  cases left <;> rfl

theorem addBuf_eq (left : Bool) (s : St) (t : Int) (r : Rec) :
    addBuf left s t r = s.put left (Buf.add t r (s.buf left)) (s.tree left) s.out := by
  cases left <;> rfl

theorem markIf_eq (cfg : Cfg) (ld : Bool) (s : St) (osr : Bool) :
    markIf cfg ld s osr =
      if cfg.outer then (s, osr)
      else if (s.buf ld).isEmpty then (s.put (!ld) (s.buf (!ld)) none s.out, true) else (s, osr) := by
  cases ld <;> rfl

/-- records have the width the OuterJoin node was built for (irrelevant for StreamJoin) -/
def Shape (cfg : Cfg) (left : Bool) (x : Rec) : Prop :=
  cfg.outer = true → x.vals.length = (if left then cfg.nL else cfg.nR)

/-- `osr = true → cfg.outer = false`: `receiveRecord` is called on a given-up tree (`osr`) by StreamJoin only.
    `OuterJoin.Run` has no `markOneStreamRemains`, and `ojRecv` on a tree that is not there would be the nil
    dereference, of which nothing could be proved. -/
structure RecvOK (cfg : Cfg) (W : List Rec → List Rec → Row → Int) : Prop where
  recv : ∀ {left osr : Bool} {my : Option Tree} {to : Tree} {Pm Po : List Rec} {x : Rec},
    MyTree cfg left my Pm osr → Rep cfg (!left) to Po → (osr = true → cfg.outer = false) → Shape cfg left x →
    RecvPost cfg left my x (fun my' em => MyTree cfg left my' (Pm ++ [x]) osr ∧
      ∀ row, sideW W left (Pm ++ [x]) Po row = sideW W left Pm Po row + net em row)
      (recv cfg my (some to) left x osr)
  permL : ∀ {L L' : List Rec} (R : List Rec) (row : Row), List.Perm L L' → W L R row = W L' R row
  permR : ∀ (L : List Rec) {R R' : List Rec} (row : Row), List.Perm R R' → W L R row = W L R' row
  nil : ∀ row, W [] [] row = 0

def bufAll : Buf → List Rec
  | [] => []
  | (_, rs) :: rest => rs ++ bufAll rest

theorem bufAll_add (t : Int) (r : Rec) (b : Buf) : List.Perm (bufAll (Buf.add t r b)) (bufAll b ++ [r]) := by
  induction b with
  | nil => exact List.Perm.refl _
  | cons p rest ih =>
    obtain ⟨t', rs⟩ := p
    unfold Buf.add
    split
    · exact List.perm_append_comm (l₁ := [r])
    · split
      · show List.Perm ((rs ++ [r]) ++ bufAll rest) ((rs ++ bufAll rest) ++ [r])
        rw [List.append_assoc, List.append_assoc]
        exact List.Perm.append_left rs List.perm_append_comm
      · show List.Perm (rs ++ bufAll (Buf.add t r rest)) ((rs ++ bufAll rest) ++ [r])
        rw [List.append_assoc]
        exact List.Perm.append_left rs ih

theorem bufAll_emit (bd : Bound) (b : Buf) : bufAll b = (Buf.emit bd b).1 ++ bufAll (Buf.emit bd b).2 := by
  induction b with
  | nil => rfl
  | cons p rest ih =>
    obtain ⟨t, rs⟩ := p
    simp only [Buf.emit]
    by_cases h : bd.releases t = true
    · simp only [h, if_true, bufAll, List.append_assoc]
      rw [← ih]
    · simp [h, bufAll]

theorem emit_top (b : Buf) : Buf.emit .top b = (bufAll b, []) := by
  induction b with
  | nil => rfl
  | cons p rest ih => simp only [Buf.emit, Bound.releases, if_true, ih, bufAll]

theorem emit_nil (bd : Bound) : Buf.emit bd [] = ([], []) := rfl

theorem mem_emit_of {b : Bound} {buf : Buf} {x : Rec} (h : x ∈ (Buf.emit b buf).1) : x ∈ bufAll buf := by
  rw [bufAll_emit b buf]; simp [h]

def BufOK : Buf → Prop
  | [] => True
  | (t, rs) :: rest => (∀ x ∈ rs, x.et = some t) ∧ (∀ p ∈ rest, t < p.1) ∧ BufOK rest

/-- the second half carries a lower bound of the bucket times through the insertion: the recursive case needs it -/
theorem bufOK_add {t : Int} {r : Rec} (hr : r.et = some t) {b : Buf} (hb : BufOK b) :
    BufOK (Buf.add t r b) ∧ ∀ lo, lo < t → (∀ p ∈ b, lo < p.1) → ∀ p ∈ Buf.add t r b, lo < p.1 := by
  induction b with
  | nil =>
    exact ⟨⟨fun x hx => by rw [List.mem_singleton.mp hx]; exact hr, nofun, trivial⟩,
     fun lo h _ p hp => by rw [List.mem_singleton.mp hp]; exact h⟩
  | cons q rest ih =>
    obtain ⟨t', rs⟩ := q
    obtain ⟨h1, h2, h3⟩ := hb
    unfold Buf.add
    by_cases c1 : t < t'
    · rw [if_pos c1]
      refine ⟨⟨fun x hx => by rw [List.mem_singleton.mp hx]; exact hr, fun p hp => ?_, h1, h2, h3⟩, fun lo hlo hb p hp => ?_⟩
      · rcases List.mem_cons.mp hp with hp | hp
        · rw [hp]; exact c1
        · exact Int.lt_trans c1 (h2 p hp)
      · rcases List.mem_cons.mp hp with hp | hp
        · rw [hp]; exact hlo
        · exact hb p hp
    · rw [if_neg c1]
      by_cases c2 : t = t'
      · rw [if_pos c2]
        subst c2
        refine ⟨⟨fun x hx => ?_, h2, h3⟩, fun lo hlo hb p hp => ?_⟩
        · rcases List.mem_append.mp hx with hx | hx
          · exact h1 x hx
          · rw [List.mem_singleton.mp hx]; exact hr
        · rcases List.mem_cons.mp hp with hp | hp
          · rw [hp]; exact hlo
          · exact hb p (List.mem_cons_of_mem _ hp)
      · rw [if_neg c2]
        obtain ⟨ih1, ih2⟩ := ih h3
        refine ⟨⟨h1, ih2 t' (by omega) h2, ih1⟩, fun lo hlo hb p hp => ?_⟩
        rcases List.mem_cons.mp hp with hp | hp
        · rw [hp]; exact hb _ (List.mem_cons_self ..)
        · exact ih2 lo hlo (fun q hq => hb q (List.mem_cons_of_mem _ hq)) p hp

theorem bufOK_emit (bd : Bound) {b : Buf} (hb : BufOK b) : BufOK (Buf.emit bd b).2 := by
  induction b with
  | nil => trivial
  | cons p rest ih =>
    unfold Buf.emit
    split
    · exact ih hb.2.2
    · exact hb

def untimed (x : Rec) : Bool := x.et.isNone

theorem untimed_of_none {x : Rec} (h : x.et = none) : untimed x = true := by simp [untimed, h]
theorem untimed_of_some {x : Rec} {t : Int} (h : x.et = some t) : untimed x = false := by simp [untimed, h]

theorem filter_eq_nil_of {p : Rec → Bool} {l : List Rec} (h : ∀ x ∈ l, p x = false) : l.filter p = [] :=
  List.filter_eq_nil_iff.mpr fun x hx => Bool.eq_false_iff.mp (h x hx)

theorem bufOK_timed {b : Buf} (hb : BufOK b) : ∀ x ∈ bufAll b, untimed x = false := by
  induction b with
  | nil => nofun
  | cons p rest ih =>
    intro x hx
    rcases List.mem_append.mp hx with hx | hx
    · exact untimed_of_some (hb.1 x hx)
    · exact ih hb.2.2 x hx

theorem recs_dataMsgs : ∀ em : List Rec, recs (dataMsgs em) = em := recs_map_data

theorem wms_dataMsgs : ∀ em : List Rec, wms (dataMsgs em) = [] := wms_map_data

variable {cfg : Cfg} {W : List Rec → List Rec → Row → Int} {s s' : St} {R P : Bool → List Rec} {drop : Option Bool}

theorem procList_step (ok : RecvOK cfg W) {left osr : Bool} {to : Tree}
    {Po : List Rec} (ho : Rep cfg (!left) to Po) (hosr : osr = true → cfg.outer = false)
    (xs : List Rec) {my : Option Tree} {Pm : List Rec}
    (hm : MyTree cfg left my Pm osr) (hsh : ∀ x ∈ xs, Shape cfg left x) :
    match (procList cfg left osr (some to) my xs).2.2 with
    | true => MyTree cfg left (procList cfg left osr (some to) my xs).1 (Pm ++ xs) osr ∧
        ∀ row, sideW W left (Pm ++ xs) Po row =
          sideW W left Pm Po row + net (procList cfg left osr (some to) my xs).2.1 row
    | false => ¬ ∀ x ∈ xs, x.retr = false ∧ KeysOK cfg left x := by
  induction xs generalizing my Pm with
  | nil => exact ⟨by rw [List.append_nil]; exact hm, fun row => by rw [List.append_nil]; exact (Int.add_zero _).symm⟩
  | cons x xs ih =>
    have h1 := ok.recv hm ho hosr (hsh x (by simp))
    simp only [procList]
    generalize recv cfg my (some to) left x osr = r at h1 ⊢
    cases r with
    | none => exact fun hg => h1 ⟨(hg x (by simp)).2, fun tm _ => safe_of_insert (hg x (by simp)).1⟩
    | some p =>
      obtain ⟨my1, em1⟩ := p
      obtain ⟨hm1, hnet1⟩ := h1
      have h' := ih hm1 (fun y hy => hsh y (by simp [hy]))
      dsimp only
      generalize procList cfg left osr (some to) my1 xs = q at h' ⊢
      obtain ⟨t', em', f⟩ := q
      cases f with
      | false => exact fun hg => h' fun y hy => hg y (by simp [hy])
      | true =>
        rw [List.append_assoc] at h'
        exact ⟨h'.1, fun row => by rw [net_append, ← Int.add_assoc, ← hnet1 row]; exact h'.2 row⟩

/-- which tree has been given up (`markOneStreamRemains`) in a phase: none, or the one of the side
    that is still open -/
def dropOf : Phase → Option Bool
  | .one leftDone true => some (!leftDone)
  | _ => none

theorem dropOf_isSome (ld osr : Bool) : (dropOf (.one ld osr)).isSome = osr := by
  cases osr <;> rfl

/-- `P side`: the records of `side` handed to `receiveRecord` so far. The output so far is the
    specification of them; every tree that is still kept holds them; a tree is given up only when
    the other side's buffer is empty, and only by StreamJoin (`OuterJoin.Run` has no `markOneStreamRemains`). -/
structure Core (cfg : Cfg) (W : List Rec → List Rec → Row → Int) (s : St) (P : Bool → List Rec) (drop : Option Bool) : Prop where
  out : ∀ row, net (recs s.out) row = W (P true) (P false) row
  tree : ∀ side, drop ≠ some side → ∃ t, s.tree side = some t ∧ Rep cfg side t (P side)
  gone : ∀ side, drop = some side → s.tree side = none ∧ s.buf (!side) = []
  outer : drop.isSome = true → cfg.outer = false

/-- `processRecordsUpTo` writes buffers, trees and records to the output only -/
structure Frame (s s' : St) : Prop where
  wm : ∀ side, s'.wm side = s.wm side
  minW : s'.minW = s.minW
  out : ∃ em, s'.out = s.out ++ dataMsgs em

theorem Frame.refl (s : St) : Frame s s := ⟨fun _ => rfl, rfl, [], by simp [dataMsgs]⟩
theorem Frame.trans {a b c : St} (h1 : Frame a b) (h2 : Frame b c) : Frame a c := by
  obtain ⟨e1, a4⟩ := h1.out
  obtain ⟨e2, b4⟩ := h2.out
  refine ⟨fun side => (h2.wm side).trans (h1.wm side), h2.minW.trans h1.minW, e1 ++ e2, ?_⟩
  rw [b4, a4]; simp [dataMsgs, List.append_assoc]

theorem Frame.put (s : St) (left : Bool) (b : Buf) (t : Option Tree) (em : List Rec) :
    Frame s (s.put left b t (s.out ++ dataMsgs em)) :=
  by cases left <;> exact ⟨fun side => by cases side <;> rfl, rfl, em, rfl⟩

theorem drop_cases {left : Bool} (hopen : drop ≠ some (!left)) : drop = none ∨ drop = some left := by
  cases drop with
  | none => exact Or.inl rfl
  | some d =>
    have : d = !!left := Bool.eq_not_of_ne (fun h => hopen (by rw [h]))
    rw [this, Bool.not_not]; exact Or.inr rfl

theorem Core.myTree (hc : Core cfg W s P drop) {left : Bool}
    (hopen : drop ≠ some (!left)) : MyTree cfg left (s.tree left) (P left) drop.isSome := by
  rcases drop_cases hopen with h | h <;> subst h
  · exact hc.tree left (by simp)
  · exact (hc.gone left rfl).1

/-- side `left` has handed `xs` to `receiveRecord` -/
theorem Core.put (hc : Core cfg W s P drop) {left : Bool}
    (hopen : drop ≠ some (!left)) {my' : Option Tree} {xs em : List Rec} (buf' : Buf)
    (hmy : MyTree cfg left my' (P left ++ xs) drop.isSome)
    (hnet : ∀ row, sideW W left (P left ++ xs) (P (!left)) row = sideW W left (P left) (P (!left)) row + net em row) :
    Core cfg W (s.put left buf' my' (s.out ++ dataMsgs em)) (upd P left (P left ++ xs)) drop := by
  refine ⟨fun row => ?_, fun side hs => ?_, fun side hs => ?_, hc.outer⟩
  · rw [put_out, recs_append, recs_dataMsgs, net_append, hc.out row]
    cases left <;> exact (hnet row).symm
  · rw [put_tree]
    by_cases h : side = left
    · subst h
      rw [if_pos rfl, upd_self]
      rcases drop_cases hopen with h | h <;> subst h
      · exact hmy
      · exact absurd rfl hs
    · rw [if_neg h, upd_ne _ _ h]; exact hc.tree side hs
  · subst hs
    have h : side = left := by
      rcases drop_cases hopen with h | h
      · cases h
      · exact Option.some.inj h
    subst h
    rw [put_tree, if_pos rfl, put_buf, if_neg (not_ne_self side)]
    exact ⟨hmy, (hc.gone side rfl).2⟩

theorem upd_append_nil (P : Bool → List Rec) (side : Bool) : upd P side (P side ++ []) = P := by
  funext sd
  by_cases h : sd = side
  · subst h; rw [upd_self, List.append_nil]
  · rw [upd_ne _ _ h]

/-- `R side`: the records received so far from `side`; each of them has been processed or sits in
    its buffer; buffers hold records with an event time, in order; records without event time have
    been processed in arrival order -/
structure Inv (cfg : Cfg) (W : List Rec → List Rec → Row → Int) (s : St) (drop : Option Bool)
    (R P : Bool → List Rec) : Prop where
  core : Core cfg W s P drop
  perm : ∀ side, List.Perm (P side ++ bufAll (s.buf side)) (R side)
  bufOK : ∀ side, BufOK (s.buf side)
  untimed : ∀ side, (P side).filter untimed = (R side).filter untimed

theorem Inv.congr (hi : Inv cfg W s drop R P)
    (ho : recs s'.out = recs s.out) (hb : ∀ side, s'.buf side = s.buf side) (ht : ∀ side, s'.tree side = s.tree side) :
    Inv cfg W s' drop R P :=
  ⟨⟨fun row => by rw [ho]; exact hi.core.out row, fun side hs => by rw [ht]; exact hi.core.tree side hs,
      fun side hs => by rw [ht, hb]; exact hi.core.gone side hs, hi.core.outer⟩,
    fun side => by rw [hb]; exact hi.perm side, fun side => by rw [hb]; exact hi.bufOK side, hi.untimed⟩

theorem Inv.shape (hi : Inv cfg W s drop R P) {side : Bool}
    (h : ∀ x ∈ R side, Shape cfg side x) : ∀ x ∈ bufAll (s.buf side), Shape cfg side x :=
  fun x hx => h x (((hi.perm side).mem_iff).mp (by simp [hx]))

theorem perm_snoc_end {a b c : List Rec} {b' : List Rec} (x : Rec) (h : List.Perm (a ++ b) c)
    (hb : List.Perm b' (b ++ [x])) : List.Perm (a ++ b') (c ++ [x]) := by
  have h1 : List.Perm (a ++ b') (a ++ (b ++ [x])) := List.Perm.append_left a hb
  rw [← List.append_assoc] at h1
  exact h1.trans (List.Perm.append_right [x] h)

def StepOK (G : Prop) {α : Type} (Q : α → Prop) : Except (List Msg) α → Prop
  | .ok r => Q r
  | .error _ => ¬ G

theorem onRec_step (ok : RecvOK cfg W) {sd : Bool} {x : Rec}
    (hopen : drop ≠ some (!sd)) (hi : Inv cfg W s drop R P) (hsh : Shape cfg sd x) :
    StepOK (KeysOK cfg sd x ∧ ∀ tm, s.tree sd = some tm → SafeStore cfg sd tm x)
      (fun s' => ∃ P', Inv cfg W s' drop (upd R sd (R sd ++ [x])) P' ∧ ∃ em, s'.out = s.out ++ dataMsgs em)
      (onRec cfg s sd x drop.isSome) := by
  unfold onRec
  cases het : x.et with
  | none =>
    dsimp only
    rw [directRecv_eq]
    obtain ⟨to, hto, repo⟩ := hi.core.tree _ hopen
    rw [hto]
    have hr := ok.recv (hi.core.myTree hopen) repo hi.core.outer hsh
    generalize recv cfg (s.tree sd) (some to) sd x drop.isSome = r at hr ⊢
    cases r with
    | none => exact hr
    | some p =>
      obtain ⟨my', em⟩ := p
      obtain ⟨hmy, hnet⟩ := hr
      refine ⟨upd P sd (P sd ++ [x]), ⟨hi.core.put hopen _ hmy hnet, fun side => ?_, fun side => ?_, fun side => ?_⟩,
        em, put_out ..⟩
      · rw [put_buf_same]
        by_cases hs : side = sd
        · subst hs; rw [upd_self, upd_self]; rw [List.append_assoc]; exact perm_snoc_end x (hi.perm side) List.perm_append_comm
        · rw [upd_ne _ _ hs, upd_ne _ _ hs]; exact hi.perm side
      · rw [put_buf_same]; exact hi.bufOK side
      · by_cases hs : side = sd
        · subst hs; rw [upd_self, upd_self, List.filter_append, List.filter_append, hi.untimed side]
        · rw [upd_ne _ _ hs, upd_ne _ _ hs]; exact hi.untimed side
  | some t =>
    dsimp only
    rw [addBuf_eq]
    have hx : [x].filter untimed = [] := by simp [untimed_of_some het]
    refine ⟨P, ⟨⟨by rw [put_out]; exact hi.core.out, fun side hs => ?_, fun side hs => ?_, hi.core.outer⟩,
      fun side => ?_, fun side => ?_, fun side => ?_⟩, [], by rw [put_out]; simp [dataMsgs]⟩
    · rw [put_tree_same]; exact hi.core.tree side hs
    · rw [put_tree_same, put_buf, if_neg (fun h' => hopen (by rw [hs, ← h', Bool.not_not]))]
      exact hi.core.gone side hs
    · rw [put_buf]
      by_cases hs : side = sd
      · subst hs; rw [if_pos rfl, upd_self]; exact perm_snoc_end x (hi.perm side) (bufAll_add t x _)
      · rw [if_neg hs, upd_ne _ _ hs]; exact hi.perm side
    · rw [put_buf]
      by_cases hs : side = sd
      · subst hs; rw [if_pos rfl]; exact (bufOK_add het (hi.bufOK side)).1
      · rw [if_neg hs]; exact hi.bufOK side
    · by_cases hs : side = sd
      · subst hs; rw [upd_self, List.filter_append, hx, List.append_nil]; exact hi.untimed side
      · rw [upd_ne _ _ hs]; exact hi.untimed side

theorem markIf_inv (ld osr : Bool)
    (hi : Inv cfg W s (dropOf (.one ld osr)) R P) :
    Inv cfg W (markIf cfg ld s osr).1 (dropOf (.one ld (markIf cfg ld s osr).2)) R P ∧
      (∀ side, (markIf cfg ld s osr).1.buf side = s.buf side) ∧ (markIf cfg ld s osr).1.out = s.out := by
  rw [markIf_eq]
  by_cases ho : cfg.outer = true
  · rw [if_pos ho]; exact ⟨hi, fun _ => rfl, rfl⟩
  · rw [if_neg ho]
    by_cases he : (s.buf ld).isEmpty = true
    · rw [if_pos he]
      have hkeep : dropOf (.one ld osr) ≠ some ld := by
        cases osr
        · nofun
        · exact fun h => not_ne_self ld (Option.some.inj h)
      refine ⟨⟨⟨by rw [put_out]; exact hi.core.out, fun side hs => ?_, fun side hs => ?_, fun _ => Bool.eq_false_iff.mpr ho⟩,
        fun side => ?_, fun side => ?_, hi.untimed⟩, fun side => ?_, put_out ..⟩
      · have hs' : side = !!ld := Bool.eq_not_of_ne (fun h => hs (by rw [h]; rfl))
        rw [Bool.not_not] at hs'
        subst hs'
        rw [put_tree, if_neg (not_ne_self side).symm]
        exact hi.core.tree side hkeep
      · have hs' : side = !ld := (Option.some.inj hs).symm
        subst hs'
        rw [put_tree, if_pos rfl, put_buf, if_neg (not_ne_self _), Bool.not_not]
        exact ⟨rfl, List.isEmpty_iff.mp he⟩
      · rw [put_buf_same]; exact hi.perm side
      · rw [put_buf_same]; exact hi.bufOK side
      · rw [put_buf_same]
    · rw [if_neg he]; exact ⟨hi, fun _ => rfl, rfl⟩

def BufSafe (cfg : Cfg) (s : St) : Prop :=
  ∀ side, ∀ x ∈ bufAll (s.buf side), x.retr = false ∧ KeysOK cfg side x

section
variable (ok : RecvOK cfg W) {left : Bool}
include ok

theorem processSide_step {b : Bound} (hcore : Core cfg W s P drop)
    (hsh : ∀ x ∈ bufAll (s.buf left), Shape cfg left x) :
    StepOK (∀ x ∈ bufAll (s.buf left), x.retr = false ∧ KeysOK cfg left x)
      (fun s' => Core cfg W s' (upd P left (P left ++ (Buf.emit b (s.buf left)).1)) drop ∧
        s'.buf left = (Buf.emit b (s.buf left)).2 ∧ s'.buf (!left) = s.buf (!left) ∧ Frame s s')
      (processSide cfg left s b drop.isSome) := by
  rw [processSide_eq]
  by_cases hdrop : drop = some (!left)
  · -- the other side's tree has been given up: this side is closed and its buffer is empty
    obtain ⟨hto, hb⟩ := hcore.gone _ hdrop
    rw [Bool.not_not] at hb
    rw [hto, hb, emit_nil, upd_append_nil]
    exact ⟨hcore, hb, rfl, Frame.refl _⟩
  · obtain ⟨to, hto, repo⟩ := hcore.tree _ hdrop
    rw [hto]
    simp only [Option.isSome_some, if_true]
    have hp := procList_step ok repo hcore.outer (Buf.emit b (s.buf left)).1 (hcore.myTree hdrop) fun x hx => hsh x (mem_emit_of hx)
    generalize procList cfg left drop.isSome (some to) (s.tree left) (Buf.emit b (s.buf left)).1 = q at hp ⊢
    obtain ⟨my', em, f⟩ := q
    cases f with
    | true =>
      exact ⟨hcore.put hdrop _ hp.1 hp.2, by rw [put_buf, if_pos rfl],
        by rw [put_buf, if_neg (not_ne_self left)], Frame.put ..⟩
    | false => exact fun hg => hp fun x hx => hg x (mem_emit_of hx)

theorem processUpTo_step {b : Bound} (hi : Inv cfg W s drop R P) (hsh : ∀ side, ∀ x ∈ R side, Shape cfg side x) :
    StepOK (BufSafe cfg s)
      (fun s' => Inv cfg W s' drop R (fun side => P side ++ (Buf.emit b (s.buf side)).1) ∧
        (∀ side, s'.buf side = (Buf.emit b (s.buf side)).2) ∧ Frame s s')
      (processUpTo cfg s b drop.isSome) := by
  unfold processUpTo
  have h1 := processSide_step ok (b := b) hi.core (hi.shape (hsh true))
  generalize processSide cfg true s b drop.isSome = e1 at h1 ⊢
  cases e1 with
  | error o => exact fun hg => h1 (hg true)
  | ok s1 =>
    obtain ⟨c1, b1, b2, f1⟩ := h1
    have b2 : s1.buf false = s.buf false := b2
    have h2 := processSide_step ok (b := b) c1 (by rw [b2]; exact hi.shape (hsh false))
    dsimp only
    generalize processSide cfg false s1 b drop.isSome = e2 at h2 ⊢
    cases e2 with
    | error o => exact fun hg => h2 (by rw [b2]; exact hg false)
    | ok s' =>
      obtain ⟨c2, b3, b4, f2⟩ := h2
      have b4 : s'.buf true = s1.buf true := b4
      have hbuf : ∀ side, s'.buf side = (Buf.emit b (s.buf side)).2 := by
        intro side; cases side
        · rw [b3, b2]
        · rw [b4, b1]
      have hP : upd (upd P true (P true ++ (Buf.emit b (s.buf true)).1)) false
          (upd P true (P true ++ (Buf.emit b (s.buf true)).1) false ++ (Buf.emit b (s1.buf false)).1) =
          fun side => P side ++ (Buf.emit b (s.buf side)).1 := by
        funext side; cases side
        · rw [upd_self, b2]; rfl
        · rfl
      rw [hP] at c2
      refine ⟨⟨c2, fun side => ?_, fun side => ?_, fun side => ?_⟩, hbuf, f1.trans f2⟩
      · rw [hbuf, List.append_assoc, ← bufAll_emit]; exact hi.perm side
      · rw [hbuf]; exact bufOK_emit b (hi.bufOK side)
      · rw [List.filter_append, hi.untimed side, filter_eq_nil_of (l := (Buf.emit b (s.buf side)).1), List.append_nil]
        exact fun x hx => bufOK_timed (hi.bufOK side) x (mem_emit_of hx)

end

end Octo.Join
