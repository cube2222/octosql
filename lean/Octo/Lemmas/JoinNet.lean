import Octo.Lemmas.JoinBasics
/-!
  Reasoning up to net content (C02, query level): changelogs with the same net content give the same weighted sum for
  every row function that does not distinguish equivalent rows (`wsum_sameNet`), so a theorem about one node composes
  with those about the nodes below it.
-/
namespace Octo.Join
open Octo

def NetEq (a b : List Rec) : Prop := ∀ row, net a row = net b row

theorem NetEq.refl (a : List Rec) : NetEq a a := fun _ => rfl
theorem NetEq.symm {a b : List Rec} (h : NetEq a b) : NetEq b a := fun row => (h row).symm
theorem NetEq.trans {a b c : List Rec} (h1 : NetEq a b) (h2 : NetEq b c) : NetEq a c := fun row => (h1 row).trans (h2 row)
theorem NetEq.append {a b c d : List Rec} (h1 : NetEq a b) (h2 : NetEq c d) : NetEq (a ++ c) (b ++ d) := by
  intro row; rw [net_append, net_append, h1 row, h2 row]

theorem wsum_sameNet {A B : List Rec} (h : NetEq A B) (g : Row → Int) (hg : Congr g) :
    wsum (fun r => sgn r * g r.vals) A = wsum (fun r => sgn r * g r.vals) B := by
  simp only [wsum_eq_sumBy, sgn_eq_sign]
  exact sumBy_congr_of_net g (fun a b e => hg a b (rowEq_iff.mp e)) h

/-- apply a partial row function to every record (Filter: keep or drop; Map; dropping columns) -/
def rowOp (h : Row → Option Row) (A : List Rec) : List Rec :=
  A.filterMap fun r => (h r.vals).map fun v => { r with vals := v }

def optRowEq : Option Row → Option Row → Prop
  | none, none => True
  | some x, some y => cmpList x y = 0
  | _, _ => False

def OpCongr (h h' : Row → Option Row) : Prop := ∀ a b, cmpList a b = 0 → optRowEq (h a) (h' b)

def opInd (h : Row → Option Row) (row : Row) (v : Row) : Int :=
  match h v with
  | none => 0
  | some w => if rowEq w row then 1 else 0

theorem opInd_congr {h h' : Row → Option Row} {a b : Row} (e : optRowEq (h a) (h' b)) (row : Row) :
    opInd h row a = opInd h' row b := by
  unfold opInd
  cases ha : h a <;> cases hb : h' b <;> simp only [ha, hb, optRowEq] at e ⊢
  rw [rowEq_congr_left (rowEq_iff.mpr e) row]

theorem net_rowOp (h : Row → Option Row) (A : List Rec) (row : Row) :
    net (rowOp h A) row = wsum (fun r => sgn r * opInd h row r.vals) A := by
  induction A with
  | nil => rfl
  | cons r A ih =>
    unfold rowOp at *
    rw [List.filterMap_cons, wsum_cons, ← ih]
    unfold opInd
    cases hr : h r.vals with
    | none => simp
    | some w =>
      simp only [Option.map_some, net_cons, weight_sgn]
      refine congrArg (· + _) ?_
      cases rowEq w row
      · exact (Int.mul_zero (sgn r)).symm
      · exact (Int.mul_one (sgn r)).symm

theorem rowOp_netEq {h h' : Row → Option Row} (hh : OpCongr h h') {A B : List Rec} (hab : NetEq A B) :
    NetEq (rowOp h A) (rowOp h' B) := by
  intro row
  rw [net_rowOp, net_rowOp]
  -- `h` respects row equivalence because it agrees with `h'` on equivalent rows, at `(a, b)` and at `(b, b)`
  exact (wsum_sameNet hab _ fun a b e =>
    (opInd_congr (hh a b e) row).trans (opInd_congr (hh b b (cmpList_refl b)) row).symm).trans
    (wsum_congr fun r _ => by rw [opInd_congr (hh r.vals r.vals (cmpList_refl _)) row])

def MCongr (m : Row → Row → Bool) : Prop :=
  ∀ a a' b b', cmpList a a' = 0 → cmpList b b' = 0 → m a b = m a' b'

/-- a dependent join: the inner side `J` may depend on the row of the outer record (LookupJoin); a pair is kept when `m`
    accepts it. `pair` builds the joined record. -/
def gdep (m : Row → Row → Bool) (pair : Rec → Rec → Rec) (J : Row → List Rec) (L : List Rec) : List Rec :=
  L.flatMap fun l => ((J l.vals).filter fun r => m l.vals r.vals).map fun r => pair l r

def gjoin (m : Row → Row → Bool) (L R : List Rec) : List Rec := gdep m pairRec (fun _ => R) L

/-- all that `net` sees of a joined record (not its event time) -/
def PairLike (pair : Rec → Rec → Rec) : Prop :=
  ∀ l r, (pair l r).vals = l.vals ++ r.vals ∧ (pair l r).retr = (l.retr != r.retr)

theorem pairRec_like : PairLike pairRec := fun _ _ => ⟨rfl, rfl⟩

def gpartL (m : Row → Row → Bool) (a : Row) (R : List Rec) : Int :=
  wsum (fun r => if m a r.vals then sgn r else 0) R

/-- the records of `X` without a partner in `Y`, their rows padded by `pad`. The right side of an outer join is
    the left side of the join with the match predicate flipped. -/
def gpad (m : Row → Row → Bool) (pad : Row → Row) (X Y : List Rec) : List Rec :=
  (X.filter fun x => gpartL m x.vals Y == 0).map fun x => { x with vals := pad x.vals }

def gouter (m : Row → Row → Bool) (oL oR : Bool) (nL nR : Nat) (L R : List Rec) : List Rec :=
  gjoin m L R ++ (if oL then gpad m (· ++ nulls nR) L R else [])
    ++ (if oR then gpad (fun b a => m a b) (nulls nL ++ ·) R L else [])

def gpairInd (m : Row → Row → Bool) (row : Row) (a b : Row) : Int :=
  if m a b && rowEq (a ++ b) row then 1 else 0

theorem net_gdep {pair : Rec → Rec → Rec} (hp : PairLike pair) (m : Row → Row → Bool) (J : Row → List Rec) (L : List Rec)
    (row : Row) : net (gdep m pair J L) row =
      wsum (fun l => sgn l * wsum (fun r => sgn r * gpairInd m row l.vals r.vals) (J l.vals)) L := by
  unfold gdep
  rw [net_flatMap]
  refine wsum_congr fun l _ => ?_
  rw [net_map_filter, ← wsum_mul_left]
  refine wsum_congr fun r _ => ?_
  unfold gpairInd
  rw [weight_sgn, sgn_of_bne (hp l r).2, (hp l r).1]
  cases m l.vals r.vals <;> cases rowEq (l.vals ++ r.vals) row <;> simp

theorem congr_gpairInd_right {m : Row → Row → Bool} (hm : MCongr m) (row a : Row) : Congr (gpairInd m row a) := by
  intro b b' hb
  unfold gpairInd
  rw [hm a a b b' (cmpList_refl a) hb, rowEq_congr_left (rowEq_iff.mpr (cmpList_append_eq (cmpList_refl a) hb)) row]

section
variable {m : Row → Row → Bool} {pair : Rec → Rec → Rec} (hp : PairLike pair) (hm : MCongr m)
include hp hm

theorem gdep_inner {J J' : Row → List Rec} {L : List Rec} (h : ∀ l ∈ L, NetEq (J l.vals) (J' l.vals)) :
    NetEq (gdep m pair J L) (gdep m pair J' L) := by
  intro row
  rw [net_gdep hp, net_gdep hp]
  apply wsum_congr
  intro l hl
  rw [wsum_sameNet (h l hl) _ (congr_gpairInd_right hm row l.vals)]

theorem gdep_outer {J : Row → List Rec} (hJ : ∀ a a', cmpList a a' = 0 → NetEq (J a) (J a')) {L L' : List Rec}
    (hL : NetEq L L') : NetEq (gdep m pair J L) (gdep m pair J L') := by
  intro row
  rw [net_gdep hp, net_gdep hp]
  refine wsum_sameNet hL (fun a => wsum (fun r => sgn r * gpairInd m row a r.vals) (J a)) ?_
  intro a a' ha
  show wsum (fun r => sgn r * gpairInd m row a r.vals) (J a) = wsum (fun r => sgn r * gpairInd m row a' r.vals) (J a')
  rw [wsum_sameNet (hJ a a' ha) _ (congr_gpairInd_right hm row a)]
  apply wsum_congr
  intro r _
  unfold gpairInd
  rw [hm a a' r.vals r.vals ha (cmpList_refl _), rowEq_congr_left (rowEq_iff.mpr (cmpList_append_eq ha (cmpList_refl _))) row]

end

theorem gjoin_netEq {m : Row → Row → Bool} (hm : MCongr m) {L L' R R' : List Rec} (hL : NetEq L L') (hR : NetEq R R') :
    NetEq (gjoin m L R) (gjoin m L' R') :=
  (gdep_inner pairRec_like hm fun _ _ => hR).trans (gdep_outer pairRec_like hm (fun _ _ _ => NetEq.refl _) hL)

theorem MCongr.flip {m : Row → Row → Bool} (hm : MCongr m) : MCongr fun b a => m a b :=
  fun b b' a a' hb ha => hm a a' b b' ha hb

theorem gpartL_netEq {m : Row → Row → Bool} (hm : MCongr m) (a : Row) {R R' : List Rec} (hR : NetEq R R') :
    gpartL m a R = gpartL m a R' := by
  unfold gpartL
  have e : ∀ X : List Rec, wsum (fun r => if m a r.vals then sgn r else 0) X =
      wsum (fun r => sgn r * (if m a r.vals then 1 else 0)) X := by
    intro X; apply wsum_congr; intro r _; cases m a r.vals <;> simp
  rw [e, e]
  refine wsum_sameNet hR (fun b => if m a b then 1 else 0) ?_
  intro b b' hb
  show (if m a b then (1:Int) else 0) = (if m a b' then 1 else 0)
  rw [hm a a b b' (cmpList_refl a) hb]

theorem gpartL_congr {m : Row → Row → Bool} (hm : MCongr m) {a a' : Row} (ha : cmpList a a' = 0) (R : List Rec) :
    gpartL m a R = gpartL m a' R := by
  unfold gpartL; apply wsum_congr; intro r _; rw [hm a a' r.vals r.vals ha (cmpList_refl _)]

theorem gpad_eq_rowOp (m : Row → Row → Bool) (pad : Row → Row) (X Y : List Rec) :
    gpad m pad X Y = rowOp (fun a => if gpartL m a Y == 0 then some (pad a) else none) X := by
  unfold gpad rowOp
  rw [← List.filterMap_eq_filter, List.map_filterMap]
  congr 1; funext x
  simp only [Option.guard]
  split <;> rfl

theorem gpad_netEq {m : Row → Row → Bool} (hm : MCongr m) {pad : Row → Row}
    (hp : ∀ a b, cmpList a b = 0 → cmpList (pad a) (pad b) = 0) {X X' Y Y' : List Rec}
    (hX : NetEq X X') (hY : NetEq Y Y') : NetEq (gpad m pad X Y) (gpad m pad X' Y') := by
  rw [gpad_eq_rowOp, gpad_eq_rowOp]
  refine rowOp_netEq (fun a b hab => ?_) hX
  show optRowEq (if (gpartL m a Y == 0) = true then some (pad a) else none)
    (if (gpartL m b Y' == 0) = true then some (pad b) else none)
  rw [gpartL_netEq hm a hY, gpartL_congr hm hab Y']
  split
  · exact hp a b hab
  · trivial

theorem gouter_netEq {m : Row → Row → Bool} (hm : MCongr m) (oL oR : Bool) (nL nR : Nat) {L L' R R' : List Rec}
    (hL : NetEq L L') (hR : NetEq R R') : NetEq (gouter m oL oR nL nR L R) (gouter m oL oR nL nR L' R') := by
  unfold gouter
  apply NetEq.append
  · apply NetEq.append (gjoin_netEq hm hL hR)
    cases oL
    · exact NetEq.refl _
    · exact gpad_netEq hm (fun a b hab => cmpList_append_eq hab (cmpList_refl _)) hL hR
  · cases oR
    · exact NetEq.refl _
    · exact gpad_netEq hm.flip (fun a b hab => cmpList_append_eq (cmpList_refl _) hab) hR hL

section maps
variable {m m' : Row → Row → Bool} {f g s : Rec → Rec} {X Y : List Rec}
  (hm : ∀ x ∈ X, ∀ y ∈ Y, m' (f x).vals (g y).vals = m x.vals y.vals)
include hm

theorem gjoin_map (hs : ∀ x ∈ X, ∀ y ∈ Y, s (pairRec (f x) (g y)) = pairRec x y) :
    (gjoin m' (X.map f) (Y.map g)).map s = gjoin m X Y := by
  unfold gjoin gdep
  rw [List.flatMap_map, List.map_flatMap]
  refine flatMap_congr_mem fun x hx => ?_
  rw [List.map_map]
  exact filter_map_congr (hm x hx) (hs x hx)

theorem gpad_map {pad pad' : Row → Row} (hg : ∀ y, sgn (g y) = sgn y)
    (hs : ∀ x ∈ X, s { f x with vals := pad' (f x).vals } = { x with vals := pad x.vals }) :
    (gpad m' pad' (X.map f) (Y.map g)).map s = gpad m pad X Y := by
  unfold gpad
  rw [List.map_map]
  refine filter_map_congr (fun x hx => ?_) hs
  unfold gpartL
  rw [wsum_map]
  exact congrArg (· == 0) (wsum_congr fun y hy => by simp only [Function.comp, hm x hx y hy, hg])

end maps

theorem gouter_inner (m : Row → Row → Bool) (nL nR : Nat) (L R : List Rec) :
    gouter m false false nL nR L R = gjoin m L R := by
  simp [gouter]

end Octo.Join
