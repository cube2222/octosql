import Octo.Lemmas.JoinMachine
/-!
  A join node without an outer side (StreamJoin; OuterJoin with `isLeft = isRight = false`) never produces a
  retraction when its inputs contain none — under every schedule.  This is what `Schema.NoRetractions` of
  `logical.StreamJoin` / `logical.OuterJoin` claims, and what lets the csv/json sinks print such a plan's records
  as they arrive.
-/
namespace Octo.Join
open Octo

def NR (l : List Rec) : Prop := ∀ r ∈ l, r.retr = false

theorem NR.nil : NR [] := fun _ h => by cases h
theorem NR.append {a b : List Rec} (ha : NR a) (hb : NR b) : NR (a ++ b) := by
  intro r hr
  rcases List.mem_append.mp hr with h | h
  · exact ha r h
  · exact hb r h
theorem NR.of_append_left {a b : List Rec} (h : NR (a ++ b)) : NR a := fun r hr => h r (by simp [hr])
theorem NR.of_append_right {a b : List Rec} (h : NR (a ++ b)) : NR b := fun r hr => h r (by simp [hr])

theorem joinRows_nr (amLeft : Bool) (r : Rec) (h : r.retr = false) : ∀ (s : Subs), NR (joinRows amLeft r s)
  | [] => NR.nil
  | (x, ts) :: rest => by
    refine NR.append (fun q hq => ?_) (joinRows_nr amLeft r h rest)
    obtain ⟨t, _, rfl⟩ := List.mem_map.mp hq
    exact h

/-- without an outer side a node emits joined rows only, and they carry the flag of the record that triggered them;
    stated for an insertion, the case `run_nr` needs -/
theorem recv_nr {cfg : Cfg} (hL : cfg.outerL = false) (hR : cfg.outerR = false)
    {my other : Option Tree} {amLeft : Bool} {r : Rec} {osr : Bool} (hr : r.retr = false)
    {my' : Option Tree} {em : List Rec} (h : recv cfg my other amLeft r osr = some (my', em)) : NR em := by
  have e1 : (if amLeft = true then cfg.outerL else cfg.outerR) = false := by cases amLeft <;> simp [hL, hR]
  have e2 : (if amLeft = true then cfg.outerR else cfg.outerL) = false := by cases amLeft <;> simp [hL, hR]
  unfold recv at h
  by_cases ho : cfg.outer = true
  · -- OuterJoin; with both outer flags off `pad` is empty and the two `nullRows` parts vanish
    rw [if_pos ho] at h
    unfold ojRecv at h
    simp only [e1, e2, Bool.false_eq_true, ↓reduceIte, Bool.and_false, List.nil_append, List.append_nil] at h
    cases hk : keyOf (if amLeft = true then cfg.keysL else cfg.keysR) r.vals with
    | none => rw [hk] at h; cases h
    | some key =>
      rw [hk] at h
      dsimp only at h
      by_cases hn : (!cfg.nullMatch && hasNull key) = true
      · rw [if_pos hn] at h; cases h; exact NR.nil
      · rw [if_neg hn] at h
        cases my with
        | none => cases h
        | some t =>
          cases other with
          | none => cases h
          | some ot =>
            dsimp only at h
            cases hs : store t key r with
            | none => rw [hs] at h; cases h
            | some res =>
              rw [hs] at h
              dsimp only at h
              by_cases he : (subsOf key ot).isEmpty = true
              · rw [if_pos he] at h; cases h; exact NR.nil
              · rw [if_neg he] at h; cases h; exact joinRows_nr _ _ hr _
  · -- StreamJoin
    rw [if_neg ho] at h
    unfold sjRecv at h
    cases hk : keyOf (if amLeft = true then cfg.keysL else cfg.keysR) r.vals with
    | none => rw [hk] at h; cases h
    | some key =>
      rw [hk] at h
      dsimp only at h
      by_cases hn : (!cfg.nullMatch && hasNull key) = true
      · rw [if_pos hn] at h; cases h; exact NR.nil
      · rw [if_neg hn] at h
        -- my tree after the update is not looked at
        generalize (if osr = true then some my else _) = m at h
        cases m with
        | none => cases h
        | some my1 =>
          cases other with
          | none => cases h
          | some ot => cases h; exact joinRows_nr _ _ hr _

theorem procList_nr {cfg : Cfg} (hL : cfg.outerL = false) (hR : cfg.outerR = false)
    (amLeft osr : Bool) (other : Option Tree) :
    ∀ (rs : List Rec) (my : Option Tree), NR rs → NR (procList cfg amLeft osr other my rs).2.1
  | [], _, _ => NR.nil
  | r :: rs, my, h => by
    simp only [procList]
    cases hrec : recv cfg my other amLeft r osr with
    | none => exact NR.nil
    | some p =>
      exact NR.append (recv_nr hL hR (h r List.mem_cons_self) hrec)
        (procList_nr hL hR amLeft osr other rs p.1 (fun x hx => h x (List.mem_cons_of_mem _ hx)))

def NRB (b : Buf) : Prop := NR (bufAll b)

theorem emit_nr (bd : Bound) {b : Buf} (h : NRB b) : NR (Buf.emit bd b).1 ∧ NRB (Buf.emit bd b).2 := by
  unfold NRB at h ⊢
  rw [bufAll_emit bd b] at h
  exact ⟨h.of_append_left, h.of_append_right⟩

theorem add_nr (t : Int) {r : Rec} (hr : r.retr = false) {b : Buf} (h : NRB b) : NRB (Buf.add t r b) := by
  intro x hx
  rcases List.mem_append.mp ((bufAll_add t r b).mem_iff.mp hx) with hx | hx
  · exact h x hx
  · rw [List.mem_singleton.mp hx]; exact hr

structure InvNR (s : St) : Prop where
  out : NR (recs s.out)
  buf : ∀ side, NRB (s.buf side)

theorem NR.snoc_data {o : List Msg} {em : List Rec} (ho : NR (recs o)) (he : NR em) : NR (recs (o ++ dataMsgs em)) := by
  rw [recs_append, recs_dataMsgs]; exact ho.append he

theorem NR.snoc_wm {o : List Msg} (ho : NR (recs o)) (m : Int) : NR (recs (o ++ [Msg.wm m])) := by
  rw [recs_append]; exact ho.append NR.nil

theorem InvNR.put {s : St} (hi : InvNR s) (left : Bool) {b : Buf} (t : Option Tree) {o : List Msg}
    (ho : NR (recs o)) (hb : NRB b) : InvNR (s.put left b t o) := by
  refine ⟨by rw [put_out]; exact ho, fun side => ?_⟩
  rw [put_buf]
  by_cases h : side = left
  · rw [if_pos h]; exact hb
  · rw [if_neg h]; exact hi.buf side

theorem nr_processSide_inv {cfg : Cfg} (hL : cfg.outerL = false) (hR : cfg.outerR = false)
    (left : Bool) {s s' : St} (b : Bound) (osr : Bool)
    (hi : InvNR s) (h : processSide cfg left s b osr = .ok s') : InvNR s' := by
  rw [processSide_eq] at h
  split at h
  · simp only at h
    split at h
    · cases h
      obtain ⟨he, hb⟩ := emit_nr b (hi.buf left)
      exact hi.put left _ (hi.out.snoc_data (procList_nr hL hR _ _ _ _ _ he)) hb
    · cases h
  · cases h; exact hi

theorem nr_processUpTo_inv {cfg : Cfg} (hL : cfg.outerL = false) (hR : cfg.outerR = false)
    {s s' : St} (b : Bound) (osr : Bool)
    (hi : InvNR s) (h : processUpTo cfg s b osr = .ok s') : InvNR s' := by
  unfold processUpTo at h
  split at h
  · cases h
  · rename_i s1 h1
    exact nr_processSide_inv hL hR false b osr (nr_processSide_inv hL hR true b osr hi h1) h

theorem nr_onRec_inv {cfg : Cfg} (hL : cfg.outerL = false) (hR : cfg.outerR = false)
    (left : Bool) {s s' : St} {r : Rec} (osr : Bool)
    (hr : r.retr = false) (hi : InvNR s) (h : onRec cfg s left r osr = .ok s') : InvNR s' := by
  unfold onRec at h
  split at h
  · rw [directRecv_eq] at h
    split at h
    · cases h
    · rename_i hrec
      cases h
      exact hi.put left _ (hi.out.snoc_data (recv_nr hL hR hr hrec)) (hi.buf left)
  · cases h
    rw [addBuf_eq]
    exact hi.put left _ hi.out (add_nr _ hr (hi.buf left))

theorem nr_onWm_inv {cfg : Cfg} (hL : cfg.outerL = false) (hR : cfg.outerR = false)
    (left : Bool) {s s' : St} (w : Int)
    (hi : InvNR s) (h : onWm cfg s left w = .ok s') : InvNR s' := by
  unfold onWm at h
  generalize hs1 : (if left = true then { s with lw := some w } else { s with rw := some w }) = s1 at h
  have hi1 : InvNR s1 := by subst hs1; cases left <;> exact ⟨hi.out, hi.buf⟩
  simp only at h
  split at h
  · cases h; exact hi1 -- no minimum yet
  · split at h
    · -- the minimum advanced
      split at h
      · cases h
      · rename_i s2 hp
        cases h
        -- `by exact` is elaborated after `hp` has fixed the state (`s1` with a new `minW`); the invariant does not read `minW`
        have hi2 := nr_processUpTo_inv hL hR _ _ (by exact ⟨hi1.out, hi1.buf⟩) hp
        exact ⟨hi2.out.snoc_wm _, hi2.buf⟩
    · cases h; exact hi1 -- not advanced

theorem nr_markIf_inv (cfg : Cfg) (leftDone : Bool) {s : St} (osr : Bool) (hi : InvNR s) : InvNR (markIf cfg leftDone s osr).1 := by
  rw [markIf_eq]
  split
  · exact hi
  · split
    · exact hi.put _ _ hi.out (hi.buf _)
    · exact hi

theorem nr_onFirstClose_inv {cfg : Cfg} (hL : cfg.outerL = false) (hR : cfg.outerR = false)
    (leftDone : Bool) {s : St} {p : St × Bool}
    (hi : InvNR s) (h : onFirstClose cfg s leftDone = .ok p) : InvNR p.1 := by
  unfold onFirstClose at h
  simp only at h
  split at h
  · cases h
  · rename_i s2 hp
    cases h
    exact nr_markIf_inv cfg leftDone false (nr_processUpTo_inv hL hR _ _ (by exact ⟨hi.out, hi.buf⟩) hp)

theorem nr_onWmOne_inv {cfg : Cfg} (hL : cfg.outerL = false) (hR : cfg.outerR = false)
    (leftDone osr : Bool) (w : Int) {s : St} {p : St × Bool}
    (hi : InvNR s) (h : onWmOne cfg s leftDone osr w = .ok p) : InvNR p.1 := by
  unfold onWmOne at h
  split at h
  · cases h
  · rename_i s2 hp
    cases h
    have hi2 := nr_markIf_inv cfg leftDone osr (nr_processUpTo_inv hL hR _ _ hi hp)
    exact ⟨hi2.out.snoc_wm _, hi2.buf⟩

theorem runFrom_nr {cfg : Cfg} (hL : cfg.outerL = false) (hR : cfg.outerR = false)
    {σ : List Ev} (hσ : ∀ e ∈ σ, ∀ r, e.msg = some (.data r) → r.retr = false) {s : St} {ph : Phase}
    {out : List Msg} (hi : InvNR s) (h : runFrom cfg s ph σ = .ok out) : NR (recs out) := by
  induction σ generalizing s ph with
  | nil => cases ph <;> simp only [runFrom, Outcome.ok.injEq] at h <;> (subst h; exact hi.out)
  | cons e σ ih =>
    replace ih := fun {s ph} => @ih (fun e' he' => hσ e' (List.mem_cons_of_mem _ he')) s ph
    have hd := hσ e List.mem_cons_self
    cases ph with
    | both =>
      simp only [runFrom] at h
      split at h
      · -- watermark
        rename_i w _
        split at h
        · cases h
        · rename_i hc; exact ih (nr_onWm_inv hL hR e.left w hi hc) h
      · -- record
        rename_i r hm
        split at h
        · cases h
        · rename_i hc; exact ih (nr_onRec_inv hL hR e.left false (hd r hm) hi hc) h
      · -- close
        split at h
        · cases h
        · rename_i hc; exact ih (nr_onFirstClose_inv hL hR e.left hi hc) h
    | one leftDone osr =>
      simp only [runFrom] at h
      split at h
      · cases h -- an event of the closed side
      · split at h
        · -- watermark
          rename_i w _
          split at h
          · cases h
          · rename_i hc; exact ih (nr_onWmOne_inv hL hR leftDone osr w hi hc) h
        · -- record
          rename_i r hm
          split at h
          · cases h
          · rename_i hc; exact ih (nr_onRec_inv hL hR e.left osr (hd r hm) hi hc) h
        · -- close
          split at h
          · cases h
          · rename_i hc; exact ih (nr_processUpTo_inv hL hR _ _ hi hc) h
    | done => simp [runFrom] at h

theorem run_nr {cfg : Cfg} (hL : cfg.outerL = false) (hR : cfg.outerR = false)
    {σ : List Ev} {out : List Msg}
    (hσ : ∀ e ∈ σ, ∀ r, e.msg = some (.data r) → r.retr = false) (h : run cfg σ = .ok out) : NR (recs out) :=
  runFrom_nr hL hR hσ (s := St.init) ⟨NR.nil, fun side => by cases side <;> exact NR.nil⟩ h

end Octo.Join
