import Octo.Lemmas.JoinRecv
/-!
  `OuterJoin.receiveRecord` against the outer-join specification: NULL-padded rows of unmatched
  records, retracted when the first partner arrives, re-emitted when the last partner goes.
-/
namespace Octo.Join
open Octo

variable {cfg : Cfg} {left : Bool} {x o : Rec} {key ko : Row} {tm to : Tree} {Pm Po : List Rec}

theorem partners_of_key {kx : Row} (hx : storedKey cfg left x = some kx) (hk : cmpList kx key = 0) (Po : List Rec) :
    partners cfg left x Po = wsum (repTerm cfg (!left) key (fun _ => 1)) Po := by
  unfold partners
  apply wsum_congr
  intro o _
  rw [sideMatch_iff, hx]
  unfold repTerm
  cases storedKey cfg (!left) o with
  | none => rfl
  | some ko =>
    simp only
    by_cases h0 : cmpList ko key = 0
    · simp [h0, cmpList_eq_trans hk (cmpList_eq_symm h0)]
    · have : ¬ cmpList kx ko = 0 := fun h => h0 (cmpList_eq_trans (cmpList_eq_symm h) hk)
      simp [h0, this]

theorem partners_self_none (hx : storedKey cfg left x = none)
    (Po : List Rec) : partners cfg left x Po = 0 := by
  rw [← wsum_zero Po]
  exact wsum_congr fun o _ => by rw [sideMatch_iff, hx]; rfl

theorem partners_append (cfg : Cfg) (left : Bool) (o : Rec) (P : List Rec) (x : Rec) :
    partners cfg left o (P ++ [x]) = partners cfg left o P + (if sideMatch cfg left o x then sgn x else 0) := by
  unfold partners; rw [wsum_append, wsum_single]

theorem sideOuter_eq (cfg : Cfg) (left : Bool) (my other : List Rec) (row : Row) :
    sideW (outerW cfg) left my other row =
      sideW (joinW cfg) left my other row
      + (if (if left then cfg.outerL else cfg.outerR) then padW cfg left my other row else 0)
      + (if (if left then cfg.outerR else cfg.outerL) then padW cfg (!left) other my row else 0) := by
  cases left
  · simp only [sideW, outerW, Bool.false_eq_true, if_false, Bool.not_false]; omega
  · simp only [sideW, outerW, if_true, Bool.not_true]

theorem padW_append_my (cfg : Cfg) (left : Bool) (my other : List Rec) (x : Rec) (row : Row) :
    padW cfg left (my ++ [x]) other row = padW cfg left my other row + padTerm cfg left other row x := by
  unfold padW; rw [wsum_append, wsum_single]

theorem padW_append_other (cfg : Cfg) (left : Bool) (my other : List Rec) (x : Rec) (row : Row) :
    padW cfg left other (my ++ [x]) row = padW cfg left other my row +
      wsum (fun o => padTerm cfg left (my ++ [x]) row o - padTerm cfg left my row o) other := by
  unfold padW; rw [wsum_sub]; omega

def gPad (cfg : Cfg) (left : Bool) (row : Row) (y : Row) : Int :=
  if rowEq (padSpec cfg (!left) y) row then 1 else 0

theorem congr_gPad (cfg : Cfg) (left : Bool) (row : Row) : Congr (gPad cfg left row) := by
  cases left
  · exact congr_pairRight (nulls cfg.nR) row
  · exact congr_pairLeft (nulls cfg.nL) row

/-- All records of the other side stored under `key` have the same number of partners: `c`, the number of records my
    tree holds under `key`. So their "no partner" indicators flip together, exactly when `c` reaches or leaves 0 (the
    factor `(if c + sgn x = 0 …) - (if c = 0 …)`), and what flips is `M gPad` of the other tree's item: their padded rows.
    Records under other keys do not see `x`. -/
theorem padOther_delta (hx : storedKey cfg left x = some key) (hm : Rep cfg left tm Pm) (ho : Rep cfg (!left) to Po) (row : Row) :
    wsum (fun o => padTerm cfg (!left) (Pm ++ [x]) row o - padTerm cfg (!left) Pm row o) Po =
      ((if M (fun _ => 1) (subsOf key tm) + sgn x = 0 then 1 else 0) - (if M (fun _ => 1) (subsOf key tm) = 0 then 1 else 0))
        * M (gPad cfg left row) (subsOf key to) := by
  rw [ho.2 key _ (congr_gPad cfg left row), ← wsum_mul_left]
  apply wsum_congr
  intro o _
  unfold padTerm
  rw [← Int.sub_mul, partners_append, sideMatch_flip, sideMatch_iff, hx]
  cases hso : storedKey cfg (!left) o with
  | none => simp [repTerm, hso]
  | some ko =>
    by_cases h0 : cmpList ko key = 0
    · rw [partners_of_key hso h0, Bool.not_not, ← hm.2 key _ congr_one]
      simp only [repTerm, hso, h0, cmpList_eq_symm h0, decide_true, if_true, gPad]
      congr 1
      split <;> simp
    · have h1 : ¬ cmpList key ko = 0 := fun h => h0 (cmpList_eq_symm h)
      simp [repTerm, hso, h0, h1]

theorem padOther_delta_null (hx : storedKey cfg left x = none)
    (Pm Po : List Rec) (row : Row) :
    wsum (fun o => padTerm cfg (!left) (Pm ++ [x]) row o - padTerm cfg (!left) Pm row o) Po = 0 := by
  rw [← wsum_zero Po]
  apply wsum_congr
  intro o _
  unfold padTerm
  rw [partners_append, sideMatch_flip, sideMatch_iff, hx]
  simp

theorem padRow_eq {v : Row} (h : v.length = if left then cfg.nL else cfg.nR) :
    padRow cfg left v = padSpec cfg left v := by
  unfold padRow padSpec copyInto nulls
  cases left
  · have h : v.length = cfg.nR := h
    simp only [Bool.false_eq_true, if_false]
    rw [List.take_of_length_le (Nat.le_of_eq h), h, Nat.sub_self, List.replicate_zero, List.append_nil]
  · have h : v.length = cfg.nL := h
    simp only [if_true]
    rw [List.take_of_length_le (h ▸ Nat.le_add_right _ _), h, Nat.add_sub_cancel_left]

theorem net_nullRows (cfg : Cfg) (left : Bool) (x : Rec) (retr : Bool) (row : Row) (s : Subs)
    (h : x.vals.length = if left then cfg.nL else cfg.nR) :
    net (nullRows left x retr s) row = (if retr then -1 else 1) * M (gPad cfg left row) s := by
  rw [net_scan _ retr id row (nullRows left x retr) rfl (fun _ _ _ => rfl) s, h]
  cases left <;> rfl

theorem ite_add_zero (c : Bool) (x y : Int) : (if c then x + y else 0) = (if c then x else 0) + (if c then y else 0) := by
  cases c <;> rfl

/-- what one more record `x` on side `left` changes in the outer specification: its pairs, its own
    padded row, and the padded rows of the other side's records that gain or lose their last partner -/
theorem sideOuter_append (cfg : Cfg) (left : Bool) (Pm Po : List Rec) (x : Rec) (row : Row) :
    sideW (outerW cfg) left (Pm ++ [x]) Po row = sideW (outerW cfg) left Pm Po row +
      (wsum (sidePair cfg left row x) Po
      + (if (if left then cfg.outerL else cfg.outerR) then padTerm cfg left Po row x else 0)
      + (if (if left then cfg.outerR else cfg.outerL) then
          wsum (fun o => padTerm cfg (!left) (Pm ++ [x]) row o - padTerm cfg (!left) Pm row o) Po else 0)) := by
  rw [sideOuter_eq, sideOuter_eq, sideJoin_append, padW_append_my, padW_append_other, ite_add_zero, ite_add_zero]
  omega

theorem net_pad (cfg : Cfg) (left : Bool) (x : Rec) (row : Row) (h : x.vals.length = if left then cfg.nL else cfg.nR)
    (b : Bool) :
    net (if b then [({ vals := padRow cfg left x.vals, retr := x.retr, et := x.et } : Rec)] else []) row =
      if b then (if rowEq (padSpec cfg left x.vals) row then sgn x else 0) else 0 := by
  rw [net_ite, padRow_eq h]
  exact congrArg (if b then · else 0) (Int.add_zero _)

/-- the other side's padded rows: retracted (`p`: first record of the key), re-emitted (`q`: after
    the last retraction of the key) -/
theorem pad_flip {p q : Prop} [Decidable p] [Decidable q] (P J : Int) :
    (if p then -1 * P else 0) + J + (if q then 1 * P else 0) = J + ((if q then 1 else 0) - (if p then 1 else 0)) * P := by
  by_cases hp : p <;> by_cases hq : q <;> simp [hp, hq] <;> omega

theorem ojRecv_store (hc : cfg.nullMatch = false)
    (hm : Rep cfg left tm Pm) (ho : Rep cfg (!left) to Po)
    (hsh : x.vals.length = if left then cfg.nL else cfg.nR) :
    RecvPost cfg left (some tm) x (fun my' em => MyTree cfg left my' (Pm ++ [x]) false ∧
      ∀ row, sideW (outerW cfg) left (Pm ++ [x]) Po row = sideW (outerW cfg) left Pm Po row + net em row)
      (ojRecv cfg (some tm) (some to) left x) := by
  unfold ojRecv
  cases hk : keyOf (if left then cfg.keysL else cfg.keysR) x.vals with
  | none => exact fun hs => by obtain ⟨k, hk'⟩ := hs.1; rw [hk] at hk'; cases hk'
  | some key =>
    simp only [hc, Bool.not_false, Bool.true_and]
    by_cases hn : hasNull key = true
    · -- a key with NULL: an unmatched row, never stored
      rw [if_pos hn]
      have hx := (storedKey_of_key hk).trans (if_pos hn)
      refine ⟨⟨tm, rfl, rep_skip hm hx⟩, fun row => ?_⟩
      rw [sideOuter_append, sidePair_sum_null hx, padOther_delta_null hx, net_pad cfg left x row hsh]
      unfold padTerm; rw [partners_self_none hx]
      refine congrArg (sideW (outerW cfg) left Pm Po row + ·) ?_; simp
    · have hx := (storedKey_of_key hk).trans (if_neg hn)
      rw [if_neg hn]
      cases hs : store tm key x with
      | none => exact fun h => (h.2 tm rfl key hk (Bool.eq_false_iff.mpr hn) (store_none hs).1) (store_none hs).2
      | some res =>
        simp only
        obtain ⟨_, hM, hfirst, hlast⟩ := store_spec hm.1 key x hs
        have hcnt := hM key _ congr_one
        simp only [cmpList_refl, if_true, Int.mul_one] at hcnt
        have hpart : partners cfg left x Po = M (fun _ => 1) (subsOf key to) := by
          rw [partners_of_key hx (cmpList_refl key), ho.2 key _ congr_one]
        by_cases he : (subsOf key to).isEmpty = true
        · -- no partner: the record's own padded row
          rw [if_pos he]
          refine ⟨⟨res.tree, rfl, rep_store hm hx hs⟩, fun row => ?_⟩
          rw [sideOuter_append, sidePair_sum hx ho, padOther_delta hx hm ho]
          unfold padTerm
          rw [hpart, List.isEmpty_iff.mp he, net_pad cfg left x row hsh]
          refine congrArg (sideW (outerW cfg) left Pm Po row + ·) ?_; simp [M]
        · -- partners: their padded rows are retracted by the first record of the key and re-emitted
          -- after its last retraction
          rw [if_neg he]
          refine ⟨⟨res.tree, rfl, rep_store hm hx hs⟩, fun row => ?_⟩
          have hpos := M_one_pos (subsOf_ok ho.1 key).1 (fun h' => he (by simp [h']))
          rw [sideOuter_append, sidePair_sum hx ho, padOther_delta hx hm ho]
          unfold padTerm
          rw [hpart, net_append, net_append, net_ite, net_ite, net_joinRows, net_nullRows cfg left x true row _ hsh,
            net_nullRows cfg left x false row _ hsh, hfirst, hlast, hcnt]
          refine congrArg (sideW (outerW cfg) left Pm Po row + ·) ?_
          generalize M (gJoin left x.vals row) (subsOf key to) = A
          generalize M (gPad cfg left row) (subsOf key to) = P
          generalize M (fun _ => 1) (subsOf key tm) = c
          rw [if_neg (show ¬ M (fun _ => 1) (subsOf key to) = 0 by omega)]
          cases (if left = true then cfg.outerR else cfg.outerL)
          · simp
          · simp only [Bool.and_true, decide_eq_true_eq, if_true, Bool.false_eq_true, if_false, Int.zero_mul, ite_self,
              Int.add_zero]
            exact (pad_flip ..).symm

end Octo.Join
