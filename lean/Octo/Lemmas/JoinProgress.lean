import Octo.Lemmas.JoinMachine
/-!
  Absence of panics: when do `receiveRecord` and `processRecordsUpTo` return?  The Go code panics in `receiveRecord` in two
  ways: a key column index out of range, and `EventTimes[1:]` of an empty slice (a retraction of a
  row that its own tree does not hold).  Neither happens on inputs that are `Good`:
  * every record has its key columns,
  * records that carry an event time are never retractions, and
  * the records without event time of each input form, in arrival order, a valid changelog
  — which covers append-only streams and tables / changelogs without event times (the C02 case). The file holds the
  reason for the second panic's absence: a retraction without event time finds its row (`safe_of_valid`).
-/
namespace Octo.Join
open Octo

variable {cfg : Cfg} {left : Bool} {x : Rec}

/-- inputs on which the node must not panic -/
structure Good (cfg : Cfg) (ins : Bool → List Rec) : Prop where
  keys : ∀ side, ∀ x ∈ ins side, KeysOK cfg side x
  timed : ∀ side, ∀ x ∈ ins side, untimed x = false → x.retr = false
  valid : ∀ side, ValidLog ((ins side).filter untimed)

theorem getElem?_congr {a b : Row} (h : cmpList a b = 0) (i : Nat) {v : Value} (hv : a[i]? = some v) :
    ∃ v', b[i]? = some v' ∧ cmp v v' = 0 := by
  rcases cmpList_getElem? h i with ⟨h1, _⟩ | ⟨u, w, h1, h2, huw⟩ <;> rw [hv] at h1
  · cases h1
  · cases h1; exact ⟨w, h2, huw⟩

theorem keyOf_congr {a b : Row} (h : cmpList a b = 0) (cols : List Nat) {ka : Row} (hk : keyOf cols a = some ka) :
    ∃ kb, keyOf cols b = some kb ∧ cmpList ka kb = 0 := by
  induction cols generalizing ka with
  | nil => cases hk; exact ⟨[], rfl, rfl⟩
  | cons i is ih =>
    simp only [keyOf] at hk ⊢
    cases hv : a[i]? with
    | none => rw [hv] at hk; cases hk
    | some v =>
      cases hr : keyOf is a with
      | none => rw [hv, hr] at hk; cases hk
      | some vs =>
        rw [hv, hr] at hk
        cases hk
        obtain ⟨v', hv', hc⟩ := getElem?_congr h i hv
        obtain ⟨vs', hr', hcs⟩ := ih hr
        exact ⟨v' :: vs', by rw [hv', hr'], cmpList_cons_iff.mpr ⟨hc, hcs⟩⟩

theorem repTerm_eq_weight {key : Row}
    (hkey : keyOf (if left then cfg.keysL else cfg.keysR) x.vals = some key) (hn : hasNull key = false) (p : Rec) :
    repTerm cfg left key (gEq x.vals) p = p.weight x.vals := by
  unfold repTerm Rec.weight gEq sgn
  by_cases hr : rowEq p.vals x.vals = true
  · have hc : cmpList x.vals p.vals = 0 := cmpList_eq_symm (rowEq_iff.mp hr)
    obtain ⟨kp, hkp, hck⟩ := keyOf_congr hc _ hkey
    have hnp : hasNull kp = false := by rw [← hasNull_congr hck]; exact hn
    have : storedKey cfg left p = some kp := (storedKey_of_key hkp).trans (if_neg (by rw [hnp]; nofun))
    rw [this]
    simp only [cmpList_eq_symm hck, if_true, hr]
    split <;> simp
  · simp only [Bool.eq_false_iff.mpr hr]
    cases storedKey cfg left p with
    | none => rfl
    | some kp => simp

theorem wsum_filter_le (f : Rec → Int) (q : Rec → Bool) (l : List Rec) (h : ∀ p ∈ l, q p = false → 0 ≤ f p) :
    wsum f (l.filter q) ≤ wsum f l := by
  induction l with
  | nil => exact Int.le_refl _
  | cons p l ih =>
    have ih := ih (fun p' hp' => h p' (List.mem_cons_of_mem _ hp'))
    rw [List.filter_cons]
    split
    · exact Int.add_le_add_left ih _
    · rename_i hq
      exact Int.le_trans ih (Int.le_add_of_nonneg_left (h p (List.mem_cons_self ..) (Bool.eq_false_iff.mpr hq)))

theorem weight_nonneg_of_insert {p : Rec} (h : p.retr = false) (row : Row) : 0 ≤ p.weight row := by
  unfold Rec.weight; rw [h]; split <;> simp

/-- if the untimed records processed so far (`U`) followed by `x` are a valid changelog, the tree holds `x`'s row -/
theorem safe_of_valid {tl : Tree} {PL U : List Rec}
    (hrep : Rep cfg left tl PL) (htimed : ∀ p ∈ PL, untimed p = false → p.retr = false)
    (hU : PL.filter untimed = U) (hval : ValidLog (U ++ [x])) : SafeStore cfg left tl x := by
  intro key hkey hn hretr hnil
  have hval := validLog_net_nonneg hval x.vals
  have h1 : ((timesOf x.vals (subsOf key tl)).length : Int) = net PL x.vals := by
    rw [timesOf_length (subsOf_ok hrep.1 key).2, hrep.2 key _ (congr_gEq _), net_eq_wsum]
    exact wsum_congr (fun p _ => repTerm_eq_weight hkey hn p)
  rw [hnil] at h1
  have h2 : net (PL.filter untimed) x.vals ≤ net PL x.vals := by
    rw [net_eq_wsum, net_eq_wsum]
    exact wsum_filter_le _ _ _ (fun p hp hq => weight_nonneg_of_insert (htimed p hp hq) _)
  have h3 : net (U ++ [x]) x.vals = net U x.vals - 1 := by
    rw [net_append]
    simp [net, Rec.weight, rowEq_refl, hretr]; omega
  rw [hU] at h2
  simp at h1
  omega

end Octo.Join
