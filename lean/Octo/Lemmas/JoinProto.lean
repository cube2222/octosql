import Octo.Model.JoinProto
import Octo.Lemmas.Sched
/-! The join's goroutine protocol (`Octo.JoinProto`): every action decreases `measure`; while the node listens to a side
something can move (`side_progress`); with the fix a producer can always go on to close its channel. -/
namespace Octo.JoinProto

theorem cap_pos : 0 < cap := by decide

@[simp] theorem setProd_prod_same (s : State) (sd : Side) (p : Prod) : (s.setProd sd p).prod sd = p := by
  cases sd <;> rfl

theorem setProd_prod_other (s : State) (sd : Side) (p : Prod) : (s.setProd sd p).prod sd.other = s.prod sd.other := by
  cases sd <;> rfl

@[simp] theorem setProd_cpc (s : State) (sd : Side) (p : Prod) : (s.setProd sd p).cpc = s.cpc := by
  cases sd <;> rfl

@[simp] theorem setProd_fixed (s : State) (sd : Side) (p : Prod) : (s.setProd sd p).fixed = s.fixed := by
  cases sd <;> rfl

theorem measure_setProd (s : State) (sd : Side) (p : Prod) :
    measure (s.setProd sd p) + prodMeasure (s.prod sd) = measure s + prodMeasure p := by
  cases sd <;> simp only [measure, State.setProd, State.prod] <;> omega

theorem measure_setProd_lt (s : State) (sd : Side) (p : Prod) (h : prodMeasure p < prodMeasure (s.prod sd)) :
    measure (s.setProd sd p) < measure s := by
  have := measure_setProd s sd p; omega

theorem isRun : Sched.IsRun step run := ⟨fun _ => rfl, fun s a as => by rw [run]; cases step s a <;> rfl⟩

/-- a producer's action decreases the measure of its side; a consumer's action takes a message out of a channel or moves
the consumer's pc -/
theorem step_measure {s s' : State} {a : Action} (hs : step s a = some s') : measure s' < measure s := by
  cases a with
  | pSend sd =>
    obtain ⟨⟨h1, _⟩, ⟨⟩⟩ := Option.ite_none_right_eq_some.mp hs
    exact measure_setProd_lt s sd _ (by simp only [prodMeasure]; omega)
  | pAbort sd =>
    obtain ⟨⟨_, h1, _⟩, ⟨⟩⟩ := Option.ite_none_right_eq_some.mp hs
    exact measure_setProd_lt s sd _ (by simp only [prodMeasure, h1, unset]; omega)
  | pClose sd =>
    obtain ⟨⟨_, h1⟩, ⟨⟩⟩ := Option.ite_none_right_eq_some.mp hs
    exact measure_setProd_lt s sd _ (by simp only [prodMeasure, h1, unset]; omega)
  | cRecv sd stop =>
    obtain ⟨⟨_, h1⟩, ⟨⟩⟩ := Option.ite_none_right_eq_some.mp hs
    refine Nat.lt_of_le_of_lt (m := measure (s.setProd sd _)) (Nat.add_le_add_left ?_ _)
      (measure_setProd_lt s sd _ (by simp only [prodMeasure]; omega))
    show cpcMeasure (if stop = true then .ret else s.cpc) ≤ cpcMeasure (s.setProd sd _).cpc
    rw [setProd_cpc]
    cases stop
    · exact Nat.le_refl _
    · exact Nat.zero_le _
  | cSeeClosed sd =>
    obtain ⟨⟨h1, _⟩, ⟨⟩⟩ := Option.ite_none_right_eq_some.mp hs
    refine Nat.add_lt_add_left ?_ _
    cases hc : s.cpc with
    | both => exact Nat.lt_succ_self 1
    | only x => exact Nat.lt_succ_self 0
    | ret => rw [hc] at h1; contradiction

theorem run_length {s t : State} {sched : List Action} (hr : run s sched = some t) : sched.length + measure t ≤ measure s :=
  isRun.length_le (I := fun _ => True) (fun _ _ _ _ _ => trivial) (fun _ _ _ _ hs => step_measure hs) trivial hr

theorem producer_cases (s : State) (sd : Side) (hc : (s.prod sd).closed = false) :
    (step s (.pClose sd)).isSome = true ∨ (0 < (s.prod sd).rem ∧ (s.prod sd).aborted = false) := by
  by_cases hr : (s.prod sd).rem = 0 ∨ (s.prod sd).aborted = true
  · exact .inl (by simp [step, hr, hc])
  · exact .inr ⟨Nat.pos_of_ne_zero (fun h => hr (.inl h)), Bool.eq_false_iff.mpr (fun h => hr (.inr h))⟩

theorem side_progress (s : State) (sd : Side) (hl : listens s.cpc sd = true) :
    ∃ a, (step s a).isSome = true := by
  by_cases hq : 0 < (s.prod sd).q
  · exact ⟨.cRecv sd false, by simp [step, hl, hq]⟩
  · have hq0 : (s.prod sd).q = 0 := Nat.eq_zero_of_not_pos hq
    cases hc : (s.prod sd).closed with
    | true => exact ⟨.cSeeClosed sd, by simp [step, hl, hq0, hc]⟩
    | false =>
      rcases producer_cases s sd hc with h | ⟨h1, h2⟩
      · exact ⟨_, h⟩
      · exact ⟨.pSend sd, by simp [step, h1, h2, hc, hq0, cap_pos]⟩

theorem producer_progress_fixed (s : State) (hf : s.fixed = true) (hret : s.cpc = .ret) (sd : Side)
    (hc : (s.prod sd).closed = false) : ∃ a, (step s a).isSome = true := by
  rcases producer_cases s sd hc with h | ⟨h1, h2⟩
  · exact ⟨_, h⟩
  · exact ⟨.pAbort sd, by simp [step, h1, h2, hc, State.cancelled, hf, hret]⟩

theorem step_fixed {s s' : State} {a : Action} (hs : step s a = some s') : s'.fixed = s.fixed := by
  cases a <;> obtain ⟨_, ⟨⟩⟩ := Option.ite_none_right_eq_some.mp hs
  all_goals first | exact setProd_fixed .. | rfl

theorem run_fixed {s t : State} {sched : List Action} (hr : run s sched = some t) : t.fixed = s.fixed :=
  isRun.invariant (I := fun u => u.fixed = s.fixed) (fun _ _ _ hi hs => (step_fixed hs).trans hi) rfl hr

theorem run_sends (s : State) (k : Nat) (h1 : k ≤ s.l.rem) (h2 : s.l.q + k ≤ cap) (h3 : s.l.aborted = false)
    (h4 : s.l.closed = false) :
    run s (List.replicate k (.pSend .L)) = some { s with l := { s.l with rem := s.l.rem - k, q := s.l.q + k } } := by
  induction k with
  | zero => rfl
  | succ k ih =>
    rw [List.replicate_succ', isRun.append, ih (Nat.le_of_succ_le h1) (Nat.le_of_succ_le h2), Option.bind_some, run]
    have hstep : step { s with l := { s.l with rem := s.l.rem - k, q := s.l.q + k } } (.pSend .L) = _ :=
      if_pos ⟨Nat.sub_pos_of_lt h1, h3, h4, h2⟩
    rw [hstep]; rfl

end Octo.JoinProto
