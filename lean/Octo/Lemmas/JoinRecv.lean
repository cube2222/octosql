import Octo.Lemmas.JoinTree
/-!
  `receiveRecord` against the specification, written as weighted sums over the two lists of records processed so far:
  processing one more record changes the output by exactly the change of the specification, or panics for one of the
  two reasons `RecvPost` names. Everything here is about the code with the NULL-key repair (`nullMatch = false`).
-/
namespace Octo.Join
open Octo

def sideMatch (cfg : Cfg) (left : Bool) (x o : Rec) : Bool := if left then sqlMatch cfg x o else sqlMatch cfg o x

theorem sideMatch_flip (cfg : Cfg) (left : Bool) (x o : Rec) : sideMatch cfg (!left) o x = sideMatch cfg left x o := by
  cases left <;> rfl

def pairTerm (cfg : Cfg) (row : Row) (l r : Rec) : Int :=
  if sqlMatch cfg l r && rowEq (l.vals ++ r.vals) row then sgn l * sgn r else 0

def joinW (cfg : Cfg) (L R : List Rec) (row : Row) : Int :=
  wsum (fun l => wsum (fun r => pairTerm cfg row l r) R) L

theorem net_joinRecs (cfg : Cfg) (L R : List Rec) (row : Row) : net (joinRecs cfg L R) row = joinW cfg L R row := by
  unfold joinRecs joinW
  rw [net_flatMap]
  refine wsum_congr fun l _ => ?_
  rw [net_map_filter]
  refine wsum_congr fun r _ => ?_
  rw [weight_sgn, sgn_of_bne (q := pairRec l r) rfl]
  show (if sqlMatch cfg l r = true then (if rowEq (l.vals ++ r.vals) row = true then sgn l * sgn r else 0) else 0) = _
  unfold pairTerm
  cases sqlMatch cfg l r <;> cases rowEq (l.vals ++ r.vals) row <;> rfl

theorem joinW_perm_left {cfg : Cfg} {L L' : List Rec} (h : List.Perm L L') (R : List Rec) (row : Row) :
    joinW cfg L R row = joinW cfg L' R row := wsum_perm h
theorem joinW_perm_right {cfg : Cfg} (L : List Rec) {R R' : List Rec} (h : List.Perm R R') (row : Row) :
    joinW cfg L R row = joinW cfg L R' row := by
  unfold joinW; apply wsum_congr; intro l _; exact wsum_perm h

def partners (cfg : Cfg) (left : Bool) (x : Rec) (other : List Rec) : Int :=
  wsum (fun o => if sideMatch cfg left x o then sgn o else 0) other

def padSpec (cfg : Cfg) (left : Bool) (v : Row) : Row := if left then v ++ nulls cfg.nR else nulls cfg.nL ++ v

/-- the record's weight for `row` as a NULL-padded row, counted while it has no partner -/
def padTerm (cfg : Cfg) (left : Bool) (other : List Rec) (row : Row) (x : Rec) : Int :=
  (if partners cfg left x other = 0 then 1 else 0) * (if rowEq (padSpec cfg left x.vals) row then sgn x else 0)

def padW (cfg : Cfg) (left : Bool) (my other : List Rec) (row : Row) : Int :=
  wsum (padTerm cfg left other row) my

theorem padW_perm_my {cfg : Cfg} {left : Bool} {my my' : List Rec} (other : List Rec) (row : Row)
    (h : List.Perm my my') : padW cfg left my other row = padW cfg left my' other row := wsum_perm h

theorem padW_perm_other {cfg : Cfg} {left : Bool} (my : List Rec) {other other' : List Rec} (row : Row)
    (h : List.Perm other other') : padW cfg left my other row = padW cfg left my other' row := by
  unfold padW
  apply wsum_congr
  intro x _
  unfold padTerm partners
  rw [wsum_perm h]

def outerW (cfg : Cfg) (L R : List Rec) (row : Row) : Int :=
  joinW cfg L R row + (if cfg.outerL then padW cfg true L R row else 0) + (if cfg.outerR then padW cfg false R L row else 0)

def specW (cfg : Cfg) (L R : List Rec) (row : Row) : Int :=
  if cfg.outer then outerW cfg L R row else joinW cfg L R row

theorem foldr_sgn_eq_wsum (l : List Rec) : l.foldr (fun r acc => sgn r + acc) 0 = wsum sgn l := by
  induction l with
  | nil => rfl
  | cons r rs ih => simp [List.foldr, wsum, ih]

theorem partnersL_eq (cfg : Cfg) (l : Rec) (R : List Rec) : partnersL cfg l R = partners cfg true l R := by
  unfold partnersL partners sideMatch
  rw [foldr_sgn_eq_wsum, wsum_filter]; rfl
theorem partnersR_eq (cfg : Cfg) (L : List Rec) (r : Rec) : partnersR cfg L r = partners cfg false r L := by
  unfold partnersR partners sideMatch
  rw [foldr_sgn_eq_wsum, wsum_filter]; rfl

theorem net_padLeftRecs (cfg : Cfg) (L R : List Rec) (row : Row) :
    net (padLeftRecs cfg L R) row = padW cfg true L R row := by
  unfold padLeftRecs padW
  rw [net_map_filter]
  apply wsum_congr
  intro l _
  rw [weight_sgn, partnersL_eq]
  unfold padTerm
  by_cases h : partners cfg true l R = 0 <;> simp [h, padSpec, sgn]

theorem net_padRightRecs (cfg : Cfg) (L R : List Rec) (row : Row) :
    net (padRightRecs cfg L R) row = padW cfg false R L row := by
  unfold padRightRecs padW
  rw [net_map_filter]
  apply wsum_congr
  intro r _
  rw [weight_sgn, partnersR_eq]
  unfold padTerm
  by_cases h : partners cfg false r L = 0 <;> simp [h, padSpec, sgn]

theorem net_ite (b : Bool) (l : List Rec) (row : Row) : net (if b then l else []) row = if b then net l row else 0 :=
  apply_ite (net · row) b l []

theorem net_specRecs (cfg : Cfg) (L R : List Rec) (row : Row) : net (specRecs cfg L R) row = specW cfg L R row := by
  unfold specRecs specW outerRecs outerW
  by_cases ho : cfg.outer = true
  · rw [if_pos ho, if_pos ho, net_append, net_append, net_joinRecs, net_ite, net_ite, net_padLeftRecs, net_padRightRecs]
  · rw [if_neg ho, if_neg ho, net_joinRecs]

/-- the key under which a processed record of side `left` sits in its tree; `none` if the key has a NULL -/
def storedKey (cfg : Cfg) (left : Bool) (p : Rec) : Option Row :=
  match keyOf (if left then cfg.keysL else cfg.keysR) p.vals with
  | some k => if hasNull k then none else some k
  | none => none

def repTerm (cfg : Cfg) (left : Bool) (k : Row) (g : Row → Int) (p : Rec) : Int :=
  match storedKey cfg left p with
  | some kp => if cmpList kp k = 0 then sgn p * g p.vals else 0
  | none => 0

/-- tree `t` holds exactly the consolidated records `P` of side `left`. It is stated for every row function `g`
    (that does not tell equivalent rows apart) because everything the nodes read off an item is `M` of some `g`, so
    one invariant serves all of them: `gJoin` gives the joined rows, `gPad` the other side's padded rows, `gEq x` the
    number of stored copies of `x` (`safe_of_valid`), `fun _ => 1` the number of records under a key (first / last
    record, partner count). -/
def Rep (cfg : Cfg) (left : Bool) (t : Tree) (P : List Rec) : Prop :=
  TreeWF t ∧ ∀ k g, Congr g → M g (subsOf k t) = wsum (repTerm cfg left k g) P

theorem rep_nil (cfg : Cfg) (left : Bool) : Rep cfg left [] [] :=
  ⟨treeWF_nil, fun _ _ _ => rfl⟩

theorem rep_perm {cfg : Cfg} {left : Bool} {t : Tree} {P P' : List Rec} (h : List.Perm P P') (hr : Rep cfg left t P) :
    Rep cfg left t P' :=
  ⟨hr.1, fun k g hg => by rw [hr.2 k g hg]; exact wsum_perm h⟩

variable {cfg : Cfg} {left : Bool} {x : Rec} {key : Row} {t to : Tree} {P Pm Po : List Rec}

theorem rep_skip (hr : Rep cfg left t P)
    (hx : storedKey cfg left x = none) : Rep cfg left t (P ++ [x]) := by
  refine ⟨hr.1, fun k g hg => ?_⟩
  rw [hr.2 k g hg, wsum_append, wsum_single]
  simp only [repTerm, hx]; omega

theorem rep_store {res : StoreRes}
    (hr : Rep cfg left t P) (hx : storedKey cfg left x = some key) (hs : store t key x = some res) :
    Rep cfg left res.tree (P ++ [x]) := by
  obtain ⟨hwf, hM, _, _⟩ := store_spec hr.1 key x hs
  refine ⟨hwf, fun k g hg => ?_⟩
  rw [hM k g hg, hr.2 k g hg, wsum_append, wsum_single]
  simp only [repTerm, hx]

def sidePair (cfg : Cfg) (left : Bool) (row : Row) (x o : Rec) : Int :=
  if left then pairTerm cfg row x o else pairTerm cfg row o x

theorem congr_gJoin (left : Bool) (xv row : Row) : Congr (gJoin left xv row) := by
  cases left
  · exact congr_pairRight xv row
  · exact congr_pairLeft xv row

theorem storedKey_of_key (hk : keyOf (if left then cfg.keysL else cfg.keysR) x.vals = some key) :
    storedKey cfg left x = if hasNull key then none else some key := by
  unfold storedKey; rw [hk]

theorem sqlMatch_storedKey (cfg : Cfg) (l r : Rec) :
    sqlMatch cfg l r =
      (match storedKey cfg true l, storedKey cfg false r with
       | some kl, some kr => decide (cmpList kl kr = 0)
       | _, _ => false) := by
  unfold sqlMatch storedKey
  simp only [if_true, Bool.false_eq_true, if_false]
  cases keyOf cfg.keysL l.vals with
  | none => rfl
  | some kl =>
    cases keyOf cfg.keysR r.vals with
    | none => cases hl : hasNull kl <;> simp [hl]
    | some kr =>
      cases hl : hasNull kl with
      | true => simp [hl]
      | false =>
        cases hr : hasNull kr with
        | false => by_cases h : cmpList kl kr = 0 <;> simp [hl, hr, rowEq, h]
        | true =>
          have : ¬ cmpList kl kr = 0 := fun h => by rw [hasNull_congr h, hr] at hl; cases hl
          simp [hl, hr, rowEq, this]

theorem sideMatch_iff (cfg : Cfg) (left : Bool) (p o : Rec) :
    sideMatch cfg left p o =
      (match storedKey cfg left p, storedKey cfg (!left) o with
       | some kp, some ko => decide (cmpList kp ko = 0)
       | _, _ => false) := by
  cases left
  · show sqlMatch cfg o p = _
    rw [sqlMatch_storedKey, Bool.not_false]
    cases storedKey cfg true o <;> cases storedKey cfg false p <;> try rfl
    exact decide_eq_decide.mpr ⟨cmpList_eq_symm, cmpList_eq_symm⟩
  · exact sqlMatch_storedKey cfg p o

theorem sidePair_eq (cfg : Cfg) (left : Bool) (row : Row) (x o : Rec) :
    sidePair cfg left row x o =
      if sideMatch cfg left x o && rowEq (sideRow left x.vals o.vals) row then sgn x * sgn o else 0 := by
  cases left
  · simp only [sidePair, pairTerm, sideMatch, sideRow, Bool.false_eq_true, if_false]
    rw [Int.mul_comm]
  · rfl

theorem sidePair_sum (hx : storedKey cfg left x = some key) (ho : Rep cfg (!left) to Po) (row : Row) :
    wsum (sidePair cfg left row x) Po = sgn x * M (gJoin left x.vals row) (subsOf key to) := by
  rw [ho.2 key _ (congr_gJoin left x.vals row), ← wsum_mul_left]
  apply wsum_congr
  intro o _
  rw [sidePair_eq, sideMatch_iff, hx]
  unfold repTerm gJoin
  cases storedKey cfg (!left) o with
  | none => simp
  | some ko =>
    simp only
    by_cases h0 : cmpList key ko = 0
    · rw [if_pos (cmpList_eq_symm h0)]
      by_cases h1 : rowEq (sideRow left x.vals o.vals) row = true <;> simp [h0, h1]
    · rw [if_neg (fun h => h0 (cmpList_eq_symm h))]; simp [h0]

theorem sidePair_sum_null (hx : storedKey cfg left x = none)
    (Po : List Rec) (row : Row) : wsum (sidePair cfg left row x) Po = 0 := by
  rw [← wsum_zero Po]
  apply wsum_congr
  intro o _
  rw [sidePair_eq, sideMatch_iff, hx]; rfl

def sideW (W : List Rec → List Rec → Row → Int) (left : Bool) (my other : List Rec) (row : Row) : Int :=
  if left then W my other row else W other my row

theorem sideJoin_append (cfg : Cfg) (left : Bool) (my other : List Rec) (x : Rec) (row : Row) :
    sideW (joinW cfg) left (my ++ [x]) other row = sideW (joinW cfg) left my other row + wsum (sidePair cfg left row x) other := by
  cases left
  · show joinW cfg other (my ++ [x]) row = joinW cfg other my row + wsum (sidePair cfg false row x) other
    unfold joinW
    rw [← wsum_add]
    exact wsum_congr fun l _ => by rw [wsum_append, wsum_single]; rfl
  · show joinW cfg (my ++ [x]) other row = joinW cfg my other row + wsum (sidePair cfg true row x) other
    unfold joinW
    rw [wsum_append, wsum_single]; rfl

/-- a side's own tree as `receiveRecord` finds it: given up (`osr`, after `markOneStreamRemains`),
    or holding the records `Pm` processed so far -/
def MyTree (cfg : Cfg) (left : Bool) (my : Option Tree) (Pm : List Rec) : Bool → Prop
  | true => my = none
  | false => ∃ t, my = some t ∧ Rep cfg left t Pm

def KeysOK (cfg : Cfg) (left : Bool) (x : Rec) : Prop :=
  ∃ k, keyOf (if left then cfg.keysL else cfg.keysR) x.vals = some k

/-- processing `x` against its own tree does not slice an empty `EventTimes` -/
def SafeStore (cfg : Cfg) (left : Bool) (tm : Tree) (x : Rec) : Prop :=
  ∀ key, keyOf (if left then cfg.keysL else cfg.keysR) x.vals = some key → hasNull key = false →
    x.retr = true → timesOf x.vals (subsOf key tm) ≠ []

theorem safe_of_insert {tm : Tree} (h : x.retr = false) : SafeStore cfg left tm x := by
  intro _ _ _ hr; rw [h] at hr; cases hr

/-- `receiveRecord` returns and `Q` holds of the new tree and the records emitted, or it panics: a key
    column index out of range, or a retraction of a row that the record's own tree does not hold -/
def RecvPost (cfg : Cfg) (left : Bool) (my : Option Tree) (x : Rec) (Q : Option Tree → List Rec → Prop) :
    Option (Option Tree × List Rec) → Prop
  | some (my', em) => Q my' em
  | none => ¬ (KeysOK cfg left x ∧ ∀ tm, my = some tm → SafeStore cfg left tm x)

theorem store_none {t : Tree} {key : Row} (h : store t key x = none) :
    x.retr = true ∧ timesOf x.vals (subsOf key t) = [] := by
  unfold store newTimes at h
  by_cases hr : x.retr = true
  · rw [if_pos hr] at h
    cases ht : timesOf x.vals (subsOf key t) with
    | nil => exact ⟨hr, rfl⟩
    | cons a ts => rw [ht] at h; cases h
  · rw [if_neg hr] at h; cases h

theorem sjRecv_spec (hc : cfg.nullMatch = false) {left osr : Bool} {my : Option Tree}
    (hm : MyTree cfg left my Pm osr) (ho : Rep cfg (!left) to Po) :
    RecvPost cfg left my x (fun my' em => MyTree cfg left my' (Pm ++ [x]) osr ∧
      ∀ row, sideW (joinW cfg) left (Pm ++ [x]) Po row = sideW (joinW cfg) left Pm Po row + net em row)
      (sjRecv cfg my (some to) left x osr) := by
  unfold sjRecv
  cases hk : keyOf (if left then cfg.keysL else cfg.keysR) x.vals with
  | none => exact fun hs => by obtain ⟨k, hk'⟩ := hs.1; rw [hk] at hk'; cases hk'
  | some key =>
    simp only [hc, Bool.not_false, Bool.true_and]
    by_cases hn : hasNull key = true
    · rw [if_pos hn]
      have hx := (storedKey_of_key hk).trans (if_pos hn)
      refine ⟨?_, fun row => by rw [sideJoin_append, sidePair_sum_null hx]; rfl⟩
      cases osr with
      | true => exact hm
      | false => obtain ⟨t, rfl, hr⟩ := hm; exact ⟨t, rfl, rep_skip hr hx⟩
    · have hx := (storedKey_of_key hk).trans (if_neg hn)
      rw [if_neg hn]
      have hnet : ∀ row, sideW (joinW cfg) left (Pm ++ [x]) Po row =
          sideW (joinW cfg) left Pm Po row + net (joinRows left x (subsOf key to)) row := fun row => by
        rw [sideJoin_append, sidePair_sum hx ho, net_joinRows]
      cases osr with
      | true => exact ⟨hm, hnet⟩
      | false =>
        obtain ⟨tm, rfl, hr⟩ := hm
        simp only [Bool.false_eq_true, if_false]
        cases hs : store tm key x with
        | none => exact fun h => (h.2 tm rfl key hk (Bool.eq_false_iff.mpr hn) (store_none hs).1) (store_none hs).2
        | some res => exact ⟨⟨res.tree, rfl, rep_store hr hx hs⟩, hnet⟩

end Octo.Join
