import Octo.Lemmas.JoinProgress
import Octo.Lemmas.JoinTime
/-!
  The events of `Run` (select arms, phase switch, range loop, final flush) against the invariant of the run: each
  event keeps it or panics, and it panics only on inputs that are not good.
-/
namespace Octo.Join
open Octo

variable {cfg : Cfg} {W : List Rec → List Rec → Row → Int}

/-- the event-time half of the invariant, for inputs whose remaining messages `rest` are fresh. In the range loop
    `B` is the bound up to which records have been released: the open side's last watermark (at the switch, the
    watermark it had then). It is existential because the Go loop keeps no variable for it: it passes each incoming
    watermark straight to `processRecordsUpTo`. -/
def TimeInv (W : List Rec → List Rec → Row → Int) (ins : Bool → List Rec) (s : St) (ph : Phase)
    (R : Bool → List Rec) (rest : Bool → List Msg) : Prop :=
  wmOK W (ins true) (ins false) [] s.out ∧
  match ph with
  | .both => Timely s (.at s.minW) R ∧ ∀ side, after s.minW (s.wm side) = false ∧ Fresh (s.wm side) (rest side)
  | .one ld _ => ∃ B : T, Timely s (.at B) R ∧ Fresh B (rest (!ld))
  | .done => True

/-- `ins side` is the complete input of `side`, `R side` what has been received of it, `rest side`
    the messages still to come. `F`: the inputs are fresh. -/
structure RunInv (cfg : Cfg) (W : List Rec → List Rec → Row → Int) (F : Prop) (ins : Bool → List Rec)
    (s : St) (ph : Phase) (R P : Bool → List Rec) (rest : Bool → List Msg) : Prop where
  ins_eq : ∀ side, ins side = R side ++ recs (rest side)
  inv : Inv cfg W s (dropOf ph) R P
  time : F → TimeInv W ins s ph R rest

variable {F : Prop} {ins : Bool → List Rec} {s s' : St} {ph : Phase} {R P : Bool → List Rec} {rest : Bool → List Msg}
  {drop : Option Bool}

theorem RunInv.shape (hj : RunInv cfg W F ins s ph R P rest) (hsh : ∀ side, ∀ x ∈ ins side, Shape cfg side x) :
    ∀ side, ∀ x ∈ R side, Shape cfg side x :=
  fun side x hx => hsh side x (by rw [hj.ins_eq]; exact List.mem_append_left _ hx)

theorem RunInv.mem_ins (hj : RunInv cfg W F ins s ph R P rest) {side : Bool} {x : Rec}
    (hx : x ∈ P side ++ bufAll (s.buf side)) : x ∈ ins side := by
  rw [hj.ins_eq]; exact List.mem_append_left _ (((hj.inv.perm side).mem_iff).mp hx)

theorem RunInv.bufSafe (hj : RunInv cfg W F ins s ph R P rest) (hg : Good cfg ins) : BufSafe cfg s :=
  fun side x hx =>
    have h1 := hj.mem_ins (List.mem_append_right _ hx)
    ⟨hg.timed side x h1 (bufOK_timed (hj.inv.bufOK side) x hx), hg.keys side x h1⟩

/-- forwarding watermark `m` after a `processRecordsUpTo(m)` that produced `em`: at that moment the
    processed records are the inputs up to `m` -/
theorem wmOK_forward (ok : RecvOK cfg W) {m : Int} {o : List Msg} {em : List Rec}
    (hins : ∀ side, ins side = R side ++ recs (rest side))
    (hi : Inv cfg W s drop R P) (ht : Timely s (.at (some m)) R)
    (hl : ∀ side, ∀ x ∈ recs (rest side), lateB (.at (some m)) x = true)
    (ho : recs s.out = recs (o ++ dataMsgs em)) (hw : wmOK W (ins true) (ins false) [] o) :
    wmOK W (ins true) (ins false) [] (o ++ dataMsgs em ++ [Msg.wm m]) := by
  refine (wmOK_append W _ _ (o ++ dataMsgs em) [Msg.wm m] []).mpr ⟨wmOK_snoc_data em hw, fun row => ?_, trivial⟩
  rw [List.nil_append, ← ho, hi.core.out row, hins, hins, ok.permL _ row (upTo_perm (hi.perm true) (ht true) (hl true)),
    ok.permR _ row (upTo_perm (hi.perm false) (ht false) (hl false))]

theorem ins_pop {sd : Bool} {rest' : List Msg} (rs : List Rec)
    (hins : ∀ side, ins side = R side ++ recs (rest side)) (h : recs (rest sd) = rs ++ recs rest') :
    ∀ side, ins side = upd R sd (R sd ++ rs) side ++ recs (upd rest sd rest' side) := by
  intro side
  by_cases hs : side = sd
  · subst hs; rw [upd_self, upd_self, hins, h, List.append_assoc]
  · rw [upd_ne _ _ hs, upd_ne _ _ hs]; exact hins side

theorem open_side {sd : Bool} (hside : ∀ ld osr, ph = .one ld osr → sd = !ld) : dropOf ph ≠ some (!sd) := by
  cases ph with
  | one ld osr =>
    rw [hside ld osr rfl]
    cases osr
    · nofun
    · exact fun h => not_ne_self _ (Option.some.inj h).symm
  | both => nofun
  | done => nofun

theorem onWm_eq (cfg : Cfg) (s : St) (left : Bool) (w : Int) :
    onWm cfg s left w =
      match minT ((s.setWm left w).wm left) ((s.setWm left w).wm (!left)) with
      | none => .ok (s.setWm left w)
      | some m =>
        if after (some m) (s.setWm left w).minW then
          match processUpTo cfg { s.setWm left w with minW := some m } (.at (some m)) false with
          | .error o => .error o
          | .ok s' => .ok { s' with out := s'.out ++ [Msg.wm m] }
        else .ok (s.setWm left w) := by
  cases left <;> rfl

theorem setWm_step {sd : Bool} {w : Int} {rest' : List Msg} (hr : rest sd = .wm w :: rest') (hj : RunInv cfg W F ins s .both R P rest) :
    RunInv cfg W F ins (s.setWm sd w) .both R P (upd rest sd rest') := by
  have hins := ins_pop [] hj.ins_eq (by rw [hr]; rfl)
  rw [upd_append_nil] at hins
  have hb : ∀ side, (s.setWm sd w).buf side = s.buf side := by intro side; cases sd <;> rfl
  have ho : (s.setWm sd w).out = s.out := by cases sd <;> rfl
  have hm : (s.setWm sd w).minW = s.minW := by cases sd <;> rfl
  refine ⟨hins, hj.inv.congr (congrArg recs ho) hb (by intro side; cases sd <;> rfl), fun hF => ?_⟩
  obtain ⟨hw, htm, hfr⟩ := hj.time hF
  refine ⟨by rw [ho]; exact hw, by rw [hm]; exact htm.congr hb, fun side => ?_⟩
  have hf := (hfr sd).2
  rw [hr] at hf
  rw [hm, show (s.setWm sd w).wm side = if side = sd then some w else s.wm side by cases sd <;> cases side <;> rfl]
  by_cases hs : side = sd
  · subst hs; rw [if_pos rfl, upd_self]; exact ⟨not_after_trans (hfr side).1 hf.1, hf.2⟩
  · rw [if_neg hs, upd_ne _ _ hs]; exact hfr side

/-- a retraction without event time finds its row: the untimed records received so far, followed by it, are a
    prefix of a valid changelog -/
theorem rec_step (ok : RecvOK cfg W) (hsh : ∀ side, ∀ x ∈ ins side, Shape cfg side x)
    {sd : Bool} {r : Rec} {rest' : List Msg} (hside : ∀ ld osr, ph = .one ld osr → sd = !ld)
    (hr : rest sd = .data r :: rest') (hj : RunInv cfg W F ins s ph R P rest) :
    StepOK (Good cfg ins) (fun s' => ∃ P', RunInv cfg W F ins s' ph (upd R sd (R sd ++ [r])) P' (upd rest sd rest'))
      (onRec cfg s sd r (dropOf ph).isSome) := by
  have hopen := open_side hside
  have hrm : r ∈ ins sd := by rw [hj.ins_eq, hr]; simp [recs]
  have hs := onRec_step ok hopen hj.inv (hsh sd r hrm)
  cases h : onRec cfg s sd r (dropOf ph).isSome with
  | error o =>
    rw [h] at hs
    refine fun hg => hs ⟨hg.keys sd r hrm, fun tm htm => ?_⟩
    -- with an event time the record would have gone into the buffer
    have het : r.et = none := by
      cases het : r.et with
      | none => rfl
      | some t => unfold onRec at h; rw [het] at h; cases h
    have hkeep : dropOf ph ≠ some sd := fun h' => by rw [(hj.inv.core.gone sd h').1] at htm; cases htm
    obtain ⟨t, ht, hrep⟩ := hj.inv.core.tree sd hkeep
    rw [htm] at ht
    cases ht
    refine safe_of_valid hrep (fun p hp => hg.timed sd p (hj.mem_ins (List.mem_append_left _ hp)))
      (hj.inv.untimed sd) (validLog_prefix (b := (recs rest').filter untimed) ?_)
    have := hg.valid sd
    rwa [hj.ins_eq, hr, List.filter_append, show recs (Msg.data r :: rest') = r :: recs rest' from rfl,
      List.filter_cons, if_pos (untimed_of_none het), List.append_cons] at this
  | ok s' =>
  rw [h] at hs
  obtain ⟨P', hi', em, hout⟩ := hs
  show ∃ P', RunInv cfg W F ins s' ph _ P' _
  have hins := ins_pop [r] hj.ins_eq (by rw [hr]; rfl)
  refine ⟨P', hins, hi', fun hF => ?_⟩
  obtain ⟨hw, ht⟩ := hj.time hF
  refine ⟨by rw [hout]; exact wmOK_snoc_data em hw, ?_⟩
  -- a fresh record has an event time and goes into the buffer
  have hbuf : ∀ {cur : T}, Fresh cur (rest sd) → ∃ t, s' = addBuf sd s t r ∧ after r.et cur = true ∧ Fresh cur rest' := by
    intro cur hf
    rw [hr] at hf
    obtain ⟨t, het⟩ := after_some_of_after hf.1
    unfold onRec at h
    rw [het] at h
    exact ⟨t, (Except.ok.inj h).symm, hf.1, hf.2⟩
  cases ph with
  | both =>
    obtain ⟨htm, hfr⟩ := ht
    obtain ⟨t, rfl, hlate, hf'⟩ := hbuf (hfr sd).2
    have hw : ∀ side, (addBuf sd s t r).wm side = s.wm side := by intro side; cases sd <;> rfl
    have hm : (addBuf sd s t r).minW = s.minW := by cases sd <;> rfl
    refine ⟨?_, fun side => ?_⟩
    · rw [hm]; exact htm.add sd (by rw [late_at]; exact after_of_after_of_not_after hlate (hfr sd).1)
    · rw [hm, hw]
      refine ⟨(hfr side).1, ?_⟩
      by_cases hs : side = sd
      · subst hs; rw [upd_self]; exact hf'
      · rw [upd_ne _ _ hs]; exact (hfr side).2
  | one ld osr =>
    obtain ⟨B, htm, hfr⟩ := ht
    have hs := hside ld osr rfl
    subst hs
    obtain ⟨t, rfl, hlate, hf'⟩ := hbuf hfr
    exact ⟨B, htm.add _ (by rw [late_at]; exact hlate), by rw [upd_self]; exact hf'⟩
  | done => trivial

theorem wm_step (ok : RecvOK cfg W) (hsh : ∀ side, ∀ x ∈ ins side, Shape cfg side x)
    {sd : Bool} {w : Int} {rest' : List Msg} (hr : rest sd = .wm w :: rest') (hj : RunInv cfg W F ins s .both R P rest) :
    StepOK (Good cfg ins) (fun s' => ∃ P', RunInv cfg W F ins s' .both R P' (upd rest sd rest')) (onWm cfg s sd w) := by
  have hj0 := setWm_step hr hj
  rw [onWm_eq]
  generalize s.setWm sd w = s0 at hj0 ⊢
  cases hm : minT (s0.wm sd) (s0.wm (!sd)) with
  | none => exact ⟨P, hj0⟩
  | some m =>
    by_cases ha : after (some m) s0.minW = true
    · simp only [if_pos ha]
      have hi1 := hj0.inv.congr (s' := { s0 with minW := some m }) rfl (fun _ => rfl) (fun _ => rfl)
      have hp := processUpTo_step ok (drop := none) (b := .at (some m)) hi1 (hj0.shape hsh)
      rw [Option.isSome_none] at hp
      generalize processUpTo cfg { s0 with minW := some m } (.at (some m)) false = e at hp ⊢
      cases e with
      | error o => exact fun hg => hp (hj0.bufSafe hg)
      | ok s1 =>
        obtain ⟨hi2, hb, fr⟩ := hp
        obtain ⟨em, f4⟩ := fr.out
        refine ⟨_, hj0.ins_eq, hi2.congr (recs_snoc_wm _ _) (fun _ => rfl) (fun _ => rfl), fun hF => ?_⟩
        obtain ⟨hw0, htm0, hfr0⟩ := hj0.time hF
        -- the new minimum `m` is past neither side's watermark, so on fresh inputs everything still to come is late for `m`
        have hle : ∀ side, after (some m) (s0.wm side) = false := by
          intro side; rw [← hm]
          by_cases hs : side = sd
          · rw [hs]; exact (minT_le _ _).1
          · rw [Bool.eq_not_of_ne hs]; exact (minT_le _ _).2
        -- and `m` is past the old `minW`, so after the flush the buffers hold exactly what is late for `m`
        have ht' : Timely s1 (.at (some m)) R :=
          timely_advance htm0 hj0.inv.bufOK (late_mono (not_after_of_after ha)) hb
        refine ⟨?_, ?_, fun side => ?_⟩
        · -- together: the processed records are the inputs up to `m`
          show wmOK W _ _ [] (s1.out ++ [Msg.wm m])
          rw [f4]
          exact wmOK_forward ok hj0.ins_eq hi2 ht' (fun side => fresh_late (hfr0 side).2 (hle side)) (by rw [f4]) hw0
        · show Timely _ (.at s1.minW) R
          rw [fr.minW]; exact ht'.congr (fun _ => rfl)
        · show after s1.minW (s1.wm side) = false ∧ Fresh (s1.wm side) _
          rw [fr.minW, fr.wm]; exact ⟨hle side, (hfr0 side).2⟩
    · simp only [if_neg ha]; exact ⟨P, hj0⟩

theorem firstClose_step (ok : RecvOK cfg W) (hsh : ∀ side, ∀ x ∈ ins side, Shape cfg side x)
    {sd : Bool} (hsw : cfg.switchOsr = false) (hj : RunInv cfg W F ins s .both R P rest) :
    StepOK (Good cfg ins) (fun p => ∃ P', RunInv cfg W F ins p.1 (.one sd p.2) R P' rest) (onFirstClose cfg s sd) := by
  unfold onFirstClose
  simp only [hsw, Bool.and_false]
  have hi1 := hj.inv.congr (s' := { s with minW := if sd = true then s.rw else s.lw }) rfl (fun _ => rfl) (fun _ => rfl)
  have hp := processUpTo_step ok (drop := none) (b := .at (if sd = true then s.rw else s.lw)) hi1 (hj.shape hsh)
  rw [Option.isSome_none] at hp
  generalize processUpTo cfg { s with minW := if sd = true then s.rw else s.lw } _ false = e at hp ⊢
  cases e with
  | error o => exact fun hg => hp (hj.bufSafe hg)
  | ok s1 =>
    obtain ⟨hi2, hb, fr⟩ := hp
    obtain ⟨em, f4⟩ := fr.out
    obtain ⟨hi3, hb3, ho3⟩ := markIf_inv sd false hi2
    refine ⟨_, hj.ins_eq, hi3, fun hF => ?_⟩
    obtain ⟨hw, htm, hfr⟩ := hj.time hF
    have hB : (if sd = true then s.rw else s.lw) = s.wm (!sd) := by cases sd <;> rfl
    refine ⟨by rw [ho3, f4]; exact wmOK_snoc_data em hw, s.wm (!sd), ?_, (hfr (!sd)).2⟩
    refine timely_advance htm hj.inv.bufOK (late_mono (hfr (!sd)).1) (fun side => ?_)
    rw [hb3, hb, hB]; rfl

theorem wmOne_step (ok : RecvOK cfg W) (hsh : ∀ side, ∀ x ∈ ins side, Shape cfg side x)
    {ld osr : Bool} {w : Int} {rest' : List Msg} (hr : rest (!ld) = .wm w :: rest') (hcl : rest ld = [])
    (hj : RunInv cfg W F ins s (.one ld osr) R P rest) :
    StepOK (Good cfg ins) (fun p => ∃ P', RunInv cfg W F ins p.1 (.one ld p.2) R P' (upd rest (!ld) rest'))
      (onWmOne cfg s ld osr w) := by
  unfold onWmOne
  have hp := processUpTo_step ok (b := .at (some w)) hj.inv (hj.shape hsh)
  rw [dropOf_isSome] at hp
  generalize processUpTo cfg s (.at (some w)) osr = e at hp ⊢
  cases e with
  | error o => exact fun hg => hp (hj.bufSafe hg)
  | ok s1 =>
    obtain ⟨hi2, hb, fr⟩ := hp
    obtain ⟨em, f4⟩ := fr.out
    obtain ⟨hi3, hb3, ho3⟩ := markIf_inv ld osr hi2
    have hins := ins_pop [] hj.ins_eq (by rw [hr]; rfl)
    rw [upd_append_nil] at hins
    refine ⟨_, hins, hi3.congr (recs_snoc_wm _ _) (fun _ => rfl) (fun _ => rfl), fun hF => ?_⟩
    obtain ⟨hw, B, htm, hf⟩ := hj.time hF
    rw [hr] at hf
    have ht' : Timely (markIf cfg ld s1 osr).1 (.at (some w)) R :=
      timely_advance htm hj.inv.bufOK (late_mono hf.1) (fun side => by rw [hb3, hb])
    refine ⟨?_, some w, ht', by rw [upd_self]; exact hf.2⟩
    show wmOK W _ _ [] ((markIf cfg ld s1 osr).1.out ++ [Msg.wm w])
    rw [ho3, f4]
    refine wmOK_forward ok hins hi3 ht' (fun side x hx => ?_) (by rw [ho3, f4]) hw
    by_cases hs : side = !ld
    · subst hs; rw [upd_self] at hx; exact fresh_late hf.2 (after_irrefl _) x hx
    · rw [upd_ne _ _ hs, Bool.eq_not_of_ne hs, Bool.not_not, hcl] at hx; cases hx

/-- what is proved of an output: the specification of the complete inputs, consistent at every watermark -/
structure Final (W : List Rec → List Rec → Row → Int) (ins : Bool → List Rec) (F : Prop) (out : List Msg) : Prop where
  net : ∀ row, net (recs out) row = W (ins true) (ins false) row
  wm : F → wmOK W (ins true) (ins false) [] out

theorem secondClose_step (ok : RecvOK cfg W) (hsh : ∀ side, ∀ x ∈ ins side, Shape cfg side x)
    {ld osr : Bool} (hrest : ∀ side, rest side = []) (hj : RunInv cfg W F ins s (.one ld osr) R P rest) :
    StepOK (Good cfg ins) (fun s' => Final W ins F s'.out) (onSecondClose cfg s osr) := by
  unfold onSecondClose
  have hp := processUpTo_step ok (b := .top) hj.inv (hj.shape hsh)
  rw [dropOf_isSome] at hp
  generalize processUpTo cfg s .top osr = e at hp ⊢
  cases e with
  | error o => exact fun hg => hp (hj.bufSafe hg)
  | ok s' =>
    obtain ⟨hi2, _, fr⟩ := hp
    obtain ⟨em, f4⟩ := fr.out
    have hR : ∀ side, ins side = R side := fun side => by rw [hj.ins_eq, hrest]; exact List.append_nil _
    refine ⟨fun row => ?_, fun hF => by rw [f4]; exact wmOK_snoc_data em (hj.time hF).1⟩
    rw [hi2.core.out row, emit_top, emit_top, hR, hR]
    rw [ok.permL _ row (hj.inv.perm true), ok.permR _ row (hj.inv.perm false)]

end Octo.Join
