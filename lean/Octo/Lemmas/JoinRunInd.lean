import Octo.Lemmas.JoinRun
/-!
  One induction per loop of `Run`: over the schedule until an input is observed closed (`runFrom_post`), then over the
  messages of the other input, which are all that is left of the schedule (`runFrom_one`, by `sched_cons`).
-/
namespace Octo.Join
open Octo

theorem evsOf_nil (left : Bool) : evsOf left [] = [{ left := left, msg := none }] := rfl
theorem evsOf_cons (left : Bool) (m : Msg) (ms : List Msg) :
    evsOf left (m :: ms) = { left := left, msg := some m } :: evsOf left ms := rfl
theorem evsOf_ne_nil (left : Bool) (ms : List Msg) : evsOf left ms ≠ [] := by
  cases ms <;> simp [evsOf]

theorem merge_nil_inv {α : Type} {a b : List α} (h : Merge a b []) : a = [] ∧ b = [] := by
  cases h; exact ⟨rfl, rfl⟩

theorem merge_left_nil {α : Type} : ∀ (a : List α), Merge a [] a
  | [] => Merge.nil
  | _ :: a => Merge.left (merge_left_nil a)

theorem merge_right_nil {α : Type} : ∀ (b : List α), Merge [] b b
  | [] => Merge.nil
  | _ :: b => Merge.right (merge_right_nil b)

theorem merge_mem {α : Type} {a b c : List α} (h : Merge a b c) : ∀ e ∈ c, e ∈ a ∨ e ∈ b := by
  induction h with
  | nil => intro e he; cases he
  | left _ ih =>
    intro e he
    rcases List.mem_cons.mp he with rfl | he
    · exact Or.inl List.mem_cons_self
    · exact (ih e he).imp_left (List.mem_cons_of_mem _)
  | right _ ih =>
    intro e he
    rcases List.mem_cons.mp he with rfl | he
    · exact Or.inr List.mem_cons_self
    · exact (ih e he).imp_right (List.mem_cons_of_mem _)

theorem merge_cons_side {ev : Bool → List Ev} {e : Ev} {σ : List Ev} (h : Merge (ev true) (ev false) (e :: σ)) :
    ∃ sd ev', ev sd = e :: ev' ∧ Merge (upd ev sd ev' true) (upd ev sd ev' false) σ := by
  generalize ha : ev true = a at h
  generalize hb : ev false = b at h
  cases h with
  | left h' => exact ⟨true, _, ha, by rw [← hb] at h'; exact h'⟩
  | right h' => exact ⟨false, _, hb, by rw [← ha] at h'; exact h'⟩

theorem eq_of_merge_nil_left {α : Type} {b c : List α} (h : Merge [] b c) : c = b := by
  generalize ha : ([] : List α) = a at h
  induction h with
  | nil => rfl
  | left _ _ => cases ha
  | right _ ih => rw [ih ha]

theorem eq_of_merge_nil_right {α : Type} {a c : List α} (h : Merge a [] c) : c = a := by
  generalize hb : ([] : List α) = b at h
  induction h with
  | nil => rfl
  | left _ ih => rw [ih hb]
  | right _ _ => cases hb

/-- the next event of a schedule of what is left of the two inputs: some side is observed closed, and the other
    side's events are all that follows; or it is the next message of some side -/
theorem sched_cons {rest : Bool → List Msg} {e : Ev} {σ : List Ev}
    (h : Merge (evsOf true (rest true)) (evsOf false (rest false)) (e :: σ)) :
    ∃ sd, (rest sd = [] ∧ e = ⟨sd, none⟩ ∧ σ = evsOf (!sd) (rest (!sd))) ∨
      ∃ m rest', rest sd = m :: rest' ∧ e = ⟨sd, some m⟩ ∧
        Merge (evsOf true (upd rest sd rest' true)) (evsOf false (upd rest sd rest' false)) σ := by
  obtain ⟨sd, ev', hsd, hm⟩ := merge_cons_side (ev := fun side => evsOf side (rest side)) h
  refine ⟨sd, ?_⟩
  cases hr : rest sd with
  | nil =>
    rw [hr, evsOf_nil] at hsd
    obtain ⟨rfl, rfl⟩ := List.cons.inj hsd
    refine Or.inl ⟨rfl, rfl, ?_⟩
    cases sd
    · exact eq_of_merge_nil_right hm
    · exact eq_of_merge_nil_left hm
  | cons m rest' =>
    rw [hr, evsOf_cons] at hsd
    obtain ⟨rfl, rfl⟩ := List.cons.inj hsd
    refine Or.inr ⟨m, rest', rfl, rfl, ?_⟩
    cases sd <;> exact hm

structure Post (G : Prop) (Q : List Msg → Prop) (o : Outcome) : Prop where
  returns : G → ∃ out, o = .ok out
  post : ∀ out, o = .ok out → Q out

theorem Post.panic {G : Prop} {Q : List Msg → Prop} {o : List Msg} (h : ¬ G) : Post G Q (.panic o) :=
  ⟨fun g => absurd g h, nofun⟩

variable {cfg : Cfg} {W : List Rec → List Rec → Row → Int}

section
variable (ok : RecvOK cfg W) (hsw : cfg.switchOsr = false) (F : Prop)
  (ins : Bool → List Rec) (hsh : ∀ side, ∀ x ∈ ins side, Shape cfg side x)
include ok hsw hsh

omit hsw in
/-- the range loop: one input is closed, so the rest of the schedule is the other input's events in order -/
theorem runFrom_one (ld : Bool) (ms : List Msg) : ∀ (s : St) (osr : Bool) (rest : Bool → List Msg) (R P : Bool → List Rec),
    rest ld = [] → rest (!ld) = ms → RunInv cfg W F ins s (.one ld osr) R P rest →
    Post (Good cfg ins) (Final W ins F) (runFrom cfg s (.one ld osr) (evsOf (!ld) ms)) := by
  induction ms with
  | nil =>
    intro s osr rest R P hrl hr hj
    have hrest : ∀ side, rest side = [] := fun side => by
      by_cases hs : side = ld
      · rw [hs]; exact hrl
      · rw [Bool.eq_not_of_ne hs]; exact hr
    simp only [evsOf_nil, runFrom, Bool.not_beq_self, Bool.false_eq_true, if_false]
    have hs := secondClose_step ok hsh hrest hj
    generalize onSecondClose cfg s osr = e at hs ⊢
    cases e with
    | error o => exact Post.panic hs
    | ok s' => exact ⟨fun _ => ⟨_, rfl⟩, fun out h => by cases h; exact hs⟩
  | cons m ms ih =>
    intro s osr rest R P hrl hr hj
    have next : ∀ {s' osr' R' P'}, RunInv cfg W F ins s' (.one ld osr') R' P' (upd rest (!ld) ms) →
        Post (Good cfg ins) (Final W ins F) (runFrom cfg s' (.one ld osr') (evsOf (!ld) ms)) :=
      fun hj' => ih _ _ _ _ _ (by rw [upd_ne _ _ (not_ne_self ld).symm]; exact hrl) (upd_self ..) hj'
    cases m with
    | data r =>
      have hs := rec_step ok hsh (ph := .one ld osr) (fun _ _ h => by cases h; rfl) hr hj
      rw [dropOf_isSome] at hs
      simp only [evsOf_cons, runFrom, Bool.not_beq_self, Bool.false_eq_true, if_false]
      generalize onRec cfg s (!ld) r osr = e at hs ⊢
      cases e with
      | error o => exact Post.panic hs
      | ok s' => obtain ⟨P', hj'⟩ := hs; exact next hj'
    | wm w =>
      have hs := wmOne_step ok hsh hr hrl hj
      simp only [evsOf_cons, runFrom, Bool.not_beq_self, Bool.false_eq_true, if_false]
      generalize onWmOne cfg s ld osr w = e at hs ⊢
      cases e with
      | error o => exact Post.panic hs
      | ok p => obtain ⟨P', hj'⟩ := hs; exact next hj'

/-- the select loop: the schedule interleaves what is left of both inputs, until one of them is observed closed -/
theorem runFrom_post (σ : List Ev) : ∀ (s : St) (rest : Bool → List Msg) (R P : Bool → List Rec),
    Merge (evsOf true (rest true)) (evsOf false (rest false)) σ →
    RunInv cfg W F ins s .both R P rest → Post (Good cfg ins) (Final W ins F) (runFrom cfg s .both σ) := by
  induction σ with
  | nil => intro s rest R P hm _; exact absurd (merge_nil_inv hm).1 (evsOf_ne_nil _ _)
  | cons e σ ih =>
    intro s rest R P hm hj
    obtain ⟨sd, ⟨hr, rfl, rfl⟩ | ⟨m, rest', hr, rfl, hm'⟩⟩ := sched_cons hm
    · have hs := firstClose_step ok hsh hsw (sd := sd) hj
      simp only [runFrom]
      generalize onFirstClose cfg s sd = e at hs ⊢
      cases e with
      | error o => exact Post.panic hs
      | ok p => obtain ⟨P', hj'⟩ := hs; exact runFrom_one ok F ins hsh sd _ _ _ rest R P' hr rfl hj'
    · cases m with
      | data r =>
        have hs := rec_step ok hsh (ph := .both) nofun hr hj
        rw [show (dropOf .both).isSome = false from rfl] at hs
        simp only [runFrom]
        generalize onRec cfg s sd r false = e at hs ⊢
        cases e with
        | error o => exact Post.panic hs
        | ok s' => obtain ⟨P', hj'⟩ := hs; exact ih s' _ _ P' hm' hj'
      | wm w =>
        have hs := wm_step ok hsh hr hj
        simp only [runFrom]
        generalize onWm cfg s sd w = e at hs ⊢
        cases e with
        | error o => exact Post.panic hs
        | ok s' => obtain ⟨P', hj'⟩ := hs; exact ih s' _ R P' hm' hj'

end

end Octo.Join
