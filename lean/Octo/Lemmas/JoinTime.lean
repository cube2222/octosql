import Octo.Lemmas.JoinMachine
/-!
  Event times: which records a bound releases and which stay in a well-formed buffer, "fresh" inputs
  (monotone watermarks, no late records) and the watermark-consistency predicate on outputs.
-/
namespace Octo.Join
open Octo

/-- the record stays in the buffer when it is emitted up to `b` -/
def lateB (b : Bound) (x : Rec) : Bool :=
  match x.et with
  | none => false
  | some t => !b.releases t

theorem releases_mono {b : Bound} {t t' : Int} (h : b.releases t = false) (ht : t ≤ t') : b.releases t' = false := by
  cases b with
  | top => cases h
  | «at» w =>
    simp only [Bound.releases, Bool.not_eq_false'] at h ⊢
    cases w with
    | none => rfl
    | some w => simp only [after, decide_eq_true_eq] at h ⊢; omega

/-- once a bucket is not released, nothing from it on is -/
theorem bufOK_late {bd : Bound} {t : Int} (hrel : bd.releases t = false) {b : Buf} (hb : BufOK b) (hge : ∀ p ∈ b, t ≤ p.1) :
    ∀ x ∈ bufAll b, lateB bd x = true := by
  induction b with
  | nil => nofun
  | cons p rest ih =>
    obtain ⟨t', rs⟩ := p
    obtain ⟨h1, h2, h3⟩ := hb
    intro x hx
    have ht' := hge _ (List.mem_cons_self ..)
    rcases List.mem_append.mp hx with hx | hx
    · simp [lateB, h1 x hx, releases_mono hrel ht']
    · exact ih h3 (fun p hp => Int.le_trans ht' (Int.le_of_lt (h2 p hp))) x hx

theorem emit_snd_filter (bd : Bound) {b : Buf} (hb : BufOK b) : bufAll (Buf.emit bd b).2 = (bufAll b).filter (lateB bd) := by
  induction b with
  | nil => rfl
  | cons p rest ih =>
    obtain ⟨t, rs⟩ := p
    unfold Buf.emit
    split
    · rename_i h
      show bufAll (Buf.emit bd rest).2 = (rs ++ bufAll rest).filter (lateB bd)
      rw [List.filter_append, ih hb.2.2, filter_eq_nil_of (l := rs), List.nil_append]
      intro x hx; simp [lateB, hb.1 x hx, h]
    · rename_i h
      refine (List.filter_eq_self.mpr (bufOK_late (Bool.eq_false_iff.mpr h) hb fun p hp => ?_)).symm
      rcases List.mem_cons.mp hp with hp | hp
      · rw [hp]; exact Int.le_refl t
      · exact Int.le_of_lt (hb.2.1 p hp)

/-- buffers hold exactly the late ones among the received records -/
def Timely (s : St) (bd : Bound) (R : Bool → List Rec) : Prop :=
  ∀ side, List.Perm (bufAll (s.buf side)) ((R side).filter (lateB bd))

theorem timely_advance {s s' : St} {bd bd' : Bound} {R : Bool → List Rec} (ht : Timely s bd R)
    (hok : ∀ side, BufOK (s.buf side))
    (hmono : ∀ x, lateB bd' x = true → lateB bd x = true)
    (hb : ∀ side, s'.buf side = (Buf.emit bd' (s.buf side)).2) : Timely s' bd' R := by
  intro side
  have key : ((R side).filter (lateB bd)).filter (lateB bd') = (R side).filter (lateB bd') := by
    rw [List.filter_filter]
    apply List.filter_congr
    intro x _
    cases h : lateB bd' x with
    | false => simp
    | true => simp [hmono x h]
  rw [hb, emit_snd_filter bd' (hok side), ← key]; exact (ht side).filter _

theorem Timely.congr {s s' : St} {bd : Bound} {R : Bool → List Rec} (ht : Timely s bd R)
    (hb : ∀ side, s'.buf side = s.buf side) : Timely s' bd R :=
  fun side => by rw [hb]; exact ht side

theorem Timely.add {s : St} {bd : Bound} {R : Bool → List Rec} (ht : Timely s bd R) (sd : Bool) {x : Rec} {t : Int}
    (hlate : lateB bd x = true) :
    Timely (addBuf sd s t x) bd (upd R sd (R sd ++ [x])) := by
  intro side
  rw [addBuf_eq, put_buf]
  by_cases hs : side = sd
  · subst hs
    have : [x].filter (lateB bd) = [x] := by simp [hlate]
    rw [if_pos rfl, upd_self, List.filter_append, this]
    exact (bufAll_add t x _).trans (List.Perm.append_right [x] (ht side))
  · rw [if_neg hs, upd_ne _ _ hs]; exact ht side

theorem etLe_eq_not_late (m : Int) (x : Rec) : etLe m x = !lateB (.at (some m)) x := by
  unfold etLe lateB
  cases x.et with
  | none => rfl
  | some t =>
    simp only [Bound.releases, after, Bool.not_not]
    rw [← decide_not]
    exact decide_eq_decide.mpr Int.not_lt.symm

/-- the remaining messages of an input whose last watermark was `cur`: watermarks do not go back and
    every record has an event time after the last watermark before it -/
def Fresh : T → List Msg → Prop
  | _, [] => True
  | cur, .data r :: ms => after r.et cur = true ∧ Fresh cur ms
  | cur, .wm w :: ms => after cur (some w) = false ∧ Fresh (some w) ms

theorem late_at (B : T) (x : Rec) : lateB (.at B) x = after x.et B := by
  unfold lateB
  cases x.et with
  | none => simp [after]
  | some t => simp [Bound.releases]

theorem late_mono {B B' : T} (h : after B B' = false) (x : Rec) : lateB (.at B') x = true → lateB (.at B) x = true := by
  rw [late_at, late_at]
  intro h1
  exact after_of_after_of_not_after h1 h

theorem late_top (x : Rec) : lateB .top x = false := by
  unfold lateB; cases x.et <;> simp [Bound.releases]

theorem fresh_late {ms : List Msg} {cur B : T} (hf : Fresh cur ms) (hB : after B cur = false) :
    ∀ x ∈ recs ms, lateB (.at B) x = true := by
  induction ms generalizing cur B with
  | nil => nofun
  | cons m ms ih =>
    intro x hx
    cases m with
    | data r =>
      rcases List.mem_cons.mp hx with hx | hx
      · subst hx; rw [late_at]; exact after_of_after_of_not_after hf.1 hB
      · exact ih hf.2 hB x hx
    | wm w => exact ih hf.2 (not_after_trans hB hf.1) x hx

/-- `pre` has been emitted; every watermark `w` in the rest comes after an output prefix that is the
    specification of the inputs up to `w` -/
def wmOK (W : List Rec → List Rec → Row → Int) (ls rs : List Rec) : List Msg → List Msg → Prop
  | _, [] => True
  | pre, .data r :: rest => wmOK W ls rs (pre ++ [.data r]) rest
  | pre, .wm w :: rest => (∀ row, net (recs pre) row = W (upTo w ls) (upTo w rs) row) ∧ wmOK W ls rs (pre ++ [.wm w]) rest

variable (W : List Rec → List Rec → Row → Int) (ls rs : List Rec)

theorem wmOK_append (a b pre : List Msg) :
    wmOK W ls rs pre (a ++ b) ↔ wmOK W ls rs pre a ∧ wmOK W ls rs (pre ++ a) b := by
  induction a generalizing pre with
  | nil => simp [wmOK]
  | cons m a ih =>
    cases m <;> simp only [List.cons_append, wmOK, ih] <;> simp [List.append_assoc, and_assoc]

theorem wmOK_data (em : List Rec) (pre : List Msg) :
    wmOK W ls rs pre (dataMsgs em) := by
  induction em generalizing pre with
  | nil => trivial
  | cons r em ih => exact ih _

variable {W ls rs}

theorem wmOK_split {pre post : List Msg} {w : Int}
    (h : wmOK W ls rs [] (pre ++ Msg.wm w :: post)) : ∀ row, net (recs pre) row = W (upTo w ls) (upTo w rs) row := by
  have := (wmOK_append W ls rs pre (Msg.wm w :: post) []).mp h
  simpa using this.2.1

theorem wmOK_snoc_data {ls rs : List Rec} {o : List Msg} (em : List Rec) (h : wmOK W ls rs [] o) :
    wmOK W ls rs [] (o ++ dataMsgs em) :=
  (wmOK_append W ls rs o (dataMsgs em) []).mpr ⟨h, wmOK_data W ls rs em _⟩

def minT (a b : T) : T := if after a b then b else a

theorem minT_le (a b : T) : after (minT a b) a = false ∧ after (minT a b) b = false := by
  unfold minT
  cases h1 : after a b
  · exact ⟨after_irrefl a, h1⟩
  · exact ⟨not_after_of_after h1, after_irrefl b⟩

theorem recs_snoc_wm (o : List Msg) (m : Int) : recs (o ++ [Msg.wm m]) = recs o := by
  rw [recs_append]; simp [recs]

/-- the processed records are the received ones that are not late, i.e. those up to `m` -/
theorem upTo_perm {P buf R rest : List Rec} {m : Int} (h1 : List.Perm (P ++ buf) R)
    (h2 : List.Perm buf (R.filter (lateB (.at (some m))))) (h3 : ∀ x ∈ rest, lateB (.at (some m)) x = true) :
    List.Perm P (upTo m (R ++ rest)) := by
  have hR : upTo m (R ++ rest) = R.filter (fun x => !lateB (.at (some m)) x) := by
    unfold upTo
    rw [List.filter_append, filter_eq_nil_of (l := rest) (fun x hx => by rw [etLe_eq_not_late, h3 x hx]; rfl),
      List.append_nil]
    exact List.filter_congr (fun x _ => etLe_eq_not_late m x)
  rw [hR]
  refine (List.perm_append_right_iff buf).mp
    (h1.trans ((List.filter_append_perm (lateB (.at (some m))) R).symm.trans ?_))
  exact List.perm_append_comm.trans (List.Perm.append_left _ h2.symm)

end Octo.Join
