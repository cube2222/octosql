import Octo.Lemmas.JoinBasics
/-!
  The two-level record trees of the joins as ordered association lists keyed by `cmpList`. An item is read through the
  measure `M g subs = Σ (row, times) ∈ subs, |times| · g row`: `store` and every Scan are stated in terms of it.
-/
namespace Octo.Join
open Octo

variable {β : Type}

def Sorted (l : SAL β) : Prop := l.Pairwise (fun a b => cmpList a.1 b.1 < 0)

theorem sorted_nil : Sorted ([] : SAL β) := List.Pairwise.nil

theorem sorted_cons {k0 : Row} {v0 : β} {rest : SAL β} (hs : Sorted ((k0, v0) :: rest)) :
    (∀ p ∈ rest, cmpList k0 p.1 < 0) ∧ Sorted rest := List.pairwise_cons.mp hs

/-- the value `Get` finds under a key equivalent to `k` -/
def SAL.val (k : Row) (l : SAL β) : Option β := (SAL.get k l).map Prod.snd

/-- the three outcomes of comparing a key with the head of the list; "greater" is stated as the
    head being less, the form in which order facts are used -/
theorem cmp3 (a b : Row) : cmpList a b < 0 ∨ cmpList a b = 0 ∨ cmpList b a < 0 := by
  have := cmpList_antisymm a b; omega

theorem cmpList_of_gt {a b : Row} (h : cmpList b a < 0) : ¬ cmpList a b < 0 ∧ ¬ cmpList a b = 0 := by
  have := cmpList_antisymm a b; omega

section unfold
variable {k k0 : Row} (v v0 : β) (rest : SAL β)
theorem val_cons_lt (h : cmpList k k0 < 0) : SAL.val k ((k0, v0) :: rest) = none := by simp [SAL.val, SAL.get, h]
theorem val_cons_eq (h : cmpList k k0 = 0) : SAL.val k ((k0, v0) :: rest) = some v0 := by simp [SAL.val, SAL.get, h]
theorem val_cons_gt (h : cmpList k0 k < 0) : SAL.val k ((k0, v0) :: rest) = SAL.val k rest := by
  simp [SAL.val, SAL.get, cmpList_of_gt h]
theorem put_cons_lt (h : cmpList k k0 < 0) : SAL.put k v ((k0, v0) :: rest) = (k, v) :: (k0, v0) :: rest := by
  simp [SAL.put, h]
theorem put_cons_eq (h : cmpList k k0 = 0) : SAL.put k v ((k0, v0) :: rest) = (k0, v) :: rest := by
  simp [SAL.put, h]
theorem put_cons_gt (h : cmpList k0 k < 0) : SAL.put k v ((k0, v0) :: rest) = (k0, v0) :: SAL.put k v rest := by
  simp [SAL.put, cmpList_of_gt h]
theorem del_cons_lt (h : cmpList k k0 < 0) : SAL.del k ((k0, v0) :: rest) = (k0, v0) :: rest := by
  simp [SAL.del, h]
theorem del_cons_eq (h : cmpList k k0 = 0) : SAL.del k ((k0, v0) :: rest) = rest := by
  simp [SAL.del, h]
theorem del_cons_gt (h : cmpList k0 k < 0) : SAL.del k ((k0, v0) :: rest) = (k0, v0) :: SAL.del k rest := by
  simp [SAL.del, cmpList_of_gt h]
end unfold

/-- induction on an ordered association list by where `k` stands relative to the head: before it, at it, or
    further on (the only case with an induction hypothesis) -/
theorem SAL.induction (k : Row) {motive : SAL β → Prop} (nil : motive [])
    (lt : ∀ k0 v0 rest, cmpList k k0 < 0 → motive ((k0, v0) :: rest))
    (eq : ∀ k0 v0 rest, cmpList k k0 = 0 → motive ((k0, v0) :: rest))
    (gt : ∀ k0 v0 rest, cmpList k0 k < 0 → motive rest → motive ((k0, v0) :: rest)) : ∀ l, motive l := by
  intro l
  induction l with
  | nil => exact nil
  | cons p rest ih =>
    rcases cmp3 k p.1 with h | h | h
    · exact lt p.1 p.2 rest h
    · exact eq p.1 p.2 rest h
    · exact gt p.1 p.2 rest h ih

theorem val_congr {k1 k2 : Row} (h : cmpList k1 k2 = 0) (l : SAL β) : SAL.val k1 l = SAL.val k2 l := by
  induction l using SAL.induction k1 with
  | nil => rfl
  | lt k' v rest h1 => rw [val_cons_lt _ _ h1, val_cons_lt _ _ (cmpList_congr_left h k' ▸ h1)]
  | eq k' v rest h1 => rw [val_cons_eq _ _ h1, val_cons_eq _ _ (cmpList_congr_left h k' ▸ h1)]
  | gt k' v rest h1 ih => rw [val_cons_gt _ _ h1, val_cons_gt _ _ (cmpList_congr_right h k' ▸ h1), ih]

variable {k k' : Row} {v : β} {l : SAL β}

theorem val_mem (h : SAL.val k l = some v) : ∃ k0, (k0, v) ∈ l := by
  induction l using SAL.induction k with
  | nil => cases h
  | lt k' v' rest h1 => rw [val_cons_lt _ _ h1] at h; cases h
  | eq k' v' rest h1 => rw [val_cons_eq _ _ h1] at h; cases h; exact ⟨k', by simp⟩
  | gt k' v' rest h1 ih =>
    rw [val_cons_gt _ _ h1] at h
    obtain ⟨k0, hk0⟩ := ih h
    exact ⟨k0, by simp [hk0]⟩

theorem val_none_of_lt {k : Row} : ∀ {l : SAL β}, (∀ p ∈ l, cmpList k p.1 < 0) → SAL.val k l = none
  | [], _ => rfl
  | (k0, v0) :: rest, h => val_cons_lt _ _ (h (k0, v0) (by simp))

theorem val_put (k k' : Row) (v : β) (l : SAL β) :
    SAL.val k' (SAL.put k v l) = if cmpList k k' = 0 then some v else SAL.val k' l := by
  induction l using SAL.induction k with
  | nil =>
    show SAL.val k' [(k, v)] = _
    rcases cmp3 k' k with d | d | d
    · rw [val_cons_lt _ _ d, if_neg (cmpList_of_gt d).2]; rfl
    · rw [val_cons_eq _ _ d, if_pos (cmpList_eq_symm d)]
    · rw [val_cons_gt _ _ d, if_neg (fun e => (cmpList_of_gt d).2 (cmpList_eq_symm e))]
  | lt k0 v0 rest h1 =>
    rw [put_cons_lt _ _ _ h1]
    rcases cmp3 k' k with d | d | d
    · rw [val_cons_lt _ _ d, val_cons_lt _ _ (cmpList_lt_of_lt_of_le d (Int.le_of_lt h1)), if_neg (cmpList_of_gt d).2]
    · rw [val_cons_eq _ _ d, if_pos (cmpList_eq_symm d)]
    · rw [val_cons_gt _ _ d, if_neg (fun e => (cmpList_of_gt d).2 (cmpList_eq_symm e))]
  | eq k0 v0 rest h1 =>
    rw [put_cons_eq _ _ _ h1]
    rcases cmp3 k' k0 with e | e | e
    · rw [val_cons_lt _ _ e, val_cons_lt _ _ e, if_neg (cmpList_of_gt (cmpList_congr_right h1 k' ▸ e)).2]
    · rw [val_cons_eq _ _ e, if_pos (cmpList_eq_trans h1 (cmpList_eq_symm e))]
    · rw [val_cons_gt _ _ e, val_cons_gt _ _ e,
        if_neg (fun hk => (cmpList_of_gt e).2 (cmpList_eq_trans (cmpList_eq_symm hk) h1))]
  | gt k0 v0 rest h1 ih =>
    rw [put_cons_gt _ _ _ h1]
    rcases cmp3 k' k0 with e | e | e
    · rw [val_cons_lt _ _ e, val_cons_lt _ _ e, if_neg (cmpList_of_gt (cmpList_lt_of_lt_of_le e (Int.le_of_lt h1))).2]
    · rw [val_cons_eq _ _ e, val_cons_eq _ _ e, if_neg (cmpList_of_gt (cmpList_lt_of_le_of_lt (Int.le_of_eq e) h1)).2]
    · rw [val_cons_gt _ _ e, val_cons_gt _ _ e, ih]

theorem val_del (hs : Sorted l) :
    SAL.val k' (SAL.del k l) = if cmpList k k' = 0 then none else SAL.val k' l := by
  induction l using SAL.induction k with
  | nil => split <;> rfl
  | lt k0 v0 rest h1 =>
    rw [del_cons_lt _ _ h1]
    by_cases hk : cmpList k k' = 0
    · rw [if_pos hk, val_cons_lt _ _ (cmpList_congr_left hk k0 ▸ h1)]
    · rw [if_neg hk]
  | eq k0 v0 rest h1 =>
    have hlt := (sorted_cons hs).1
    rw [del_cons_eq _ _ h1]
    rcases cmp3 k' k0 with e | e | e
    · rw [val_cons_lt _ _ e, ite_self]
      exact val_none_of_lt fun p hp => cmpList_lt_of_lt_of_le e (Int.le_of_lt (hlt p hp))
    · rw [if_pos (cmpList_eq_trans h1 (cmpList_eq_symm e))]
      exact val_none_of_lt fun p hp => cmpList_lt_of_le_of_lt (Int.le_of_eq e) (hlt p hp)
    · rw [val_cons_gt _ _ e, if_neg (fun hk => (cmpList_of_gt e).2 (cmpList_eq_trans (cmpList_eq_symm hk) h1))]
  | gt k0 v0 rest h1 ih =>
    rw [del_cons_gt _ _ h1]
    rcases cmp3 k' k0 with e | e | e
    · rw [val_cons_lt _ _ e, val_cons_lt _ _ e, if_neg (cmpList_of_gt (cmpList_lt_of_lt_of_le e (Int.le_of_lt h1))).2]
    · rw [val_cons_eq _ _ e, val_cons_eq _ _ e, if_neg (cmpList_of_gt (cmpList_lt_of_le_of_lt (Int.le_of_eq e) h1)).2]
    · rw [val_cons_gt _ _ e, val_cons_gt _ _ e, ih (sorted_cons hs).2]

theorem mem_put {p : Row × β} (h : p ∈ SAL.put k v l) :
    p ∈ l ∨ (p.2 = v ∧ cmpList k p.1 = 0) := by
  induction l using SAL.induction k with
  | nil =>
    rw [show SAL.put k v ([] : SAL β) = [(k, v)] from rfl, List.mem_singleton] at h
    subst h; exact Or.inr ⟨rfl, cmpList_refl k⟩
  | lt k0 v0 rest h1 =>
    rw [put_cons_lt _ _ _ h1] at h
    rcases List.mem_cons.mp h with h | h
    · subst h; exact Or.inr ⟨rfl, cmpList_refl k⟩
    · exact Or.inl h
  | eq k0 v0 rest h1 =>
    rw [put_cons_eq _ _ _ h1] at h
    rcases List.mem_cons.mp h with h | h
    · subst h; exact Or.inr ⟨rfl, h1⟩
    · exact Or.inl (List.mem_cons_of_mem _ h)
  | gt k0 v0 rest h1 ih =>
    rw [put_cons_gt _ _ _ h1] at h
    rcases List.mem_cons.mp h with h | h
    · subst h; exact Or.inl (List.mem_cons_self ..)
    · exact (ih h).imp_left (List.mem_cons_of_mem _)

theorem del_sublist (k : Row) (l : SAL β) : (SAL.del k l).Sublist l := by
  induction l using SAL.induction k with
  | nil => exact List.Sublist.refl _
  | lt k0 v0 rest h1 => rw [del_cons_lt _ _ h1]; exact List.Sublist.refl _
  | eq k0 v0 rest h1 => rw [del_cons_eq _ _ h1]; exact List.sublist_cons_self ..
  | gt k0 v0 rest h1 ih => rw [del_cons_gt _ _ h1]; exact ih.cons_cons _

theorem mem_del {p : Row × β} (h : p ∈ SAL.del k l) : p ∈ l := (del_sublist k l).subset h

theorem sorted_del (hs : Sorted l) : Sorted (SAL.del k l) := hs.sublist (del_sublist k l)

theorem sorted_put (hs : Sorted l) : Sorted (SAL.put k v l) := by
  induction l using SAL.induction k with
  | nil => exact List.pairwise_singleton ..
  | lt k0 v0 rest h1 =>
    have hlt := (sorted_cons hs).1
    rw [put_cons_lt _ _ _ h1]
    refine List.pairwise_cons.mpr ⟨fun p hp => ?_, hs⟩
    rcases List.mem_cons.mp hp with hp | hp
    · subst hp; exact h1
    · exact cmpList_lt_of_lt_of_le h1 (Int.le_of_lt (hlt p hp))
  | eq k0 v0 rest h1 => rw [put_cons_eq _ _ _ h1]; exact List.pairwise_cons.mpr (sorted_cons hs)
  | gt k0 v0 rest h1 ih =>
    obtain ⟨hlt, hs'⟩ := sorted_cons hs
    rw [put_cons_gt _ _ _ h1]
    refine List.pairwise_cons.mpr ⟨fun p hp => ?_, ih hs'⟩
    rcases mem_put hp with hp | ⟨_, hp⟩
    · exact hlt p hp
    · exact cmpList_lt_of_lt_of_le h1 (Int.le_of_eq hp)

def M (g : Row → Int) : Subs → Int
  | [] => 0
  | (x, ts) :: rest => (ts.length : Int) * g x + M g rest

theorem M_nil (g : Row → Int) : M g [] = 0 := rfl

theorem timesOf_nil (x : Row) : timesOf x [] = [] := rfl

theorem timesOf_val (x : Row) (s : Subs) : timesOf x s = (SAL.val x s).getD [] := by
  unfold timesOf SAL.val; cases SAL.get x s <;> rfl

theorem subsOf_val (k : Row) (t : Tree) : subsOf k t = (SAL.val k t).getD [] := by
  unfold subsOf SAL.val; cases SAL.get k t <;> rfl

theorem M_put {g : Row → Int} (hg : Congr g) (x : Row) (ts : List T) (s : Subs) :
    M g (SAL.put x ts s) = M g s - ((timesOf x s).length : Int) * g x + (ts.length : Int) * g x := by
  induction s using SAL.induction x with
  | nil => simp [SAL.put, M, timesOf, SAL.get]
  | lt x0 ts0 rest h1 =>
    rw [timesOf_val, put_cons_lt _ _ _ h1, val_cons_lt _ _ h1]
    simp only [M, Option.getD_none, List.length_nil]; omega
  | eq x0 ts0 rest h1 =>
    rw [timesOf_val, put_cons_eq _ _ _ h1, val_cons_eq _ _ h1]
    simp only [M, Option.getD_some, hg x x0 h1]; omega
  | gt x0 ts0 rest h1 ih =>
    rw [timesOf_val, put_cons_gt _ _ _ h1, val_cons_gt _ _ h1, ← timesOf_val]
    simp only [M, ih]; omega

theorem M_del {g : Row → Int} (hg : Congr g) (x : Row) (s : Subs) :
    M g (SAL.del x s) = M g s - ((timesOf x s).length : Int) * g x := by
  induction s using SAL.induction x with
  | nil => simp [SAL.del, M, timesOf, SAL.get]
  | lt x0 ts0 rest h1 =>
    rw [timesOf_val, del_cons_lt _ _ h1, val_cons_lt _ _ h1]
    simp only [M, Option.getD_none, List.length_nil]; omega
  | eq x0 ts0 rest h1 =>
    rw [timesOf_val, del_cons_eq _ _ h1, val_cons_eq _ _ h1]
    simp only [M, Option.getD_some, hg x x0 h1]; omega
  | gt x0 ts0 rest h1 ih =>
    rw [timesOf_val, del_cons_gt _ _ h1, val_cons_gt _ _ h1, ← timesOf_val]
    simp only [M, ih]; omega

theorem congr_one : Congr (fun _ => 1) := fun _ _ _ => rfl

def SubsWF (s : Subs) : Prop := ∀ q ∈ s, q.2 ≠ []

theorem M_one_nonneg (s : Subs) : 0 ≤ M (fun _ => 1) s := by
  induction s with
  | nil => exact Int.le_refl 0
  | cons p rest ih => simp only [M]; omega

theorem M_one_pos : ∀ {s : Subs}, SubsWF s → s ≠ [] → 0 < M (fun _ => 1) s
  | [], _, h => absurd rfl h
  | (x, ts) :: rest, wf, _ => by
    have : 0 < ts.length := List.length_pos_iff.mpr (wf (x, ts) (by simp))
    have := M_one_nonneg rest
    simp only [M]; omega

theorem isEmpty_eq_decide {s : Subs} (wf : SubsWF s) : s.isEmpty = decide (M (fun _ => 1) s = 0) := by
  cases s with
  | nil => rfl
  | cons p rest => exact (decide_eq_false (Int.ne_of_gt (M_one_pos wf (List.cons_ne_nil _ _)))).symm

def TreeWF (t : Tree) : Prop := Sorted t ∧ ∀ p ∈ t, p.2 ≠ [] ∧ SubsWF p.2 ∧ Sorted p.2

theorem treeWF_nil : TreeWF [] := ⟨sorted_nil, by simp⟩

theorem subsOf_ok {t : Tree} (wf : TreeWF t) (k : Row) : SubsWF (subsOf k t) ∧ Sorted (subsOf k t) := by
  rw [subsOf_val]
  cases h : SAL.val k t with
  | none => exact ⟨fun _ hq => (nomatch hq), sorted_nil⟩
  | some s => obtain ⟨k0, hk0⟩ := val_mem h; exact (wf.2 _ hk0).2

theorem get_isNone_eq {t : Tree} (wf : TreeWF t) (k : Row) :
    (SAL.get k t).isNone = decide (M (fun _ => 1) (subsOf k t) = 0) := by
  rw [← isEmpty_eq_decide (subsOf_ok wf k).1, subsOf_val]
  cases h : SAL.val k t with
  | none => rw [Option.map_eq_none_iff.mp h]; rfl
  | some s =>
    obtain ⟨k0, hk0⟩ := val_mem h
    obtain ⟨p, hp, _⟩ := Option.map_eq_some_iff.mp h
    rw [hp]
    exact (Bool.eq_false_iff.mpr fun he => (wf.2 _ hk0).1 (List.isEmpty_iff.mp he)).symm

theorem updSubs_spec (x : Row) (ts : List T) {s : Subs} (wf : SubsWF s) (hs : Sorted s) :
    SubsWF (updSubs x ts s) ∧ Sorted (updSubs x ts s) ∧ ∀ g, Congr g →
      M g (updSubs x ts s) = M g s - ((timesOf x s).length : Int) * g x + (ts.length : Int) * g x := by
  unfold updSubs
  by_cases h : ts.isEmpty
  · rw [if_pos h]
    exact ⟨fun q hq => wf q (mem_del hq), sorted_del hs, fun g hg => by rw [M_del hg, List.isEmpty_iff.mp h]; simp⟩
  · rw [if_neg h]
    refine ⟨fun q hq => ?_, sorted_put hs, fun g hg => M_put hg ..⟩
    rcases mem_put hq with hq | ⟨hv, _⟩
    · exact wf q hq
    · rw [hv]; exact fun h' => h (by rw [h']; rfl)

theorem newTimes_length {times ts : List T} {r : Rec} (h : newTimes times r = some ts) :
    (ts.length : Int) = (times.length : Int) + sgn r := by
  unfold newTimes at h
  unfold sgn
  by_cases hr : r.retr = true
  · rw [if_pos hr] at h ⊢
    cases times with
    | nil => cases h
    | cons t rest => cases h; simp only [List.length_cons]; omega
  · rw [if_neg hr] at h ⊢
    cases h
    simp only [List.length_append, List.length_cons, List.length_nil]; omega

theorem subsOf_store {key : Row} {t : Tree} (hs : Sorted t) (U : Subs) (k' : Row) :
    subsOf k' (if U.isEmpty then SAL.del key t else SAL.put key U t) = if cmpList key k' = 0 then U else subsOf k' t := by
  rw [subsOf_val, subsOf_val]
  by_cases he : U.isEmpty = true
  · rw [if_pos he, val_del hs]
    split
    · exact (List.isEmpty_iff.mp he).symm
    · rfl
  · rw [if_neg he, val_put]
    split <;> rfl

/-- `M (fun _ => 1) s` is the number of records stored in the item `s` (every event time counts one). The flags
    `first` / `last` of `receiveRecord` say that this number is 0 under the record's key before / after the update; the
    outer join reads them to retract and re-emit the other side's padded rows. -/
theorem store_spec {t : Tree} (wf : TreeWF t) (key : Row) (r : Rec) {res : StoreRes}
    (h : store t key r = some res) :
    TreeWF res.tree ∧
    (∀ k' g, Congr g → M g (subsOf k' res.tree) =
        M g (subsOf k' t) + (if cmpList key k' = 0 then sgn r * g r.vals else 0)) ∧
    res.first = decide (M (fun _ => 1) (subsOf key t) = 0) ∧
    res.last = decide (M (fun _ => 1) (subsOf key res.tree) = 0) := by
  unfold store at h
  cases hn : newTimes (timesOf r.vals (subsOf key t)) r with
  | none => rw [hn] at h; cases h
  | some ts =>
    rw [hn] at h
    have hres := Option.some.inj h
    clear h
    have hlen := newTimes_length hn
    obtain ⟨swf, ssorted, hM⟩ := updSubs_spec r.vals ts (subsOf_ok wf key).1 (subsOf_ok wf key).2
    generalize updSubs r.vals ts (subsOf key t) = U at hres swf hM ssorted
    subst hres
    have hsubs := subsOf_store (key := key) wf.1 U
    refine ⟨?_, fun k' g hg => ?_, get_isNone_eq wf key, ?_⟩
    · show TreeWF (if U.isEmpty then SAL.del key t else SAL.put key U t)
      by_cases he : U.isEmpty = true
      · rw [if_pos he]
        exact ⟨sorted_del wf.1, fun p hp => wf.2 p (mem_del hp)⟩
      · rw [if_neg he]
        refine ⟨sorted_put wf.1, fun p hp => ?_⟩
        rcases mem_put hp with hp | ⟨hv, _⟩
        · exact wf.2 p hp
        · rw [hv]; exact ⟨fun h' => he (by rw [h']; rfl), swf, ssorted⟩
    · show M g (subsOf k' (if U.isEmpty then SAL.del key t else SAL.put key U t)) = _
      rw [hsubs k']
      by_cases hk : cmpList key k' = 0
      · rw [if_pos hk, if_pos hk, hM g hg, hlen, Int.add_mul, subsOf_val, subsOf_val, val_congr hk t]; omega
      · rw [if_neg hk, if_neg hk, Int.add_zero]
    · show U.isEmpty = decide (M (fun _ => 1) (subsOf key (if U.isEmpty then SAL.del key t else SAL.put key U t)) = 0)
      rw [hsubs key, if_pos (cmpList_refl key)]
      exact isEmpty_eq_decide swf

def gEq (x : Row) (y : Row) : Int := if rowEq y x then 1 else 0

theorem gEq_of_ne {x y : Row} (h : ¬ cmpList y x = 0) : gEq x y = 0 := by
  unfold gEq rowEq; rw [beq_eq_false_iff_ne.mpr h]; rfl

theorem M_gEq_zero {x : Row} {s : Subs} (h : ∀ p ∈ s, cmpList x p.1 < 0) : M (gEq x) s = 0 := by
  induction s with
  | nil => rfl
  | cons q rest ih =>
    obtain ⟨y, ts⟩ := q
    have ih := ih (fun p hp => h p (List.mem_cons_of_mem _ hp))
    simp only [M, gEq_of_ne (cmpList_of_gt (h (y, ts) (List.mem_cons_self ..))).2, ih]; rfl

theorem timesOf_length {x : Row} {s : Subs} (hs : Sorted s) : ((timesOf x s).length : Int) = M (gEq x) s := by
  induction s using SAL.induction x with
  | nil => rfl
  | lt y ts rest h1 =>
    have h0 : M (gEq x) ((y, ts) :: rest) = 0 :=
      M_gEq_zero fun p hp => by
        rcases List.mem_cons.mp hp with hp | hp
        · subst hp; exact h1
        · exact cmpList_lt_of_lt_of_le h1 (Int.le_of_lt ((sorted_cons hs).1 p hp))
    rw [timesOf_val, val_cons_lt _ _ h1, h0]; rfl
  | eq y ts rest h1 =>
    have hg : gEq x y = 1 := by unfold gEq; rw [rowEq_iff.mpr (cmpList_eq_symm h1)]; rfl
    have h3 : M (gEq x) rest = 0 :=
      M_gEq_zero fun p hp => cmpList_lt_of_le_of_lt (Int.le_of_eq h1) ((sorted_cons hs).1 p hp)
    rw [timesOf_val, val_cons_eq _ _ h1]
    simp only [M, hg, h3, Option.getD_some]; omega
  | gt y ts rest h1 ih =>
    rw [timesOf_val, val_cons_gt _ _ h1, ← timesOf_val, ih (sorted_cons hs).2]
    simp only [M, gEq_of_ne (fun e => (cmpList_of_gt h1).2 (cmpList_eq_symm e))]; omega

theorem net_map_times (v : Row) (b : Bool) (etf : T → T) (row : Row) (ts : List T) :
    net (ts.map fun t => ({ vals := v, retr := b, et := etf t } : Rec)) row =
      (if b then -1 else 1) * ((ts.length : Int) * (if rowEq v row then 1 else 0)) := by
  induction ts with
  | nil => simp [net]
  | cons t ts ih =>
    have hw : Rec.weight { vals := v, retr := b, et := etf t } row = (if b then -1 else 1) * (if rowEq v row then 1 else 0) := by
      rw [weight_sgn]
      cases rowEq v row
      · exact (Int.mul_zero _).symm
      · exact (Int.mul_one _).symm
    rw [List.map_cons, net_cons, ih, hw, ← Int.mul_add, List.length_cons, Int.natCast_succ, Int.add_mul, Int.one_mul,
      Int.add_comm]

/-- a Scan that emits, for every stored row `x` and each of its event times, a record with values `f x` -/
theorem net_scan (f : Row → Row) (b : Bool) (etf : T → T) (row : Row) (scan : Subs → List Rec) (hnil : scan [] = [])
    (hcons : ∀ x ts rest, scan ((x, ts) :: rest) =
      (ts.map fun t => ({ vals := f x, retr := b, et := etf t } : Rec)) ++ scan rest) (s : Subs) :
    net (scan s) row = (if b then -1 else 1) * M (fun x => if rowEq (f x) row then 1 else 0) s := by
  induction s with
  | nil => rw [hnil]; simp [net, M]
  | cons q rest ih =>
    obtain ⟨x, ts⟩ := q
    rw [hcons, net_append, net_map_times, ih, ← Int.mul_add]; rfl

/-- the joined row of a record of side `left` with values `x` and a record of the other side with values `o` -/
def sideRow (left : Bool) (x o : Row) : Row := if left then x ++ o else o ++ x

def gJoin (left : Bool) (xv : Row) (row : Row) (y : Row) : Int :=
  if rowEq (sideRow left xv y) row then 1 else 0

theorem net_joinRows (amLeft : Bool) (r : Rec) (row : Row) (s : Subs) :
    net (joinRows amLeft r s) row = sgn r * M (gJoin amLeft r.vals row) s :=
  net_scan _ r.retr (maxT r.et) row (joinRows amLeft r) rfl (fun _ _ _ => rfl) s

theorem congr_pairLeft (a : Row) (row : Row) : Congr (fun x => if rowEq (a ++ x) row then 1 else 0) := by
  intro x y h
  have : cmpList (a ++ x) (a ++ y) = 0 := by rw [cmpList_append_left]; exact h
  simp only [rowEq_congr_left (rowEq_iff.mpr this) row]
theorem congr_pairRight (a : Row) (row : Row) : Congr (fun x => if rowEq (x ++ a) row then 1 else 0) := by
  intro x y h
  have : cmpList (x ++ a) (y ++ a) = 0 := cmpList_append_eq h (cmpList_refl a)
  simp only [rowEq_congr_left (rowEq_iff.mpr this) row]

theorem congr_gEq (x : Row) : Congr (gEq x) := congr_pairLeft [] x

end Octo.Join
