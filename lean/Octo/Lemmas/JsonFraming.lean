import Octo.Lemmas.JsonString
import Octo.Lemmas.JsonNumber
import Octo.Lemmas.JsonValue
/-!
  Lemmas for C25: a `-o json` line contains no byte below 0x20 other than its final line feed —
  whatever bytes the strings and names contain.  Hence the output of a whole result is cut into its lines at
  the line feeds, and no line contains a raw control character (RFC 8259 §7).
-/
namespace Octo.OutFmt
open Octo Octo.Spec

def NoCtl (s : Bytes) : Prop := ∀ x ∈ s, 32 ≤ x

theorem NoCtl.nil : NoCtl [] := fun _ h => nomatch h
theorem NoCtl.cons {c : Nat} {s : Bytes} (hc : 32 ≤ c) (hs : NoCtl s) : NoCtl (c :: s) :=
  List.forall_mem_cons.mpr ⟨hc, hs⟩
theorem NoCtl.append {a b : Bytes} (ha : NoCtl a) (hb : NoCtl b) : NoCtl (a ++ b) :=
  fun x hx => (List.mem_append.mp hx).elim (ha x) (hb x)

theorem noCtl_escBody : ∀ s : Bytes, NoCtl (escBody s)
  | [] => NoCtl.nil
  | c :: r => NoCtl.append (fun x hx => (escByte_mem c x hx).1) (noCtl_escBody r)

theorem noCtl_wrap (o c : Nat) (b : Bytes) (hb : NoCtl b) (ho : 32 ≤ o := by decide) (hc : 32 ≤ c := by decide) :
    NoCtl (o :: (b ++ [c])) :=
  NoCtl.cons ho (hb.append (NoCtl.cons hc NoCtl.nil))

theorem noCtl_jsonString (s : Bytes) : NoCtl (jsonString s) :=
  noCtl_wrap 34 34 _ (noCtl_escBody s)

theorem noCtl_validNumber (s : Bytes) (h : Json.validNumber s = true) : NoCtl s :=
  fun x hx => (isNumChar_bounds ((validNumber_allNum_first s h).1 x hx)).2

theorem noCtl_sep (first : Bool) : NoCtl (sep first) := by unfold NoCtl; cases first <;> decide

theorem noCtl_null : NoCtl nullLit := by unfold NoCtl; decide
theorem noCtl_true : NoCtl trueLit := by unfold NoCtl; decide
theorem noCtl_false : NoCtl falseLit := by unfold NoCtl; decide

theorem noCtl_scalarText (L : Lib) (hL : FloatSyntax L) : ∀ v, NoCtl (scalarText L v)
  | .int i => noCtl_validNumber _ (validNumber_fmtInt i)
  | .float b => by
    rw [scalarText]
    cases hb : finite b
    · exact noCtl_null
    · exact noCtl_validNumber _ (hL b hb)
  | .bool true => noCtl_true
  | .bool false => noCtl_false
  | .str _ | .time _ _ | .dur _ => noCtl_jsonString _
  | .null | .list _ | .struct _ | .tuple _ => noCtl_null

mutual
theorem encJson_noCtl (L : Lib) (hL : FloatSyntax L) (τ : Ty) {bs : Bytes} : ∀ v : Value, encJson L τ v = some bs → NoCtl bs
  | .list xs, h => by
    rcases encJson_pick h with rfl | ⟨t, hp⟩
    · exact noCtl_null
    rw [encJson_list hp, Option.map_eq_some_iff] at h
    obtain ⟨b, hb, rfl⟩ := h
    exact noCtl_wrap 91 93 b (encElems_noCtl L hL xs _ true b hb)
  | .struct xs, h => by
    rcases encJson_pick h with rfl | ⟨t, hp⟩
    · exact noCtl_null
    rw [encJson_struct hp, Option.map_eq_some_iff] at h
    obtain ⟨b, hb, rfl⟩ := h
    exact noCtl_wrap 123 125 b (encFields_noCtl L hL xs _ _ true b hb)
  | .tuple xs, h => by
    rcases encJson_pick h with rfl | ⟨t, hp⟩
    · exact noCtl_null
    rw [encJson_tuple hp, Option.map_eq_some_iff] at h
    obtain ⟨b, hb, rfl⟩ := h
    exact noCtl_wrap 91 93 b (encTuple_noCtl L hL xs _ true b hb)
  | .null, h | .int _, h | .float _, h | .bool _, h | .str _, h | .time _ _, h | .dur _, h =>
    (encJson_scalar_some rfl h).elim (· ▸ noCtl_null) (· ▸ noCtl_scalarText L hL _)
theorem encElems_noCtl (L : Lib) (hL : FloatSyntax L) : ∀ (xs : List Value) (et : Option Ty) (first : Bool) (bs : Bytes),
    encElems L et first xs = some bs → NoCtl bs
  | [], _, _, bs, h => by rw [encElems_nil] at h; cases h; exact NoCtl.nil
  | x :: xs, none, _, _, h => by cases encElems_none h; exact NoCtl.nil
  | x :: xs, some e, first, bs, h => by
    obtain ⟨a, b, ha, hb, rfl⟩ := encElems_cons.mp h
    exact ((noCtl_sep first).append (encJson_noCtl L hL e x ha)).append (encElems_noCtl L hL xs (some e) false b hb)
theorem encFields_noCtl (L : Lib) (hL : FloatSyntax L) : ∀ (xs : List Value) (ns : List Name) (ts : List Ty) (first : Bool) (bs : Bytes),
    encFields L ns ts first xs = some bs → NoCtl bs
  | [], _, _, _, bs, h => by rw [encFields_nil] at h; cases h; exact NoCtl.nil
  | x :: xs, ns, ts, first, bs, h => by
    obtain ⟨n, ns, t, ts, rfl, rfl⟩ := encFields_shape h
    obtain ⟨a, b, ha, hb, rfl⟩ := encFields_cons.mp h
    exact (((noCtl_sep first).append (noCtl_jsonString _)).append (NoCtl.cons (by decide) (encJson_noCtl L hL t x ha))).append
      (encFields_noCtl L hL xs ns ts false b hb)
theorem encTuple_noCtl (L : Lib) (hL : FloatSyntax L) : ∀ (xs : List Value) (ts : List Ty) (first : Bool) (bs : Bytes),
    encTuple L ts first xs = some bs → NoCtl bs
  | [], _, _, bs, h => by rw [encTuple_nil] at h; cases h; exact NoCtl.nil
  | x :: xs, ts, first, bs, h => by
    obtain ⟨t, ts, rfl⟩ := encTuple_shape h
    obtain ⟨a, b, ha, hb, rfl⟩ := encTuple_cons.mp h
    exact ((noCtl_sep first).append (encJson_noCtl L hL t x ha)).append (encTuple_noCtl L hL xs ts false b hb)
end

theorem jsonLine_framing (L : Lib) (hL : FloatSyntax L) (ns : List Name) (ts : List Ty) (xs : List Value) (bs : Bytes)
    (hfit : rowFits ns ts xs = true) (h : jsonLine L ns ts xs = some bs) :
    ∃ b, bs = b ++ [10] ∧ NoCtl b := by
  rw [jsonLine_eq L ns ts xs hfit, Option.map_eq_some_iff] at h
  obtain ⟨b, hb, e⟩ := h
  exact ⟨b, e.symm, encJson_noCtl L hL _ _ hb⟩

theorem splitLines_line (b rest cur : Bytes) (hb : ∀ x ∈ b, x ≠ 10) :
    Json.splitLines (b ++ 10 :: rest) cur = (cur.reverse ++ b ++ [10]) :: Json.splitLines rest [] := by
  induction b generalizing cur with
  | nil => simp [Json.splitLines]
  | cons c cs ih =>
    have hc : c ≠ 10 := hb c (by simp)
    have := ih (c :: cur) (fun x hx => hb x (by simp [hx]))
    simp [Json.splitLines, hc, this]

def concatLines : List Bytes → Bytes
  | [] => []
  | l :: ls => l ++ concatLines ls

theorem splitLines_concat : ∀ lines : List Bytes, (∀ l ∈ lines, ∃ b, l = b ++ [10] ∧ ∀ x ∈ b, x ≠ 10) →
    Json.splitLines (concatLines lines) [] = lines
  | [], _ => by simp [concatLines, Json.splitLines]
  | l :: ls, h => by
    obtain ⟨b, e, hb⟩ := h l (by simp)
    have ih := splitLines_concat ls (fun x hx => h x (by simp [hx]))
    subst e
    simp only [concatLines, List.append_assoc, List.singleton_append]
    rw [splitLines_line b _ [] hb, ih]
    simp

end Octo.OutFmt
