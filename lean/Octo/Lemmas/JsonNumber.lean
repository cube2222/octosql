import Octo.Spec.OutputSpec
import Octo.Lemmas.ListFacts
/-!
  Lemmas for C25: numbers.  `strconv.AppendInt` (model: `fmtInt`) produces a literal of the RFC 8259
  number grammar whose exact value is the integer; every literal of the grammar consists of number
  characters only, so the maximal-munch reader `Json.pNum` returns it unchanged.
-/
namespace Octo.OutFmt
open Octo Octo.Spec

theorem div10_lt {n : Nat} (h : ¬ n < 10) : n / 10 < n :=
  Nat.div_lt_self (Nat.lt_of_lt_of_le (by decide) (Nat.le_of_not_lt h)) (by decide)

theorem digitsAux_eq : ∀ f n acc, n < f → digitsAux f n acc = digitsAux (n + 1) n [] ++ acc := by
  intro f
  induction f using Nat.strongRecOn with
  | _ f ih =>
    intro n acc h
    cases f with
    | zero => cases h
    | succ f =>
      rw [digitsAux, digitsAux]
      by_cases hn : n < 10
      · rw [if_pos hn, if_pos hn]; rfl
      · -- both sides are brought to the fuel `n / 10 + 1` of `natDigits (n / 10)`: the left from fuel `f`, the right
        -- from fuel `n`, which is only known to be below `f + 1`; hence strong induction on the fuel
        rw [if_neg hn, if_neg hn, ih f (Nat.lt_succ_self f) (n / 10) _ (Nat.lt_of_lt_of_le (div10_lt hn) (Nat.le_of_lt_succ h)),
          ih n h (n / 10) _ (div10_lt hn), List.append_assoc]; rfl

theorem natDigits_lt (n : Nat) (h : n < 10) : natDigits n = [48 + n] := by
  rw [natDigits, digitsAux, if_pos h]

theorem natDigits_ge (n : Nat) (h : ¬ n < 10) : natDigits n = natDigits (n / 10) ++ [48 + n % 10] := by
  rw [natDigits, digitsAux, if_neg h, digitsAux_eq n (n / 10) _ (div10_lt h)]; rfl

theorem allDigits_append (a b : Bytes) : Json.allDigits (a ++ b) = (Json.allDigits a && Json.allDigits b) := by
  induction a with
  | nil => rfl
  | cons c cs ih => rw [List.cons_append, Json.allDigits, Json.allDigits, ih, Bool.and_assoc]

theorem isDigit_add {k : Nat} (h : k < 10) : Json.isDigit (48 + k) = true :=
  decide_eq_true ⟨Nat.le_add_right 48 k, Nat.add_le_add_left (Nat.le_of_lt_succ h) 48⟩

theorem natDigits_shape (n : Nat) :
    ∃ d ds, natDigits n = d :: ds ∧ Json.allDigits (d :: ds) = true ∧ (0 < n → 49 ≤ d) := by
  induction n using Nat.strongRecOn with
  | _ n ih =>
    by_cases h : n < 10
    · exact ⟨48 + n, [], natDigits_lt n h, by rw [Json.allDigits, isDigit_add h]; rfl, fun hn => Nat.add_le_add_left hn 48⟩
    · obtain ⟨d, ds, e, ha, hd⟩ := ih (n / 10) (div10_lt h)
      refine ⟨d, ds ++ [48 + n % 10], by rw [natDigits_ge n h, e]; rfl, ?_,
        fun _ => hd (Nat.div_pos (Nat.le_of_not_lt h) (by decide))⟩
      rw [← List.cons_append, allDigits_append, ha, Json.allDigits, isDigit_add (Nat.mod_lt n (by decide))]; rfl

theorem digitsVal_append (acc : Nat) (xs : Bytes) (d : Nat) :
    Num.digitsVal acc (xs ++ [d]) = Num.digitsVal acc xs * 10 + (d - 48) := by
  rw [Num.digitsVal, List.foldl_append]; rfl

theorem digitsVal_natDigits (n : Nat) : Num.digitsVal 0 (natDigits n) = n := by
  induction n using Nat.strongRecOn with
  | _ n ih =>
    by_cases h : n < 10
    · rw [natDigits_lt n h]; exact (Nat.zero_add _).trans (Nat.add_sub_cancel_left ..)
    · rw [natDigits_ge n h, digitsVal_append, ih (n / 10) (div10_lt h), Nat.add_sub_cancel_left, Nat.div_add_mod']

theorem intTail_allDigits : ∀ ds : Bytes, Json.allDigits ds = true → Json.intTail ds = true
  | [], _ => rfl
  | c :: r, h => by
    rw [Json.allDigits, Bool.and_eq_true] at h
    rw [Json.intTail, if_pos h.1]
    exact intTail_allDigits r h.2

theorem unsignedNumber_digits {d : Nat} {ds : Bytes} (ha : Json.allDigits (d :: ds) = true) (h0 : d = 48 → ds = []) :
    Json.unsignedNumber (d :: ds) = true := by
  rw [Json.allDigits, Bool.and_eq_true] at ha
  have hd : 48 ≤ d ∧ d ≤ 57 := of_decide_eq_true ha.1
  rw [Json.unsignedNumber]
  by_cases h : d = 48
  · rw [if_pos h, h0 h]; rfl
  · rw [if_neg h, if_pos ⟨Nat.lt_of_le_of_ne hd.1 (Ne.symm h), hd.2⟩]
    exact intTail_allDigits ds ha.2

theorem digit_ne_minus {d : Nat} {ds : Bytes} (ha : Json.allDigits (d :: ds) = true) : d ≠ 45 := by
  rw [Json.allDigits, Bool.and_eq_true] at ha
  have hd : 48 ≤ d ∧ d ≤ 57 := of_decide_eq_true ha.1
  omega

theorem fmtInt_shape (i : Int) : ∃ d ds, Json.allDigits (d :: ds) = true ∧ (d = 48 → ds = []) ∧
    Num.digitsVal 0 (d :: ds) = i.natAbs ∧ fmtInt i = if i < 0 then 45 :: d :: ds else d :: ds := by
  obtain ⟨d, ds, e, ha, hd⟩ := natDigits_shape i.natAbs
  refine ⟨d, ds, ha, fun h => ?_, e ▸ digitsVal_natDigits _, by rw [fmtInt, e]⟩
  cases hn : i.natAbs with
  | zero => rw [hn] at e; cases e; rfl
  | succ n => have := hd (hn ▸ Nat.succ_pos n); omega

theorem validNumber_fmtInt (i : Int) : Json.validNumber (fmtInt i) = true := by
  obtain ⟨d, ds, ha, h0, _, e⟩ := fmtInt_shape i
  rw [e, Json.validNumber.eq_def]
  by_cases hi : i < 0
  · rw [if_pos hi]; exact unsignedNumber_digits ha h0
  · rw [if_neg hi]; exact (if_neg (digit_ne_minus ha)).trans (unsignedNumber_digits ha h0)

def allNum (s : Bytes) : Prop := ∀ c ∈ s, Json.isNumChar c = true

theorem allNum_nil : allNum [] := fun _ h => nomatch h
theorem allNum_cons {c : Nat} {r : Bytes} (h1 : Json.isNumChar c = true) (h2 : allNum r) : allNum (c :: r) :=
  List.forall_mem_cons.mpr ⟨h1, h2⟩

theorem isNumChar_of_digit {c : Nat} (h : Json.isDigit c = true) : Json.isNumChar c = true := by
  rw [Json.isNumChar, h]; rfl

theorem allNum_allDigits (s : Bytes) (h : Json.allDigits s = true) : allNum s := fun c hc =>
  isNumChar_of_digit ((forall_mem_of_and_rec (p := Json.isDigit) rfl (fun _ _ => rfl) s).1 h c hc)

theorem allNum_digits1 (s : Bytes) (h : Json.digits1 s = true) : allNum s := by
  rw [Json.digits1, Bool.and_eq_true] at h
  exact allNum_allDigits s h.2

theorem allNum_expPart (s : Bytes) : Json.expPart s = true → allNum s := by
  fun_cases Json.expPart s
  case case1 => exact fun _ => allNum_nil
  case case2 c hc s r hs =>
    exact fun h => allNum_cons (by rcases hc with rfl | rfl <;> rfl)
      (allNum_cons (by rcases hs with rfl | rfl <;> rfl) (allNum_digits1 _ h))
  case case3 c hc s r hs => exact fun h => allNum_cons (by rcases hc with rfl | rfl <;> rfl) (allNum_digits1 _ h)
  all_goals exact fun h => nomatch h

theorem allNum_fracDigits (s : Bytes) (seen : Bool) : Json.fracDigits seen s = true → allNum s := by
  fun_induction Json.fracDigits seen s
  case case1 => exact fun _ => allNum_nil
  case case2 c r hc ih => exact fun h => allNum_cons (isNumChar_of_digit hc) (ih h)
  case case3 c r hc => exact fun h => allNum_expPart _ (Bool.and_eq_true _ _ ▸ h).2

theorem allNum_fracExp (s : Bytes) : Json.fracExp s = true → allNum s := by
  fun_cases Json.fracExp s
  case case1 => exact fun _ => allNum_nil
  case case2 r => exact fun h => allNum_cons rfl (allNum_fracDigits r false h)
  case case3 c r hc => exact allNum_expPart _

theorem allNum_intTail (s : Bytes) : Json.intTail s = true → allNum s := by
  fun_induction Json.intTail s
  case case1 => exact fun _ => allNum_nil
  case case2 c r hc ih => exact fun h => allNum_cons (isNumChar_of_digit hc) (ih h)
  case case3 c r hc => exact allNum_fracExp _

theorem unsignedNumber_allNum_first (s : Bytes) : Json.unsignedNumber s = true →
    allNum s ∧ ∃ c r, s = c :: r ∧ 48 ≤ c ∧ c ≤ 57 := by
  fun_cases Json.unsignedNumber s
  case case2 r => exact fun h => ⟨allNum_cons rfl (allNum_fracExp r h), 48, r, rfl, by decide⟩
  case case3 c r h0 h1 =>
    exact fun h => ⟨allNum_cons (isNumChar_of_digit (decide_eq_true ⟨Nat.le_of_succ_le h1.1, h1.2⟩)) (allNum_intTail r h),
      c, r, rfl, Nat.le_of_succ_le h1.1, h1.2⟩
  all_goals exact fun h => nomatch h

theorem validNumber_allNum_first (s : Bytes) : Json.validNumber s = true →
    allNum s ∧ ∃ c r, s = c :: r ∧ (c = 45 ∨ (48 ≤ c ∧ c ≤ 57)) := by
  fun_cases Json.validNumber s
  case case1 => exact fun h => nomatch h
  case case2 r => exact fun h => ⟨allNum_cons rfl (unsignedNumber_allNum_first r h).1, 45, r, rfl, Or.inl rfl⟩
  case case3 c r hc =>
    intro h
    obtain ⟨ha, c', r', e, hd⟩ := unsignedNumber_allNum_first _ h
    cases e
    exact ⟨ha, c, r, rfl, Or.inr hd⟩

theorem isNumChar_bounds {c : Nat} (h : Json.isNumChar c = true) : c < 128 ∧ 32 ≤ c := by
  simp [Json.isNumChar, Json.isDigit] at h
  rcases h with h | rfl | rfl | rfl | rfl | rfl
  · omega
  iterate 5 decide

/-- the text after a number does not continue it -/
def Term (rest : Bytes) : Prop := ∀ c r, rest = c :: r → Json.isNumChar c = false

theorem spanNum_append (s rest : Bytes) (hs : allNum s) (hr : Term rest) : Json.spanNum (s ++ rest) = (s, rest) := by
  induction s with
  | nil =>
    cases rest with
    | nil => rfl
    | cons c r => rw [List.nil_append, Json.spanNum, hr c r rfl]; rfl
  | cons c cs ih =>
    obtain ⟨hc, hcs⟩ := List.forall_mem_cons.mp hs
    rw [List.cons_append, Json.spanNum, hc, ih hcs]; rfl

theorem pNum_append (s rest : Bytes) (hv : Json.validNumber s = true) (hr : Term rest) :
    Json.pNum (s ++ rest) = some (s, rest) := by
  rw [Json.pNum, spanNum_append s rest (validNumber_allNum_first s hv).1 hr]
  exact if_pos hv

theorem takeDigits_all : ∀ ds : Bytes, Json.allDigits ds = true → Num.takeDigits ds = (ds, [])
  | [], _ => rfl
  | c :: r, h => by
    rw [Json.allDigits, Bool.and_eq_true] at h
    rw [Num.takeDigits, if_pos h.1, takeDigits_all r h.2]

theorem parseDec_digits (d : Nat) (ds : Bytes) (h : Json.allDigits (d :: ds) = true) :
    Num.parseDec (d :: ds) = { neg := false, mant := Num.digitsVal 0 (d :: ds), exp10 := 0 } := by
  unfold Num.parseDec
  simp [digit_ne_minus h, takeDigits_all _ h]

theorem parseDec_neg_digits (d : Nat) (ds : Bytes) (h : Json.allDigits (d :: ds) = true) :
    Num.parseDec (45 :: d :: ds) = { neg := true, mant := Num.digitsVal 0 (d :: ds), exp10 := 0 } := by
  unfold Num.parseDec
  simp [takeDigits_all _ h]

theorem denotesInt_fmtInt (i : Int) : Num.denotesInt (fmtInt i) i = true := by
  obtain ⟨d, ds, ha, _, hv, e⟩ := fmtInt_shape i
  rw [e, Num.denotesInt]
  by_cases hi : i < 0
  · rw [if_pos hi, parseDec_neg_digits d ds ha]; simp [hv]; omega
  · rw [if_neg hi, parseDec_digits d ds ha]; simp [hv]; omega

theorem intLit_fmtInt (i : Int) : Num.intLit (fmtInt i) = some i := by
  obtain ⟨d, ds, ha, _, hv, e⟩ := fmtInt_shape i
  rw [e]
  by_cases hi : i < 0
  · rw [if_pos hi]; simp [Num.intLit, Json.digits1, ha, hv]; omega
  · rw [if_neg hi]; simp [Num.intLit, Json.digits1, ha, hv, digit_ne_minus ha]; omega

end Octo.OutFmt
