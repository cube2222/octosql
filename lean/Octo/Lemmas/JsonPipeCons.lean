import Octo.Lemmas.JsonPipeQueue
import Octo.Lemmas.JsonPipeTok
/-! Conservation of batches ("Cons" in `ConsInv`, `Inv.cons`, `LocalStep.cons`): every batch found anywhere in the pipeline
was submitted by the reader of its pipe (`SubInv`), and — as long as the consumer is in its loop and the pipe is not
cancelled (a worker may then drop a batch) — every submitted batch is somewhere: job channel, a worker, `outChan`, in
the consumer's hands, or processed (`ConsInv`). -/
namespace Octo.JsonPipe

/-- the batch is on the consumer's side of the pipe: in `outChan`, or received and not yet processed -/
def Pipe.has (P : Pipe) (j : Job) : Prop := j ∈ P.out ∨ P.cpc = .tok j ∨ P.cpc = .proc j

structure SubInv (s : State) : Prop where
  jobs : ∀ j, j ∈ s.jobs → j ∈ (s.pipe j.pipe).sub
  workers : ∀ w j, s.worker w = some j → j ∈ (s.pipe j.pipe).sub
  out : ∀ p j, j ∈ (s.pipe p).out → j ∈ (s.pipe p).sub
  held : ∀ p j, ((s.pipe p).cpc = .tok j ∨ (s.pipe p).cpc = .proc j) → j ∈ (s.pipe p).sub

theorem SubInv.has {s : State} (h : SubInv s) {p : Nat} {j : Job} (hj : (s.pipe p).has j) : j ∈ (s.pipe p).sub :=
  hj.elim (h.out p j) (h.held p j)

theorem subInv_setPipe {s : State} (h : SubInv s) (p : Nat) (P' : Pipe)
    (hsub : ∀ j, j ∈ (s.pipe p).sub → j ∈ P'.sub) (hhas : ∀ j, P'.has j → j ∈ P'.sub) : SubInv (s.setPipe p P') := by
  have key : ∀ {j : Job} {q : Nat}, j ∈ (s.pipe q).sub → j ∈ ((s.setPipe p P').pipe q).sub := by
    intro j q hj
    by_cases e : q = p
    · subst e; rw [setPipe_pipe_same]; exact hsub j hj
    · rw [setPipe_pipe_ne s P' e]; exact hj
  refine ⟨fun j hj => key (h.jobs j hj), fun w j hw => key (h.workers w j hw), fun q j hj => ?_, fun q j hj => ?_⟩
  · by_cases e : q = p
    · subst e; rw [setPipe_pipe_same] at hj ⊢; exact hhas j (.inl hj)
    · rw [setPipe_pipe_ne s P' e] at hj ⊢; exact h.out q j hj
  · by_cases e : q = p
    · subst e; rw [setPipe_pipe_same] at hj ⊢; exact hhas j (.inr hj)
    · rw [setPipe_pipe_ne s P' e] at hj ⊢; exact h.held q j hj

theorem subInv_init (nw : Nat) (pipes : List Pipe) (hp : ∀ P, P ∈ pipes → P.IsInit) : SubInv (State.init nw pipes) := by
  have key : ∀ p, ((State.init nw pipes).pipe p).out = [] ∧ ((State.init nw pipes).pipe p).cpc = .sel := by
    intro p
    show (pipes.getD p default).out = [] ∧ (pipes.getD p default).cpc = .sel
    rw [List.getD_eq_getElem?_getD]
    cases e : pipes[p]? with
    -- beyond `np` the pipe is `default`, which is idle: `SubInv.out` / `held` speak of every index
    | none => exact ⟨rfl, rfl⟩
    | some P => obtain ⟨_, _, _, _, _, _, rfl⟩ := hp P (List.mem_of_getElem? e); exact ⟨rfl, rfl⟩
  refine ⟨nofun, nofun, fun p j hj => ?_, fun p j hj => ?_⟩
  · rw [(key p).1] at hj; contradiction
  · rw [(key p).2] at hj; exact nomatch hj

theorem LocalStep.sub {P P' : Pipe} (h : LocalStep P P') : P'.sub = P.sub := by
  cases h <;> rfl

theorem LocalStep.has {P P' : Pipe} (h : LocalStep P P') : ∀ x, P'.has x → P.has x := by
  have out_only {Q : Pipe} (ho : Q.out = P.out) (hc : Q.cpc.inLoop = false ∨ Q.cpc = .sel) : ∀ x, Q.has x → P.has x := by
    intro x hx
    rcases hx with hx | hx | hx
    · exact .inl (ho ▸ hx)
    · rcases hc with hc | hc <;> rw [hx] at hc <;> contradiction
    · rcases hc with hc | hc <;> rw [hx] at hc <;> contradiction
  cases h with
  | rTok | rStop | rWriteFin | rWriteSel | rDone | rTruncFin | rTrunc | pCancel | cDoneLoop => exact fun _ => id
  | cDoneErr | cDoneRet | cCtx | cCancel | cProcRet => exact out_only rfl (.inl rfl)
  | cProcLoop => exact out_only rfl (.inr rfl)
  | cRecv k j rest a b =>
    refine fun x hx => .inl ((takeAt_perm b).mem_iff.mpr ?_)
    rcases hx with hx | hx | hx
    · exact .tail _ hx
    · cases hx; exact .head _
    · contradiction
  | cTok j a b =>
    intro x hx
    rcases hx with hx | hx | hx
    · exact .inl hx
    · contradiction
    · cases hx; exact .inr (.inl a)

theorem step_subInv {s s' : State} (h : SubInv s) (hs : Step s s') : SubInv s' := by
  cases hs with
  | loc hp hl =>
    exact subInv_setPipe h _ _ (fun j hj => hl.sub ▸ hj) (fun j hj => hl.sub ▸ h.has (hl.has j hj))
  | @rSub p hp h1 h2 =>
    have h' := subInv_setPipe h p ((s.pipe p).submitted p)
      (fun j hj => List.mem_append_left _ hj) (fun j hj => List.mem_append_left _ (h.has hj))
    refine { h' with jobs := fun j hj => ?_ }
    rcases List.mem_append.mp hj with hj | hj
    · exact h'.jobs j hj
    · rw [List.mem_singleton.mp hj]
      show _ ∈ ((s.setPipe p _).pipe p).sub
      rw [setPipe_pipe_same]; exact List.mem_append_right _ (.head _)
  | @wTake w k j rest hw h1 h2 =>
    have hp := takeAt_perm h2
    exact { h with jobs := fun x hx => h.jobs x (hp.mem_iff.mpr (.tail _ hx)),
                   workers := fun v x hv => (setWorker_some hv).elim
                     (fun e => by cases e; exact h.jobs _ (hp.mem_iff.mpr (.head _))) (h.workers v x) }
  | @wSend w j hw h1 h2 =>
    have h0 : SubInv (s.setWorker w none) :=
      { h with workers := fun v x hv => h.workers v x ((setWorker_some hv).resolve_left nofun) }
    refine subInv_setPipe h0 j.pipe _ (fun x hx => hx) (fun x hx => ?_)
    rcases hx with hx | hx
    · rcases List.mem_append.mp hx with hx | hx
      · exact h.out _ x hx
      · rw [List.mem_singleton.mp hx]; exact h.workers w j h1
    · exact h.held j.pipe x hx
  | wDrop hw h1 h2 => exact { h with workers := fun v x hv => h.workers v x ((setWorker_some hv).resolve_left nofun) }

/-- where a submitted batch of pipe `p` can be -/
def Located (s : State) (p : Nat) (j : Job) : Prop :=
  j ∈ s.jobs ∨ (∃ w, w < s.nw ∧ s.worker w = some j) ∨ (s.pipe p).has j ∨ j ∈ (s.pipe p).got

theorem Located.inJobs {s : State} {p : Nat} {j : Job} (h : j ∈ s.jobs) : Located s p j := .inl h
theorem Located.atWorker {s : State} {p w : Nat} {j : Job} (hw : w < s.nw) (h : s.worker w = some j) : Located s p j :=
  .inr (.inl ⟨w, hw, h⟩)
theorem Located.has {s : State} {p : Nat} {j : Job} (h : (s.pipe p).has j) : Located s p j := .inr (.inr (.inl h))
theorem Located.got {s : State} {p : Nat} {j : Job} (h : j ∈ (s.pipe p).got) : Located s p j := .inr (.inr (.inr h))

def ConsInv (s : State) : Prop :=
  ∀ p, p < s.np → (s.pipe p).cpc.inLoop = true → (s.pipe p).cancelled = false →
    ∀ j, j ∈ (s.pipe p).sub → Located s p j

theorem consInv_setPipe {s : State} (h : ConsInv s) (p : Nat) (P' : Pipe)
    (hloc : P'.cpc.inLoop = true → P'.cancelled = false → ∀ j, j ∈ P'.sub →
      (j ∈ s.jobs ∨ (∃ w, w < s.nw ∧ s.worker w = some j) ∨ P'.has j ∨ j ∈ P'.got)) :
    ConsInv (s.setPipe p P') := by
  intro q hq hl hc j hj
  unfold Located
  by_cases e : q = p
  · subst e; rw [setPipe_pipe_same] at hl hc hj ⊢; exact hloc hl hc j hj
  · rw [setPipe_pipe_ne s P' e] at hl hc hj ⊢; exact h q hq hl hc j hj

theorem consInv_setJobs {t : State} (h : ConsInv t) {J : List Job} (hJ : ∀ j, j ∈ t.jobs → j ∈ J) : ConsInv (t.setJobs J) :=
  fun q hq hl hc x hx => (h q hq hl hc x hx).imp (hJ x) id

theorem located_release {s : State} {w q : Nat} {j x : Job} (h1 : s.worker w = some j) (h : Located s q x) :
    x = j ∨ Located (s.setWorker w none) q x := by
  rcases h with h | ⟨v, hv, hx⟩ | h
  · exact .inr (.inl h)
  · by_cases hvw : v = w
    · exact .inl (Option.some.inj ((hvw ▸ hx).symm.trans h1))
    · exact .inr (.inr (.inl ⟨v, hv, by simp [setWorker_worker, hvw, hx]⟩))
  · exact .inr (.inr (.inr h))

theorem consInv_init (nw : Nat) (pipes : List Pipe) (hp : ∀ P, P ∈ pipes → P.IsInit) : ConsInv (State.init nw pipes) := by
  intro p hlt _ _ j hj
  obtain ⟨lines, batch, se, bad, st, _, e⟩ := init_pipe_isInit hp hlt
  rw [e] at hj; contradiction

theorem LocalStep.cons {P P' : Pipe} (h : LocalStep P P') (hl : P'.cpc.inLoop = true) (hc : P'.cancelled = false) :
    P.cpc.inLoop = true ∧ P.cancelled = false ∧ ∀ x, (P.has x ∨ x ∈ P.got) → (P'.has x ∨ x ∈ P'.got) := by
  cases h with
  | rTok | rStop | rWriteFin | rWriteSel | rDone | rTruncFin | rTrunc | cDoneLoop => exact ⟨hl, hc, fun _ => id⟩
  | cDoneErr | cDoneRet | cCtx | cCancel | pCancel | cProcRet => contradiction
  | cRecv k j rest a b =>
    refine ⟨congrArg CPc.inLoop a, hc, fun x hx => ?_⟩
    rcases hx with (hx | hx | hx) | hx
    · rcases List.mem_cons.mp ((takeAt_perm b).mem_iff.mp hx) with rfl | hx
      · exact .inl (.inr (.inl rfl))
      · exact .inl (.inl hx)
    · exact nomatch a.symm.trans hx
    · exact nomatch a.symm.trans hx
    · exact .inr hx
  | cTok j a b =>
    refine ⟨congrArg CPc.inLoop a, hc, fun x hx => ?_⟩
    rcases hx with (hx | hx | hx) | hx
    · exact .inl (.inl hx)
    · cases a.symm.trans hx; exact .inl (.inr (.inr rfl))
    · exact nomatch a.symm.trans hx
    · exact .inr hx
  | cProcLoop a =>
    refine ⟨congrArg CPc.inLoop a, hc, fun x hx => ?_⟩
    rcases hx with (hx | hx | hx) | hx
    · exact .inl (.inl hx)
    · exact nomatch a.symm.trans hx
    · cases a.symm.trans hx; exact .inr (.head _)
    · exact .inr (.tail _ hx)

theorem step_consInv {s s' : State} (h : ConsInv s)
    (hq : ∀ p, p < s.np → QInv p (s.pipe p)) (hs : Step s s') : ConsInv s' := by
  cases hs with
  | loc hp hl =>
    refine consInv_setPipe h _ _ (fun hl' hc' x hx => ?_)
    obtain ⟨l0, c0, f⟩ := hl.cons hl' hc'
    rw [hl.sub] at hx
    exact (h _ hp l0 c0 x hx).imp id (.imp id (f x))
  | @rSub p hp h1 h2 =>
    show ConsInv ((s.setJobs (s.jobs ++ [⟨p, (s.pipe p).nextLine, (s.pipe p).cur⟩])).setPipe p ((s.pipe p).submitted p))
    refine consInv_setPipe (consInv_setJobs h (fun j hj => List.mem_append_left _ hj)) _ _ (fun hl hc x hx => ?_)
    rcases List.mem_append.mp hx with hx | hx
    · exact (h p hp hl hc x hx).imp (List.mem_append_left _) id
    · exact .inl (List.mem_append_right _ hx)
  | @wTake w k j rest hw h1 h2 =>
    intro q hqlt hl hc x hx
    rcases h q hqlt hl hc x hx with hx | ⟨v, hv, hx⟩ | hx
    · rcases List.mem_cons.mp ((takeAt_perm h2).mem_iff.mp hx) with rfl | hx
      · exact Located.atWorker hw (by simp [setWorker_worker])
      · exact Located.inJobs hx
    · have : v ≠ w := fun e => by rw [e, h1] at hx; contradiction
      exact Located.atWorker hv (by simp [setWorker_worker, this, hx])
    · exact .inr (.inr hx)
  | @wSend w j hw h1 h2 =>
    intro q hqlt hl hc x hx
    by_cases e : q = j.pipe
    · subst e
      rw [setPipe_pipe_same] at hl hc hx
      rcases located_release h1 (h j.pipe hqlt hl hc x hx) with rfl | hx' | ⟨v, hv, hx'⟩ | hx' | hx'
      · exact Located.has (by rw [setPipe_pipe_same]; exact .inl (List.mem_append_right _ (.head _)))
      · exact Located.inJobs hx'
      · exact Located.atWorker hv hx'
      · exact Located.has (by rw [setPipe_pipe_same]; exact hx'.imp (List.mem_append_left _) id)
      · exact Located.got (by rw [setPipe_pipe_same]; exact hx')
    · rw [Located, setPipe_pipe_ne _ _ e] at *
      rcases located_release h1 (h q hqlt hl hc x hx) with rfl | hx'
      · exact absurd ((hq q hqlt).subPipe x hx).symm e
      · exact hx'
  | @wDrop w j hw h1 h2 =>
    intro q hqlt hl hc x hx
    rcases located_release h1 (h q hqlt hl hc x hx) with rfl | hx'
    · -- the dropped job belongs to pipe `q`, which is cancelled
      rw [(hq q hqlt).subPipe x hx, show (s.pipe q).cancelled = false from hc] at h2
      contradiction
    · exact hx'

/-- everything that is known of a reachable state -/
structure Inv (s : State) : Prop where
  nw : 1 ≤ s.nw
  tok : TokInv s
  pc : ∀ p, p < s.np → PInv (s.pipe p)
  queue : ∀ p, p < s.np → QInv p (s.pipe p)
  sub : SubInv s
  cons : ConsInv s

theorem inv_init {nw : Nat} {pipes : List Pipe} (h1 : 1 ≤ nw) (hp : ∀ P, P ∈ pipes → P.IsInit) : Inv (State.init nw pipes) :=
  ⟨h1, tokInv_init hp, fun _ hlt => pinv_init (init_pipe_isInit hp hlt), fun p hlt => qinv_init p (init_pipe_isInit hp hlt),
    subInv_init nw pipes hp, consInv_init nw pipes hp⟩

/-- the invariants are inductive together: the queue invariant needs the pc-level one and `SubInv.held`, `ConsInv` needs
`QInv.subPipe` -/
theorem inv_step {s s' : State} (h : Inv s) (hs : Step s s') : Inv s' :=
  ⟨hs.nw ▸ h.nw, step_tokInv h.tok hs, pipes_step hs (fun _ _ hi _ e => pinv_step hi e) h.pc,
    pipes_step hs (fun p hp hq _ e => qinv_step (h.pc p hp) hq (fun j hj => h.sub.held p j (.inr hj)) e) h.queue,
    step_subInv h.sub hs, step_consInv h.cons h.queue hs⟩

theorem reachable_inv {s : State} (h : Reachable s) : Inv s := by
  obtain ⟨nw, pipes, sched, h1, h2, h3⟩ := h
  exact isRun.invariant (fun _ _ _ hi hs => inv_step hi (step_sound hs)) (inv_init h1 h2) h3

end Octo.JsonPipe
