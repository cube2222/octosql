import Octo.Lemmas.JsonPipeBasic
/-! What the consumer's batch processing computes. `procBatch_eq` gives `procBatch P j` as one update
`{ P with produced, startIndex, pending, got, cpc, ret }` in its two outcomes: `Run` returns, or the batch is recorded
(`ProcCont`), the final check fails and the loop goes on. `step_sound` turns these into the constructors
`LocalStep.cProcRet` / `cProcLoop`, so that no proof after it looks into `procBatch`. `procBatch_frame` says the same field by
field. -/
namespace Octo.JsonPipe

/-- the fields of a pipe that the consumer's batch processing never touches -/
structure Frame (P Q : Pipe) : Prop where
  batch : Q.batch = P.batch
  scanErr : Q.scanErr = P.scanErr
  bad : Q.bad = P.bad
  stopAt : Q.stopAt = P.stopAt
  rpc : Q.rpc = P.rpc
  unread : Q.unread = P.unread
  nextLine : Q.nextLine = P.nextLine
  linesRead : Q.linesRead = P.linesRead
  tokens : Q.tokens = P.tokens
  out : Q.out = P.out
  done : Q.done = P.done
  parentCancelled : Q.parentCancelled = P.parentCancelled
  localCancelled : Q.localCancelled = P.localCancelled
  readerDone : Q.readerDone = P.readerDone
  doneNil : Q.doneNil = P.doneNil
  sub : Q.sub = P.sub

theorem Frame.cancelled {P Q : Pipe} (h : Frame P Q) : Q.cancelled = P.cancelled := by
  simp [Pipe.cancelled, h.parentCancelled, h.localCancelled]

theorem flush_eq (fuel : Nat) (P : Pipe) :
    ∃ pr si pe, (flush fuel P).1 = { P with produced := pr, startIndex := si, pending := pe } := by
  induction fuel generalizing P with
  | zero => exact ⟨_, _, _, rfl⟩
  | succ n ih =>
    rw [flush]
    split
    · exact ⟨_, _, _, rfl⟩
    · split
      · exact ⟨_, _, _, rfl⟩
      · exact ih _

theorem flush_got (fuel : Nat) (P : Pipe) : (flush fuel P).1.got = P.got := by
  obtain ⟨_, _, _, e⟩ := flush_eq fuel P; rw [e]

theorem finishBatch_cases (P : Pipe) :
    (finishBatch P = { P with cpc := .ret, ret := .ok } ∧ P.readerDone = true ∧ P.startIndex = P.linesRead)
    ∨ (finishBatch P = { P with cpc := .sel } ∧ ¬ (P.readerDone = true ∧ P.startIndex = P.linesRead)) := by
  unfold finishBatch
  split
  · rename_i h; exact Or.inl ⟨rfl, h⟩
  · rename_i h; exact Or.inr ⟨rfl, h⟩

/-- the queue state right before the final check, when the batch `j` was processed without returning -/
inductive ProcCont (P : Pipe) (j : Job) : Pipe → Prop
  | buffer (h1 : P.startIndex < j.first) : ProcCont P j { P with pending := j :: P.pending, got := j :: P.got }
  | emit (h1 : j.first = P.startIndex)
      (h2 : (flush P.pending.length { P with produced := P.produced + j.n, startIndex := P.startIndex + j.n }).2 = false) :
      ProcCont P j { (flush P.pending.length { P with produced := P.produced + j.n, startIndex := P.startIndex + j.n }).1 with
        got := j :: (flush P.pending.length { P with produced := P.produced + j.n, startIndex := P.startIndex + j.n }).1.got }

theorem procCont_eq {P Q : Pipe} {j : Job} (h : ProcCont P j Q) :
    ∃ pr si pe, Q = { P with produced := pr, startIndex := si, pending := pe, got := j :: P.got } := by
  cases h with
  | buffer _ => exact ⟨_, _, _, rfl⟩
  | emit _ _ =>
    obtain ⟨pr, si, pe, e⟩ := flush_eq P.pending.length { P with produced := P.produced + j.n, startIndex := P.startIndex + j.n }
    rw [e]; exact ⟨_, _, _, rfl⟩

theorem procBatch_cases (P : Pipe) (j : Job) :
    (∃ pr si pe r, procBatch P j = { P with produced := pr, startIndex := si, pending := pe, cpc := .ret, ret := r })
    ∨ ∃ Q, ProcCont P j Q ∧ procBatch P j = finishBatch Q := by
  unfold procBatch
  by_cases h1 : j.first < P.startIndex
  · rw [if_pos h1]; exact .inl ⟨_, _, _, _, rfl⟩
  rw [if_neg h1]
  by_cases h2 : j.first = P.startIndex
  · rw [if_pos h2]
    generalize stopHit P.produced _ P.stopAt = sh
    cases sh with
    | some r => exact .inl ⟨_, _, _, _, rfl⟩
    | none =>
      generalize firstBad P.bad j.first j.n = e
      cases e with
      | some x => exact .inl ⟨_, _, _, _, rfl⟩
      | none =>
        generalize hfl : flush P.pending.length _ = fl
        by_cases h3 : fl.2 = true
        · rw [if_pos h3]; subst hfl
          obtain ⟨pr, si, pe, e⟩ :=
            flush_eq P.pending.length { P with produced := P.produced + j.n, startIndex := P.startIndex + j.n }
          rw [e]; exact .inl ⟨_, _, _, _, rfl⟩
        · rw [if_neg h3]; subst hfl
          exact .inr ⟨_, .emit h2 (by simpa using h3), rfl⟩
  · rw [if_neg h2]
    generalize firstBad P.bad j.first j.n = e
    cases e with
    | some x => exact .inl ⟨_, _, _, _, rfl⟩
    | none => exact .inr ⟨_, .buffer (by omega), rfl⟩

theorem procBatch_eq (P : Pipe) (j : Job) :
    ∃ pr si pe g c r, procBatch P j = { P with produced := pr, startIndex := si, pending := pe, got := g, cpc := c, ret := r } ∧
      ((c = .ret ∧ (g = P.got ∨ g = j :: P.got)) ∨
       (c = .sel ∧ g = j :: P.got ∧ r = P.ret ∧ ¬ (P.readerDone = true ∧ si = P.linesRead) ∧
        ProcCont P j { P with produced := pr, startIndex := si, pending := pe, got := g })) := by
  obtain ⟨pr, si, pe, r, e⟩ | ⟨Q, hc, e⟩ := procBatch_cases P j
  · exact ⟨pr, si, pe, _, _, r, e, .inl ⟨rfl, .inl rfl⟩⟩
  · obtain ⟨pr, si, pe, rfl⟩ := procCont_eq hc
    obtain ⟨e', _⟩ | ⟨e', hn⟩ := finishBatch_cases
      { P with produced := pr, startIndex := si, pending := pe, got := j :: P.got }
    · exact ⟨pr, si, pe, _, _, _, e.trans e', .inl ⟨rfl, .inr rfl⟩⟩
    · exact ⟨pr, si, pe, _, _, _, e.trans e', .inr ⟨rfl, rfl, rfl, hn, hc⟩⟩

theorem procBatch_frame (P : Pipe) (j : Job) :
    Frame P (procBatch P j) ∧ ((procBatch P j).cpc = .sel ∨ (procBatch P j).cpc = .ret) := by
  obtain ⟨pr, si, pe, g, c, r, e, hc⟩ := procBatch_eq P j
  rw [e]
  exact ⟨by constructor <;> rfl, hc.elim (fun h => .inr h.1) (fun h => .inl h.1)⟩

end Octo.JsonPipe
