import Octo.Lemmas.JsonPipeTok
import Octo.Lemmas.JsonPipePc
/-! Every action strictly decreases `measure` (in states satisfying the invariants): all schedules are finite. -/
namespace Octo.JsonPipe

-- In the next two lemmas the summand that changes is moved to the end of both sides (`Nat.add_right_comm`): `omega`
-- proves such equations too, but its proofs of equations are slow to check.
theorem measure_setPipe (s : State) {p : Nat} (hp : p < s.np) (P' : Pipe) :
    measure (s.setPipe p P') + pipeMeasure (s.pipe p) = measure s + pipeMeasure P' := by
  have key := sumTo_update (fun q => pipeMeasure (s.pipe q)) (fun q => pipeMeasure ((s.setPipe p P').pipe q)) hp
    (fun q hq => by rw [setPipe_pipe_ne s P' hq])
  rw [setPipe_pipe_same] at key
  rw [measure, measure, setPipe_np, setPipe_jobs, setPipe_worker, setPipe_nw, Nat.add_right_comm _ _ (pipeMeasure _),
    Nat.add_right_comm _ _ (pipeMeasure _), key, Nat.add_right_comm _ (pipeMeasure _), Nat.add_right_comm _ (pipeMeasure _)]

theorem measure_setJobs (t : State) (J : List Job) :
    measure (t.setJobs J) + 5 * t.jobs.length = measure t + 5 * J.length := by
  rw [measure, measure, setJobs_np, setJobs_nw, setJobs_pipe, setJobs_jobs, setJobs_worker,
    Nat.add_right_comm _ (4 * _), Nat.add_right_comm _ (4 * _) (5 * J.length), Nat.add_right_comm _ (5 * J.length)]

theorem measure_setWorker (s : State) {w : Nat} (hw : w < s.nw) (x : Option Job) :
    measure (s.setWorker w x) + 4 * someCnt (s.worker w) = measure s + 4 * someCnt x := by
  rw [measure, measure, setWorker_pipe, setWorker_jobs, setWorker_np, setWorker_nw, Nat.add_assoc, Nat.add_assoc _ (4 * _),
    ← Nat.mul_add, ← Nat.mul_add, busy_setWorker s hw x]

/-- The frame conditions come after `h` and are closed by `rfl` once `h` has fixed `P'`: use as
`refine pipeMeasure_reader ?_` (given as explicit `rfl`s they would unify `P'` with `P`). -/
theorem pipeMeasure_reader {P P' : Pipe} {k : Nat} (h : rMeasure P' + k ≤ rMeasure P)
    (hc : cMeasure P' = cMeasure P := by rfl) (ho : P'.out = P.out := by rfl)
    (he : P'.parentCancelled = P.parentCancelled := by rfl) : pipeMeasure P' + k ≤ pipeMeasure P := by
  rw [pipeMeasure, pipeMeasure, hc, ho, he]; omega

theorem pipeMeasure_consumer {P P' : Pipe} (h : cMeasure P' + 3 * P'.out.length < cMeasure P + 3 * P.out.length)
    (hr : rMeasure P' = rMeasure P := by rfl) (he : P'.parentCancelled = P.parentCancelled := by rfl) :
    pipeMeasure P' + 1 ≤ pipeMeasure P := by
  rw [pipeMeasure, pipeMeasure, hr, he]; omega

theorem LocalStep.measure {P P' : Pipe} (h : LocalStep P P') : pipeMeasure P' < pipeMeasure P := by
  show pipeMeasure P' + 1 ≤ pipeMeasure P
  cases h with
  | rTok a | rStop a | rWriteFin a | rDone a | rTruncFin a =>
    refine pipeMeasure_reader ?_
    simp only [rMeasure, rMeasureOf, a]; omega
  | rWriteSel a h0 =>
    refine pipeMeasure_reader ?_
    simp only [rMeasure, rMeasureOf, a, Pipe.cur]; omega
  | cRecv k j rest a b =>
    refine pipeMeasure_consumer ?_
    simp only [cMeasure, cMeasureOf, a, takeAt_length b]; omega
  | cTok _ a | cCtx a | cCancel a | cProcRet a | cProcLoop a =>
    refine pipeMeasure_consumer ?_
    simp only [cMeasure, cMeasureOf, a]; omega
  | cDoneErr a b | cDoneRet a b | cDoneLoop a b =>
    refine pipeMeasure_consumer ?_
    simp only [cMeasure, cMeasureOf, a, b]; simp
  | pCancel a => simp only [pipeMeasure, a]; exact Nat.le_refl _
  | rTrunc u a b c =>
    refine pipeMeasure_reader ?_
    rcases c with ⟨c, _⟩ | ⟨c | c, hcur⟩
    · simp only [rMeasure, rMeasureOf, c]; omega
    · simp only [rMeasure, rMeasureOf, c]; omega
    · simp only [rMeasure, rMeasureOf, c, Pipe.cur] at hcur ⊢; omega

/-- Where the weights of `measure` come from. A submitted job enters the job channel with weight 5 and spends one unit
at each of `wTake` (4 at a worker), `wSend` (3 in `outChan`), `cRecv`, `cTok`, `cProc` (the 5, 4, 3 of `cMeasureOf`). The
reader pays for it: a line is worth 9, and of the `9 * cur` of a batch one unit goes at `rTok`, one at `rWrite`, and the
remaining `9 * cur - 2 ≥ 7` here, at `rSub` — more than the 5 the new job adds. -/
theorem pipeMeasure_submitted {P : Pipe} (hpi : PInv P) (h : P.rpc = .hold) (p : Nat) :
    pipeMeasure (P.submitted p) + 7 ≤ pipeMeasure P := by
  have hu := hpi.unreadPos (.inr (.inl h))
  have hb := hpi.batchPos
  refine pipeMeasure_reader ?_
  simp only [rMeasure, rMeasureOf, h, Pipe.submitted]; omega

theorem pipeMeasure_delivered (P : Pipe) (j : Job) : pipeMeasure (P.delivered j) = pipeMeasure P + 3 := by
  show rMeasure P + cMeasure P + 3 * (P.out ++ [j]).length + _ = rMeasure P + cMeasure P + 3 * P.out.length + _ + 3
  rw [List.length_append, List.length_singleton, Nat.mul_succ, ← Nat.add_assoc, Nat.add_right_comm _ 3]
  rfl

theorem step_measure {s s' : State} (ht : TokInv s) (hp : ∀ p, p < s.np → PInv (s.pipe p)) (hs : Step s s') :
    measure s' < measure s := by
  cases hs with
  | @loc p P' hp' hl =>
    have := measure_setPipe s hp' P'
    have := hl.measure
    omega
  | @rSub p hp' h1 h2 =>
    have e1 := measure_setJobs (s.setPipe p ((s.pipe p).submitted p)) (s.jobs ++ [⟨p, (s.pipe p).nextLine, (s.pipe p).cur⟩])
    have e2 := measure_setPipe s hp' ((s.pipe p).submitted p)
    have e3 := pipeMeasure_submitted (hp p hp') h1 p
    rw [setPipe_jobs, List.length_append, List.length_singleton] at e1
    omega
  | @wTake w k j rest hw h1 h2 =>
    have e1 := takeAt_length h2
    have e2 := measure_setWorker s hw (some j)
    have e3 := measure_setJobs (s.setWorker w (some j)) rest
    rw [h1] at e2
    rw [setWorker_jobs] at e3
    simp only [someCnt] at e2
    omega
  | @wSend w j hw h1 h2 =>
    have e2 := measure_setWorker s hw none
    have e3 := measure_setPipe (s.setWorker w none) (p := j.pipe) (ht.workersValid w j h1) ((s.pipe j.pipe).delivered j)
    have e4 := pipeMeasure_delivered (s.pipe j.pipe) j
    rw [h1] at e2
    rw [setWorker_pipe] at e3
    simp only [someCnt] at e2
    omega
  | @wDrop w j hw h1 h2 =>
    have e2 := measure_setWorker s hw none
    rw [h1] at e2
    simp only [someCnt] at e2
    omega

end Octo.JsonPipe
