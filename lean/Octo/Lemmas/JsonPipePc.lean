import Octo.Lemmas.JsonPipeStep
/-! Program-counter level invariants of a single pipe (reader / consumer / `done` / contexts), and the bound on its
tokens; and the other half of the hand-over of `linesRead`: once the reader has returned, `rpc` and `linesRead` stay as
they are (`run_exit_stable`). -/
namespace Octo.JsonPipe

/-- the consumer is inside `produceLoop` -/
def CPc.inLoop : CPc → Bool
  | .sel | .tok _ | .proc _ => true
  | .ret | .exit => false

structure PInv (P : Pipe) : Prop where
  batchPos : 1 ≤ P.batch
  /-- the reader is at its `select`, or past it, only with a batch built (`len(job.lines) == batchSize`, or `> 0` after the
  last line) -/
  unreadPos : (P.rpc = .sel ∨ P.rpc = .hold ∨ P.rpc = .write) → 1 ≤ P.unread
  /-- `Run` has returned exactly when its deferred `cancel()` has run -/
  exitLocal : P.cpc = .exit ↔ P.localCancelled = true
  /-- `linesRead += len(job.lines)` counts the batch just submitted: the shared variable is the first line of the next
  batch -/
  lr : P.linesRead = P.nextLine
  /-- the reader returns from `<-localCtx.Done()`, or after `done <- sc.Err()` -/
  readerExit : P.rpc = .exit → (P.cancelled = true ∨ P.done.isSome = true ∨ P.doneNil = true)
  /-- … and that send is its last operation -/
  doneSent : (P.done.isSome = true ∨ P.doneNil = true) → P.rpc = .exit
  /-- `fileReaderIsDone = true` and `done = nil` are set together, in the `done` branch -/
  rdNil : P.readerDone = true → P.doneNil = true
  /-- … and with an error taken from `done` that branch returns instead -/
  nilLoop : P.doneNil = true → P.cpc.inLoop = true → P.readerDone = true
  /-- once `fileReaderIsDone`, the consumer is in its loop only because the last evaluation of
  `fileReaderIsDone && startIndex == linesRead` (after a batch, or in the `done` branch) failed; `linesRead` has not moved
  since (`doneSent`). This is what excludes the state "everything drained, consumer still waiting"
  (`drained_contradiction`). -/
  check : P.readerDone = true → P.cpc.inLoop = true → P.startIndex ≠ P.linesRead
  tokLe : P.tokens ≤ tokCap

/-- while the reader has not returned, nothing was sent on `done` -/
theorem PInv.nothingSent {P : Pipe} (h : PInv P) {r : RPc} (a : P.rpc = r) (x : P.done.isSome = true ∨ P.doneNil = true)
    (hr : r ≠ .exit := by nofun) : False :=
  hr (a.symm.trans (h.doneSent x))

/-- while `Run` has not returned, the local context is not cancelled -/
theorem PInv.notCancelled {P : Pipe} (h : PInv P) {c : CPc} (a : P.cpc = c) (x : P.localCancelled = true)
    (hc : c ≠ .exit := by nofun) : False :=
  hc (a.symm.trans (h.exitLocal.mpr x))

theorem pinv_init {P : Pipe} (h : P.IsInit) : PInv P := by
  obtain ⟨lines, batch, se, bad, st, hb, rfl⟩ := h
  refine ⟨hb, ?_, ⟨nofun, nofun⟩, rfl, ?_, fun x => x.elim (nofun) (nofun),
    nofun, nofun, nofun, Nat.zero_le _⟩
  · simp only [Pipe.init]
    split <;> simp <;> omega
  · simp only [Pipe.init]
    split <;> simp

/-- The successor of every step is an explicit update of `P`, so each field of `PInv P'` unfolds to a statement about `P`:
`{ h with … }` takes the fields of `h` where the step changes nothing they mention (for `wSend` all of them — `exact h`
would not do, the pipes differ) and restates the others. -/
theorem pinv_step {p : Nat} {P P' : Pipe} (h : PInv P) (hs : PipeStep p P P') : PInv P' := by
  cases hs with
  | rSub a =>
    exact { h with unreadPos := fun _ => h.unreadPos (.inr (.inl a)), readerExit := nofun,
                   doneSent := fun x => (h.nothingSent a x).elim }
  | wSend j a => exact { h with }
  | loc hl =>
    cases hl with
    | rTok a b =>
      exact { h with unreadPos := fun _ => h.unreadPos (.inl a), readerExit := nofun,
                     doneSent := fun x => (h.nothingSent a x).elim, tokLe := b }
    | rStop a b => exact { h with unreadPos := nofun, readerExit := fun _ => .inl b, doneSent := fun _ => rfl }
    | rWriteFin a h0 =>
      -- `linesRead` moves: `check` survives because the consumer cannot have `fileReaderIsDone` yet
      exact { h with unreadPos := nofun, lr := congrArg (· + P.cur) h.lr, readerExit := nofun,
                     doneSent := fun x => (h.nothingSent a x).elim,
                     check := fun x => (h.nothingSent a (.inr (h.rdNil x))).elim }
    | rWriteSel a h0 =>
      exact { h with unreadPos := fun _ => Nat.pos_of_ne_zero h0, lr := congrArg (· + P.cur) h.lr, readerExit := nofun,
                     doneSent := fun x => (h.nothingSent a x).elim,
                     check := fun x => (h.nothingSent a (.inr (h.rdNil x))).elim }
    | rDone a => exact { h with unreadPos := nofun, readerExit := fun _ => .inr (.inl rfl), doneSent := fun _ => rfl }
    | cRecv _ _ _ a =>
      exact { h with exitLocal := ⟨nofun, fun x => (h.notCancelled a x).elim⟩,
                     nilLoop := fun x _ => h.nilLoop x (congrArg CPc.inLoop a),
                     check := fun x _ => h.check x (congrArg CPc.inLoop a) }
    | cTok _ a =>
      exact { h with exitLocal := ⟨nofun, fun x => (h.notCancelled a x).elim⟩,
                     nilLoop := fun x _ => h.nilLoop x (congrArg CPc.inLoop a),
                     check := fun x _ => h.check x (congrArg CPc.inLoop a),
                     tokLe := Nat.le_trans (Nat.sub_le ..) h.tokLe }
    | cProcLoop a hn =>
      exact { h with exitLocal := ⟨nofun, fun x => (h.notCancelled a x).elim⟩,
                     nilLoop := fun x _ => h.nilLoop x (congrArg CPc.inLoop a), check := fun x _ e => hn ⟨x, e⟩ }
    | cDoneErr a b c | cDoneRet a b c =>
      exact { h with exitLocal := ⟨nofun, fun x => (h.notCancelled a x).elim⟩,
                     readerExit := fun _ => .inr (.inr rfl), doneSent := fun _ => h.doneSent (.inl (congrArg Option.isSome c)),
                     rdNil := fun _ => rfl, nilLoop := fun _ => nofun, check := fun _ => nofun }
    | cDoneLoop a b c d =>
      exact { h with readerExit := fun _ => .inr (.inr rfl), doneSent := fun _ => h.doneSent (.inl (congrArg Option.isSome c)),
                     rdNil := fun _ => rfl, nilLoop := fun _ _ => rfl, check := fun _ _ => d }
    | cCtx a | cProcRet a =>
      exact { h with exitLocal := ⟨nofun, fun x => (h.notCancelled a x).elim⟩,
                     nilLoop := fun _ => nofun, check := fun _ => nofun }
    | cCancel a =>
      exact { h with exitLocal := ⟨fun _ => rfl, fun _ => rfl⟩, readerExit := fun _ => .inl (by simp [Pipe.cancelled]),
                     nilLoop := fun _ => nofun, check := fun _ => nofun }
    | pCancel a => exact { h with readerExit := fun _ => .inl rfl }
    | rTruncFin a b c =>
      exact { h with unreadPos := nofun, readerExit := nofun, doneSent := fun x => (h.nothingSent a x).elim }
    | rTrunc u a b c =>
      refine { h with unreadPos := fun _ => ?_ }
      rcases c with ⟨_, hu⟩ | ⟨c, hcur⟩
      · exact Nat.pos_of_ne_zero hu
      · have hpos := h.unreadPos (.inr c)
        have hb := h.batchPos
        simp only [Pipe.cur] at hcur
        show 1 ≤ u
        omega

theorem pipeStep_exit_stable {p : Nat} {P P' : Pipe} (hs : PipeStep p P P') (h : P.rpc = .exit) :
    P'.rpc = .exit ∧ P'.linesRead = P.linesRead := by
  cases hs with
  | rSub a => exact nomatch h.symm.trans a
  | wSend j a => exact ⟨h, rfl⟩
  | loc hl =>
    cases hl with
    | rTok a | rStop a | rWriteFin a | rWriteSel a | rDone a | rTruncFin a => exact nomatch h.symm.trans a
    | cRecv | cTok | cProcRet | cProcLoop | cDoneErr | cDoneRet | cDoneLoop | cCtx | cCancel | pCancel | rTrunc => exact ⟨h, rfl⟩

theorem run_exit_stable {s t : State} {sched : List Action} {p : Nat} (hr : run s sched = some t)
    (h : (s.pipe p).rpc = .exit) : (t.pipe p).rpc = .exit ∧ (t.pipe p).linesRead = (s.pipe p).linesRead := by
  refine isRun.invariant (I := fun t => (t.pipe p).rpc = .exit ∧ (t.pipe p).linesRead = (s.pipe p).linesRead)
    (fun u a u' hi hs => ?_) ⟨h, rfl⟩ hr
  rcases (step_sound hs).pipe p with e | e
  · rw [e]; exact hi
  · exact ⟨(pipeStep_exit_stable e hi.1).1, (pipeStep_exit_stable e hi.1).2.trans hi.2⟩

end Octo.JsonPipe
