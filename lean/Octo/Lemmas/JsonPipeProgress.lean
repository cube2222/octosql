import Octo.Lemmas.JsonPipeCons
/-! Progress: in a reachable state, a pipe that is not finished can always be advanced by a pool worker or by its
own reader / consumer — never by waiting for another pipe's consumer, and never only by the environment. -/
namespace Octo.JsonPipe

def Action.isWorker : Action → Bool
  | .wTake _ _ | .wSend _ | .wDrop _ => true
  | _ => false

/-- actions of the reader goroutine or of the consumer loop of pipe `p` (not the environment's `pCancel`) -/
def Action.ofPipe (p : Nat) : Action → Bool
  | .rTok q | .rStop q | .rSub q | .rWrite q | .rDone q => q = p
  | .cRecv q _ | .cTok q | .cProc q | .cDone q | .cCtx q | .cCancel q => q = p
  | _ => false

theorem worker_send_enabled {s : State} (h : Inv s) {w : Nat} {j : Job} (hw : w < s.nw)
    (hj : s.worker w = some j) : (step s (.wSend w)).isSome = true := by
  have hjp := h.tok.workersValid w j hj
  have h1 := h.tok.le j.pipe hjp
  have h2 := (h.pc j.pipe hjp).tokLe
  have h3 := busyWith_pos hw hj
  have := tokCap_le_outCap
  rw [inflight] at h1
  have hlen : (s.pipe j.pipe).out.length < outCap := by omega
  rw [step, hj]
  exact Option.isSome_ite.mpr ⟨hw, hlen⟩

theorem consumer_token_enabled {s : State} (h : Inv s) {p : Nat} {j : Job} (hp : p < s.np)
    (hc : (s.pipe p).cpc = .tok j) : (step s (.cTok p)).isSome = true := by
  have h1 := h.tok.le p hp
  rw [inflight, hc] at h1
  have htok : 0 < (s.pipe p).tokens := by simp only [ctokCnt] at h1; omega
  rw [step, hc]
  exact Option.isSome_ite.mpr ⟨hp, htok⟩

/-- the drained state "reader finished, every batch processed, consumer still waiting" does not exist -/
theorem drained_contradiction {s : State} (h : Inv s) {p : Nat} (hp : p < s.np)
    (hsel : (s.pipe p).cpc = .sel) (hout : (s.pipe p).out = []) (hjobs : s.jobs = [])
    (hidle : ∀ w, w < s.nw → s.worker w = none) (hrx : (s.pipe p).rpc = .exit)
    (hrd : (s.pipe p).readerDone = true) (hcan : (s.pipe p).cancelled = false) : False := by
  have hpi := h.pc p hp
  have hq := h.queue p hp
  have hloop : (s.pipe p).cpc.inLoop = true := congrArg CPc.inLoop hsel
  have hcons := h.cons p hp hloop hcan
  have hqf := hq.queue hloop
  have hchain' : Chain 0 (s.pipe p).sub (s.pipe p).nextLine := by
    have := hq.chain
    rwa [subEnd_of_ne_write (by rw [hrx]; nofun)] at this
  have hall : ∀ j, j ∈ (s.pipe p).sub → j ∈ (s.pipe p).got := by
    intro j hj
    rcases hcons j hj with h1 | ⟨w, hw, h1⟩ | (h1 | h1 | h1) | h1
    · rw [hjobs] at h1; contradiction
    · rw [hidle w hw] at h1; contradiction
    · rw [hout] at h1; contradiction
    · exact nomatch hsel.symm.trans h1
    · exact nomatch hsel.symm.trans h1
    · exact h1
  have hne := hpi.check hrd hloop
  rw [hpi.lr] at hne
  exact hne (hqf.complete hchain' hq.gotSub hall)

theorem pool_never_wedged {s : State} (h : Reachable s) {p : Nat} (hp : p < s.np) (hnf : ¬ s.pipeFinal p) :
    ∃ a, (a.isWorker = true ∨ a.ofPipe p = true) ∧ (step s a).isSome = true := by
  have h := reachable_inv h
  by_cases hb : ∃ w j, w < s.nw ∧ s.worker w = some j
  · obtain ⟨w, j, hw, hj⟩ := hb
    exact ⟨.wSend w, .inl rfl, worker_send_enabled h hw hj⟩
  have hidle : ∀ w, w < s.nw → s.worker w = none := fun w hw =>
    Option.eq_none_iff_forall_ne_some.mpr (fun j hj => hb ⟨w, j, hw, hj⟩)
  by_cases hjobs : s.jobs = []
  case neg =>
    -- a job is waiting and all workers are idle
    obtain ⟨x, r, hx⟩ := takeAt_zero_of_ne_nil hjobs
    have hnw := h.nw
    exact ⟨.wTake 0 0, .inl rfl, by rw [step, if_pos ⟨hnw, hidle 0 hnw⟩, hx]; rfl⟩
  -- nothing in the pool: the pipe itself can move
  have ht := h.tok
  have hpi := h.pc p hp
  suffices h' : ∃ a, a.ofPipe p = true ∧ (step s a).isSome = true from h'.elim fun a ha => ⟨a, .inr ha.1, ha.2⟩
  -- `Action.ofPipe p a` unfolds, for an action `a` of pipe `q`, to `decide (q = p)`: `pp` is its proof for the actions of `p`
  have pp : decide (p = p) = true := decide_eq_true rfl
  -- a reader that holds a batch, or has reached the end of the input, goes on
  by_cases hmid : (s.pipe p).rpc = .hold ∨ (s.pipe p).rpc = .write ∨ (s.pipe p).rpc = .fin
  · rcases hmid with hr | hr | hr
    · exact ⟨.rSub p, pp, Option.isSome_ite.mpr ⟨hp, hr, by rw [hjobs]; exact jobCap_pos⟩⟩
    · exact ⟨.rWrite p, pp, Option.isSome_ite.mpr ⟨hp, hr⟩⟩
    · exact ⟨.rDone p, pp, Option.isSome_ite.mpr ⟨hp, hr⟩⟩
  -- the reader is at its `select` or has returned: what can move depends on the consumer
  cases hc : (s.pipe p).cpc with
  | tok j => exact ⟨.cTok p, pp, consumer_token_enabled h hp hc⟩
  | proc j => exact ⟨.cProc p, pp, by rw [step, hc]; exact Option.isSome_ite.mpr hp⟩
  | ret => exact ⟨.cCancel p, pp, Option.isSome_ite.mpr ⟨hp, hc⟩⟩
  | exit =>
    cases hr : (s.pipe p).rpc with
    | hold | write | fin => exact (hmid (by simp [hr])).elim
    | sel => exact ⟨.rStop p, pp, Option.isSome_ite.mpr ⟨hp, hr, by simp [Pipe.cancelled, hpi.exitLocal.mp hc]⟩⟩
    | exit => exact (hnf ⟨hc, hr, by rw [hjobs]; rfl, busyWith_idle hidle p⟩).elim
  | sel =>
    by_cases hout : (s.pipe p).out = []
    case neg =>
      obtain ⟨x, r, hx⟩ := takeAt_zero_of_ne_nil hout
      exact ⟨.cRecv p 0, pp, by rw [step, if_pos ⟨hp, hc⟩, hx]; rfl⟩
    cases hpc : (s.pipe p).parentCancelled with
    | true => exact ⟨.cCtx p, pp, Option.isSome_ite.mpr ⟨hp, hc, hpc⟩⟩
    | false =>
      have hlc : (s.pipe p).localCancelled = false :=
        Bool.eq_false_iff.mpr (fun hl => hpi.notCancelled hc hl)
      have hcan : (s.pipe p).cancelled = false := by simp [Pipe.cancelled, hpc, hlc]
      cases hr : (s.pipe p).rpc with
      | hold | write | fin => exact (hmid (by simp [hr])).elim
      | sel =>
        have h1 := ht.eq p hp hcan
        rw [inflight, hc, hr, hjobs, busyWith_idle hidle p, hout] at h1
        exact ⟨.rTok p, pp, Option.isSome_ite.mpr ⟨hp, hr, h1 ▸ tokCap_pos⟩⟩
      | exit =>
        cases hdn : (s.pipe p).doneNil with
        | false =>
          rcases hpi.readerExit hr with h1 | h1 | h1
          · rw [hcan] at h1; contradiction
          · obtain ⟨e, hd⟩ := Option.isSome_iff_exists.mp h1
            exact ⟨.cDone p, pp, by rw [step, if_pos ⟨hp, hc, hdn⟩, hd]; cases e <;> rfl⟩
          · rw [hdn] at h1; contradiction
        | true =>
          exact (drained_contradiction h hp hc hout hjobs hidle hr (hpi.nilLoop hdn (congrArg CPc.inLoop hc)) hcan).elim

end Octo.JsonPipe
