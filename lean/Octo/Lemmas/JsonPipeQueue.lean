import Octo.Lemmas.JsonPipePc
/-! The batches submitted by a reader are consecutive line intervals (`Chain`). The consumer's reorder queue:
relation between `startIndex`, `pending` and the processed batches `got`, for batches that come from one chain, in
any arrival order. -/
namespace Octo.JsonPipe

/-- `l` is a list of consecutive non-empty line intervals from line `a` to line `b` -/
def Chain : Nat → List Job → Nat → Prop
  | a, [], b => a = b
  | a, j :: js, b => j.first = a ∧ 1 ≤ j.n ∧ Chain (a + j.n) js b

theorem chain_le {a b : Nat} {l : List Job} (h : Chain a l b) : a ≤ b := by
  induction l generalizing a with
  | nil => exact Nat.le_of_eq h
  | cons j js ih => exact Nat.le_trans (Nat.le_add_right ..) (ih h.2.2)

theorem chain_append {a b : Nat} {l : List Job} (h : Chain a l b) (p n : Nat) (hn : 1 ≤ n) :
    Chain a (l ++ [⟨p, b, n⟩]) (b + n) := by
  induction l generalizing a with
  | nil => obtain rfl : a = b := h; exact ⟨rfl, hn, rfl⟩
  | cons j js ih => exact ⟨h.1, h.2.1, ih h.2.2⟩

theorem chain_mem_bounds {a b : Nat} {l : List Job} (h : Chain a l b) {j : Job} (hj : j ∈ l) :
    a ≤ j.first ∧ 1 ≤ j.n ∧ j.first + j.n ≤ b := by
  induction l generalizing a with
  | nil => contradiction
  | cons x xs ih =>
    obtain ⟨h1, h2, h3⟩ := h
    rcases List.mem_cons.mp hj with rfl | hj
    · have := chain_le h3; omega
    · have := ih h3 hj; omega

theorem chain_overlap {a b : Nat} {l : List Job} (h : Chain a l b) {x y : Job} (hx : x ∈ l) (hy : y ∈ l)
    (hxy : x.first < y.first + y.n) (hyx : y.first < x.first + x.n) : x.first = y.first ∧ x.n = y.n := by
  induction l generalizing a with
  | nil => contradiction
  | cons z zs ih =>
    obtain ⟨h1, h2, h3⟩ := h
    rcases List.mem_cons.mp hx with rfl | hx'
    · rcases List.mem_cons.mp hy with rfl | hy'
      · exact ⟨rfl, rfl⟩
      · have := chain_mem_bounds h3 hy'; omega
    · rcases List.mem_cons.mp hy with rfl | hy'
      · have := chain_mem_bounds h3 hx'; omega
      · exact ih h3 hx' hy'

theorem chain_cover {a b : Nat} {l : List Job} (h : Chain a l b) {x : Nat} (h1 : a ≤ x) (h2 : x < b) :
    ∃ j, j ∈ l ∧ j.first ≤ x ∧ x < j.first + j.n := by
  induction l generalizing a with
  | nil => exact absurd (h ▸ h2) (Nat.not_lt.mpr h1)
  | cons z zs ih =>
    obtain ⟨hz, _, h3⟩ := h
    by_cases hx : x < a + z.n
    · exact ⟨z, List.mem_cons_self .., hz ▸ h1, hz ▸ hx⟩
    · obtain ⟨j, hj, h4⟩ := ih h3 (Nat.not_lt.mp hx)
      exact ⟨j, List.mem_cons_of_mem _ hj, h4⟩

theorem findStart_spec (l : List Job) (s : Nat) :
    match findStart l s with
    | some (k, rest) => l.Perm (k :: rest) ∧ k.first = s
    | none => ∀ y, y ∈ l → y.first ≠ s := by
  induction l with
  | nil => exact nofun
  | cons x xs ih =>
    rw [findStart]
    by_cases hx : x.first = s
    · rw [if_pos hx]; exact ⟨.refl _, hx⟩
    · rw [if_neg hx]
      cases hk : findStart xs s with
      | none => rw [hk] at ih; exact fun y hy => (List.mem_cons.mp hy).elim (fun e => e ▸ hx) (ih y)
      | some kr => rw [hk] at ih; exact ⟨(ih.1.cons x).trans (.swap ..), ih.2⟩

/-- the queue facts, relative to the set `G` of batches processed so far. `G` is a parameter, not `P.got`: `procBatch` runs
the flush before it records the batch in `got`, so during the flush the set is `j :: P.got` while the pipe still says
`P.got` (see the end of `procCont_qfacts`). -/
structure QFacts (G : List Job) (start : Nat) (pending : List Job) : Prop where
  pendGot : ∀ j, j ∈ pending → j ∈ G
  emitted : ∀ j, j ∈ G → j ∈ pending ∨ j.first + j.n ≤ start
  ahead : ∀ j, j ∈ pending → start < j.first ∨ j.first + j.n ≤ start
  boundary : start = 0 ∨ ∃ e, e ∈ G ∧ start = e.first + e.n

/-- the queue facts in the middle of a flush: a pending batch may start exactly at `start` (it is emitted next) -/
structure QPre (G : List Job) (start : Nat) (pending : List Job) : Prop where
  pendGot : ∀ j, j ∈ pending → j ∈ G
  emitted : ∀ j, j ∈ G → j ∈ pending ∨ j.first + j.n ≤ start
  ahead : ∀ j, j ∈ pending → start ≤ j.first ∨ j.first + j.n ≤ start
  boundary : start = 0 ∨ ∃ e, e ∈ G ∧ start = e.first + e.n

theorem QFacts.pre {G : List Job} {start : Nat} {pending : List Job} (h : QFacts G start pending) : QPre G start pending :=
  ⟨h.pendGot, h.emitted, fun j hj => (h.ahead j hj).imp Nat.le_of_lt id, h.boundary⟩

theorem QPre.facts {G : List Job} {start : Nat} {pending : List Job} (h : QPre G start pending)
    (hn : ∀ j, j ∈ pending → j.first ≠ start) : QFacts G start pending :=
  ⟨h.pendGot, h.emitted, fun j hj => (h.ahead j hj).imp (fun h' => Nat.lt_of_le_of_ne h' (hn j hj).symm) id, h.boundary⟩

theorem QPre.buffer {G : List Job} {start : Nat} {pending : List Job} (h : QPre G start pending) {j : Job}
    (hj : start ≤ j.first) : QPre (j :: G) start (j :: pending) := by
  refine ⟨fun x hx => ?_, fun x hx => ?_, fun x hx => ?_, h.boundary.imp id (fun ⟨e, he, h'⟩ => ⟨e, .tail _ he, h'⟩)⟩
  · exact (List.mem_cons.mp hx).elim (fun e => e ▸ .head _) (fun hx => .tail _ (h.pendGot x hx))
  · exact (List.mem_cons.mp hx).elim (fun e => e ▸ .inl (.head _)) (fun hx => (h.emitted x hx).imp (.tail _) id)
  · exact (List.mem_cons.mp hx).elim (fun e => e ▸ .inl hj) (h.ahead x)

theorem QPre.emit {S G : List Job} {b start : Nat} {pending rest : List Job} {k : Job} (hchain : Chain 0 S b)
    (hGS : ∀ j, j ∈ G → j ∈ S) (h : QPre G start pending) (hp : pending.Perm (k :: rest)) (hk : k.first = start) :
    QPre G (start + k.n) rest := by
  have hkp : k ∈ pending := hp.mem_iff.mpr (.head _)
  have hsub : ∀ j, j ∈ rest → j ∈ pending := fun j hj => hp.mem_iff.mpr (.tail _ hj)
  refine ⟨fun j hj => h.pendGot j (hsub j hj), fun j hj => ?_, fun j hj => ?_, .inr ⟨k, h.pendGot k hkp, by omega⟩⟩
  · rcases h.emitted j hj with h' | h'
    · rcases List.mem_cons.mp (hp.mem_iff.mp h') with rfl | h'
      · right; omega
      · exact .inl h'
    · right; omega
  · -- `j` and the emitted `k` are intervals of one chain: `j` is `k` again or lies beyond it
    have hjS := hGS j (h.pendGot j (hsub j hj))
    have := chain_mem_bounds hchain hjS
    have := chain_overlap hchain (hGS k (h.pendGot k hkp)) hjS
    have := h.ahead j (hsub j hj)
    omega

theorem flush_spec {S G : List Job} {b : Nat} (hchain : Chain 0 S b) (hGS : ∀ j, j ∈ G → j ∈ S)
    (fuel : Nat) (P : Pipe) (h : QPre G P.startIndex P.pending)
    (hfuel : P.pending.length ≤ fuel) (hns : (flush fuel P).2 = false) :
    QFacts G (flush fuel P).1.startIndex (flush fuel P).1.pending := by
  induction fuel generalizing P with
  | zero =>
    have : P.pending = [] := List.eq_nil_of_length_eq_zero (Nat.le_zero.mp hfuel)
    exact h.facts (by rw [this]; nofun)
  | succ n ih =>
    rw [flush] at hns ⊢
    have hs := findStart_spec P.pending P.startIndex
    cases hf : findStart P.pending P.startIndex with
    | none => rw [hf] at hs; exact h.facts hs
    | some kr =>
      obtain ⟨k, rest⟩ := kr
      rw [hf] at hs hns
      obtain ⟨hp, hk⟩ := hs
      dsimp only at hns ⊢
      cases hst : stopHit P.produced k.n P.stopAt with
      | some r => rw [hst] at hns; contradiction
      | none =>
        rw [hst] at hns
        have hlen : rest.length ≤ n := by have := hp.length_eq; simp only [List.length_cons] at this; omega
        exact ih _ (h.emit hchain hGS hp hk) hlen hns

/-- The reorder queue is complete: once every batch of the chain has been processed (`hSG`), in whatever order they arrived,
`start` is the end of the chain. Below it, `start` is a boundary of the chain, so some batch starts there; that batch was
processed but not emitted (it does not end at or before `start`), so it is pending — and no pending batch starts at `start`. -/
theorem QFacts.complete {S G pending : List Job} {start b : Nat} (h : QFacts G start pending) (hchain : Chain 0 S b)
    (hGS : ∀ j, j ∈ G → j ∈ S) (hSG : ∀ j, j ∈ S → j ∈ G) : start = b := by
  apply Nat.le_antisymm
  · rcases h.boundary with h0 | ⟨e, he, h1⟩
    · omega
    · have := chain_mem_bounds hchain (hGS e he); omega
  · apply Nat.le_of_not_lt
    intro hlt
    obtain ⟨j, hj, h1, h2⟩ := chain_cover hchain (Nat.zero_le _) hlt
    rcases h.emitted j (hSG j hj) with h3 | h3
    · rcases h.ahead j h3 with h4 | h4 <;> omega
    · omega

/-- end of the last submitted batch -/
def subEnd (P : Pipe) : Nat := P.nextLine + (if P.rpc = .write then P.cur else 0)

theorem subEnd_of_ne_write {P : Pipe} (h : P.rpc ≠ .write) : subEnd P = P.nextLine := by
  rw [subEnd, if_neg h, Nat.add_zero]

structure QInv (p : Nat) (P : Pipe) : Prop where
  chain : Chain 0 P.sub (subEnd P)
  subPipe : ∀ j, j ∈ P.sub → j.pipe = p
  gotSub : ∀ j, j ∈ P.got → j ∈ P.sub
  queue : P.cpc.inLoop = true → QFacts P.got P.startIndex P.pending

theorem qinv_init (p : Nat) {P : Pipe} (h : P.IsInit) : QInv p P := by
  obtain ⟨lines, batch, se, bad, st, hb, rfl⟩ := h
  refine ⟨?_, nofun, nofun, fun _ => ⟨nofun, nofun, nofun, .inl rfl⟩⟩
  simp only [Pipe.init, subEnd, Chain]
  split <;> simp

theorem procCont_qfacts {P Q : Pipe} {j : Job} {b : Nat} (hc : ProcCont P j Q) (hchain : Chain 0 P.sub b)
    (hgs : ∀ x, x ∈ P.got → x ∈ P.sub) (hj : j ∈ P.sub) (hq : QFacts P.got P.startIndex P.pending) :
    QFacts Q.got Q.startIndex Q.pending := by
  cases hc with
  | buffer h1 =>
    have hb := hq.pre.buffer (Nat.le_of_lt h1)
    refine ⟨hb.pendGot, hb.emitted, fun x hx => ?_, hb.boundary⟩
    rcases List.mem_cons.mp hx with rfl | hx
    · exact .inl h1
    · exact hq.ahead x hx
  | emit h1 h2 =>
    have hG : ∀ x, x ∈ j :: P.got → x ∈ P.sub := fun x hx => (List.mem_cons.mp hx).elim (fun e => e ▸ hj) (hgs x)
    have key := flush_spec hchain hG P.pending.length
      { P with produced := P.produced + j.n, startIndex := P.startIndex + j.n }
      ((hq.pre.buffer (Nat.le_of_eq h1.symm)).emit hchain hG (.refl _) h1) (Nat.le_refl _) h2
    show QFacts (j :: (flush _ _).1.got) _ _
    rw [flush_got]
    exact key

theorem qinv_step {p : Nat} {P P' : Pipe} (hpi : PInv P) (h : QInv p P) (hheld : ∀ j, P.cpc = .proc j → j ∈ P.sub)
    (hs : PipeStep p P P') : QInv p P' := by
  cases hs with
  | rSub a =>
    have hu := hpi.unreadPos (.inr (.inl a))
    have hb := hpi.batchPos
    have hcur : 1 ≤ P.cur := by simp only [Pipe.cur]; omega
    have h1 := h.chain
    rw [subEnd_of_ne_write (by rw [a]; nofun)] at h1
    refine { h with chain := chain_append h1 p P.cur hcur, subPipe := fun j hj => ?_,
                    gotSub := fun j hj => List.mem_append_left _ (h.gotSub j hj) }
    rcases List.mem_append.mp hj with hj | hj
    · exact h.subPipe j hj
    · rw [List.mem_singleton.mp hj]
  | wSend j a => exact { h with }
  | loc hl =>
    cases hl with
    | rTok a | rStop a | rDone a | rTruncFin a | rWriteFin a | rWriteSel a =>
      -- with the reader's pc known, `subEnd` before and after the step evaluates to the same sum
      have h1 := h.chain
      rw [subEnd, a] at h1
      exact { h with chain := h1 }
    | cRecv _ _ _ a | cTok _ a | cDoneLoop a => exact { h with queue := fun _ => h.queue (congrArg CPc.inLoop a) }
    | cProcRet a hg =>
      have hj := hheld _ a
      refine { h with gotSub := fun x hx => ?_, queue := nofun }
      rcases hg with rfl | rfl
      · exact h.gotSub x hx
      · exact (List.mem_cons.mp hx).elim (fun e => e ▸ hj) (h.gotSub x)
    | cProcLoop a _ hc =>
      have hj := hheld _ a
      have hq := procCont_qfacts hc h.chain h.gotSub hj (h.queue (congrArg CPc.inLoop a))
      exact { h with gotSub := fun x hx => (List.mem_cons.mp hx).elim (fun e => e ▸ hj) (h.gotSub x),
                     queue := fun _ => hq }
    | cDoneErr | cDoneRet | cCtx | cCancel => exact { h with queue := nofun }
    | pCancel => exact { h with }
    | rTrunc u a b c =>
      have h1 := h.chain
      refine { h with chain := ?_ }
      rcases c with ⟨c, _⟩ | ⟨c | c, hcur⟩
      · rw [subEnd_of_ne_write (by rw [c]; nofun)] at h1 ⊢
        exact h1
      · rw [subEnd_of_ne_write (by rw [c]; nofun)] at h1 ⊢
        exact h1
      · -- the batch being counted is not cut: `cur ≤ u < unread`, so `cur = batch` before and after
        simp only [subEnd, c, if_true, Pipe.cur] at h1 hcur ⊢
        rw [show min P.batch u = min P.batch P.unread by omega]
        exact h1

end Octo.JsonPipe
