import Octo.Lemmas.JsonPipeFrame
import Octo.Lemmas.Sched
/-! `step` as a relation. Twelve of the sixteen actions read and write one pipe only (`LocalStep`); the other four
move a job between a pipe and the worker pool (`Step`). Invariants are proved against these relations: `step_sound` is
the one place where they look into `step` (and it takes the outcomes of `procBatch` from `procBatch_eq`); only the
enabledness of an action is still read off `step` itself. `pipes_step` lifts the preservation of an invariant of a single
pipe to the state. -/
namespace Octo.JsonPipe

/-- what an action of the reader, the consumer or the environment does to the pipe it belongs to, when it does not
involve the pool. Every successor is written out as an update of `P`: where `step` computes the new pc by an `if`
there is one constructor for each outcome, and `procBatch` either returns from `Run` or goes on with the loop
(`procBatch_eq`). -/
inductive LocalStep (P : Pipe) : Pipe → Prop
  | rTok (h1 : P.rpc = .sel) (h2 : P.tokens < tokCap) : LocalStep P { P with rpc := .hold, tokens := P.tokens + 1 }
  | rStop (h1 : P.rpc = .sel) (h2 : P.cancelled = true) : LocalStep P { P with rpc := .exit }
  | rWriteFin (h1 : P.rpc = .write) (h2 : P.unread - P.cur = 0) :
      LocalStep P { P with linesRead := P.linesRead + P.cur, nextLine := P.nextLine + P.cur, unread := P.unread - P.cur,
                           rpc := .fin }
  | rWriteSel (h1 : P.rpc = .write) (h2 : P.unread - P.cur ≠ 0) :
      LocalStep P { P with linesRead := P.linesRead + P.cur, nextLine := P.nextLine + P.cur, unread := P.unread - P.cur,
                           rpc := .sel }
  | rDone (h1 : P.rpc = .fin) : LocalStep P { P with rpc := .exit, done := some P.scanErr }
  | cRecv (k : Nat) (j : Job) (rest : List Job) (h1 : P.cpc = .sel) (h2 : takeAt P.out k = some (j, rest)) :
      LocalStep P { P with out := rest, cpc := .tok j }
  | cTok (j : Job) (h1 : P.cpc = .tok j) (h2 : 0 < P.tokens) : LocalStep P { P with tokens := P.tokens - 1, cpc := .proc j }
  | cProcRet {j : Job} {pr si : Nat} {pe g : List Job} {r : Ret} (h1 : P.cpc = .proc j) (h2 : g = P.got ∨ g = j :: P.got) :
      LocalStep P { P with produced := pr, startIndex := si, pending := pe, got := g, cpc := .ret, ret := r }
  | cProcLoop {j : Job} {pr si : Nat} {pe : List Job} (h1 : P.cpc = .proc j)
      (h2 : ¬ (P.readerDone = true ∧ si = P.linesRead))
      (h3 : ProcCont P j { P with produced := pr, startIndex := si, pending := pe, got := j :: P.got }) :
      LocalStep P { P with produced := pr, startIndex := si, pending := pe, got := j :: P.got, cpc := .sel }
  | cDoneErr (h1 : P.cpc = .sel) (h2 : P.doneNil = false) (h3 : P.done = some true) :
      LocalStep P { P with done := none, doneNil := true, cpc := .ret, ret := .scanErr }
  | cDoneRet (h1 : P.cpc = .sel) (h2 : P.doneNil = false) (h3 : P.done = some false) (h4 : P.startIndex = P.linesRead) :
      LocalStep P { P with done := none, doneNil := true, readerDone := true, cpc := .ret, ret := .ok }
  | cDoneLoop (h1 : P.cpc = .sel) (h2 : P.doneNil = false) (h3 : P.done = some false) (h4 : P.startIndex ≠ P.linesRead) :
      LocalStep P { P with done := none, doneNil := true, readerDone := true }
  | cCtx (h1 : P.cpc = .sel) (h2 : P.parentCancelled = true) : LocalStep P { P with cpc := .ret, ret := .ctx }
  | cCancel (h1 : P.cpc = .ret) : LocalStep P { P with cpc := .exit, localCancelled := true }
  | pCancel (h1 : P.parentCancelled = false) : LocalStep P { P with parentCancelled := true }
  | rTruncFin (h1 : P.rpc = .sel) (h2 : P.localCancelled = true) (h3 : 0 < P.unread) :
      LocalStep P { P with unread := 0, scanErr := true, rpc := .fin }
  | rTrunc (u : Nat) (h1 : P.localCancelled = true) (h2 : u < P.unread)
      (h3 : (P.rpc = .sel ∧ u ≠ 0) ∨ ((P.rpc = .hold ∨ P.rpc = .write) ∧ P.cur ≤ u)) :
      LocalStep P { P with unread := u, scanErr := true }

/-- the reader of pipe number `p` has submitted the batch it was holding -/
def Pipe.submitted (P : Pipe) (p : Nat) : Pipe := { P with rpc := .write, sub := P.sub ++ [⟨p, P.nextLine, P.cur⟩] }

/-- a worker has delivered the batch `j` -/
def Pipe.delivered (P : Pipe) (j : Job) : Pipe := { P with out := P.out ++ [j] }

/-- everything one action can do to pipe number `p` -/
inductive PipeStep (p : Nat) (P : Pipe) : Pipe → Prop
  | loc {P' : Pipe} (h : LocalStep P P') : PipeStep p P P'
  | rSub (h1 : P.rpc = .hold) : PipeStep p P (P.submitted p)
  | wSend (j : Job) (h1 : P.out.length < outCap) : PipeStep p P (P.delivered j)

inductive Step (s : State) : State → Prop
  | loc {p : Nat} {P' : Pipe} (hp : p < s.np) (h : LocalStep (s.pipe p) P') : Step s (s.setPipe p P')
  | rSub {p : Nat} (hp : p < s.np) (h1 : (s.pipe p).rpc = .hold) (h2 : s.jobs.length < jobCap) :
      Step s ((s.setPipe p ((s.pipe p).submitted p)).setJobs (s.jobs ++ [⟨p, (s.pipe p).nextLine, (s.pipe p).cur⟩]))
  | wTake {w k : Nat} {j : Job} {rest : List Job} (hw : w < s.nw) (h1 : s.worker w = none)
      (h2 : takeAt s.jobs k = some (j, rest)) : Step s ((s.setWorker w (some j)).setJobs rest)
  | wSend {w : Nat} {j : Job} (hw : w < s.nw) (h1 : s.worker w = some j) (h2 : (s.pipe j.pipe).out.length < outCap) :
      Step s ((s.setWorker w none).setPipe j.pipe ((s.pipe j.pipe).delivered j))
  | wDrop {w : Nat} {j : Job} (hw : w < s.nw) (h1 : s.worker w = some j) (h2 : (s.pipe j.pipe).cancelled = true) :
      Step s (s.setWorker w none)

theorem step_sound {s s' : State} {a : Action} (hs : step s a = some s') : Step s s' := by
  cases a with
  | rTok p => obtain ⟨⟨hp, h1, h2⟩, ⟨⟩⟩ := Option.ite_none_right_eq_some.mp hs; exact .loc hp (.rTok h1 h2)
  | rStop p => obtain ⟨⟨hp, h1, h2⟩, ⟨⟩⟩ := Option.ite_none_right_eq_some.mp hs; exact .loc hp (.rStop h1 h2)
  | rSub p => obtain ⟨⟨hp, h1, h2⟩, ⟨⟩⟩ := Option.ite_none_right_eq_some.mp hs; exact .rSub hp h1 h2
  | rWrite p =>
    obtain ⟨⟨hp, h1⟩, ⟨⟩⟩ := Option.ite_none_right_eq_some.mp hs
    by_cases h0 : (s.pipe p).unread - (s.pipe p).cur = 0
    · rw [if_pos h0]; exact .loc hp (.rWriteFin h1 h0)
    · rw [if_neg h0]; exact .loc hp (.rWriteSel h1 h0)
  | rDone p => obtain ⟨⟨hp, h1⟩, ⟨⟩⟩ := Option.ite_none_right_eq_some.mp hs; exact .loc hp (.rDone h1)
  | wTake w k =>
    obtain ⟨⟨hw, h1⟩, hs⟩ := Option.ite_none_right_eq_some.mp hs
    cases h2 : takeAt s.jobs k with
    | none => rw [h2] at hs; contradiction
    | some jr =>
      obtain ⟨j, rest⟩ := jr
      rw [h2] at hs
      cases hs
      exact .wTake hw h1 h2
  | wSend w =>
    rw [step] at hs
    cases h1 : s.worker w with
    | none => rw [h1] at hs; contradiction
    | some j =>
      rw [h1] at hs
      obtain ⟨⟨hw, h2⟩, ⟨⟩⟩ := Option.ite_none_right_eq_some.mp hs
      exact .wSend hw h1 h2
  | wDrop w =>
    rw [step] at hs
    cases h1 : s.worker w with
    | none => rw [h1] at hs; contradiction
    | some j =>
      rw [h1] at hs
      obtain ⟨⟨hw, h2⟩, ⟨⟩⟩ := Option.ite_none_right_eq_some.mp hs
      exact .wDrop hw h1 h2
  | cRecv p k =>
    obtain ⟨⟨hp, h1⟩, hs⟩ := Option.ite_none_right_eq_some.mp hs
    cases h2 : takeAt (s.pipe p).out k with
    | none => rw [h2] at hs; contradiction
    | some jr =>
      obtain ⟨j, rest⟩ := jr
      rw [h2] at hs
      cases hs
      exact .loc hp (.cRecv k j rest h1 h2)
  | cTok p =>
    rw [step] at hs
    cases h1 : (s.pipe p).cpc with
    | tok j =>
      rw [h1] at hs
      obtain ⟨⟨hp, h2⟩, ⟨⟩⟩ := Option.ite_none_right_eq_some.mp hs
      exact .loc hp (.cTok j h1 h2)
    | _ => rw [h1] at hs; contradiction
  | cProc p =>
    rw [step] at hs
    cases h1 : (s.pipe p).cpc with
    | proc j =>
      rw [h1] at hs
      obtain ⟨hp, ⟨⟩⟩ := Option.ite_none_right_eq_some.mp hs
      obtain ⟨pr, si, pe, g, c, r, e, ⟨rfl, hg⟩ | ⟨rfl, rfl, rfl, hn, hc⟩⟩ := procBatch_eq (s.pipe p) j <;> rw [e]
      · exact .loc hp (.cProcRet h1 hg)
      · exact .loc hp (.cProcLoop h1 hn hc)
    | _ => rw [h1] at hs; contradiction
  | cDone p =>
    obtain ⟨⟨hp, h1, h2⟩, hs⟩ := Option.ite_none_right_eq_some.mp hs
    cases h3 : (s.pipe p).done with
    | none => rw [h3] at hs; contradiction
    | some e =>
      rw [h3] at hs
      cases e with
      | true => cases hs; exact .loc hp (.cDoneErr h1 h2 h3)
      | false =>
        cases hs
        by_cases h4 : (s.pipe p).startIndex = (s.pipe p).linesRead
        · rw [if_pos h4]; exact .loc hp (.cDoneRet h1 h2 h3 h4)
        · rw [if_neg h4]; exact .loc hp (.cDoneLoop h1 h2 h3 h4)
  | cCtx p => obtain ⟨⟨hp, h1, h2⟩, ⟨⟩⟩ := Option.ite_none_right_eq_some.mp hs; exact .loc hp (.cCtx h1 h2)
  | cCancel p => obtain ⟨⟨hp, h1⟩, ⟨⟩⟩ := Option.ite_none_right_eq_some.mp hs; exact .loc hp (.cCancel h1)
  | pCancel p => obtain ⟨⟨hp, h1⟩, ⟨⟩⟩ := Option.ite_none_right_eq_some.mp hs; exact .loc hp (.pCancel h1)
  | rTrunc p u =>
    obtain ⟨⟨hp, h1, h2, h3⟩, ⟨⟩⟩ := Option.ite_none_right_eq_some.mp hs
    by_cases h0 : (s.pipe p).rpc = .sel ∧ u = 0
    · rw [if_pos h0, h0.2]; exact .loc hp (.rTruncFin h0.1 h1 (h0.2 ▸ h2))
    · rw [if_neg h0]
      exact .loc hp (.rTrunc u h1 h2 (h3.imp (fun c => ⟨c, fun e => h0 ⟨c, e⟩⟩) id))

theorem Step.np {s s' : State} (hs : Step s s') : s'.np = s.np := by
  cases hs <;> rfl

theorem Step.nw {s s' : State} (hs : Step s s') : s'.nw = s.nw := by
  cases hs <;> rfl

theorem Step.pipe {s s' : State} (hs : Step s s') (q : Nat) :
    s'.pipe q = s.pipe q ∨ PipeStep q (s.pipe q) (s'.pipe q) := by
  cases hs with
  | @loc p P' hp h =>
    by_cases hqp : q = p
    · subst hqp; rw [setPipe_pipe_same]; exact .inr (.loc h)
    · exact .inl (setPipe_pipe_ne s _ hqp)
  | @rSub p hp h1 h2 =>
    by_cases hqp : q = p
    · subst hqp; rw [setJobs_pipe, setPipe_pipe_same]; exact .inr (.rSub h1)
    · exact .inl (setPipe_pipe_ne s _ hqp)
  | @wSend w j hw h1 h2 =>
    by_cases hqp : q = j.pipe
    · subst hqp; rw [setPipe_pipe_same]; exact .inr (.wSend j h2)
    · exact .inl (setPipe_pipe_ne _ _ hqp)
  | wTake | wDrop => exact .inl rfl

theorem pipes_step {I : Nat → Pipe → Prop} {s s' : State} (hs : Step s s')
    (hstep : ∀ p, p < s.np → I p (s.pipe p) → ∀ P', PipeStep p (s.pipe p) P' → I p P')
    (h : ∀ p, p < s.np → I p (s.pipe p)) : ∀ p, p < s'.np → I p (s'.pipe p) := by
  intro p hp
  rw [hs.np] at hp
  rcases hs.pipe p with e | e
  · rw [e]; exact h p hp
  · exact hstep p hp (h p hp) _ e

theorem isRun : Sched.IsRun step run := ⟨fun _ => rfl, fun s a as => by rw [run]; cases step s a <;> rfl⟩

theorem reachable_step {s s' : State} {a : Action} (h : Reachable s) (hs : step s a = some s') : Reachable s' := by
  obtain ⟨nw, pipes, sched, h1, h2, h3⟩ := h
  refine ⟨nw, pipes, sched ++ [a], h1, h2, ?_⟩
  rw [isRun.append, h3]
  simp [run, hs]

theorem reachable_run {s t : State} {sched : List Action} (h : Reachable s) (hr : run s sched = some t) : Reachable t :=
  isRun.invariant (fun _ _ _ h hs => reachable_step h hs) h hr

theorem init_pipe_isInit {nw : Nat} {pipes : List Pipe} (h : ∀ P, P ∈ pipes → P.IsInit) {p : Nat}
    (hp : p < (State.init nw pipes).np) : ((State.init nw pipes).pipe p).IsInit := by
  simp only [State.init] at hp ⊢
  have : pipes.getD p default = pipes[p] := by simp [List.getD, hp]
  rw [this]
  exact h _ (List.getElem_mem hp)

end Octo.JsonPipe
