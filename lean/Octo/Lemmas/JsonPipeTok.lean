import Octo.Lemmas.JsonPipeStep
/-! The token invariant: every job between token acquisition and token release (`inflight`) and every batch in `outChan`
holds a token; until the pipe is cancelled there are no other tokens. Afterwards a worker may drop a job, whose token is
never given back. -/
namespace Octo.JsonPipe

/-- the reader holds a token whose job it has not yet submitted -/
def holdCnt (r : RPc) : Nat := if r = .hold then 1 else 0
/-- the consumer received a batch and has not yet given its token back -/
def ctokCnt (c : CPc) : Nat := match c with | .tok _ => 1 | _ => 0

/-- jobs of pipe `p` that hold a token but are not in `outChan`: held by the reader before submission, in the job
channel, at a worker, or just received by the consumer -/
def inflight (s : State) (p : Nat) : Nat :=
  holdCnt (s.pipe p).rpc + inJobs s.jobs p + busyWith s.worker p s.nw + ctokCnt (s.pipe p).cpc

structure TokInv (s : State) : Prop where
  le : ∀ p, p < s.np → inflight s p + (s.pipe p).out.length ≤ (s.pipe p).tokens
  eq : ∀ p, p < s.np → (s.pipe p).cancelled = false → (s.pipe p).tokens = inflight s p + (s.pipe p).out.length
  jobsValid : ∀ j, j ∈ s.jobs → j.pipe < s.np
  workersValid : ∀ w j, s.worker w = some j → j.pipe < s.np

/-- the general preservation argument: per pipe, `tokens - inflight - len(outChan)` does not change — or the pipe is
cancelled and the difference only grows (a worker dropped a job; its token is never given back) -/
theorem tokInv_of {s s' : State} (h : TokInv s) (hnp : s'.np = s.np)
    (hd : ∀ q, q < s.np →
      (inflight s' q + (s'.pipe q).out.length + (s.pipe q).tokens = inflight s q + (s.pipe q).out.length + (s'.pipe q).tokens
        ∧ ((s'.pipe q).cancelled = false → (s.pipe q).cancelled = false))
      ∨ ((s'.pipe q).cancelled = true
        ∧ inflight s' q + (s'.pipe q).out.length + (s.pipe q).tokens ≤ inflight s q + (s.pipe q).out.length + (s'.pipe q).tokens))
    (hj : ∀ j, j ∈ s'.jobs → j.pipe < s.np) (hw : ∀ w j, s'.worker w = some j → j.pipe < s.np) : TokInv s' := by
  refine ⟨fun q hq => ?_, fun q hq hcq => ?_, fun j hjm => ?_, fun w j hwj => ?_⟩
  · rw [hnp] at hq
    have := h.le q hq
    rcases hd q hq with ⟨h1, _⟩ | ⟨_, h1⟩ <;> omega
  · rw [hnp] at hq
    rcases hd q hq with ⟨h1, h2⟩ | ⟨h1, _⟩
    · have := h.eq q hq (h2 hcq); omega
    · rw [h1] at hcq; contradiction
  · rw [hnp]; exact hj j hjm
  · rw [hnp]; exact hw w j hwj

theorem LocalStep.tok {P P' : Pipe} (h : LocalStep P P') :
    P'.tokens + holdCnt P.rpc + ctokCnt P.cpc + P.out.length = P.tokens + holdCnt P'.rpc + ctokCnt P'.cpc + P'.out.length
    ∧ (P'.cancelled = false → P.cancelled = false) := by
  cases h with
  | rTok h1 | rStop h1 | rWriteFin h1 | rWriteSel h1 | rDone h1 | rTruncFin h1 => exact ⟨by simp [holdCnt, h1], id⟩
  | cRecv k j rest h1 h2 => exact ⟨by simp [ctokCnt, h1, takeAt_length h2]; omega, id⟩
  | cTok j h1 h2 => exact ⟨by simp [ctokCnt, h1]; omega, id⟩
  | cDoneErr h1 | cDoneRet h1 | cCtx h1 | cProcRet h1 | cProcLoop h1 => exact ⟨by simp [ctokCnt, h1], id⟩
  | cDoneLoop | rTrunc => exact ⟨rfl, id⟩
  | cCancel h1 => exact ⟨by simp [ctokCnt, h1], by simp [Pipe.cancelled]⟩
  | pCancel h1 => exact ⟨rfl, by simp [Pipe.cancelled]⟩

-- The next two equations only rearrange sums. The summand that changes is moved to the end of both sides
-- (`Nat.add_right_comm`): `omega` proves such equations too, but its proofs of equations are slow to check.
theorem inflight_take {s : State} {w k : Nat} {j : Job} {rest : List Job} (hw : w < s.nw) (h1 : s.worker w = none)
    (h2 : takeAt s.jobs k = some (j, rest)) (q : Nat) :
    inflight ((s.setWorker w (some j)).setJobs rest) q = inflight s q := by
  have e2 := busyWith_setWorker s hw (some j) q
  rw [h1, show jobCnt none q = 0 from rfl, Nat.add_zero] at e2
  rw [inflight, inflight, setJobs_pipe, setJobs_jobs, setJobs_worker, setJobs_nw, setWorker_pipe, setWorker_nw, e2,
    takeAt_inJobs h2 q, ← Nat.add_assoc, ← Nat.add_assoc, Nat.add_right_comm _ (busyWith _ _ _),
    Nat.add_right_comm _ (inJobs _ _)]

theorem inflight_release {s : State} {w : Nat} {j : Job} (hw : w < s.nw) (h1 : s.worker w = some j) (q : Nat) :
    inflight (s.setWorker w none) q + jobCnt (some j) q = inflight s q := by
  have e2 := busyWith_setWorker s hw none q
  rw [h1, show jobCnt none q = 0 from rfl, Nat.add_zero] at e2
  rw [inflight, inflight, setWorker_pipe, setWorker_jobs, setWorker_nw, ← e2, ← Nat.add_assoc,
    Nat.add_right_comm _ (ctokCnt _)]

theorem step_tokInv {s s' : State} (h : TokInv s) (hs : Step s s') : TokInv s' := by
  cases hs with
  | @loc p P' hp hl =>
    obtain ⟨heq, hc⟩ := hl.tok
    refine tokInv_of h rfl (fun q hq => .inl ?_) h.jobsValid h.workersValid
    by_cases hqp : q = p
    · subst hqp
      refine ⟨?_, by simpa using hc⟩
      simp only [inflight, setPipe_pipe_same, setPipe_jobs, setPipe_worker, setPipe_nw]
      omega
    · have e : (s.setPipe p P').pipe q = s.pipe q := setPipe_pipe_ne s P' hqp
      refine ⟨?_, by rw [e]; exact id⟩
      simp only [inflight, e, setPipe_jobs, setPipe_worker, setPipe_nw]
  | @rSub p hp h1 h2 =>
    refine tokInv_of h rfl (fun q hq => .inl ?_) (fun j hj => ?_) h.workersValid
    · by_cases hqp : q = p
      · subst hqp
        refine ⟨?_, by simp [Pipe.cancelled, Pipe.submitted]⟩
        simp [inflight, inJobs_append, holdCnt, h1, jobCnt, Pipe.submitted]
      · have hne : ¬ p = q := fun e => hqp e.symm
        refine ⟨?_, by simp [setPipe_pipe_ne s _ hqp]⟩
        simp [inflight, setPipe_pipe_ne s _ hqp, inJobs_append, jobCnt, hne]
    · rcases List.mem_append.mp hj with hj | hj
      · exact h.jobsValid j hj
      · rw [List.mem_singleton.mp hj]; exact hp
  | @wTake w k j rest hw h1 h2 =>
    have hp := takeAt_perm h2
    refine tokInv_of h rfl (fun q hq => .inl ⟨?_, id⟩) (fun j' hj' => ?_) (fun v j' hv => ?_)
    · rw [inflight_take hw h1 h2 q]; rfl
    · exact h.jobsValid j' (hp.mem_iff.mpr (.tail _ hj'))
    · -- the job a worker holds was in the job channel: the one just taken, or the one it held before
      rcases setWorker_some hv with e | hv
      · cases e; exact h.jobsValid _ (hp.mem_iff.mpr (.head _))
      · exact h.workersValid v j' hv
  | @wSend w j hw h1 h2 =>
    refine tokInv_of h rfl (fun q hq => .inl ?_) h.jobsValid
      (fun v j' hv => h.workersValid v j' ((setWorker_some hv).resolve_left nofun))
    have e := inflight_release hw h1 q
    by_cases hqp : q = j.pipe
    · subst hqp
      rw [show jobCnt (some j) j.pipe = 1 from if_pos rfl] at e
      rw [inflight, setPipe_pipe_same, setPipe_jobs, setPipe_worker, setPipe_nw]
      refine ⟨?_, id⟩
      show inflight (s.setWorker w none) j.pipe + ((s.pipe j.pipe).out ++ [j]).length + _ = _ + _ + (s.pipe j.pipe).tokens
      rw [← e, List.length_append, List.length_singleton, ← Nat.add_assoc, Nat.add_right_comm _ _ 1]
    · rw [show jobCnt (some j) q = 0 from if_neg (fun e => hqp e.symm), Nat.add_zero] at e
      rw [inflight, setPipe_pipe_ne _ _ hqp, setPipe_jobs, setPipe_worker, setPipe_nw]
      exact ⟨by rw [← e]; rfl, id⟩
  | @wDrop w j hw h1 h2 =>
    refine tokInv_of h rfl (fun q hq => ?_) h.jobsValid
      (fun v j' hv => h.workersValid v j' ((setWorker_some hv).resolve_left nofun))
    have e := inflight_release hw h1 q
    by_cases hqp : q = j.pipe
    · subst hqp
      exact .inr ⟨h2, Nat.add_le_add_right (Nat.add_le_add_right (Nat.le.intro e) _) _⟩
    · rw [show jobCnt (some j) q = 0 from if_neg (fun e => hqp e.symm), Nat.add_zero] at e
      exact .inl ⟨by rw [e]; rfl, id⟩

theorem tokInv_init {nw : Nat} {pipes : List Pipe} (h : ∀ P, P ∈ pipes → P.IsInit) : TokInv (State.init nw pipes) := by
  have key : ∀ p, p < (State.init nw pipes).np → ((State.init nw pipes).pipe p).tokens = 0 ∧
      inflight (State.init nw pipes) p + ((State.init nw pipes).pipe p).out.length = 0 := by
    intro p hp
    obtain ⟨lines, batch, se, bad, st, _, e⟩ := init_pipe_isInit h hp
    rw [inflight, e]
    refine ⟨rfl, ?_⟩
    simp only [State.init, inJobs_nil, busyWith_idle (fun _ _ => rfl), Pipe.init, ctokCnt, holdCnt]
    split <;> rfl
  exact ⟨fun p hp => Nat.le_of_eq ((key p hp).2.trans (key p hp).1.symm),
    fun p hp _ => (key p hp).1.trans (key p hp).2.symm, nofun, nofun⟩

end Octo.JsonPipe
