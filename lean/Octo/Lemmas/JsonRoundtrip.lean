import Octo.Lemmas.JsonString
import Octo.Lemmas.JsonNumber
/-!
  Lemmas for C25: the RFC 8259 reader inverts the compact printer.  No value and no type occurs here:
  `render j` is the compact text of a document `j`; the reader, run on `render j` followed by any text that
  cannot continue a number, returns `j` and exactly that remaining text, for every well-formed document
  (`pValue_render`); a text is at least as long as its document is big, so the fuel `Json.decode` derives from
  the length is enough (`decode_render`).
-/
namespace Octo.OutFmt
open Octo Octo.Spec

theorem skipWs_cons (c : Nat) (r : Bytes) (h : Json.isWs c = false) : Json.skipWs (c :: r) = c :: r := by
  rw [Json.skipWs, h]; rfl

theorem pValue_jsonString (f : Nat) (s rest : Bytes) :
    Json.pValue (f + 1) (jsonString s ++ rest) = some (.str s, rest) := by
  show (Json.pStr (escBody s ++ [34] ++ rest)).map _ = _
  rw [List.append_assoc, List.singleton_append, pStr_escBody]; rfl

theorem pValue_arr_empty (f : Nat) (rest : Bytes) :
    Json.pValue (f + 1) (91 :: 93 :: rest) = some (.arr [], rest) := rfl

theorem pValue_arr (f c2 : Nat) (r2 : Bytes) (h1 : Json.isWs c2 = false) (h2 : c2 ≠ 93) :
    Json.pValue (f + 1) (91 :: c2 :: r2) = (Json.pElems f (c2 :: r2)).map fun (xs, r') => (.arr xs, r') := by
  rw [Json.pValue, skipWs_cons 91 _ rfl]; dsimp only
  rw [if_neg (by decide), if_pos rfl, skipWs_cons c2 r2 h1]; exact if_neg h2

theorem pValue_obj_empty (f : Nat) (rest : Bytes) :
    Json.pValue (f + 1) (123 :: 125 :: rest) = some (.obj [] [], rest) := rfl

theorem pValue_obj (f c2 : Nat) (r2 : Bytes) (h1 : Json.isWs c2 = false) (h2 : c2 ≠ 125) :
    Json.pValue (f + 1) (123 :: c2 :: r2) = (Json.pMembers f (c2 :: r2)).map fun (ks, vs, r') => (.obj ks vs, r') := by
  rw [Json.pValue, skipWs_cons 123 _ rfl]; dsimp only
  rw [if_neg (by decide), if_neg (by decide), if_pos rfl, skipWs_cons c2 r2 h1]; exact if_neg h2

theorem pValue_null (f : Nat) (rest : Bytes) : Json.pValue (f + 1) (nullLit ++ rest) = some (.null, rest) := rfl
theorem pValue_bool (f : Nat) (b : Bool) (rest : Bytes) :
    Json.pValue (f + 1) ((if b then trueLit else falseLit) ++ rest) = some (.bool b, rest) := by
  cases b <;> rfl

theorem pValue_num (f : Nat) (lit rest : Bytes) (hv : Json.validNumber lit = true) (hr : Term rest) :
    Json.pValue (f + 1) (lit ++ rest) = some (.num lit, rest) := by
  obtain ⟨c, r, rfl, hc⟩ := (validNumber_allNum_first lit hv).2
  have hp := pNum_append (c :: r) rest hv hr
  -- a sign or a digit is none of the bytes the reader tries first: whitespace, `"`, `[`, `{`, `n`, `t`, `f`
  obtain ⟨hws, h34, h91, h123, h110, h116, h102⟩ :
      ¬ (c = 32 ∨ c = 9 ∨ c = 10 ∨ c = 13) ∧ c ≠ 34 ∧ c ≠ 91 ∧ c ≠ 123 ∧ c ≠ 110 ∧ c ≠ 116 ∧ c ≠ 102 := by omega
  rw [List.cons_append] at hp ⊢
  rw [Json.pValue, skipWs_cons _ _ (decide_eq_false hws)]; dsimp only
  rw [if_neg h34, if_neg h91, if_neg h123, if_neg h110, if_neg h116, if_neg h102, hp]; rfl

/-- what `pElems` does after a value: `,` continues, `]` ends -/
def contElems (f : Nat) (v : JVal) (r : Bytes) : Option (List JVal × Bytes) :=
  match Json.skipWs r with
  | [] => none
  | c :: r' =>
    if c = 44 then (Json.pElems f r').map fun (vs, r'') => (v :: vs, r'')
    else if c = 93 then some ([v], r')
    else none

theorem pElems_succ (f : Nat) (inp : Bytes) :
    Json.pElems (f + 1) inp = match Json.pValue f inp with
      | none => none
      | some (v, r) => contElems f v r := rfl

theorem contElems_comma (f : Nat) (v : JVal) (r : Bytes) :
    contElems f v (44 :: r) = (Json.pElems f r).map fun (vs, r'') => (v :: vs, r'') := rfl
theorem contElems_close (f : Nat) (v : JVal) (r : Bytes) : contElems f v (93 :: r) = some ([v], r) := rfl

def contMembers (f : Nat) (k : Bytes) (v : JVal) (r : Bytes) : Option (List Bytes × List JVal × Bytes) :=
  match Json.skipWs r with
  | [] => none
  | c :: r' =>
    if c = 44 then (Json.pMembers f r').map fun (ks, vs, r'') => (k :: ks, v :: vs, r'')
    else if c = 125 then some ([k], [v], r')
    else none

theorem contMembers_comma (f : Nat) (k : Bytes) (v : JVal) (r : Bytes) :
    contMembers f k v (44 :: r) = (Json.pMembers f r).map fun (ks, vs, r'') => (k :: ks, v :: vs, r'') := rfl
theorem contMembers_close (f : Nat) (k : Bytes) (v : JVal) (r : Bytes) :
    contMembers f k v (125 :: r) = some ([k], [v], r) := rfl

theorem pMembers_key (f : Nat) (k r : Bytes) :
    Json.pMembers (f + 1) (jsonString k ++ 58 :: r) = match Json.pValue f r with
      | none => none
      | some (v, r3) => contMembers f k v r3 := by
  rw [Json.pMembers, jsonString, List.cons_append, List.append_assoc, List.singleton_append,
    skipWs_cons _ _ (by decide)]
  dsimp only
  rw [if_pos rfl, pStr_escBody]
  dsimp only
  rw [skipWs_cons _ _ (by decide)]
  rfl

/-- first byte of any JSON value the formatter writes -/
def Head (c : Nat) : Prop :=
  c = 110 ∨ c = 116 ∨ c = 102 ∨ c = 34 ∨ c = 91 ∨ c = 123 ∨ c = 45 ∨ (48 ≤ c ∧ c ≤ 57)

theorem head_validNumber (s : Bytes) (h : Json.validNumber s = true) : ∃ c r, s = c :: r ∧ Head c := by
  obtain ⟨c, r, e, hc⟩ := (validNumber_allNum_first s h).2
  exact ⟨c, r, e, by simp only [Head, hc, or_true]⟩

theorem Head.notWs_notClose {c : Nat} (h : Head c) : ¬ (c = 32 ∨ c = 9 ∨ c = 10 ∨ c = 13) ∧ c ≠ 93 ∧ c ≠ 125 := by
  rcases h with rfl | rfl | rfl | rfl | rfl | rfl | rfl | h
  iterate 7 decide
  omega
theorem Head.notWs {c : Nat} (h : Head c) : Json.isWs c = false := decide_eq_false h.notWs_notClose.1
theorem Head.ne93 {c : Nat} (h : Head c) : c ≠ 93 := h.notWs_notClose.2.1
theorem Head.ne125 {c : Nat} (h : Head c) : c ≠ 125 := h.notWs_notClose.2.2

theorem term_of_sep (c : Nat) (r : Bytes) (h : c = 44 ∨ c = 93 ∨ c = 125) : Term (c :: r) := by
  intro c' r' e
  cases e
  rcases h with rfl | rfl | rfl <;> rfl

/-! ### fuel: the reader spends one unit per bracket and one per element of a loop -/
theorem fuel_one {n f : Nat} (hn : 0 < n) (h : 2 * n ≤ f) : ∃ g, f = g + 1 :=
  Nat.exists_eq_add_one_of_ne_zero (Nat.ne_of_gt (Nat.lt_of_lt_of_le (Nat.mul_pos (by decide) hn) h))

theorem fuel_elem {a s f : Nat} (ha : 0 < a) (h : 2 * (a + s) + 1 ≤ f) : ∃ g, f = g + 1 ∧ 2 * a ≤ g ∧ 2 * s + 1 ≤ g :=
  match f, h with
  | g + 1, h => ⟨g, rfl, by omega⟩

theorem fuel_first {a s f : Nat} (ha : 0 < a) (h : 2 * (1 + (a + s)) ≤ f) : ∃ g, f = g + 2 ∧ 2 * a ≤ g ∧ 2 * s + 1 ≤ g :=
  ⟨f - 2, by omega⟩

/-- a (possibly empty) continuation written by a loop with `first = false` starts with a comma -/
def CommaOrNil (bs : Bytes) : Prop := bs = [] ∨ ∃ r, bs = 44 :: r

theorem term_after {bs : Bytes} (h : CommaOrNil bs) (close : Nat) (hc : close = 93 ∨ close = 125) (rest : Bytes) :
    Term (bs ++ close :: rest) := by
  rcases h with rfl | ⟨r, rfl⟩
  · exact term_of_sep close rest (Or.inr hc)
  · exact term_of_sep 44 _ (Or.inl rfl)

theorem skipWs_after {bs : Bytes} (h : CommaOrNil bs) (close : Nat) (hc : close = 93 ∨ close = 125) (rest : Bytes) :
    Json.skipWs (bs ++ close :: rest) = bs ++ close :: rest := by
  rcases h with rfl | ⟨r, rfl⟩
  · exact skipWs_cons _ _ (by rcases hc with rfl | rfl <;> rfl)
  · exact skipWs_cons _ _ rfl

mutual
/-- the text of a document laid out as `ValueToJson` does: no whitespace, `sep` before all but the first -/
def render : JVal → Bytes
  | .null => nullLit
  | .bool b => if b then trueLit else falseLit
  | .num lit => lit
  | .str s => jsonString s
  | .arr js => 91 :: (renderElems true js ++ [93])
  | .obj ks js => 123 :: (renderMembers true ks js ++ [125])
def renderElems : Bool → List JVal → Bytes
  | _, [] => []
  | first, j :: js => sep first ++ render j ++ renderElems false js
def renderMembers : Bool → List Bytes → List JVal → Bytes
  | first, k :: ks, j :: js => sep first ++ jsonString k ++ 58 :: render j ++ renderMembers false ks js
  | _, _, _ => []
end

mutual
/-- the documents that are read back from their text: a literal outside the number grammar is not read as a
    number, and `renderMembers` cuts keys and members to the shorter of the two lists -/
def Wf : JVal → Prop
  | .num lit => Json.validNumber lit = true
  | .arr js => WfAll js
  | .obj ks js => ks.length = js.length ∧ WfAll js
  | _ => True
def WfAll : List JVal → Prop
  | [] => True
  | j :: js => Wf j ∧ WfAll js
end

mutual
def docSize : JVal → Nat
  | .arr js => 1 + docSizes js
  | .obj _ js => 1 + docSizes js
  | _ => 1
def docSizes : List JVal → Nat
  | [] => 0
  | j :: js => docSize j + docSizes js
end

theorem docSize_pos (j : JVal) : 0 < docSize j := by
  cases j with
  | arr js | obj _ js => exact Nat.lt_of_lt_of_le Nat.one_pos (Nat.le_add_right 1 _)
  | _ => exact Nat.one_pos

theorem render_head {j : JVal} (h : Wf j) : ∃ c r, render j = c :: r ∧ Head c := by
  cases j with
  | num lit => exact head_validNumber lit h
  | bool b => cases b <;> exact ⟨_, _, rfl, by unfold Head; decide⟩
  | _ => exact ⟨_, _, rfl, by unfold Head; decide⟩

theorem commaOrNil_elems (js : List JVal) : CommaOrNil (renderElems false js) := by
  cases js with
  | nil => exact Or.inl rfl
  | cons _ _ => exact Or.inr ⟨_, rfl⟩

theorem commaOrNil_members (ks : List Bytes) (js : List JVal) : CommaOrNil (renderMembers false ks js) := by
  cases ks <;> cases js
  case cons.cons => exact Or.inr ⟨_, rfl⟩
  all_goals exact Or.inl rfl

mutual
theorem pValue_render : ∀ j : JVal, Wf j → ∀ f rest, Term rest → 2 * docSize j ≤ f →
    Json.pValue f (render j ++ rest) = some (j, rest)
  | .null, _, f, rest, _, hf => by
    obtain ⟨f, rfl⟩ := fuel_one (docSize_pos _) hf
    exact pValue_null f rest
  | .bool b, _, f, rest, _, hf => by
    obtain ⟨f, rfl⟩ := fuel_one (docSize_pos _) hf
    exact pValue_bool f b rest
  | .num lit, h, f, rest, hr, hf => by
    obtain ⟨f, rfl⟩ := fuel_one (docSize_pos _) hf
    exact pValue_num f lit rest h hr
  | .str s, _, f, rest, _, hf => by
    obtain ⟨f, rfl⟩ := fuel_one (docSize_pos _) hf
    exact pValue_jsonString f s rest
  | .arr [], _, f, rest, _, hf => by
    obtain ⟨f, rfl⟩ := fuel_one (docSize_pos _) hf
    exact pValue_arr_empty f rest
  | .arr (j :: js), h, f, rest, _, hf => by
    obtain ⟨f, rfl, hfa, hfb⟩ := fuel_first (docSize_pos j) hf
    -- after `[` the reader skips whitespace and looks one byte ahead for `]`: the first byte of the element is
    -- exposed, shown to be neither (`Head`), and folded back (`← hc`) for the induction hypothesis
    obtain ⟨c, r, hc, hh⟩ := render_head h.1
    have e : render (.arr (j :: js)) ++ rest = 91 :: c :: (r ++ (renderElems false js ++ 93 :: rest)) := by
      simp [render, renderElems, sep, hc]
    rw [e, pValue_arr _ _ _ hh.notWs hh.ne93, pElems_succ, ← List.cons_append, ← hc,
      pValue_render j h.1 f _ (term_after (commaOrNil_elems js) 93 (Or.inl rfl) rest) hfa]
    dsimp only
    rw [contElems_render js h.2 f rest _ hfb]; rfl
  | .obj [] [], _, f, rest, _, hf => by
    obtain ⟨f, rfl⟩ := fuel_one (docSize_pos _) hf
    exact pValue_obj_empty f rest
  | .obj (k :: ks) (j :: js), h, f, rest, _, hf => by
    obtain ⟨f, rfl, hfa, hfb⟩ := fuel_first (docSize_pos j) hf
    have e : render (.obj (k :: ks) (j :: js)) ++ rest =
        123 :: (jsonString k ++ 58 :: (render j ++ (renderMembers false ks js ++ 125 :: rest))) := by
      simp [render, renderMembers, sep]
    rw [e]
    refine (pValue_obj (f + 1) 34 _ rfl (by decide)).trans ?_
    show Option.map _ (Json.pMembers (f + 1) (jsonString k ++ 58 :: _)) = _
    rw [pMembers_key, pValue_render j h.2.1 f _ (term_after (commaOrNil_members ks js) 125 (Or.inr rfl) rest) hfa]
    dsimp only
    rw [contMembers_render ks js (Nat.succ.inj h.1) h.2.2 f rest _ _ hfb]; rfl
  | .obj [] (_ :: _), h, _, _, _, _ | .obj (_ :: _) [], h, _, _, _, _ => nomatch h.1
theorem contElems_render : ∀ js : List JVal, WfAll js → ∀ f rest v0, 2 * docSizes js + 1 ≤ f →
    contElems f v0 (renderElems false js ++ 93 :: rest) = some (v0 :: js, rest)
  | [], _, f, rest, v0, _ => contElems_close f v0 rest
  | j :: js, h, f, rest, v0, hf => by
    obtain ⟨f, rfl, hfa, hfb⟩ := fuel_elem (docSize_pos j) hf
    have e : renderElems false (j :: js) ++ 93 :: rest = 44 :: (render j ++ (renderElems false js ++ 93 :: rest)) := by
      simp [renderElems, sep]
    rw [e, contElems_comma, pElems_succ,
      pValue_render j h.1 f _ (term_after (commaOrNil_elems js) 93 (Or.inl rfl) rest) hfa]
    dsimp only
    rw [contElems_render js h.2 f rest _ hfb]; rfl
theorem contMembers_render : ∀ (ks : List Bytes) (js : List JVal), ks.length = js.length → WfAll js →
    ∀ f rest k0 v0, 2 * docSizes js + 1 ≤ f →
      contMembers f k0 v0 (renderMembers false ks js ++ 125 :: rest) = some (k0 :: ks, v0 :: js, rest)
  | [], [], _, _, f, rest, k0, v0, _ => contMembers_close f k0 v0 rest
  | k :: ks, j :: js, hl, h, f, rest, k0, v0, hf => by
    obtain ⟨f, rfl, hfa, hfb⟩ := fuel_elem (docSize_pos j) hf
    have e : renderMembers false (k :: ks) (j :: js) ++ 125 :: rest =
        44 :: (jsonString k ++ 58 :: (render j ++ (renderMembers false ks js ++ 125 :: rest))) := by
      simp [renderMembers, sep]
    rw [e, contMembers_comma, pMembers_key,
      pValue_render j h.1 f _ (term_after (commaOrNil_members ks js) 125 (Or.inr rfl) rest) hfa]
    dsimp only
    rw [contMembers_render ks js (Nat.succ.inj hl) h.2 f rest _ _ hfb]; rfl
  | [], _ :: _, hl, _, _, _, _, _, _ | _ :: _, [], hl, _, _, _, _, _, _ => nomatch hl
end

mutual
theorem docSize_le : ∀ j : JVal, Wf j → docSize j ≤ (render j).length
  | .arr js, h => by
    rw [docSize, render, List.length_cons, List.length_append, Nat.add_comm 1]
    exact Nat.succ_le_succ (Nat.le_add_right_of_le (docSizes_le_elems js h true))
  | .obj ks js, h => by
    rw [docSize, render, List.length_cons, List.length_append, Nat.add_comm 1]
    exact Nat.succ_le_succ (Nat.le_add_right_of_le (docSizes_le_members ks js h.1 h.2 true))
  | .null, h | .bool _, h | .num _, h | .str _, h => by
    obtain ⟨c, r, e, _⟩ := render_head h
    rw [e]; exact Nat.succ_le_succ (Nat.zero_le _)
theorem docSizes_le_elems : ∀ js : List JVal, WfAll js → ∀ first, docSizes js ≤ (renderElems first js).length
  | [], _, _ => Nat.zero_le _
  | j :: js, h, first => by
    rw [renderElems, List.length_append, List.length_append, Nat.add_assoc]
    exact Nat.le_add_left_of_le (Nat.add_le_add (docSize_le j h.1) (docSizes_le_elems js h.2 false))
theorem docSizes_le_members : ∀ (ks : List Bytes) (js : List JVal), ks.length = js.length → WfAll js →
    ∀ first, docSizes js ≤ (renderMembers first ks js).length
  | [], [], _, _, _ => Nat.zero_le _
  | k :: ks, j :: js, hl, h, first => by
    rw [renderMembers, List.length_append, List.length_append, List.length_cons, Nat.add_assoc]
    exact Nat.le_add_left_of_le (Nat.add_le_add (Nat.le_succ_of_le (docSize_le j h.1))
      (docSizes_le_members ks js (Nat.succ.inj hl) h.2 false))
  | [], _ :: _, hl, _, _ | _ :: _, [], hl, _, _ => nomatch hl
end

theorem decode_render {j : JVal} (h : Wf j) {ws : Bytes} (hws : Json.skipWs ws = []) :
    Json.decode (render j ++ ws) = some j := by
  have hr : Term ws := by
    intro c r e
    subst e
    rw [Json.skipWs] at hws
    by_cases hc : Json.isWs c = true
    · rcases of_decide_eq_true hc with rfl | rfl | rfl | rfl <;> rfl
    · rw [if_neg hc] at hws; cases hws
  have := docSize_le j h
  rw [Json.decode, pValue_render j h _ ws hr (by rw [List.length_append]; omega)]
  dsimp only
  rw [hws]; rfl

end Octo.OutFmt
