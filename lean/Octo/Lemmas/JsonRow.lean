import Octo.Lemmas.JsonWrites
/-!
  Lemmas for C25: the document `erase L τ v` *is* the value (`matchesV`), and a whole `-o json`
  line decodes to the object of the field names and the documents of the row (`jsonLine_decode`).
-/
namespace Octo.OutFmt
open Octo Octo.Spec

theorem scalarDoc_matches {L : Lib} (hE : TextExact L) {τ t : Ty} {v : Value} (hs : isScalar v = true)
    (hp : pick τ v.rank = some t) : matchesV τ v (scalarDoc L v) = true := by
  rw [matchesV, hp]
  cases v with
  | list _ | struct _ | tuple _ => cases hs
  | null => rfl
  | int i => exact denotesInt_fmtInt i
  | float b =>
    rw [scalarDoc]
    cases hb : finite b
    · simp [hb]
    · simp [hb, hE.float b hb]
  | bool b => exact beq_self_eq_true b
  | str s => exact beq_self_eq_true (strBytes s)
  | time ns loc => simp [scalarDoc, hE.time ns loc]
  | dur ns => simp [scalarDoc, hE.dur ns]

mutual
theorem erase_matches (L : Lib) (hE : TextExact L) (τ : Ty) : ∀ v : Value, fits τ v = true →
    matchesV τ v (erase L τ v) = true
  | .list xs, h => by
    obtain ⟨t, hp⟩ := fits_pick h
    rw [fits_list hp] at h
    rw [erase_list hp, matchesV, hp]
    cases he : elemTy t with
    | none => rw [he] at h; simp [he, h]
    | some e => rw [he] at h; simp [he, eraseAll_matches L hE xs e h]
  | .struct xs, h => by
    obtain ⟨t, hp⟩ := fits_pick h
    rw [fits_struct hp, Bool.and_eq_true] at h
    rw [erase_struct hp, matchesV, hp]
    simp [eraseEach_matches L hE xs _ h.2]
  | .tuple xs, h => by
    obtain ⟨t, hp⟩ := fits_pick h
    rw [fits_tuple hp] at h
    rw [erase_tuple hp, matchesV, hp]
    exact eraseEach_matches L hE xs _ h
  | .null, h | .int _, h | .float _, h | .bool _, h | .str _, h | .time _ _, h | .dur _, h => by
    obtain ⟨t, hp⟩ := fits_pick h
    rw [erase_scalar rfl hp]
    exact scalarDoc_matches hE rfl hp
theorem eraseAll_matches (L : Lib) (hE : TextExact L) : ∀ (xs : List Value) (e : Ty), fitsAll e xs = true →
    matchesAll e xs (eraseAll L e xs) = true
  | [], _, _ => rfl
  | x :: xs, e, h => by
    rw [fitsAll_cons] at h
    rw [eraseAll, matchesAll, erase_matches L hE e x h.1, eraseAll_matches L hE xs e h.2]; rfl
theorem eraseEach_matches (L : Lib) (hE : TextExact L) : ∀ (xs : List Value) (ts : List Ty), fitsEach ts xs = true →
    matchesEach ts xs (eraseEach L ts xs) = true
  | [], ts, h => by cases fitsEach_nil h; rfl
  | x :: xs, ts, h => by
    obtain ⟨t, ts, rfl, hx, hxs⟩ := fitsEach_cons h
    rw [eraseEach, matchesEach, erase_matches L hE t x hx, eraseEach_matches L hE xs ts hxs]; rfl
end

theorem jsonLine_decode (L : Lib) (hL : FloatSyntax L) (ns : List Name) (ts : List Ty) (xs : List Value)
    (h : rowFits ns ts xs = true) :
    ∃ bs, jsonLine L ns ts xs = some bs ∧
      Json.decode bs = some (.obj (ns.map nameBytes) (eraseEach L ts xs)) := by
  have hf : fits (.struct ns ts) (.struct xs) = true := (fits_row ns ts xs).trans h
  have w := encJson_writes L hL _ _ hf
  rw [erase_struct (t := .struct ns ts) rfl] at w
  exact ⟨_, by rw [jsonLine_eq L ns ts xs h, w.text]; rfl, decode_render w.wf rfl⟩

end Octo.OutFmt
