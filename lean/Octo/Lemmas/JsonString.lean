import Octo.Spec.OutputSpec
/-!
  Lemmas for C25: `appendJSONString` (model: `jsonString`/`escBody`) read back by the RFC 8259
  string reader `Json.pStr` gives the original bytes; what it adds to them is printable ASCII.
-/
namespace Octo.OutFmt
open Octo Octo.Spec

theorem hexVal_hexDigit (n : Nat) (h : n < 16) : Json.hexVal (hexDigit n) = some n := by
  revert n; decide

theorem pStr_quote (r : Bytes) : Json.pStr (34 :: r) = some ([], r) := by
  rw [Json.pStr.eq_def]; rfl

theorem pStr_plain {c : Nat} (r : Bytes) (h34 : c ≠ 34) (h92 : c ≠ 92) (h32 : ¬ c < 32) :
    Json.pStr (c :: r) = (Json.pStr r).map fun (s, r') => (c :: s, r') := by
  rw [Json.pStr.eq_def]; dsimp only
  rw [if_neg h34, if_neg h92, if_neg h32]

theorem pStr_simpleEsc {e b : Nat} (r : Bytes) (he : Json.simpleEsc e = some b) :
    Json.pStr (92 :: e :: r) = (Json.pStr r).map fun (s, r') => (b :: s, r') := by
  have hu : e ≠ 117 := fun h => nomatch (h ▸ he : Json.simpleEsc 117 = some b)
  rw [Json.pStr.eq_def]; dsimp only
  rw [if_neg (by decide), if_pos rfl, if_neg hu, he]

theorem hex4_byte (c : Nat) (h : c < 256) : Json.hex4 48 48 (hexDigit (c / 16)) (hexDigit (c % 16)) = some c := by
  unfold Json.hex4
  rw [hexVal_hexDigit (c / 16) (by omega), hexVal_hexDigit (c % 16) (Nat.mod_lt _ (by decide))]
  exact congrArg some (by omega)

theorem pStr_u00 {c : Nat} (r : Bytes) (h : c < 128) :
    Json.pStr (92 :: 117 :: 48 :: 48 :: hexDigit (c / 16) :: hexDigit (c % 16) :: r) =
      (Json.pStr r).map fun (s, r') => (c :: s, r') := by
  rw [Json.pStr.eq_def]; dsimp only
  rw [if_neg (by decide), if_pos rfl, if_pos rfl, hex4_byte c (Nat.lt_trans h (by decide))]; dsimp only
  rw [if_neg (by omega), if_neg (by omega), Utf8.encode, if_pos h]
  rfl

/-- the `ctl` case is asked of every `c < 32`, also of 9, 10 and 13, which `escByte` writes in the short form -/
theorem escByte_cases {P : Nat → Bytes → Prop} (c : Nat)
    (quote : P 34 [92, 34]) (bslash : P 92 [92, 92]) (lf : P 10 [92, 110]) (cr : P 13 [92, 114]) (tab : P 9 [92, 116])
    (ctl : ∀ c, c < 32 → P c [92, 117, 48, 48, hexDigit (c / 16), hexDigit (c % 16)])
    (plain : ∀ c, 32 ≤ c → c ≠ 34 → c ≠ 92 → P c [c]) : P c (escByte c) := by
  fun_cases escByte c
  case case1 h =>
    rcases h with rfl | rfl
    · exact quote
    · exact bslash
  case case2 _ h => exact h ▸ lf
  case case3 _ _ h => exact h ▸ cr
  case case4 _ _ _ h => exact h ▸ tab
  case case5 _ _ _ _ h => exact ctl c h
  case case6 h1 _ _ _ h5 =>
    exact plain c (Nat.le_of_not_lt h5) (fun e => h1 (Or.inl e)) (fun e => h1 (Or.inr e))

theorem pStr_escByte (c : Nat) (tail s r : Bytes) (htail : Json.pStr tail = some (s, r)) :
    Json.pStr (escByte c ++ tail) = some (c :: s, r) := by
  have hmap (b : Nat) : ((Json.pStr tail).map fun (s, r') => (b :: s, r')) = some (b :: s, r) := by rw [htail]; rfl
  refine escByte_cases (P := fun c e => Json.pStr (e ++ tail) = some (c :: s, r)) c ?_ ?_ ?_ ?_ ?_ ?_ ?_
  iterate 5 exact (pStr_simpleEsc _ rfl).trans (hmap _)
  · exact fun c h => (pStr_u00 _ (Nat.lt_trans h (by decide))).trans (hmap _)
  · exact fun c h32 h34 h92 => (pStr_plain _ h34 h92 (Nat.not_lt.mpr h32)).trans (hmap _)

theorem pStr_escBody (s : Bytes) (rest : Bytes) :
    Json.pStr (escBody s ++ 34 :: rest) = some (s, rest) := by
  induction s with
  | nil => exact pStr_quote rest
  | cons c cs ih =>
    rw [escBody, List.append_assoc]
    exact pStr_escByte c _ cs rest ih

theorem escBody_append (a b : Bytes) : escBody (a ++ b) = escBody a ++ escBody b := by
  induction a with
  | nil => rfl
  | cons c r ih => rw [List.cons_append, escBody, escBody, ih, List.append_assoc]

theorem hexDigit_bounds (n : Nat) (h : n < 16) : 32 ≤ hexDigit n ∧ hexDigit n < 128 := by
  unfold hexDigit
  by_cases h10 : n < 10
  · rw [if_pos h10]; omega
  · rw [if_neg h10]; omega

theorem escByte_mem (c : Nat) : ∀ x ∈ escByte c, 32 ≤ x ∧ (x < 128 ∨ x = c) := by
  refine escByte_cases (P := fun c e => ∀ x ∈ e, 32 ≤ x ∧ (x < 128 ∨ x = c)) c
    (by decide) (by decide) (by decide) (by decide) (by decide) ?_ ?_
  · intro c hc
    have h1 := hexDigit_bounds (c / 16) (by omega)
    have h2 := hexDigit_bounds (c % 16) (Nat.mod_lt _ (by decide))
    simp only [List.forall_mem_cons, List.not_mem_nil, false_imp_iff, implies_true, and_true]
    omega
  · intro c hc _ _ x hx
    cases List.mem_singleton.mp hx
    exact ⟨hc, Or.inr rfl⟩

theorem escByte_high {c : Nat} (h : 128 ≤ c) : escByte c = [c] :=
  escByte_cases (P := fun c e => 128 ≤ c → e = [c]) c (by decide) (by decide) (by decide) (by decide) (by decide)
    (fun _ h h' => by omega) (fun _ _ _ _ _ => rfl) h

end Octo.OutFmt
