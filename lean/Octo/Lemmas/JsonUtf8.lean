import Octo.Lemmas.JsonString
import Octo.Lemmas.JsonNumber
import Octo.Lemmas.JsonValue
import Octo.Lemmas.ListFacts
/-!
  Lemmas for C25: when every string of the row, every field name and the library's texts are well-formed
  UTF-8, so is the `-o json` line (RFC 8259 §8.1) — `appendJSONString` copies bytes ≥ 0x80 unchanged and adds
  ASCII only.
-/
namespace Octo.OutFmt
open Octo Octo.Spec

theorem valid_cons_ascii {c : Nat} (r : Bytes) (h : c < 128) : Utf8.valid (c :: r) = Utf8.valid r := by
  rw [Utf8.valid.eq_def]; dsimp only; rw [if_pos h]

theorem isCont_ge {b : Nat} (h : Utf8.isCont b = true) : 128 ≤ b :=
  (of_decide_eq_true h).1

/-- a well-formed string is a sequence of ASCII bytes and multi-byte characters; a multi-byte character
    consists of bytes ≥ 0x80 and can be dropped from the front of any string without changing its validity -/
theorem valid_induction {P : Bytes → Prop} (nil : P [])
    (ascii : ∀ c r, c < 128 → P r → P (c :: r))
    (multi : ∀ ch r, (∀ x ∈ ch, 128 ≤ x) → (∀ y, Utf8.valid (ch ++ y) = Utf8.valid y) → P r → P (ch ++ r)) :
    ∀ s, Utf8.valid s = true → P s := by
  intro s hs
  fun_induction Utf8.valid s
  case case1 => exact nil
  case case2 c r h ih => exact ascii c r h (ih hs)
  case case3 b0 h1 h2 b1 r ih =>
    rw [Bool.and_eq_true] at hs
    obtain ⟨hc1, hr⟩ := hs
    refine multi [b0, b1] r ?_ (fun y => ?_) (ih hr)
    · simp only [List.forall_mem_cons, List.not_mem_nil, false_imp_iff, implies_true, and_true]
      exact ⟨Nat.le_of_not_lt h1, isCont_ge hc1⟩
    · show Utf8.valid (b0 :: b1 :: y) = _
      rw [Utf8.valid.eq_def]; dsimp only; rw [if_neg h1, if_pos h2]
      rw [hc1]; rfl
  case case5 b0 h1 h2 h3 b1 b2 r ih =>
    simp only [Bool.and_eq_true] at hs
    obtain ⟨⟨⟨hrange, hc1⟩, hc2⟩, hr⟩ := hs
    refine multi [b0, b1, b2] r ?_ (fun y => ?_) (ih hr)
    · simp only [List.forall_mem_cons, List.not_mem_nil, false_imp_iff, implies_true, and_true]
      exact ⟨Nat.le_of_not_lt h1, isCont_ge hc1, isCont_ge hc2⟩
    · show Utf8.valid (b0 :: b1 :: b2 :: y) = _
      rw [Utf8.valid.eq_def]; dsimp only; rw [if_neg h1, if_neg h2, if_pos h3]
      rw [hrange, hc1, hc2]; rfl
  case case7 b0 h1 h2 h3 h4 b1 b2 b3 r ih =>
    simp only [Bool.and_eq_true] at hs
    obtain ⟨⟨⟨⟨hrange, hc1⟩, hc2⟩, hc3⟩, hr⟩ := hs
    refine multi [b0, b1, b2, b3] r ?_ (fun y => ?_) (ih hr)
    · simp only [List.forall_mem_cons, List.not_mem_nil, false_imp_iff, implies_true, and_true]
      exact ⟨Nat.le_of_not_lt h1, isCont_ge hc1, isCont_ge hc2, isCont_ge hc3⟩
    · show Utf8.valid (b0 :: b1 :: b2 :: b3 :: y) = _
      rw [Utf8.valid.eq_def]; dsimp only; rw [if_neg h1, if_neg h2, if_neg h3, if_pos h4]
      rw [hrange, hc1, hc2, hc3]; rfl
  all_goals cases hs

theorem valid_append (a b : Bytes) (ha : Utf8.valid a = true) (hb : Utf8.valid b = true) :
    Utf8.valid (a ++ b) = true := by
  refine valid_induction (P := fun a => Utf8.valid (a ++ b) = true) hb ?_ ?_ a ha
  · intro c r h ih; rw [List.cons_append, valid_cons_ascii _ h]; exact ih
  · intro ch r _ hch ih; rw [List.append_assoc, hch]; exact ih

theorem valid_ascii : ∀ s : Bytes, (∀ x ∈ s, x < 128) → Utf8.valid s = true
  | [], _ => rfl
  | c :: r, h => by
    obtain ⟨hc, hr⟩ := List.forall_mem_cons.mp h
    rw [valid_cons_ascii r hc]
    exact valid_ascii r hr

theorem escBody_high : ∀ s : Bytes, (∀ x ∈ s, 128 ≤ x) → escBody s = s
  | [], _ => rfl
  | c :: r, h => by
    obtain ⟨hc, hr⟩ := List.forall_mem_cons.mp h
    rw [escBody, escByte_high hc, escBody_high r hr]
    rfl

theorem valid_escBody (s : Bytes) (h : Utf8.valid s = true) : Utf8.valid (escBody s) = true := by
  refine valid_induction (P := fun s => Utf8.valid (escBody s) = true) rfl ?_ ?_ s h
  · intro c r hc ih
    exact valid_append _ _ (valid_ascii _ fun x hx => (escByte_mem c x hx).2.elim id (· ▸ hc)) ih
  · intro ch r hch hv ih
    rw [escBody_append, escBody_high ch hch, hv]; exact ih

theorem valid_wrap (o c : Nat) (b : Bytes) (hb : Utf8.valid b = true) (ho : o < 128 := by decide)
    (hc : c < 128 := by decide) :
    Utf8.valid (o :: (b ++ [c])) = true := by
  rw [valid_cons_ascii _ ho]
  exact valid_append _ _ hb ((valid_cons_ascii [] hc).trans rfl)

theorem valid_jsonString (s : Bytes) (h : Utf8.valid s = true) : Utf8.valid (jsonString s) = true :=
  valid_wrap 34 34 _ (valid_escBody s h)

theorem valid_sep (first : Bool) : Utf8.valid (sep first) = true := by cases first <;> rfl

theorem valid_scalarText (L : Lib) : ∀ v, utf8Value L v = true → Utf8.valid (scalarText L v) = true
  | .int i, _ => valid_ascii _ fun x hx => (isNumChar_bounds ((validNumber_allNum_first _ (validNumber_fmtInt i)).1 x hx)).1
  | .float b, h => by
    rw [scalarText]
    cases finite b
    · rfl
    · exact h
  | .bool true, _ | .bool false, _ => rfl
  | .str s, h | .time _ _, h | .dur _, h => valid_jsonString _ h
  | .null, _ | .list _, _ | .struct _, _ | .tuple _, _ => rfl

theorem utf8Tys_mem (ts : List Ty) (t : Ty) (hv : utf8Tys ts = true) (h : t ∈ ts) : utf8Ty t = true :=
  (forall_mem_of_and_rec (p := utf8Ty) rfl (fun _ _ => rfl) ts).1 hv t h

theorem utf8Ty_pick {τ t : Ty} {r : Nat} (h : utf8Ty τ = true) (hp : pick τ r = some t) : utf8Ty t = true := by
  cases τ with
  | union alts =>
    rw [utf8Ty] at h
    exact utf8Tys_mem alts t h (List.mem_of_find?_eq_some hp)
  | _ => cases hp; exact h

theorem utf8Ty_elem {t e : Ty} (h : utf8Ty t = true) (he : elemTy t = some e) : utf8Ty e = true := by
  cases t <;> cases he
  exact h

theorem utf8Ty_fields {t : Ty} (h : utf8Ty t = true) :
    (fieldNames t).all (fun n => Utf8.valid (nameBytes n)) = true ∧ utf8Tys (fieldTys t) = true := by
  cases t with
  | struct ns ts => rw [utf8Ty, Bool.and_eq_true] at h; exact h
  | _ => exact ⟨rfl, rfl⟩

theorem utf8Ty_tuple {t : Ty} (h : utf8Ty t = true) : utf8Tys (tupleTys t) = true := by
  cases t with
  | tuple ts => exact h
  | _ => rfl

mutual
theorem encJson_utf8 (L : Lib) (τ : Ty) {bs : Bytes} (hτ : utf8Ty τ = true) : ∀ v : Value, utf8Value L v = true →
    encJson L τ v = some bs → Utf8.valid bs = true
  | .list xs, hv, h => by
    rcases encJson_pick h with rfl | ⟨t, hp⟩
    · rfl
    rw [encJson_list hp, Option.map_eq_some_iff] at h
    obtain ⟨b, hb, rfl⟩ := h
    refine valid_wrap 91 93 b ?_
    cases he : elemTy t with
    | none => rw [he] at hb; cases encElems_none hb; rfl
    | some e => rw [he] at hb; exact encElems_utf8 L xs e true b (utf8Ty_elem (utf8Ty_pick hτ hp) he) hv hb
  | .struct xs, hv, h => by
    rcases encJson_pick h with rfl | ⟨t, hp⟩
    · rfl
    rw [encJson_struct hp, Option.map_eq_some_iff] at h
    obtain ⟨b, hb, rfl⟩ := h
    have ht := utf8Ty_fields (utf8Ty_pick hτ hp)
    exact valid_wrap 123 125 b (encFields_utf8 L xs _ _ true b ht.1 ht.2 hv hb)
  | .tuple xs, hv, h => by
    rcases encJson_pick h with rfl | ⟨t, hp⟩
    · rfl
    rw [encJson_tuple hp, Option.map_eq_some_iff] at h
    obtain ⟨b, hb, rfl⟩ := h
    exact valid_wrap 91 93 b (encTuple_utf8 L xs _ true b (utf8Ty_tuple (utf8Ty_pick hτ hp)) hv hb)
  | .null, hv, h | .int _, hv, h | .float _, hv, h | .bool _, hv, h | .str _, hv, h | .time _ _, hv, h | .dur _, hv, h =>
    (encJson_scalar_some rfl h).elim (· ▸ rfl) (· ▸ valid_scalarText L _ hv)
theorem encElems_utf8 (L : Lib) : ∀ (xs : List Value) (e : Ty) (first : Bool) (bs : Bytes), utf8Ty e = true →
    utf8Values L xs = true → encElems L (some e) first xs = some bs → Utf8.valid bs = true
  | [], _, _, bs, _, _, h => by rw [encElems_nil] at h; cases h; rfl
  | x :: xs, e, first, bs, he, hv, h => by
    obtain ⟨a, b, ha, hb, rfl⟩ := encElems_cons.mp h
    rw [utf8Values, Bool.and_eq_true] at hv
    exact valid_append _ _ (valid_append _ _ (valid_sep first) (encJson_utf8 L e he x hv.1 ha))
      (encElems_utf8 L xs e false b he hv.2 hb)
theorem encFields_utf8 (L : Lib) : ∀ (xs : List Value) (ns : List Name) (ts : List Ty) (first : Bool) (bs : Bytes),
    ns.all (fun n => Utf8.valid (nameBytes n)) = true → utf8Tys ts = true → utf8Values L xs = true →
    encFields L ns ts first xs = some bs → Utf8.valid bs = true
  | [], _, _, _, bs, _, _, _, h => by rw [encFields_nil] at h; cases h; rfl
  | x :: xs, ns, ts, first, bs, hn, ht, hv, h => by
    obtain ⟨n, ns, t, ts, rfl, rfl⟩ := encFields_shape h
    obtain ⟨a, b, ha, hb, rfl⟩ := encFields_cons.mp h
    rw [utf8Values, Bool.and_eq_true] at hv
    rw [utf8Tys, Bool.and_eq_true] at ht
    rw [List.all_cons, Bool.and_eq_true] at hn
    have h1 : Utf8.valid (58 :: a) = true := (valid_cons_ascii a (by decide)).trans (encJson_utf8 L t ht.1 x hv.1 ha)
    exact valid_append _ _ (valid_append _ _ (valid_append _ _ (valid_sep first) (valid_jsonString _ hn.1)) h1)
      (encFields_utf8 L xs ns ts false b hn.2 ht.2 hv.2 hb)
theorem encTuple_utf8 (L : Lib) : ∀ (xs : List Value) (ts : List Ty) (first : Bool) (bs : Bytes),
    utf8Tys ts = true → utf8Values L xs = true → encTuple L ts first xs = some bs → Utf8.valid bs = true
  | [], _, _, bs, _, _, h => by rw [encTuple_nil] at h; cases h; rfl
  | x :: xs, ts, first, bs, ht, hv, h => by
    obtain ⟨t, ts, rfl⟩ := encTuple_shape h
    obtain ⟨a, b, ha, hb, rfl⟩ := encTuple_cons.mp h
    rw [utf8Values, Bool.and_eq_true] at hv
    rw [utf8Tys, Bool.and_eq_true] at ht
    exact valid_append _ _ (valid_append _ _ (valid_sep first) (encJson_utf8 L t ht.1 x hv.1 ha))
      (encTuple_utf8 L xs ts false b ht.2 hv.2 hb)
end

theorem jsonLine_utf8 (L : Lib) (ns : List Name) (ts : List Ty) (xs : List Value) (bs : Bytes)
    (hfit : rowFits ns ts xs = true)
    (hn : ns.all (fun n => Utf8.valid (nameBytes n)) = true) (ht : utf8Tys ts = true) (hv : utf8Values L xs = true)
    (h : jsonLine L ns ts xs = some bs) : Utf8.valid bs = true := by
  rw [jsonLine_eq L ns ts xs hfit, Option.map_eq_some_iff] at h
  obtain ⟨b, hb, rfl⟩ := h
  have hτ : utf8Ty (.struct ns ts) = true := by rw [utf8Ty, hn, ht]; rfl
  exact valid_append _ _ (encJson_utf8 L (.struct ns ts) hτ (.struct xs) hv hb) rfl

end Octo.OutFmt
