import Octo.Spec.OutputSpec
/-!
  Lemmas for C25: `ValueToJson` (model: `encJson` and its three loops) and `fits`, case by case.
  The later inductions over values read the mutual definitions through these equations.
-/
namespace Octo.OutFmt
open Octo Octo.Spec

variable {L : Lib} {τ t : Ty} {v x : Value} {xs : List Value} {bs : Bytes} {first : Bool}

theorem fits_pick (h : fits τ v = true) : ∃ t, pick τ v.rank = some t := by
  rw [fits] at h
  cases hp : pick τ v.rank with
  | none => rw [hp] at h; cases h
  | some t => exact ⟨t, rfl⟩

def isScalar : Value → Bool
  | .list _ | .struct _ | .tuple _ => false
  | _ => true

/-- what `ValueToJson` appends for a scalar -/
def scalarText (L : Lib) : Value → Bytes
  | .int i => fmtInt i
  | .float b => if finite b then L.fmtFloatG b else nullLit
  | .bool b => if b then trueLit else falseLit
  | .str s => jsonString (strBytes s)
  | .time ns loc => jsonString (L.fmtTime ns loc)
  | .dur ns => jsonString (L.fmtDur ns)
  | _ => nullLit

/-- the library prints finite floats in the JSON number grammar -/
def FloatSyntax (L : Lib) : Prop := ∀ b, finite b = true → Json.validNumber (L.fmtFloatG b) = true

/-- the library's texts read back exactly: the shortest float text as the same float, the RFC 3339 text as the
    same instant, the duration text as the same number of nanoseconds -/
structure TextExact (L : Lib) : Prop where
  float : ∀ b, finite b = true → Num.litToF64 (L.fmtFloatG b) = b
  time : ∀ ns loc, TimeText.parseRfc3339 (L.fmtTime ns loc) = some ns
  dur : ∀ ns, TimeText.parseDuration (L.fmtDur ns) = some ns

theorem encJson_of_pick_none (h : pick τ v.rank = none) : encJson L τ v = some nullLit := by
  rw [encJson, h]

theorem encJson_scalar (hs : isScalar v = true) (hp : pick τ v.rank = some t) :
    encJson L τ v = some (scalarText L v) := by
  rw [encJson, hp]
  cases v with
  | list _ | struct _ | tuple _ => cases hs
  | _ => rfl

theorem encJson_pick (h : encJson L τ v = some bs) : bs = nullLit ∨ ∃ t, pick τ v.rank = some t := by
  cases hp : pick τ v.rank with
  | none => rw [encJson_of_pick_none hp] at h; exact Or.inl (Option.some.inj h).symm
  | some t => exact Or.inr ⟨t, rfl⟩

theorem encJson_scalar_some (hs : isScalar v = true) (h : encJson L τ v = some bs) :
    bs = nullLit ∨ bs = scalarText L v :=
  (encJson_pick h).imp_right fun ⟨_, hp⟩ => Option.some.inj ((encJson_scalar hs hp ▸ h).symm)

theorem encJson_list (hp : pick τ (Value.list xs).rank = some t) :
    encJson L τ (.list xs) = (encElems L (elemTy t) true xs).map fun b => 91 :: (b ++ [93]) := by
  rw [encJson, hp]

theorem encJson_struct (hp : pick τ (Value.struct xs).rank = some t) :
    encJson L τ (.struct xs) = (encFields L (fieldNames t) (fieldTys t) true xs).map fun b => 123 :: (b ++ [125]) := by
  rw [encJson, hp]

theorem encJson_tuple (hp : pick τ (Value.tuple xs).rank = some t) :
    encJson L τ (.tuple xs) = (encTuple L (tupleTys t) true xs).map fun b => 91 :: (b ++ [93]) := by
  rw [encJson, hp]

theorem fits_list (hp : pick τ (Value.list xs).rank = some t) :
    fits τ (.list xs) = match elemTy t with
      | some e => fitsAll e xs
      | none => xs.isEmpty := by
  rw [fits, hp]; rfl

theorem fits_struct (hp : pick τ (Value.struct xs).rank = some t) :
    fits τ (.struct xs) = (decide ((fieldNames t).length = (fieldTys t).length) && fitsEach (fieldTys t) xs) := by
  rw [fits, hp]

theorem fits_tuple (hp : pick τ (Value.tuple xs).rank = some t) :
    fits τ (.tuple xs) = fitsEach (tupleTys t) xs := by
  rw [fits, hp]

theorem pair_some {a? b? : Option Bytes} {f : Bytes → Bytes → Bytes} :
    (match a?, b? with | some a, some b => some (f a b) | _, _ => none) = some bs ↔
      ∃ a b, a? = some a ∧ b? = some b ∧ bs = f a b := by
  cases a? <;> cases b? <;> simp [eq_comm]

theorem encElems_nil {et : Option Ty} : encElems L et first [] = some [] := by rw [encElems]

theorem encElems_cons {e : Ty} :
    encElems L (some e) first (x :: xs) = some bs ↔
      ∃ a b, encJson L e x = some a ∧ encElems L (some e) false xs = some b ∧ bs = sep first ++ a ++ b := by
  rw [encElems]; exact pair_some

theorem encElems_none (h : encElems L none first xs = some bs) : bs = [] := by
  cases xs with
  | nil => rw [encElems_nil] at h; exact (Option.some.inj h).symm
  | cons _ _ => rw [encElems] at h; cases h

theorem encFields_nil {ns : List Name} {ts : List Ty} : encFields L ns ts first [] = some [] := by rw [encFields]

theorem encFields_cons {n : Name} {ns : List Name} {ts : List Ty} :
    encFields L (n :: ns) (t :: ts) first (x :: xs) = some bs ↔
      ∃ a b, encJson L t x = some a ∧ encFields L ns ts false xs = some b ∧
        bs = sep first ++ jsonString (nameBytes n) ++ 58 :: a ++ b := by
  rw [encFields]; exact pair_some

theorem encFields_shape {ns : List Name} {ts : List Ty} (h : encFields L ns ts first (x :: xs) = some bs) :
    ∃ n ns' t ts', ns = n :: ns' ∧ ts = t :: ts' := by
  match ns, ts, h with
  | n :: ns, t :: ts, _ => exact ⟨n, ns, t, ts, rfl, rfl⟩
  | [], ts, h => cases ts <;> simp [encFields] at h
  | _ :: _, [], h => simp [encFields] at h

theorem encTuple_shape {ts : List Ty} (h : encTuple L ts first (x :: xs) = some bs) : ∃ t ts', ts = t :: ts' := by
  cases ts with
  | nil => simp [encTuple] at h
  | cons t ts => exact ⟨t, ts, rfl⟩

theorem encTuple_nil {ts : List Ty} : encTuple L ts first [] = some [] := by rw [encTuple]

theorem encTuple_cons {ts : List Ty} :
    encTuple L (t :: ts) first (x :: xs) = some bs ↔
      ∃ a b, encJson L t x = some a ∧ encTuple L ts false xs = some b ∧ bs = sep first ++ a ++ b := by
  rw [encTuple]; exact pair_some

theorem fitsAll_cons {e : Ty} : fitsAll e (x :: xs) = true ↔ fits e x = true ∧ fitsAll e xs = true := by
  rw [fitsAll, Bool.and_eq_true]

theorem fitsEach_nil {ts : List Ty} (h : fitsEach ts [] = true) : ts = [] := by
  cases ts with
  | nil => rfl
  | cons _ _ => cases h

theorem fitsEach_cons {ts : List Ty} (h : fitsEach ts (x :: xs) = true) :
    ∃ t ts', ts = t :: ts' ∧ fits t x = true ∧ fitsEach ts' xs = true := by
  cases ts with
  | nil => cases h
  | cons t ts' => rw [fitsEach, Bool.and_eq_true] at h; exact ⟨t, ts', rfl, h⟩

theorem fitsEach_length : ∀ (ts : List Ty) (xs : List Value), fitsEach ts xs = true → ts.length = xs.length
  | ts, [], h => by cases fitsEach_nil h; rfl
  | ts, x :: xs, h => by
    obtain ⟨t, ts, rfl, _, hxs⟩ := fitsEach_cons h
    rw [List.length_cons, List.length_cons, fitsEach_length ts xs hxs]

theorem encRowFields_eq (L : Lib) : ∀ (ns : List Name) (ts : List Ty) (xs : List Value) (first : Bool),
    ns.length = ts.length → ts.length = xs.length → encRowFields L ns ts first xs = encFields L ns ts first xs
  | ns, ts, [], _, h1, h2 => by
    cases List.eq_nil_of_length_eq_zero h2
    cases List.eq_nil_of_length_eq_zero h1
    rw [encRowFields, encFields]
  | ns, ts, x :: xs, first, h1, h2 => by
    obtain ⟨t, ts, rfl⟩ := List.exists_cons_of_length_eq_add_one h2
    obtain ⟨n, ns, rfl⟩ := List.exists_cons_of_length_eq_add_one h1
    rw [encRowFields, encFields, encRowFields_eq L ns ts xs false (Nat.succ.inj h1) (Nat.succ.inj h2)]

/-- a row is the struct of its values under the struct type of the schema -/
theorem fits_row (ns : List Name) (ts : List Ty) (xs : List Value) :
    fits (.struct ns ts) (.struct xs) = rowFits ns ts xs :=
  fits_struct (t := .struct ns ts) rfl

theorem rowFits_iff {ns : List Name} {ts : List Ty} {xs : List Value} :
    rowFits ns ts xs = true ↔ ns.length = ts.length ∧ fitsEach ts xs = true := by
  rw [rowFits, Bool.and_eq_true, decide_eq_true_eq]

theorem jsonLine_eq (L : Lib) (ns : List Name) (ts : List Ty) (xs : List Value) (h : rowFits ns ts xs = true) :
    jsonLine L ns ts xs = (encJson L (.struct ns ts) (.struct xs)).map (· ++ [10]) := by
  have h' := rowFits_iff.mp h
  rw [jsonLine, encRowFields_eq L ns ts xs true h'.1 (fitsEach_length ts xs h'.2), encJson_struct (t := .struct ns ts) rfl]
  simp only [fieldNames, fieldTys]
  cases encFields L ns ts true xs <;> simp

end Octo.OutFmt
