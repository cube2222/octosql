import Octo.Lemmas.JsonRoundtrip
import Octo.Lemmas.JsonValue
/-!
  Lemmas for C25: what `ValueToJson` (model: `encJson`) writes.  For every value that fits its type it does not
  panic and writes `render (erase L τ v)`, where `erase L τ v` is a well-formed document as big as the value
  (`encJson_writes`).  No reader occurs before the corollaries at the end (`encJson_dec`, `encJson_len`).
-/
namespace Octo.OutFmt
open Octo Octo.Spec

mutual
/-- the JSON document that `ValueToJson` writes for `v` (as a tree, not as text) -/
def erase (L : Lib) (τ : Ty) (v : Value) : JVal :=
  match pick τ v.rank with
  | none => .null
  | some t =>
    match v with
    | .null => .null
    | .int i => .num (fmtInt i)
    | .float b => if finite b then .num (L.fmtFloatG b) else .null
    | .bool b => .bool b
    | .str s => .str (strBytes s)
    | .time ns loc => .str (L.fmtTime ns loc)
    | .dur ns => .str (L.fmtDur ns)
    | .list xs =>
      match elemTy t with
      | some e => .arr (eraseAll L e xs)
      | none => .arr []
    | .struct xs => .obj ((fieldNames t).map nameBytes) (eraseEach L (fieldTys t) xs)
    | .tuple xs => .arr (eraseEach L (tupleTys t) xs)
def eraseAll (L : Lib) (e : Ty) : List Value → List JVal
  | [] => []
  | x :: xs => erase L e x :: eraseAll L e xs
def eraseEach (L : Lib) : List Ty → List Value → List JVal
  | t :: ts, x :: xs => erase L t x :: eraseEach L ts xs
  | _, _ => []
end

def scalarDoc (L : Lib) : Value → JVal
  | .int i => .num (fmtInt i)
  | .float b => if finite b then .num (L.fmtFloatG b) else .null
  | .bool b => .bool b
  | .str s => .str (strBytes s)
  | .time ns loc => .str (L.fmtTime ns loc)
  | .dur ns => .str (L.fmtDur ns)
  | _ => .null

section
variable {L : Lib} {τ t : Ty} {v : Value} {xs : List Value}

theorem erase_scalar (hs : isScalar v = true) (hp : pick τ v.rank = some t) : erase L τ v = scalarDoc L v := by
  rw [erase, hp]
  cases v with
  | list _ | struct _ | tuple _ => cases hs
  | _ => rfl

theorem erase_list (hp : pick τ (Value.list xs).rank = some t) :
    erase L τ (.list xs) = match elemTy t with
      | some e => .arr (eraseAll L e xs)
      | none => .arr [] := by
  rw [erase, hp]

theorem erase_struct (hp : pick τ (Value.struct xs).rank = some t) :
    erase L τ (.struct xs) = .obj ((fieldNames t).map nameBytes) (eraseEach L (fieldTys t) xs) := by
  rw [erase, hp]

theorem erase_tuple (hp : pick τ (Value.tuple xs).rank = some t) :
    erase L τ (.tuple xs) = .arr (eraseEach L (tupleTys t) xs) := by
  rw [erase, hp]

end

/-- The size is carried only for the fuel bounds that are stated on the value (`encJson_dec`, `encJson_len` and
    their loops); `Json.decode` takes its fuel from the length of the text (`decode_render`) and needs none. -/
structure Writes (o : Option Bytes) (j : JVal) (n : Nat) : Prop where
  text : o = some (render j)
  wf : Wf j
  size : docSize j = n
structure WritesAll (o : Option Bytes) (bs : Bytes) (js : List JVal) (n : Nat) : Prop where
  text : o = some bs
  wf : WfAll js
  size : docSizes js = n

theorem render_scalarDoc (L : Lib) : ∀ v, render (scalarDoc L v) = scalarText L v
  | .float b => by rw [scalarText, scalarDoc]; cases finite b <;> rfl
  | .int _ | .bool _ | .str _ | .time _ _ | .dur _ | .null | .list _ | .struct _ | .tuple _ => rfl

theorem wf_scalarDoc {L : Lib} (hL : FloatSyntax L) : ∀ v, Wf (scalarDoc L v) ∧ docSize (scalarDoc L v) = 1
  | .int i => ⟨validNumber_fmtInt i, rfl⟩
  | .float b => by
    rw [scalarDoc]
    cases hb : finite b
    · exact ⟨trivial, rfl⟩
    · exact ⟨hL b hb, rfl⟩
  | .bool _ | .str _ | .time _ _ | .dur _ | .null | .list _ | .struct _ | .tuple _ => ⟨trivial, rfl⟩

theorem Writes.wrap {o : Option Bytes} {js : List JVal} {n : Nat} (h : WritesAll o (renderElems true js) js n) :
    Writes (o.map fun b => 91 :: (b ++ [93])) (.arr js) (1 + n) :=
  ⟨by rw [h.text]; rfl, h.wf, congrArg (1 + ·) h.size⟩

mutual
theorem encJson_writes (L : Lib) (hL : FloatSyntax L) (τ : Ty) : ∀ v : Value, fits τ v = true →
    Writes (encJson L τ v) (erase L τ v) v.size
  | .list xs, h => by
    obtain ⟨t, hp⟩ := fits_pick h
    rw [fits_list hp] at h
    rw [encJson_list hp, erase_list hp]
    cases he : elemTy t with
    | none => rw [he] at h; cases List.isEmpty_iff.mp h; exact ⟨rfl, trivial, rfl⟩
    | some e => rw [he] at h; exact Writes.wrap (encElems_writes L hL xs e true h)
  | .struct xs, h => by
    obtain ⟨t, hp⟩ := fits_pick h
    rw [fits_struct hp, Bool.and_eq_true, decide_eq_true_eq] at h
    rw [encJson_struct hp, erase_struct hp]
    obtain ⟨hw, hl⟩ := encFields_writes L hL xs _ _ true h.1 h.2
    exact ⟨by rw [hw.text]; rfl, ⟨hl, hw.wf⟩, congrArg (1 + ·) hw.size⟩
  | .tuple xs, h => by
    obtain ⟨t, hp⟩ := fits_pick h
    rw [fits_tuple hp] at h
    rw [encJson_tuple hp, erase_tuple hp]
    exact Writes.wrap (encTuple_writes L hL xs _ true h)
  | .null, h | .int _, h | .float _, h | .bool _, h | .str _, h | .time _ _, h | .dur _, h => by
    obtain ⟨t, hp⟩ := fits_pick h
    rw [encJson_scalar rfl hp, erase_scalar rfl hp, ← render_scalarDoc]
    exact ⟨rfl, (wf_scalarDoc hL _).1, (wf_scalarDoc hL _).2⟩
theorem encElems_writes (L : Lib) (hL : FloatSyntax L) : ∀ (xs : List Value) (e : Ty) (first : Bool), fitsAll e xs = true →
    WritesAll (encElems L (some e) first xs) (renderElems first (eraseAll L e xs)) (eraseAll L e xs) (Value.sizeList xs)
  | [], _, _, _ => ⟨encElems_nil, trivial, rfl⟩
  | x :: xs, e, first, h => by
    rw [fitsAll_cons] at h
    have a := encJson_writes L hL e x h.1
    have b := encElems_writes L hL xs e false h.2
    exact ⟨encElems_cons.mpr ⟨_, _, a.text, b.text, rfl⟩, ⟨a.wf, b.wf⟩, by rw [eraseAll, docSizes, a.size, b.size, Value.sizeList]⟩
theorem encFields_writes (L : Lib) (hL : FloatSyntax L) : ∀ (xs : List Value) (ns : List Name) (ts : List Ty) (first : Bool),
    ns.length = ts.length → fitsEach ts xs = true →
    WritesAll (encFields L ns ts first xs) (renderMembers first (ns.map nameBytes) (eraseEach L ts xs))
      (eraseEach L ts xs) (Value.sizeList xs) ∧ (ns.map nameBytes).length = (eraseEach L ts xs).length
  | [], ns, ts, first, hl, h => by
    cases fitsEach_nil h
    cases List.eq_nil_of_length_eq_zero hl
    exact ⟨⟨encFields_nil, trivial, rfl⟩, rfl⟩
  | x :: xs, ns, ts, first, hl, h => by
    obtain ⟨t, ts, rfl, hx, hxs⟩ := fitsEach_cons h
    obtain ⟨n, ns, rfl⟩ := List.exists_cons_of_length_eq_add_one hl
    have a := encJson_writes L hL t x hx
    obtain ⟨b, bl⟩ := encFields_writes L hL xs ns ts false (Nat.succ.inj hl) hxs
    exact ⟨⟨encFields_cons.mpr ⟨_, _, a.text, b.text, rfl⟩, ⟨a.wf, b.wf⟩, by rw [eraseEach, docSizes, a.size, b.size, Value.sizeList]⟩, congrArg (· + 1) bl⟩
theorem encTuple_writes (L : Lib) (hL : FloatSyntax L) : ∀ (xs : List Value) (ts : List Ty) (first : Bool),
    fitsEach ts xs = true →
    WritesAll (encTuple L ts first xs) (renderElems first (eraseEach L ts xs)) (eraseEach L ts xs) (Value.sizeList xs)
  | [], ts, _, h => by cases fitsEach_nil h; exact ⟨encTuple_nil, trivial, rfl⟩
  | x :: xs, ts, first, h => by
    obtain ⟨t, ts, rfl, hx, hxs⟩ := fitsEach_cons h
    have a := encJson_writes L hL t x hx
    have b := encTuple_writes L hL xs ts false hxs
    exact ⟨encTuple_cons.mpr ⟨_, _, a.text, b.text, rfl⟩, ⟨a.wf, b.wf⟩, by rw [eraseEach, docSizes, a.size, b.size, Value.sizeList]⟩
end

theorem encJson_dec (L : Lib) (hL : FloatSyntax L) (τ : Ty) (v : Value) (h : fits τ v = true) :
    ∃ bs, encJson L τ v = some bs ∧
      ∀ f rest, Term rest → 2 * v.size ≤ f → Json.pValue f (bs ++ rest) = some (erase L τ v, rest) :=
  have w := encJson_writes L hL τ v h
  ⟨_, w.text, fun f rest hr hf => pValue_render _ w.wf f rest hr (w.size ▸ hf)⟩

/-- the rest of the List loop (`first = false`), read by the reader's continuation -/
theorem encElems_dec (L : Lib) (hL : FloatSyntax L) : ∀ (xs : List Value) (e : Ty), fitsAll e xs = true →
    ∃ bs, encElems L (some e) false xs = some bs ∧ CommaOrNil bs ∧
      ∀ f rest v0, 2 * Value.sizeList xs + 1 ≤ f →
        contElems f v0 (bs ++ 93 :: rest) = some (v0 :: eraseAll L e xs, rest) := fun xs e h =>
  have w := encElems_writes L hL xs e false h
  ⟨_, w.text, commaOrNil_elems _, fun f rest v0 hf => contElems_render _ w.wf f rest v0 (w.size ▸ hf)⟩

theorem encFields_dec (L : Lib) (hL : FloatSyntax L) : ∀ (xs : List Value) (ns : List Name) (ts : List Ty),
    ns.length = ts.length → fitsEach ts xs = true →
    ∃ bs, encFields L ns ts false xs = some bs ∧ CommaOrNil bs ∧
      ∀ f rest k0 v0, 2 * Value.sizeList xs + 1 ≤ f →
        contMembers f k0 v0 (bs ++ 125 :: rest) = some (k0 :: ns.map nameBytes, v0 :: eraseEach L ts xs, rest) :=
  fun xs ns ts hl h =>
  have ⟨w, hk⟩ := encFields_writes L hL xs ns ts false hl h
  ⟨_, w.text, commaOrNil_members _ _, fun f rest k0 v0 hf => contMembers_render _ _ hk w.wf f rest k0 v0 (w.size ▸ hf)⟩

theorem encTuple_dec (L : Lib) (hL : FloatSyntax L) : ∀ (xs : List Value) (ts : List Ty), fitsEach ts xs = true →
    ∃ bs, encTuple L ts false xs = some bs ∧ CommaOrNil bs ∧
      ∀ f rest v0, 2 * Value.sizeList xs + 1 ≤ f →
        contElems f v0 (bs ++ 93 :: rest) = some (v0 :: eraseEach L ts xs, rest) := fun xs ts h =>
  have w := encTuple_writes L hL xs ts false h
  ⟨_, w.text, commaOrNil_elems _, fun f rest v0 hf => contElems_render _ w.wf f rest v0 (w.size ▸ hf)⟩

theorem encJson_len (L : Lib) (hL : FloatSyntax L) (τ : Ty) {bs : Bytes} (v : Value)
    (hf : fits τ v = true) (h : encJson L τ v = some bs) : v.size ≤ bs.length := by
  have w := encJson_writes L hL τ v hf
  cases w.text.symm.trans h
  exact w.size ▸ docSize_le _ w.wf

theorem encElems_len (L : Lib) (hL : FloatSyntax L) : ∀ (xs : List Value) (e : Ty) (first : Bool) (bs : Bytes),
    fitsAll e xs = true → encElems L (some e) first xs = some bs → Value.sizeList xs ≤ bs.length := by
  intro xs e first bs hf h
  have w := encElems_writes L hL xs e first hf
  cases w.text.symm.trans h
  exact w.size ▸ docSizes_le_elems _ w.wf first

/-- (no hypothesis on the number of names: more names than values are not written) -/
theorem encFields_len (L : Lib) (hL : FloatSyntax L) : ∀ (xs : List Value) (ns : List Name) (ts : List Ty) (first : Bool) (bs : Bytes),
    fitsEach ts xs = true → encFields L ns ts first xs = some bs → Value.sizeList xs ≤ bs.length
  | [], _, _, _, _, _, _ => Nat.zero_le _
  | x :: xs, ns, ts, first, bs, hf, h => by
    obtain ⟨n, ns, t, ts, rfl, rfl⟩ := encFields_shape h
    rw [fitsEach, Bool.and_eq_true] at hf
    obtain ⟨a, b, ha, hb, rfl⟩ := encFields_cons.mp h
    rw [List.length_append, List.length_append, List.length_cons, Nat.add_assoc]
    exact Nat.le_add_left_of_le (Nat.add_le_add (Nat.le_succ_of_le (encJson_len L hL t x hf.1 ha))
      (encFields_len L hL xs ns ts false b hf.2 hb))

theorem encTuple_len (L : Lib) (hL : FloatSyntax L) : ∀ (xs : List Value) (ts : List Ty) (first : Bool) (bs : Bytes),
    fitsEach ts xs = true → encTuple L ts first xs = some bs → Value.sizeList xs ≤ bs.length := by
  intro xs ts first bs hf h
  have w := encTuple_writes L hL xs ts first hf
  cases w.text.symm.trans h
  exact w.size ▸ docSizes_le_elems _ w.wf first

end Octo.OutFmt
