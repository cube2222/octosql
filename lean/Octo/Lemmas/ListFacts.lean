/-! Facts about core `List` and `Option` functions that several groups of lemma modules need and core Lean does not
    state. Nothing here mentions the model. -/

namespace Octo

theorem flatMap_congr_mem {γ δ : Type} {f g : γ → List δ} {L : List γ} (h : ∀ a ∈ L, f a = g a) : L.flatMap f = L.flatMap g := by
  rw [List.flatMap_def, List.flatMap_def, List.map_congr_left h]

theorem flatMap_filter {γ δ : Type} (p : γ → Bool) (f : γ → List δ) : ∀ (l : List γ),
    (l.filter p).flatMap f = l.flatMap fun a => if p a then f a else []
  | [] => rfl
  | a :: l => by
    rw [List.filter_cons, List.flatMap_cons, ← flatMap_filter p f l]
    cases p a <;> rfl

theorem any_congr_mem {α : Type} {f g : α → Bool} {l : List α} (h : ∀ x ∈ l, f x = g x) : l.any f = l.any g := by
  induction l with
  | nil => rfl
  | cons x l ih => rw [List.any_cons, List.any_cons, h x (by simp), ih (fun y hy => h y (by simp [hy]))]

theorem filter_map_congr {α β γ : Type} {g : α → β} {p' : β → Bool} {p : α → Bool} {f' : β → γ} {f : α → γ} {l : List α}
    (hp : ∀ a ∈ l, p' (g a) = p a) (hf : ∀ a ∈ l, f' (g a) = f a) : ((l.map g).filter p').map f' = (l.filter p).map f := by
  rw [List.filter_map, List.map_map, List.filter_congr (p := p' ∘ g) (q := p) hp]
  exact List.map_congr_left fun a ha => hf a (List.mem_filter.mp ha).1

/-- the list half `g` of a Bool predicate `p` that the model defines by mutual recursion (`g [] = true`,
    `g (a :: l) = (p a && g l)`) says that `p` holds of every member -/
theorem forall_mem_of_and_rec {α : Type} {p : α → Bool} {g : List α → Bool} (h0 : g [] = true)
    (hc : ∀ a l, g (a :: l) = (p a && g l)) (l : List α) : g l = true ↔ ∀ a ∈ l, p a = true := by
  induction l with
  | nil => exact ⟨fun _ _ h => (nomatch h), fun _ => h0⟩
  | cons x xs ih => rw [hc, Bool.and_eq_true, ih, List.forall_mem_cons]

theorem all_filter_congr {γ : Type} {K K' p : γ → Bool} {l : List γ} (h : ∀ x ∈ l, p x = true → K x = K' x) :
    (l.filter p).all K = (l.filter p).all K' := by
  rw [Bool.eq_iff_iff]
  simp only [List.all_eq_true, List.mem_filter]
  exact ⟨fun hK x hx => h x hx.1 hx.2 ▸ hK x hx, fun hK x hx => (h x hx.1 hx.2).symm ▸ hK x hx⟩

/-- the classes need not be disjoint, only cover the list -/
theorem all_cover {γ : Type} (K a b c : γ → Bool) (l : List γ) (h : ∀ x ∈ l, a x || b x || c x) :
    l.all K = ((l.filter a).all K && (l.filter b).all K && (l.filter c).all K) := by
  rw [Bool.eq_iff_iff]
  simp only [Bool.and_eq_true, List.all_eq_true, List.mem_filter, and_imp]
  constructor
  · exact fun hK => ⟨⟨fun x hx _ => hK x hx, fun x hx _ => hK x hx⟩, fun x hx _ => hK x hx⟩
  · intro ⟨⟨ha, hb⟩, hc⟩ x hx
    have := h x hx
    simp only [Bool.or_eq_true] at this
    rcases this with (h1 | h1) | h1
    · exact ha x hx h1
    · exact hb x hx h1
    · exact hc x hx h1

theorem all_partition {γ : Type} (K p : γ → Bool) (l : List γ) :
    l.all K = ((l.filter p).all K && (l.filter fun x => !p x).all K) := by
  rw [Bool.eq_iff_iff]
  simp only [Bool.and_eq_true, List.all_eq_true, List.mem_filter, and_imp, Bool.not_eq_true']
  constructor
  · exact fun hK => ⟨fun x hx _ => hK x hx, fun x hx _ => hK x hx⟩
  · intro ⟨h1, h2⟩ x hx
    cases hp : p x
    · exact h2 x hx hp
    · exact h1 x hx hp

theorem take_filter_exists {α : Type} (p : α → Bool) (l : List α) (n : Nat) :
    ∃ m, (l.filter p).take n = (l.take m).filter p := by
  obtain ⟨l₁, l₂, rfl, h1, _⟩ := List.filter_eq_append_iff.mp (List.take_append_drop n (l.filter p)).symm
  exact ⟨l₁.length, by rw [List.take_left, h1]⟩

theorem eraseIdx_map {α β : Type} (f : α → β) : ∀ (l : List α) (i : Nat), (l.map f).eraseIdx i = (l.eraseIdx i).map f
  | [], _ => rfl
  | _ :: _, 0 => rfl
  | a :: l, i + 1 => congrArg (f a :: ·) (eraseIdx_map f l i)

theorem take_eraseIdx_of_le {α : Type} : ∀ (l : List α) (n i : Nat), n ≤ i → (l.eraseIdx i).take n = l.take n
  | [], _, _, _ => by simp
  | _ :: _, 0, _, _ => by simp
  | x :: l, n + 1, 0, h => by omega
  | x :: l, n + 1, i + 1, h => by
    simp only [List.eraseIdx_cons_succ, List.take_succ_cons, take_eraseIdx_of_le l n i (by omega)]

/-- a maximum over a list, written as a recursive function, bounds every member -/
theorem max_mem {α : Type} {g : α → Nat} {f : List α → Nat} (hcons : ∀ x xs, f (x :: xs) = max (g x) (f xs)) :
    ∀ {xs : List α} {d : Nat}, f xs ≤ d → ∀ x ∈ xs, g x ≤ d
  | [], _, _, _, hx => nomatch hx
  | y :: ys, d, h, x, hx => by
    rw [hcons, Nat.max_le] at h
    rcases List.mem_cons.1 hx with rfl | hx
    · exact h.1
    · exact max_mem hcons h.2 x hx

end Octo

namespace List
variable {α : Type u} {β : Type v} {γ : Type w}

/-- what one needs to know of a successful `mapM` (its length, its members, the head and tail, that it depends on `f` at
    members of `l` only) is, through this, a fact about `List.map` -/
theorem mapM_eq_some_iff {f : α → Option β} {l : List α} : ∀ {rs : List β}, l.mapM f = some rs ↔ l.map f = rs.map some := by
  induction l with
  | nil => intro rs; cases rs <;> simp
  | cons a l ih =>
    intro rs
    rw [mapM_cons, map_cons]
    cases f a with
    | none => cases rs <;> simp
    | some b =>
      cases hl : l.mapM f with
      | none =>
        cases rs with
        | nil => simp
        | cons r rs => simpa using fun _ h => nomatch hl ▸ ih.mpr h
      | some bs =>
        cases rs with
        | nil => simp
        | cons r rs => simpa [ih.mp hl] using fun _ => (map_inj_right fun _ _ => Option.some.inj).symm

theorem mapM_cons_some {f : α → Option β} {a : α} {l : List α} {rs : List β} (h : (a :: l).mapM f = some rs) :
    ∃ b bs, f a = some b ∧ l.mapM f = some bs ∧ rs = b :: bs := by
  obtain ⟨b, bs, rfl⟩ : ∃ b bs, rs = b :: bs := by
    cases rs with
    | nil => exact nomatch mapM_eq_some_iff.mp h
    | cons b bs => exact ⟨b, bs, rfl⟩
  rw [mapM_eq_some_iff, map_cons, map_cons, cons.injEq] at h
  exact ⟨b, bs, h.1, mapM_eq_some_iff.mpr h.2, rfl⟩

theorem mapM_mem {f : α → Option β} {l : List α} {rs : List β} (h : l.mapM f = some rs) {b : β} (hb : b ∈ rs) :
    ∃ a ∈ l, f a = some b :=
  mem_map.mp (mapM_eq_some_iff.mp h ▸ mem_map_of_mem (f := some) hb)

theorem mapM_mem_left {f : α → Option β} {l : List α} {rs : List β} (h : l.mapM f = some rs) {a : α} (ha : a ∈ l) :
    ∃ b ∈ rs, f a = some b :=
  have ⟨b, hb, e⟩ := mem_map.mp (mapM_eq_some_iff.mp h ▸ mem_map_of_mem (f := f) ha)
  ⟨b, hb, e.symm⟩

theorem mapM_lift {f : α → Option β} {g : α → Option γ} {k : β → γ} {l : List α} {rs : List β}
    (hk : ∀ a ∈ l, ∀ b, f a = some b → g a = some (k b)) (h : l.mapM f = some rs) : l.mapM g = some (rs.map k) := by
  rw [mapM_eq_some_iff] at h ⊢
  calc map g l = map (Option.map k) (map f l) := by
        rw [map_map]
        refine map_congr_left fun a ha => ?_
        obtain ⟨b, _, e⟩ := mem_map.mp (h ▸ mem_map_of_mem (f := f) ha)
        rw [hk a ha b e.symm, Function.comp, ← e]; rfl
    _ = map some (map k rs) := by rw [h, map_map, map_map]; rfl

theorem mapM_length {f : α → Option β} {l : List α} {rs : List β} (h : l.mapM f = some rs) : rs.length = l.length := by
  simpa using (congrArg length (mapM_eq_some_iff.mp h)).symm

theorem mapM_getElem? {f : α → Option β} {l : List α} {rs : List β} (h : l.mapM f = some rs) :
    rs.length = l.length ∧ ∀ (i : Nat) (b : β), rs[i]? = some b → ∃ a, l[i]? = some a ∧ f a = some b := by
  have hmap := mapM_eq_some_iff.mp h
  refine ⟨mapM_length h, fun i b hb => ?_⟩
  have hi := congrArg (·[i]?) hmap
  simpa only [getElem?_map, hb, Option.map_some, Option.map_eq_some_iff] using hi

theorem mem_zip_of_mapM {κ : Type w} {g : α → Option β} {vs : List α} {ts : List β} (h : vs.mapM g = some ts)
    {ks : List κ} {p : κ × β} (hp : p ∈ ks.zip ts) : ∃ v, (p.1, v) ∈ ks.zip vs ∧ g v = some p.2 := by
  obtain ⟨i, hi⟩ := getElem?_of_mem hp
  obtain ⟨hk, ht⟩ := getElem?_zip_eq_some.mp hi
  obtain ⟨v, hv, e⟩ := (mapM_getElem? h).2 i p.2 ht
  exact ⟨v, mem_of_getElem? (getElem?_zip_eq_some.mpr ⟨hk, hv⟩), e⟩

theorem mapM_congr_mem {f g : α → Option β} {l : List α} (h : ∀ a ∈ l, f a = g a) : l.mapM f = l.mapM g :=
  Option.ext fun rs => by rw [mapM_eq_some_iff, mapM_eq_some_iff, map_congr_left h]

theorem mapM_isSome {f : α → Option β} {l : List α} (h : ∀ a ∈ l, (f a).isSome = true) : (l.mapM f).isSome = true := by
  induction l with
  | nil => rfl
  | cons a l ih =>
    obtain ⟨b, hb⟩ := Option.isSome_iff_exists.mp (h a mem_cons_self)
    obtain ⟨bs, hbs⟩ := Option.isSome_iff_exists.mp (ih fun x hx => h x (mem_cons_of_mem _ hx))
    rw [mapM_cons, hb, hbs]; rfl

theorem mapM_map_some_of_forall (g : α → β) (F : β → Option γ) (k : α → γ) (l : List α)
    (h : ∀ x, x ∈ l → F (g x) = some (k x)) : (l.map g).mapM F = some (l.map k) :=
  List.mapM_eq_some_iff.mpr (by rw [List.map_map, List.map_map]; exact List.map_congr_left h)

theorem mapM_some_of_forall (f : α → Option β) (g : α → β) (l : List α)
    (h : ∀ x, x ∈ l → f x = some (g x)) : l.mapM f = some (l.map g) :=
  mapM_eq_some_iff.mpr (by rw [List.map_map]; exact List.map_congr_left h)

end List
