import Octo.Spec.Kleene
import Octo.Model.LogicTypecheck
import Octo.Model.LogicMaybe
/-!
  Lemmas for C11.  Evaluation is pure, so each lazy loop of `eval` is the same loop over the list of its arguments'
  outcomes (`evalArgs_eq`, `evalAnd_eq`, `evalOr_eq`); everything after that is stated about outcomes.  The code's
  "this static type admits NULL" (`nullIs`) is tied to the spec notion `conforms` once, in `nullIs_eq_conforms`.
-/
namespace Octo.Logic
open Octo

theorem evalArgs_eq (env : List (List Value)) (args : List Expr) :
    ∀ i, evalArgs env i args = argLoop i (evalList env args) := by
  induction args with
  | nil => intro i; simp [evalArgs, evalList, argLoop]
  | cons a rest ih =>
    intro i
    simp only [evalArgs, evalList]
    cases h : eval env a <;> simp [argLoop, ih]

theorem evalAnd_eq (env : List (List Value)) (args : List Expr) :
    ∀ i ne, evalAnd env i ne args = andLoop i ne (evalList env args) := by
  induction args with
  | nil => intro i ne; simp [evalAnd, evalList, andLoop]
  | cons a rest ih =>
    intro i ne
    simp only [evalAnd, evalList]
    cases h : eval env a <;> simp [andLoop, ih]

theorem evalOr_eq (env : List (List Value)) (args : List Expr) :
    ∀ i ne, evalOr env i ne args = orLoop i ne (evalList env args) := by
  induction args with
  | nil => intro i ne; simp [evalOr, evalList, orLoop]
  | cons a rest ih =>
    intro i ne
    simp only [evalOr, evalList]
    cases h : eval env a <;> simp [orLoop, ih]

theorem evalList_tris (env : List (List Value)) (ts : List Tri) :
    evalList env (ts.map fun t => Expr.const t.toValue) = ts.map fun t => Res.val t.toValue := by
  induction ts with
  | nil => rfl
  | cons t ts ih => simp only [List.map_cons, evalList, eval, ih]

theorem argLoop_vals (vs : List Value) : ∀ i, argLoop i (vs.map Res.val) = .ok vs := by
  induction vs with
  | nil => intro i; rfl
  | cons v vs ih => intro i; simp [argLoop, ih]

theorem argLoop_err (pre : List Value) (e : Err) (post : List Res) : ∀ i,
    argLoop i (pre.map Res.val ++ .err e :: post) = .error (.err (e.wrap (.fnArg (i + pre.length)))) := by
  induction pre with
  | nil => intro i; simp [argLoop]
  | cons v vs ih =>
    intro i
    simp only [List.map_cons, List.cons_append, argLoop, ih (i + 1), List.length_cons]
    congr 4; omega

local instance {p : Tri → Prop} [DecidablePred p] : Decidable (∀ t, p t) :=
  decidable_of_iff (p none ∧ p (some false) ∧ p (some true))
    ⟨fun ⟨a, b, c⟩ t => by rcases t with _ | _ | _ <;> assumption, fun h => ⟨h _, h _, h _⟩⟩

theorem and3_none_false : and3 none (some false) = some false := rfl
theorem and3_true_left (t : Tri) : and3 (some true) t = t := by
  revert t; decide
theorem and3_true_right (t : Tri) : and3 t (some true) = t := by
  revert t; decide
theorem and3_false_left (t : Tri) : and3 (some false) t = some false := by
  revert t; decide
theorem and3_none_idem (t : Tri) : and3 none (and3 none t) = and3 none t := by
  revert t; decide
theorem or3_false_left (t : Tri) : or3 (some false) t = t := by
  revert t; decide
theorem or3_false_right (t : Tri) : or3 t (some false) = t := by
  revert t; decide
theorem or3_true_left (t : Tri) : or3 (some true) t = some true := by
  revert t; decide
theorem or3_none_idem (t : Tri) : or3 none (or3 none t) = or3 none t := by
  revert t; decide
theorem and3_comm (a b : Tri) : and3 a b = and3 b a := by
  revert a b; decide
theorem or3_comm (a b : Tri) : or3 a b = or3 b a := by
  revert a b; decide
theorem and3_assoc (a b c : Tri) : and3 (and3 a b) c = and3 a (and3 b c) := by
  revert a b c; decide
theorem or3_assoc (a b c : Tri) : or3 (or3 a b) c = or3 a (or3 b c) := by
  revert a b c; decide
theorem not3_and3 (a b : Tri) : not3 (and3 a b) = or3 (not3 a) (not3 b) := by
  revert a b; decide
theorem not3_or3 (a b : Tri) : not3 (or3 a b) = and3 (not3 a) (not3 b) := by
  revert a b; decide
theorem not3_not3 (a : Tri) : not3 (not3 a) = a := by
  revert a; decide
theorem and3_eq_none {a b : Tri} (h : and3 a b = none) : a = none ∨ b = none := by
  revert a b; decide
theorem or3_eq_none {a b : Tri} (h : or3 a b = none) : a = none ∨ b = none := by
  revert a b; decide

theorem toValue_none : Tri.toValue none = Value.null := rfl
theorem toValue_true : Tri.toValue (some true) = Value.bool true := rfl
theorem toValue_false : Tri.toValue (some false) = Value.bool false := rfl

@[simp] theorem isNull_toValue (t : Tri) : isNull t.toValue = t.isNone := by
  revert t; decide
@[simp] theorem boolField_toValue (t : Tri) : boolField t.toValue = (t == some true) := by
  revert t; decide
theorem triOf_toValue (t : Tri) : triOf t.toValue = t := by
  revert t; decide

theorem boolField_null {v : Value} (h : isNull v = true) : boolField v = false := by
  cases v <;> first | rfl | cases h

/-! ### The junction
  `And.Evaluate` and `Or.Evaluate` are one loop, indexed by the truth value `o` that decides it (FALSE for AND, TRUE
  for OR): a non-NULL value whose `Boolean` field is `o` is returned as it is, the empty junction is `!o`.  The same
  holds of the reference semantics (`semJ`, over the reference results of the operands) and of Kleene's tables
  (`jOp`).  Everything about AND / OR is proved once about the junction. -/

def jFrame : Bool → Nat → Frame
  | false => .andArg
  | true => .orArg

def jOp : Bool → Tri → Tri → Tri
  | false => and3
  | true => or3

def jLoop (o : Bool) (i : Nat) (ne : Bool) : List Res → Res
  | [] => if ne then .val .null else .val (.bool !o)
  | .val v :: rest => if !isNull v && boolField v == o then .val v else jLoop o (i + 1) (ne || isNull v) rest
  | .err e :: _ => .err (e.wrap (jFrame o i))
  | .panic :: _ => .panic

theorem andLoop_eq (rs : List Res) : ∀ i ne, andLoop i ne rs = jLoop false i ne rs := by
  induction rs with
  | nil => intro i ne; rfl
  | cons r rs ih =>
    intro i ne
    cases r with
    | val v => simp only [andLoop, jLoop, ih]; cases isNull v <;> cases boolField v <;> simp
    | err e => rfl
    | panic => rfl

theorem orLoop_eq (rs : List Res) : ∀ i ne, orLoop i ne rs = jLoop true i ne rs := by
  induction rs with
  | nil => intro i ne; rfl
  | cons r rs ih =>
    intro i ne
    cases r with
    | val v =>
      simp only [orLoop, jLoop, ih]
      cases hn : isNull v
      · cases boolField v <;> rfl
      · rw [boolField_null hn]; rfl
    | err e => rfl
    | panic => rfl

theorem jOp_stop (o : Bool) (t : Tri) : jOp o (some o) t = some o := by
  cases o
  · exact and3_false_left t
  · exact or3_true_left t
theorem jOp_unit (o : Bool) (t : Tri) : jOp o (some !o) t = t := by
  cases o
  · exact and3_true_left t
  · exact or3_false_left t
theorem jOp_none_idem (o : Bool) (t : Tri) : jOp o none (jOp o none t) = jOp o none t := by
  cases o
  · exact and3_none_idem t
  · exact or3_none_idem t
theorem jOp_eq_none {o : Bool} {a b : Tri} (h : jOp o a b = none) : a = none ∨ b = none := by
  cases o
  · exact and3_eq_none h
  · exact or3_eq_none h

theorem jLoop_tri_cons (o : Bool) (i : Nat) (ne : Bool) (t : Tri) (rest : List Res) :
    jLoop o i ne (.val t.toValue :: rest) =
      if t = some o then .val (.bool o) else jLoop o (i + 1) (ne || t.isNone) rest := by
  rcases t with _ | b
  · rfl
  · cases b <;> cases o <;> rfl

theorem jLoop_skip (o : Bool) (pre : List Tri) (hpre : ∀ t ∈ pre, t ≠ some o) (rest : List Res) : ∀ i ne,
    jLoop o i ne ((pre.map fun t => Res.val t.toValue) ++ rest) =
      jLoop o (i + pre.length) (ne || pre.any (·.isNone)) rest := by
  induction pre with
  | nil => intro i ne; rw [List.any_nil, Bool.or_false]; rfl
  | cons t pre ih =>
    intro i ne
    rw [List.map_cons, List.cons_append, jLoop_tri_cons, if_neg (hpre t List.mem_cons_self), List.length_cons,
      ← Nat.add_assoc, Nat.add_right_comm, List.any_cons, ← Bool.or_assoc]
    exact ih (fun u hu => hpre u (List.mem_cons_of_mem _ hu)) _ _

theorem jLoop_err (o : Bool) (rs : List Res) : ∀ i ne e, jLoop o i ne rs = .err e →
    ∃ (j : Nat) (e' : Err), rs[j]? = some (Res.err e') ∧ e = e'.wrap (jFrame o (i + j)) := by
  induction rs with
  | nil => intro i ne e h; cases ne <;> cases h
  | cons r rs ih =>
    intro i ne e h
    cases r with
    | val v =>
      rw [jLoop] at h
      split at h
      · cases h
      · obtain ⟨j, e', hj, he⟩ := ih _ _ _ h
        exact ⟨j + 1, e', hj, by rw [he, Nat.add_right_comm, Nat.add_assoc]⟩
    | err e' => cases h; exact ⟨0, e', rfl, rfl⟩
    | panic => cases h

/-- the reference result of a junction from the reference results of its operands, left to right -/
def semJ (o : Bool) (i : Nat) : List Sem → Sem
  | [] => .ok (some !o)
  | .error e :: _ => .error (e.wrap (jFrame o i))
  | .ok t :: rest =>
    if t = some o then .ok t
    else match semJ o (i + 1) rest with
      | .ok r => .ok (jOp o t r)
      | .error e => .error e

/-- outcome of the loop, entered with `nullEncountered = ne`, in terms of the reference result of the remaining operands -/
def jRes (o ne : Bool) : Sem → Res
  | .error e => .err e
  | .ok r => .val (if ne then jOp o none r else r).toValue

theorem jRes_ne_false (o : Bool) (s : Sem) : jRes o false s = s.toRes := by
  cases s <;> rfl

theorem jLoop_sem (o : Bool) (sems : List Sem) : ∀ i ne,
    jLoop o i ne (sems.map Sem.toRes) = jRes o ne (semJ o i sems) := by
  induction sems with
  | nil => intro i ne; cases ne <;> cases o <;> rfl
  | cons s sems ih =>
    intro i ne
    cases s with
    | error e => rfl
    | ok t =>
      rw [List.map_cons, show Sem.toRes (.ok t) = .val t.toValue from rfl, jLoop_tri_cons, semJ]
      by_cases ht : t = some o
      · subst ht; rw [if_pos rfl, if_pos rfl]; cases ne <;> cases o <;> rfl
      · rw [if_neg ht, if_neg ht, ih]
        cases semJ o (i + 1) sems with
        | error e => rfl
        | ok r =>
          -- `t` is NULL or the unit `!o`
          rcases t with _ | b
          · cases ne <;> simp [jRes, jOp_none_idem]
          · obtain rfl : b = !o := by cases b <;> cases o <;> simp_all
            simp [jRes, jOp_unit]

theorem semJ_oks (o : Bool) (ts : List Tri) : ∀ i, semJ o i (ts.map .ok) = .ok (ts.foldr (jOp o) (some !o)) := by
  induction ts with
  | nil => intro i; rfl
  | cons t ts ih =>
    intro i
    rw [List.map_cons, semJ, ih, List.foldr_cons]
    split
    · rename_i ht; rw [ht, jOp_stop]
    · rfl

theorem jLoop_tri (o : Bool) (ts : List Tri) (i : Nat) (ne : Bool) :
    jLoop o i ne (ts.map fun t => Res.val t.toValue) =
      jRes o ne (.ok (ts.foldr (jOp o) (some !o))) := by
  have h := jLoop_sem o (ts.map .ok) i ne
  rw [List.map_map, semJ_oks] at h
  exact h

theorem semJ_none (o : Bool) (sems : List Sem) : ∀ i, semJ o i sems = .ok none → .ok none ∈ sems := by
  induction sems with
  | nil => intro i h; cases o <;> cases h
  | cons s sems ih =>
    intro i h
    cases s with
    | error e => cases h
    | ok t =>
      rw [semJ] at h
      split at h
      · cases h; exact List.mem_cons_self
      · split at h
        · rename_i r hr
          rcases jOp_eq_none (Except.ok.inj h) with rfl | rfl
          · exact List.mem_cons_self
          · exact List.mem_cons_of_mem _ (ih _ hr)
        · cases h

theorem denAnd_eq (ρ : Nat → Tri) (args : List TTree) :
    ∀ i, TTree.denAnd ρ i args = semJ false i (args.map (TTree.den ρ)) := by
  induction args with
  | nil => intro i; rfl
  | cons a rest ih =>
    intro i
    rw [TTree.denAnd, List.map_cons, ih]
    cases a.den ρ with
    | error e => rfl
    | ok t => rcases t with _ | _ | _ <;> rfl

theorem denOr_eq (ρ : Nat → Tri) (args : List TTree) :
    ∀ i, TTree.denOr ρ i args = semJ true i (args.map (TTree.den ρ)) := by
  induction args with
  | nil => intro i; rfl
  | cons a rest ih =>
    intro i
    rw [TTree.denOr, List.map_cons, ih]
    cases a.den ρ with
    | error e => rfl
    | ok t => rcases t with _ | _ | _ <;> rfl

theorem toP_ty (t : TTree) : t.toP.ty = t.ty := by
  cases t <;> rfl

mutual
theorem den_null_ty (ρ : Nat → Tri) (t : TTree) (hok : t.ok ρ = true) (h : t.den ρ = .ok none) :
    nullIs t.ty = true := by
  cases t with
  | const ty t => cases h; simpa [TTree.ok, TTree.ty] using hok
  | var ty n =>
    simp only [TTree.den, Except.ok.injEq] at h
    simpa [TTree.ok, TTree.ty, h] using hok
  | fail ty tag => cases h
  | and ty args =>
    simp only [TTree.ok, Bool.and_eq_true, Bool.or_eq_true, Bool.not_eq_true'] at hok
    rw [TTree.den, denAnd_eq] at h
    exact hok.2.resolve_left (by simp [denList_null ρ args hok.1 (semJ_none _ _ _ h)])
  | or ty args =>
    simp only [TTree.ok, Bool.and_eq_true, Bool.or_eq_true, Bool.not_eq_true'] at hok
    rw [TTree.den, denOr_eq] at h
    exact hok.2.resolve_left (by simp [denList_null ρ args hok.1 (semJ_none _ _ _ h)])
  | not ty a =>
    simp only [TTree.ok, Bool.and_eq_true, Bool.or_eq_true, Bool.not_eq_true'] at hok
    simp only [TTree.den] at h
    split at h
    · rename_i t hd
      cases t with
      | none => exact hok.2.resolve_left (by simp [den_null_ty ρ a hok.1 hd])
      | some b => cases h
    · cases h
  | isNull ty a | isNotNull ty a => simp only [TTree.den] at h; split at h <;> cases h
theorem denList_null (ρ : Nat → Tri) (args : List TTree) (hok : TTree.okList ρ args = true)
    (h : .ok none ∈ args.map (TTree.den ρ)) : anyNullable args = true := by
  cases args with
  | nil => cases h
  | cons a rest =>
    simp only [TTree.okList, Bool.and_eq_true] at hok
    rw [anyNullable, Bool.or_eq_true]
    rcases List.mem_cons.1 h with h | h
    · exact .inl (den_null_ty ρ a hok.1 h.symm)
    · exact .inr (denList_null ρ rest hok.2 h)
end

mutual
/-- with the receiver NULL, `Type.Is` never answers Maybe: it is Is exactly on the types NULL conforms to -/
theorem nullRel_eq (t : Ty) : nullRel t = if conforms t .null then 2 else 0 := by
  cases t with
  | union alts => rw [nullRel, conforms, nullRelMax_eq alts 0 (by decide)]
  | _ => rfl
theorem nullRelMax_eq (ts : List Ty) (out : Nat) (h : out ≤ 2) :
    nullRelMax out ts = if conformsAny ts .null then 2 else out := by
  cases ts with
  | nil => rfl
  | cons t ts =>
    rw [nullRelMax, nullRel_eq t, conformsAny]
    cases conforms t .null
    · simp only [Bool.false_eq_true, if_false, Nat.not_lt_zero, gt_iff_lt, Bool.false_or]
      exact nullRelMax_eq ts out h
    · simp only [if_true, Bool.true_or]
      rw [nullRelMax_eq ts _ (by split <;> omega)]
      split
      · rfl
      · split <;> omega
end

theorem nullRelMax_le (ts : List Ty) (out : Nat) (h : out ≤ 2) : nullRelMax out ts ≤ 2 := by
  rw [nullRelMax_eq ts out h]; split <;> omega

theorem nullRelMax_is (ts : List Ty) : nullRelMax 2 ts = 2 := by
  rw [nullRelMax_eq ts 2 (Nat.le_refl 2)]; split <;> rfl

theorem nullIs_eq_conforms (t : Ty) : nullIs t = conforms t .null := by
  rw [nullIs, nullRel_eq]; cases conforms t .null <;> rfl

theorem conforms_null_iff (ty : Ty) : conforms ty .null = true ↔ nullIs ty = true := by
  rw [nullIs_eq_conforms]

theorem conformsAny_iff (alts : List Ty) (v : Value) :
    conformsAny alts v = true ↔ ∃ t ∈ alts, conforms t v = true := by
  induction alts with
  | nil => simp [conformsAny]
  | cons t ts ih => simp only [conformsAny, Bool.or_eq_true, ih, List.mem_cons, exists_eq_or_imp]

theorem nullIs_union (alts : List Ty) : nullIs (.union alts) = true ↔ ∃ t ∈ alts, nullIs t = true := by
  simp only [nullIs_eq_conforms, conforms, conformsAny_iff]

theorem conformsAny_null (alts : List Ty) (h : conformsAny alts .null = true) :
    ∃ t ∈ alts, nullIs t = true :=
  (nullIs_union alts).1 ((nullIs_eq_conforms _).trans h)

@[simp] theorem nullIs_null : nullIs .null = true := rfl
@[simp] theorem nullIs_any : nullIs .any = true := rfl
@[simp] theorem nullIs_bool : nullIs .bool = false := rfl
@[simp] theorem nullIs_int : nullIs .int = false := rfl
@[simp] theorem nullIs_str : nullIs .str = false := rfl

theorem nullIs_BTy_toTy (bt : BTy) : nullIs bt.toTy = bt.nullable := by
  cases bt <;> decide
theorem nullIs_ITy_toTy (l : ITy) : nullIs l.toTy = l.nullable := by
  cases l <;> decide

theorem nullIs_FTy_toTy_of_mem (s : FTy) (h : 0 ∈ s) : nullIs (FTy.toTy s) = true := by
  match s, h with
  | [a], h =>
    simp only [List.mem_singleton] at h
    subst h
    rfl
  | [], h => simp at h
  | a :: b :: rest, h =>
    show nullIs (.union ((a :: b :: rest).map primTy)) = true
    rw [nullIs_union]
    exact ⟨primTy 0, List.mem_map.2 ⟨0, h, rfl⟩, rfl⟩

theorem mem_nullCheckIdx (args : List PExpr) : ∀ i j,
    j ∈ nullCheckIdx i args ↔ ∃ m, j = i + m ∧ ∃ a, args[m]? = some a ∧ nullIs a.ty = true := by
  induction args with
  | nil => intro i j; simp [nullCheckIdx]
  | cons a rest ih =>
    intro i j
    have hstep : j ∈ nullCheckIdx i (a :: rest) ↔ (j = i ∧ nullIs a.ty = true) ∨ j ∈ nullCheckIdx (i + 1) rest := by
      rw [nullCheckIdx]; split <;> simp [*]
    rw [hstep, ih]
    constructor
    · rintro (⟨rfl, hn⟩ | ⟨m, rfl, b, hb, hbn⟩)
      · exact ⟨0, rfl, a, rfl, hn⟩
      · exact ⟨m + 1, by omega, b, hb, hbn⟩
    · rintro ⟨_ | m, rfl, b, hb, hbn⟩
      · cases hb; exact .inl ⟨rfl, hbn⟩
      · exact .inr ⟨m, by omega, b, hb, hbn⟩

theorem mem_nullCheckIndices (d : Desc) (args : List PExpr) (j : Nat) :
    j ∈ nullCheckIndices d args ↔ d.strict = true ∧ ∃ a, args[j]? = some a ∧ nullIs a.ty = true := by
  unfold nullCheckIndices
  split
  · rename_i hs
    rw [mem_nullCheckIdx]
    constructor
    · rintro ⟨m, rfl, h⟩; rw [Nat.zero_add]; exact ⟨hs, h⟩
    · rintro ⟨_, h⟩; exact ⟨j, (Nat.zero_add j).symm, h⟩
  · rename_i hs
    simp [hs]

theorem nullCheckIndices_lt {d : Desc} {args : List PExpr} {j : Nat} (h : j ∈ nullCheckIndices d args) :
    j < args.length := by
  obtain ⟨_, a, ha, _⟩ := (mem_nullCheckIndices d args j).1 h
  exact (List.getElem?_eq_some_iff.1 ha).1

theorem nullCheck_eq (vs : List Value) : ∀ ncs : List Nat, (∀ j ∈ ncs, j < vs.length) →
    nullCheck vs ncs = if ncs.any (fun j => vs[j]?.any isNull) then some (.val .null) else none := by
  intro ncs
  induction ncs with
  | nil => intro _; rfl
  | cons j rest ih =>
    intro hr
    have hj : j < vs.length := hr j List.mem_cons_self
    rw [nullCheck, List.any_cons, List.getElem?_eq_getElem hj, ih fun k hk => hr k (List.mem_cons_of_mem _ hk)]
    cases h : isNull vs[j] <;> simp [h]

theorem evalList_materializeList_length (env : List (List Value)) (schema : List (List Nat)) (args : List PExpr) :
    (evalList env (materializeList schema args)).length = args.length := by
  induction args with
  | nil => rfl
  | cons a rest ih => simp [materializeList, evalList, ih]

theorem evalList_vals_length {env : List (List Value)} {schema : List (List Nat)} {args : List PExpr}
    {vs : List Value} (h : evalList env (materializeList schema args) = vs.map Res.val) :
    vs.length = args.length := by
  have := congrArg List.length h
  rw [evalList_materializeList_length, List.length_map] at this
  exact this.symm

theorem evalList_singleton {env : List (List Value)} {schema : List (List Nat)} {a : PExpr} {v : Value}
    (h : eval env (materialize schema a) = .val v) :
    evalList env (materializeList schema [a]) = [v].map Res.val := by
  simp only [materializeList, evalList, h, List.map]

theorem eval_call (env : List (List Value)) (schema : List (List Nat)) (ty : Ty) (d : Desc) (args : List PExpr)
    (vs : List Value) (h : evalList env (materializeList schema args) = vs.map Res.val) :
    eval env (materialize schema (.call ty d args)) = applyFn d.fn (nullCheckIndices d args) vs := by
  simp only [materialize, eval]
  rw [evalArgs_eq, h, argLoop_vals]

/-- the shape the well-typedness hypothesis of `strict_null_welltyped` has for a binary call -/
theorem forall_getElem?_pair {α β : Type} {P : α → β → Prop} {a b : α} {x y : β} (h0 : P a x) (h1 : P b y) :
    ∀ (i : Nat) (u : α) (v : β), [a, b][i]? = some u → [x, y][i]? = some v → P u v := by
  intro i u v hu hv
  match i with
  | 0 => cases hu; cases hv; exact h0
  | 1 => cases hu; cases hv; exact h1
  | n + 2 => cases hu

theorem tableDesc_strict {name : List Nat} {idx : Nat} (fn : List Value → Res) {b : Bool}
    (h : strictOf name idx = some b) : (tableDesc name idx fn).strict = b := by
  rw [tableDesc, h]; rfl

theorem tableDesc_fn (name : List Nat) (idx : Nat) (fn : List Value → Res) : (tableDesc name idx fn).fn = fn := rfl

theorem eval_call1_err (env : List (List Value)) (schema : List (List Nat)) (ty : Ty) (d : Desc) {a : PExpr} {e : Err}
    (h : eval env (materialize schema a) = .err e) :
    eval env (materialize schema (.call ty d [a])) = .err (e.wrap (.fnArg 0)) := by
  simp only [materialize, materializeList, eval, evalArgs, h]

/-- without `hn` the NULL check is elided and the body runs on NULL -/
theorem eval_not (env : List (List Value)) (schema : List (List Nat)) (ty : Ty) (a : PExpr) (t : Tri)
    (hv : eval env (materialize schema a) = .val t.toValue) (hn : t = none → nullIs a.ty = true) :
    eval env (materialize schema (.call ty (tableDesc nmNot 0 fnNot) [a])) = .val (not3 t).toValue := by
  have hs : (tableDesc nmNot 0 fnNot).strict = true := by decide
  rw [eval_call env schema ty _ [a] [t.toValue] (evalList_singleton hv)]
  -- `not` is strict: position 0 is checked exactly when the operand's static type admits NULL
  simp only [nullCheckIndices, hs, if_true, nullCheckIdx]
  cases hty : nullIs a.ty
  · rcases t with _ | _ | _
    · rw [hn rfl] at hty; cases hty
    · rfl
    · rfl
  · rcases t with _ | _ | _ <;> rfl

/-- `findField` is the library's `findIdx?`, counted from `k` -/
theorem findField_eq (name : Nat) (fields : List Nat) : ∀ k,
    findField name k fields = (fields.findIdx? (· == name)).map (k + ·) := by
  induction fields with
  | nil => intro k; rfl
  | cons f fs ih =>
    intro k
    rw [findField, List.findIdx?_cons, ih]
    split
    · rfl
    · rw [Option.map_map]; congr 1; funext i; simp only [Function.comp]; omega

theorem findField_some (name : Nat) (fields : List Nat) (k i : Nat)
    (h : findField name k fields = some i) : k ≤ i ∧ i < k + fields.length ∧ name ∈ fields := by
  rw [findField_eq, Option.map_eq_some_iff] at h
  obtain ⟨j, hj, rfl⟩ := h
  obtain ⟨hlt, hp, _⟩ := List.findIdx?_eq_some_iff_getElem.1 hj
  exact ⟨Nat.le_add_right .., by omega, beq_iff_eq.1 hp ▸ List.getElem_mem hlt⟩

theorem findField_of_range (name k : Nat) (h : name < k) : findField name 0 (List.range k) = some name := by
  rw [findField_eq, Option.map_eq_some_iff]
  exact ⟨name, List.findIdx?_eq_some_iff_getElem.2 ⟨by simpa using h, by simp, fun j hj => by simp; omega⟩,
    Nat.zero_add _⟩

theorem envOf_range (k : Nat) (tris : List Tri) (hlen : tris.length = k) :
    envOf (List.range k) tris = fun n => (tris[n]?).getD none := by
  funext n
  simp only [envOf]
  rcases Nat.lt_or_ge n k with hn | hn
  · rw [findField_of_range n k hn]
  · cases hf : findField n 0 (List.range k) with
    | none => rw [List.getElem?_eq_none (by omega)]; rfl
    | some i =>
      obtain ⟨_, _, hmem⟩ := findField_some _ _ _ _ hf
      exact absurd (List.mem_range.1 hmem) (by omega)

theorem eval_var (names : List Nat) (tris : List Tri) (outer : List (List Value)) (souter : List (List Nat))
    (hlen : names.length = tris.length) (ty : Ty) (n : Nat) (hb : (findField n 0 names).isSome = true) :
    eval (tris.map Tri.toValue :: outer) (materialize (names :: souter) (.var ty n)) =
      .val (envOf names tris n).toValue := by
  obtain ⟨i, hi⟩ := Option.isSome_iff_exists.1 hb
  obtain ⟨_, hr, _⟩ := findField_some n names 0 i hi
  have hlt : i < tris.length := by omega
  simp only [materialize, resolveVar, hi, eval, lookupVar, envOf]
  simp [hlt]

theorem filterRun_val (pred : Expr) (outer : List (List Value)) (r : Rec) (rest : List Msg) (v : Value)
    (h : eval (r.vals :: outer) pred = .val v) :
    filterRun pred outer (.data r :: rest) =
      if isTrueRes (.val v) then (.data r :: (filterRun pred outer rest).1, (filterRun pred outer rest).2)
      else filterRun pred outer rest := by
  simp only [filterRun, h]
  cases v with
  | bool b => cases b <;> simp [isTrueRes]
  | _ => simp [isTrueRes]

/-- `keep` stands for `C11.keepMsg pred outer`, which is defined with the property; `hw`, `hd` are its two clauses -/
theorem filterRun_append (pred : Expr) (outer : List (List Value)) {keep : Msg → Bool}
    (hw : ∀ t, keep (.wm t) = true) (hd : ∀ r, keep (.data r) = isTrueRes (eval (r.vals :: outer) pred))
    (pre rest : List Msg) (hne : ∀ r, Msg.data r ∈ pre → ∃ v, eval (r.vals :: outer) pred = .val v) :
    filterRun pred outer (pre ++ rest) =
      (pre.filter keep ++ (filterRun pred outer rest).1, (filterRun pred outer rest).2) := by
  induction pre with
  | nil => rfl
  | cons m pre ih =>
    have ih' := ih (fun r hr => hne r (List.mem_cons_of_mem _ hr))
    cases m with
    | wm t => simp [filterRun, ih', hw]
    | data r =>
      obtain ⟨v, hv⟩ := hne r (by simp)
      rw [List.cons_append, filterRun_val pred outer r _ v hv, ih']
      simp only [List.filter, hd, hv]
      cases isTrueRes (.val v) <;> simp

theorem typecheckCmp_nullable (op : CmpOp) (l r : ITy) (bt : BTy) (h : typecheckCmp op l r = some bt)
    (hn : l.nullable = true ∨ r.nullable = true) : bt.nullable = true := by
  rw [← Bool.or_eq_true] at hn
  simp only [typecheckCmp, hn, if_true, Option.ite_none_right_eq_some, Option.some.injEq] at h
  rw [← h.2]; rfl

theorem targetF_strict {p : Nat} (hp : p ≠ anyId) (hp0 : p ≠ 0) : targetF true p = [0, p] := by
  simp [targetF, hp, hp0]

theorem isF_any (s : FTy) : isF s anyId = 2 := by simp [isF]

/-- an assertion is inserted only for a declared parameter type other than `Any` -/
theorem ne_anyId_of_maybe {s : FTy} {p : Nat} (h : (isF s p == 1) = true) : p ≠ anyId := by
  rintro rfl
  rw [isF_any] at h
  cases h

theorem argP_nullable (p : Nat) (s : FTy) (i : Nat) (hp0 : p ≠ 0) (h : 0 ∈ s) :
    nullIs (argP true p s i).ty = true := by
  unfold argP
  split
  · rename_i hm
    -- NULL is in the assertion's target `[0, p]`, so the intersection with `s` keeps it
    refine nullIs_FTy_toTy_of_mem _ ?_
    rw [assertTyF, targetF_strict (ne_anyId_of_maybe hm) hp0]
    exact List.mem_filter.2 ⟨h, rfl⟩
  · exact nullIs_FTy_toTy_of_mem s h

theorem buildArgs_get (strict : Bool) : ∀ (ps : List Nat) (ss : List FTy) (j i : Nat) (p : Nat) (s : FTy),
    ps[i]? = some p → ss[i]? = some s → (buildArgs strict ps ss j)[i]? = some (argP strict p s (j + i)) := by
  intro ps
  induction ps with
  | nil => intro ss j i p s hp; cases hp
  | cons q qs ih =>
    intro ss j i p s hp hs
    cases ss with
    | nil => cases hs
    | cons t ts =>
      cases i with
      | zero => cases hp; cases hs; rfl
      | succ i =>
        rw [buildArgs, List.getElem?_cons_succ, ih ts (j + 1) i p s hp hs]
        congr 2; omega

/-- the assertion the Maybe pass inserts for a strict descriptor lets NULL through (its target is `declared | NULL`) -/
theorem expectedIds_target_null (p : Nat) (hp : p ≠ anyId) (hp0 : p ≠ 0) :
    (expectedIds (targetF true p).toTy).contains 0 = true := by
  rw [targetF_strict hp hp0]
  simp [FTy.toTy, expectedIds, primTy, Ty.id]

end Octo.Logic
