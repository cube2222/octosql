import Octo.Model.MaxDiffWatermark
import Octo.Spec.MaxDiffWatermark
/-! The state of `maxDifferenceWatermarkGenerator.Run` stands for the list of times seen so far (`Inv`); under that
    invariant the loop is the non-incremental specification (`go_eq_spec`), for any rounding that floors. -/
namespace Octo.MaxDiff
open Octo Octo.MaxDiffSpec

/-- the domain of the property: every record carries a Time in the time field, in the Int64-ns range -/
def InDomain (idx : Nat) (ms : List Msg) : Prop :=
  ∀ r ∈ recs ms, ∃ t, timeOf idx r = some t ∧ -(2:Int)^63 ≤ t ∧ t < (2:Int)^63

theorem floorTo_le {res : Int} (h : 0 < res) (t : Int) : floorTo res t ≤ t :=
  Int.mul_ediv_self_le (Int.ne_of_gt h)

theorem lt_floorTo_add {res : Int} (h : 0 < res) (t : Int) : t < floorTo res t + res :=
  Int.lt_mul_ediv_self_add h

theorem floorTo_mono {res : Int} (h : 0 < res) {a b : Int} (hab : a ≤ b) : floorTo res a ≤ floorTo res b := by
  unfold floorTo
  exact Int.mul_le_mul_of_nonneg_left (Int.ediv_le_ediv h hab) (Int.le_of_lt h)

theorem roundFloor_eq {res : Int} (h : 0 < res) (ns : Int) : roundFloor res ns = some (floorTo res ns) := by
  have hd := Int.mul_tdiv_add_tmod ns res
  have l := Int.lt_tmod_of_pos ns h
  have u := Int.tmod_lt_of_pos ns h
  unfold roundFloor floorTo
  rw [if_neg (Int.ne_of_gt h)]
  generalize ns.tmod res = r at *
  generalize ns.tdiv res = q at *
  -- the remainder, normalised into `[0, res)`, is `ns % res`
  have key : (if r < 0 then r + res else r) = ns % res := by
    split
    · exact ((Int.ediv_emod_unique h).2 ⟨show r + res + res * (q - 1) = ns by rw [Int.mul_sub, Int.mul_one]; omega,
        by omega, by omega⟩).2.symm
    · exact ((Int.ediv_emod_unique h).2 ⟨show r + res * q = ns by omega, by omega, u⟩).2.symm
  show some (ns - if r < 0 then r + res else r) = _
  rw [key, Int.emod_def, Int.sub_sub_self]

/-- the shipped rounding rounds *up* for negative off-grid times -/
theorem roundTrunc_neg_example : roundTrunc 10 (-15) = some (-10) := by decide

theorem maxOf_snoc (seen : List Int) (t : Int) :
    maxOf (seen ++ [t]) = match maxOf seen with
      | none => some t
      | some m => some (if m < t then t else m) := by
  induction seen with
  | nil => simp [maxOf]
  | cons x xs ih =>
    simp only [List.cons_append, maxOf, ih]
    cases hm : maxOf xs with
    | none => simp only []
    | some m =>
      simp only []
      by_cases h1 : m < t <;> by_cases h2 : x < m <;> by_cases h3 : x < t <;> simp [h1, h2, h3] <;> try omega

theorem maxOf_eq_none {seen : List Int} : maxOf seen = none ↔ seen = [] := by
  cases seen with
  | nil => simp [maxOf]
  | cons y ys => simp only [maxOf]; split <;> simp

/-- the state of `Run` after the times `seen`: untouched before the first record, afterwards `curWatermark` is the
    prescribed watermark and `maxValue = curWatermark + maxDiff` -/
def Inv (res md : Int) (s : St) (seen : List Int) : Prop :=
  match wmAfter res md seen with
  | none => s = St.init
  | some w => s.curWm = w ∧ s.maxValue = w + md

theorem inDomain_of_B {idx : Nat} {ms : List Msg} (h : inDomainB idx ms = true) : InDomain idx ms := by
  intro r hr
  unfold inDomainB at h
  have := List.all_eq_true.mp h r hr
  cases ht : timeOf idx r with
  | none => simp [ht] at this
  | some t => simp [ht] at this; exact ⟨t, rfl, this.1, this.2⟩

theorem timeAt_of_timeOf {idx : Nat} {r : Rec} {t : Int} (h : timeOf idx r = some t) : timeAt idx r = .ok t := by
  unfold timeOf at h; unfold timeAt
  split at h <;> simp_all

/-- `go_eq_spec` takes the rounding as a parameter under this hypothesis: the repaired rounding meets it on every stream
    (`roundFloor_eq`), the shipped truncating one where no time is negative (`C20.shipped_partial`) -/
def RoundsDown (rnd : Int → Int → Option Int) (res : Int) (idx : Nat) (ms : List Msg) : Prop :=
  ∀ r ∈ recs ms, ∀ t, timeOf idx r = some t → rnd res t = some (floorTo res t)

theorem wmAfter_snoc {res : Int} (hres : 0 < res) (md : Int) (seen : List Int) (t : Int) :
    wmAfter res md (seen ++ [t]) =
      if increased (wmAfter res md seen) (some (floorTo res t - md)) then some (floorTo res t - md)
      else wmAfter res md seen := by
  unfold wmAfter
  rw [maxOf_snoc]
  cases maxOf seen with
  | none => rfl
  | some m =>
    show some (floorTo res (if m < t then t else m) - md) =
      if decide (floorTo res m - md < floorTo res t - md) = true then _ else some (floorTo res m - md)
    by_cases hmt : m < t
    · have := floorTo_mono hres (Int.le_of_lt hmt)
      rw [if_pos hmt]
      by_cases hlt : floorTo res m - md < floorTo res t - md
      · rw [if_pos (decide_eq_true hlt)]
      · rw [if_neg (by rw [decide_eq_true_eq]; exact hlt)]; congr 1; omega
    · have := floorTo_mono hres (Int.not_lt.1 hmt)
      rw [if_neg hmt, if_neg (by rw [decide_eq_true_eq]; omega)]

theorem wmMsg_incr {W : Option Int} {x : Int} (h : increased W (some x) = true) : wmMsg W (some x) = [.wm x] :=
  if_pos h

theorem wmMsg_self (W : Option Int) : wmMsg W W = [] := by
  cases W with
  | none => rfl
  | some w => exact if_neg (show ¬ decide (w < w) = true by rw [decide_eq_true_eq]; exact Int.lt_irrefl w)

theorem go_tests_iff_spec {res md : Int} (hres : 0 < res) (hres2 : res < (2:Int)^63) {s : St} {seen : List Int}
    (hinv : Inv res md s seen) {t : Int} (hlo : -(2:Int)^63 ≤ t) :
    (t > s.curWm ↔ ¬ dropped (wmAfter res md seen) t = true) ∧
    (floorTo res t > s.maxValue ↔ increased (wmAfter res md seen) (some (floorTo res t - md)) = true) := by
  have hfu := lt_floorTo_add hres t
  unfold Inv at hinv
  cases hW : wmAfter res md seen with
  | none =>
    rw [hW] at hinv
    -- the zero time lies below every rounded Int64 time
    have h1 : t > St.init.curWm := Int.lt_of_lt_of_le (by decide) hlo
    have h2 : floorTo res t > St.init.maxValue := show (-62135596800000000000 : Int) < floorTo res t by omega
    rw [hinv]
    exact ⟨⟨fun _ => Bool.false_ne_true, fun _ => h1⟩, ⟨fun _ => rfl, fun _ => h2⟩⟩
  | some w =>
    rw [hW] at hinv
    rw [hinv.1, hinv.2]
    simp only [dropped, increased, decide_eq_true_eq]
    omega

theorem go_eq_spec {rnd : Int → Int → Option Int} {res md : Int} {idx : Nat} (hres : 0 < res) (hres2 : res < (2:Int)^63) :
    ∀ (ms : List Msg) (s : St) (seen : List Int), Inv res md s seen → InDomain idx ms → RoundsDown rnd res idx ms →
      go rnd md res idx s ms = .ok (specFrom res md idx seen ms) := by
  intro ms
  induction ms with
  | nil => intro s seen _ _ _; rfl
  | cons m ms ih =>
    intro s seen hinv hdom hrnd
    cases m with
    | wm w => exact ih s seen hinv (fun r hr => hdom r hr) (fun r hr => hrnd r hr)
    | data r =>
      obtain ⟨t, ht, hlo, _⟩ := hdom r (List.mem_cons_self ..)
      have hdom' : InDomain idx ms := fun r' hr' => hdom r' (List.mem_cons_of_mem _ hr')
      have hrnd' : RoundsDown rnd res idx ms := fun r' hr' => hrnd r' (List.mem_cons_of_mem _ hr')
      obtain ⟨h1, h2⟩ := go_tests_iff_spec (md := md) hres hres2 hinv hlo
      have hW' := wmAfter_snoc hres md seen t
      simp only [go, specFrom, ht, timeAt_of_timeOf ht, hrnd r (List.mem_cons_self ..) t ht, h1, ite_not]
      by_cases hinc : increased (wmAfter res md seen) (some (floorTo res t - md)) = true
      · rw [if_pos hinc] at hW'
        -- the new state holds the new watermark
        have hinv' : Inv res md ⟨floorTo res t, floorTo res t - md⟩ (seen ++ [t]) := by
          unfold Inv; rw [hW']; exact ⟨rfl, (Int.sub_add_cancel _ md).symm⟩
        rw [if_pos (h2.2 hinc), ih _ (seen ++ [t]) hinv' hdom' hrnd', hW', wmMsg_incr hinc, List.append_assoc]
        rfl
      · rw [if_neg hinc] at hW'
        -- state and watermark both stay
        have hinv' : Inv res md s (seen ++ [t]) := by unfold Inv; rw [hW']; exact hinv
        rw [if_neg (mt h2.1 hinc), ih _ (seen ++ [t]) hinv' hdom' hrnd', hW', wmMsg_self, List.append_nil]

theorem inDomain_append {idx : Nat} {a b : List Msg} : InDomain idx (a ++ b) ↔ InDomain idx a ∧ InDomain idx b := by
  unfold InDomain; simp only [recs_append, List.mem_append]
  constructor
  · intro h; exact ⟨fun r hr => h r (Or.inl hr), fun r hr => h r (Or.inr hr)⟩
  · rintro ⟨h1, h2⟩ r (hr | hr); exact h1 r hr; exact h2 r hr

theorem times_append (idx : Nat) (a b : List Msg) : times idx (a ++ b) = times idx a ++ times idx b := by
  simp [times, recs_append]

theorem specFrom_append {res md : Int} {idx : Nat} : ∀ (a b : List Msg) (seen : List Int), InDomain idx a →
    specFrom res md idx seen (a ++ b) = specFrom res md idx seen a ++ specFrom res md idx (seen ++ times idx a) b := by
  intro a
  induction a with
  | nil => intro b seen _; simp [specFrom, times, recs]
  | cons m ms ih =>
    intro b seen hd
    cases m with
    | wm w =>
      simp only [List.cons_append, specFrom, ih b seen fun r hr => hd r hr]
      simp [times, recs]
    | data r =>
      obtain ⟨t, ht, _, _⟩ := hd r (List.mem_cons_self ..)
      simp only [List.cons_append, specFrom, ht, ih b (seen ++ [t]) fun r' hr' => hd r' (List.mem_cons_of_mem _ hr')]
      simp [times, recs, ht, List.append_assoc]

theorem lastWm_cons (d : Option Int) (w : Int) (ws : List Int) : lastWm d (w :: ws) = lastWm (some w) ws := rfl

/-- the prescribed watermarks are strictly increasing, and the last one is the prescribed current watermark -/
theorem wms_specFrom {res md : Int} {idx : Nat} (hres : 0 < res) : ∀ (ms : List Msg) (seen : List Int), InDomain idx ms →
    StrictIncrFrom (wmAfter res md seen) (wms (specFrom res md idx seen ms)) ∧
    lastWm (wmAfter res md seen) (wms (specFrom res md idx seen ms)) = wmAfter res md (seen ++ times idx ms) := by
  intro ms
  induction ms with
  | nil => intro seen _; exact ⟨trivial, by rw [show times idx [] = [] from rfl, List.append_nil]; rfl⟩
  | cons m ms ih =>
    intro seen hd
    cases m with
    | wm w => exact ih seen (fun r hr => hd r hr)
    | data r =>
      obtain ⟨t, ht, _, _⟩ := hd r (List.mem_cons_self ..)
      have htimes : seen ++ times idx (.data r :: ms) = (seen ++ [t]) ++ times idx ms := by
        rw [show times idx (.data r :: ms) = t :: times idx ms by simp only [times, recs, List.filterMap_cons, ht],
          List.append_assoc]; rfl
      obtain ⟨ih1, ih2⟩ := ih (seen ++ [t]) (fun r' hr' => hd r' (List.mem_cons_of_mem _ hr'))
      -- a forwarded record is no watermark
      have hfwd : ∀ (c : Bool) (r : Rec), wms (if c = true then [] else [.data r]) = [] := fun c _ => by cases c <;> rfl
      simp only [specFrom, ht, wms_append, hfwd, List.nil_append]
      rw [htimes, ← ih2]
      rw [wmAfter_snoc hres] at ih1 ⊢
      by_cases hinc : increased (wmAfter res md seen) (some (floorTo res t - md)) = true
      · rw [if_pos hinc] at ih1 ⊢
        rw [wmMsg_incr hinc]
        refine ⟨⟨?_, ih1⟩, rfl⟩
        cases hW : wmAfter res md seen with
        | none => trivial
        | some v => rw [hW] at hinc; exact of_decide_eq_true hinc
      · rw [if_neg hinc] at ih1 ⊢
        rw [wmMsg_self]
        exact ⟨ih1, rfl⟩

theorem recs_specFrom_sublist {res md : Int} {idx : Nat} : ∀ (ms : List Msg) (seen : List Int),
    (recs (specFrom res md idx seen ms)).Sublist ((recs ms).map (stamped idx)) := by
  intro ms
  induction ms with
  | nil => intro seen; simp [specFrom, recs]
  | cons m ms ih =>
    intro seen
    cases m with
    | wm w => simp only [specFrom, recs]; exact ih seen
    | data r =>
      simp only [specFrom]
      cases ht : timeOf idx r with
      | none => simp [recs]
      | some t =>
        simp only [recs_append, recs, List.map_cons]
        have h2 : ∀ W W', recs (wmMsg W W') = [] := fun W W' => by
          unfold wmMsg
          cases W' with
          | none => rfl
          | some w' => cases increased W (some w') <;> rfl
        rw [h2, List.append_nil]
        have hst : stamped idx r = { r with et := some t } := by simp [stamped, ht]
        by_cases hdr : dropped (wmAfter res md seen) t
        · simp only [hdr, if_true, recs, List.nil_append]
          exact List.Sublist.cons _ (ih _)
        · rw [hst]
          simp only [hdr]
          exact List.Sublist.cons_cons _ (ih _)

theorem schemaTimeField_spec (want : String) : ∀ (fields : List (String × Bool)) (o i : Nat),
    schemaTimeField want fields o = .ok i →
      ∃ k, i = o + k ∧ materializeIndex want fields o = some i ∧ fields[k]? = some (want, true) ∧
        ∀ j, j < k → ∀ f, fields[j]? = some f → f.1 ≠ want
  | [], _, _, h => nomatch h
  | (name, isTime) :: rest, o, i, h => by
    unfold schemaTimeField at h
    by_cases hn : want = name
    · rw [if_neg (not_not_intro hn)] at h
      cases isTime with
      | false => cases h
      | true =>
        cases h
        exact ⟨0, rfl, by rw [materializeIndex, if_pos hn], by rw [hn]; rfl, fun _ hj => absurd hj (Nat.not_lt_zero _)⟩
    · rw [if_pos hn] at h
      obtain ⟨k, hk, h2, h3, h4⟩ := schemaTimeField_spec want rest (o + 1) i h
      refine ⟨k + 1, by omega, by rw [materializeIndex, if_neg hn]; exact h2, h3, fun j hj f hf => ?_⟩
      cases j with
      | zero => cases hf; exact fun e => hn e.symm
      | succ j' => exact h4 j' (Nat.lt_of_succ_lt_succ hj) f hf

end Octo.MaxDiff
