import Octo.Lemmas.ListFacts
/-!
  The nested-loop join (`nlJoin`) and the dependent join of a lookup join (`depJoin`) on lists of records, for any kind of
  record that is a list (`List Value` in `Octo.SqlJoin`, `List (String × Value)` in `Octo.Plan`): nothing here looks
  into a record.
-/
namespace Octo
variable {α β : Type}

def nlJoin (m : List α → List α → Bool) (L R : List (List α)) : List (List α) :=
  L.flatMap fun a => (R.filter fun b => m a b).map fun b => a ++ b

def depJoin (J : List α → List (List α)) (L : List (List α)) : List (List α) :=
  L.flatMap fun a => (J a).map fun b => a ++ b

theorem mem_nlJoin {m : List α → List α → Bool} {L R : List (List α)} {x : List α} :
    x ∈ nlJoin m L R ↔ ∃ a ∈ L, ∃ b ∈ R, m a b = true ∧ a ++ b = x := by
  simp only [nlJoin, List.mem_flatMap, List.mem_map, List.mem_filter, and_assoc]

theorem mem_depJoin {J : List α → List (List α)} {L : List (List α)} {x : List α} :
    x ∈ depJoin J L ↔ ∃ a ∈ L, ∃ b ∈ J a, a ++ b = x := by
  simp only [depJoin, List.mem_flatMap, List.mem_map]

theorem nlJoin_congr {m m' : List α → List α → Bool} {L R : List (List α)} (h : ∀ a ∈ L, ∀ b ∈ R, m a b = m' a b) :
    nlJoin m L R = nlJoin m' L R :=
  flatMap_congr_mem fun a ha => by rw [List.filter_congr (h a ha)]

theorem filter_nlJoin (m : List α → List α → Bool) (P : List α → Bool) (L R : List (List α)) :
    (nlJoin m L R).filter P = nlJoin (fun a b => m a b && P (a ++ b)) L R := by
  unfold nlJoin
  rw [List.filter_flatMap]
  congr 1
  funext a
  rw [List.filter_map, List.filter_filter]
  congr 1
  exact List.filter_congr fun b _ => Bool.and_comm _ _

theorem nlJoin_filter (m : List α → List α → Bool) (qa qb : List α → Bool) (L R : List (List α)) :
    nlJoin m (L.filter qa) (R.filter qb) = nlJoin (fun a b => m a b && (qa a && qb b)) L R := by
  unfold nlJoin
  rw [flatMap_filter]
  refine flatMap_congr_mem fun a _ => ?_
  cases h : qa a
  · simp [h]
  · rw [if_pos rfl, List.filter_filter]
    congr 1
    exact List.filter_congr fun b _ => by simp [h]

/-- what a rule needs that moves conjuncts from a filter above a join into its inputs -/
theorem nlJoin_move {m m' : List α → List α → Bool} {P S PL PR : List α → Bool} {L R : List (List α)}
    (h : ∀ a ∈ L, ∀ b ∈ R, (m a b && P (a ++ b)) = (m' a b && (PL a && PR b && S (a ++ b)))) :
    (nlJoin m L R).filter P = (nlJoin m' (L.filter PL) (R.filter PR)).filter S := by
  rw [nlJoin_filter, filter_nlJoin, filter_nlJoin]
  exact nlJoin_congr fun a ha b hb => by rw [h a ha b hb, ← Bool.and_assoc]

theorem depJoin_congr {J J' : List α → List (List α)} {L : List (List α)} (h : ∀ a ∈ L, J a = J' a) :
    depJoin J L = depJoin J' L :=
  flatMap_congr_mem fun a ha => by rw [h a ha]

theorem filter_depJoin (J : List α → List (List α)) (P : List α → Bool) (L : List (List α)) :
    (depJoin J L).filter P = depJoin (fun a => (J a).filter fun b => P (a ++ b)) L := by
  unfold depJoin
  rw [List.filter_flatMap]
  congr 1
  funext a
  rw [List.filter_map]
  rfl

theorem depJoin_filter (J : List α → List (List α)) (q : List α → Bool) (L : List (List α)) :
    depJoin J (L.filter q) = depJoin (fun a => if q a then J a else []) L := by
  unfold depJoin
  rw [flatMap_filter]
  refine flatMap_congr_mem fun a _ => ?_
  dsimp only
  cases q a <;> rfl

theorem depJoin_move {J : List α → List (List α)} {P PL : List α → Bool} {PJ : List α → List α → Bool}
    {L : List (List α)} (h : ∀ a ∈ L, ∀ b ∈ J a, P (a ++ b) = (PL a && PJ a b)) :
    (depJoin J L).filter P = depJoin (fun a => (J a).filter (PJ a)) (L.filter PL) := by
  rw [filter_depJoin, depJoin_filter]
  refine depJoin_congr fun a ha => ?_
  cases hq : PL a
  · rw [if_neg Bool.false_ne_true, List.filter_eq_nil_iff]
    exact fun b hb => by simp [h a ha b hb, hq]
  · rw [if_pos rfl]
    exact List.filter_congr fun b hb => by simp [h a ha b hb, hq]

theorem nlJoin_map {t : List α → List β} (ht : ∀ a b, t (a ++ b) = t a ++ t b) {m : List α → List α → Bool}
    {m' : List β → List β → Bool} (hm : ∀ a b, m' (t a) (t b) = m a b) (L R : List (List α)) :
    nlJoin m' (L.map t) (R.map t) = (nlJoin m L R).map t := by
  unfold nlJoin
  rw [List.map_flatMap, List.flatMap_map]
  refine flatMap_congr_mem fun a _ => ?_
  rw [List.filter_map, List.map_map, List.map_map]
  congr 1
  · exact funext fun b => (ht a b).symm
  · exact List.filter_congr fun b _ => hm a b

end Octo
