import Octo.Lemmas.Comparator
import Octo.Lemmas.Bag
import Octo.Lemmas.ListFacts
import Octo.Model.Changelog
/-! `rowEq` is an equivalence; facts about `net` and `ValidLog` up to row equivalence that the operator, join and
    trigger proofs share. The one with content is the *pushforward*: a sum `Σ sign r * g r.vals` with `g` constant on
    classes of rows is a function of the net multiplicities (`sumBy_congr_of_net`), and monotone in them if `g` is
    non-negative (`sumBy_mono_of_net`). -/
namespace Octo

theorem rowEq_eqv : Equivalence fun a b : Row => rowEq a b = true := cmpList_cmpOn.eqv_beq

theorem rowEq_iff {a b : Row} : rowEq a b = true ↔ cmpList a b = 0 := beq_iff_eq
theorem rowEq_refl (a : Row) : rowEq a a = true := rowEq_eqv.refl a
theorem rowEq_comm (a b : Row) : rowEq a b = rowEq b a := rowEq_eqv.beq_comm a b
theorem rowEq_trans {a b c : Row} (h1 : rowEq a b = true) (h2 : rowEq b c = true) : rowEq a c = true :=
  rowEq_eqv.trans h1 h2
theorem rowEq_congr_left {a b : Row} (h : rowEq a b = true) (c : Row) : rowEq a c = rowEq b c :=
  rowEq_eqv.beq_congr_left h c
theorem rowEq_congr_right {a b : Row} (h : rowEq a b = true) (c : Row) : rowEq c a = rowEq c b :=
  rowEq_eqv.beq_congr_right h c

theorem rowEq_append {a a' b b' : Row} (h1 : rowEq a a' = true) (h2 : rowEq b b' = true) :
    rowEq (a ++ b) (a' ++ b') = true :=
  rowEq_iff.mpr (cmpList_append_eq (rowEq_iff.mp h1) (rowEq_iff.mp h2))

theorem rowEq_cons {v w : Value} {vs ws : Row} (h1 : cmp v w = 0) (h2 : rowEq vs ws = true) :
    rowEq (v :: vs) (w :: ws) = true :=
  rowEq_iff.mpr (cmpList_cons_iff.mpr ⟨h1, rowEq_iff.mp h2⟩)

theorem rowEq_map {α : Type} (l : List α) (f g : α → Value) (h : ∀ x ∈ l, cmp (f x) (g x) = 0) :
    rowEq (l.map f) (l.map g) = true := by
  induction l with
  | nil => rfl
  | cons x xs ih =>
    obtain ⟨hx, hxs⟩ := List.forall_mem_cons.mp h
    exact rowEq_cons hx (ih hxs)

theorem rowEq_of_length_ne {x y : Row} (h : x.length ≠ y.length) : rowEq x y = false :=
  Bool.eq_false_iff.mpr fun hr => h (cmpList_eq_length (rowEq_iff.mp hr))

/-- `g` does not tell apart rows that compare equal -/
def RowInv (g : Row → γ) : Prop := ∀ a b : Row, rowEq a b = true → g a = g b

def Rec.sign (r : Rec) : Int := if r.retr then -1 else 1

theorem Rec.weight_eq (r : Rec) (row : Row) : r.weight row = if rowEq r.vals row then r.sign else 0 := rfl

theorem net_eq_sumBy (l : List Rec) (row : Row) : net l row = sumBy (fun r => r.weight row) l := by
  induction l with
  | nil => rfl
  | cons r rs ih => exact congrArg (r.weight row + ·) ih

theorem net_flatMap (B : Rec → List Rec) (l : List Rec) (row : Row) :
    net (l.flatMap B) row = sumBy (fun r => net (B r) row) l := by
  induction l with
  | nil => rfl
  | cons r rs ih => rw [List.flatMap_cons, net_append, ih]; rfl

theorem net_congr_row (l : List Rec) {row row' : Row} (h : rowEq row row' = true) : net l row = net l row' := by
  rw [net_eq_sumBy, net_eq_sumBy]
  exact sumBy_congr fun r _ => by rw [r.weight_eq, r.weight_eq, rowEq_congr_right h]

theorem net_eq_zero (l : List Rec) (row : Row) (h : ∀ r ∈ l, rowEq r.vals row = false) : net l row = 0 :=
  (net_eq_sumBy l row).trans (sumBy_eq_zero fun r hr => if_neg (ne_true_of_eq_false (h r hr)))

theorem net_filter_split (p : Rec → Bool) (l : List Rec) (row : Row) :
    net l row = net (l.filter p) row + net (l.filter fun r => !p r) row := by
  rw [net_eq_sumBy, net_eq_sumBy, net_eq_sumBy]; exact sumBy_filter_split p _ l

theorem net_filter (P : Row → Bool) (hP : RowInv P) (l : List Rec) (row : Row) :
    net (l.filter fun r => P r.vals) row = if P row then net l row else 0 := by
  have h : ∀ r ∈ l, (if P r.vals then r.weight row else 0) = if P row then r.weight row else 0 := fun r _ => by
    by_cases hr : rowEq r.vals row = true
    · rw [hP _ _ hr]
    · rw [r.weight_eq, if_neg hr, ite_self, ite_self]
  rw [net_eq_sumBy, net_eq_sumBy, sumBy_filter, sumBy_congr h]
  cases P row
  · exact sumBy_eq_zero fun _ _ => rfl
  · rfl

theorem net_filter_not (x row : Row) (l : List Rec) :
    net (l.filter fun r => !rowEq r.vals x) row = if rowEq x row then 0 else net l row := by
  rw [net_filter (fun a => !rowEq a x) fun a b h => congrArg (!·) (rowEq_congr_left h x), rowEq_comm row x]
  cases rowEq x row <;> rfl

theorem sumBy_split_row (g : Row → Int) (hg : RowInv g) (d : Row) (l : List Rec) :
    sumBy (fun r => r.sign * g r.vals) l =
      g d * net l d + sumBy (fun r => r.sign * g r.vals) (l.filter fun r => !rowEq r.vals d) := by
  rw [sumBy_filter_split (fun r => rowEq r.vals d), sumBy_filter, net_eq_sumBy, ← sumBy_mul_left]
  refine congrArg (· + _) (sumBy_congr fun r _ => ?_)
  rw [r.weight_eq]
  by_cases h : rowEq r.vals d = true
  · rw [if_pos h, if_pos h, hg _ _ h, Int.mul_comm]
  · rw [if_neg h, if_neg h, Int.mul_zero]

theorem sumBy_congr_of_net (g : Row → Int) (hg : RowInv g) {A B : List Rec} :
    (∀ y, net A y = net B y) → sumBy (fun r => r.sign * g r.vals) A = sumBy (fun r => r.sign * g r.vals) B := by
  refine class_induction (P := fun A B => (∀ y, net A y = net B y) →
      sumBy (fun r => r.sign * g r.vals) A = sumBy (fun r => r.sign * g r.vals) B)
    (fun r x => rowEq x.vals r.vals) (fun r => rowEq_refl _) (fun _ => rfl) (fun r A B ih h => ?_) A B
  rw [sumBy_split_row g hg r.vals A, sumBy_split_row g hg r.vals B, h r.vals]
  refine congrArg (_ + ·) (ih fun y => ?_)
  rw [net_filter_not, net_filter_not, h y]

theorem sumBy_mono_of_net (g : Row → Int) (hg : RowInv g) (hpos : ∀ y, 0 ≤ g y) {A B : List Rec} :
    (∀ y, net A y ≤ net B y) → sumBy (fun r => r.sign * g r.vals) A ≤ sumBy (fun r => r.sign * g r.vals) B := by
  refine class_induction (P := fun A B => (∀ y, net A y ≤ net B y) →
      sumBy (fun r => r.sign * g r.vals) A ≤ sumBy (fun r => r.sign * g r.vals) B)
    (fun r x => rowEq x.vals r.vals) (fun r => rowEq_refl _) (fun _ => Int.le_refl _) (fun r A B ih h => ?_) A B
  rw [sumBy_split_row g hg r.vals A, sumBy_split_row g hg r.vals B]
  refine Int.add_le_add (Int.mul_le_mul_of_nonneg_left (h r.vals) (hpos _)) (ih fun y => ?_)
  rw [net_filter_not, net_filter_not]
  split
  · exact Int.le_refl 0
  · exact h y

theorem validLog_nil : ValidLog [] := fun n y => by rw [List.take_nil]; exact Int.le_refl 0

theorem validLog_of_validLogB (log : List Rec) (h : validLogB log = true) : ValidLog log := by
  intro n y
  by_cases hex : ∃ r ∈ log, rowEq r.vals y = true
  · obtain ⟨r, hr, hry⟩ := hex
    simp only [validLogB, List.all_eq_true, List.mem_range, decide_eq_true_eq] at h
    by_cases hn : n < log.length + 1
    · rw [← net_congr_row _ hry]; exact h n hn r hr
    · rw [List.take_of_length_le (by omega)]
      have := h log.length (by omega) r hr
      rw [List.take_length] at this
      rw [← net_congr_row _ hry]; exact this
  · -- no record of the log is in the class of `y`
    rw [net_eq_zero _ y fun r hr => Bool.eq_false_iff.mpr fun hry => hex ⟨r, List.mem_of_mem_take hr, hry⟩]
    exact Int.le_refl 0

theorem validLog_net_nonneg {l : List Rec} (h : ValidLog l) (y : Row) : 0 ≤ net l y := by
  have := h l.length y; rwa [List.take_length] at this

theorem validLog_prefix {a b : List Rec} (h : ValidLog (a ++ b)) : ValidLog a := by
  intro n y
  by_cases hn : n ≤ a.length
  · have := h n y
    rwa [List.take_append_of_le_length hn] at this
  · have := h a.length y
    rw [List.take_append_of_le_length (Nat.le_refl _), List.take_length] at this
    rwa [List.take_of_length_le (by omega)]

theorem validLog_filter (P : Row → Bool) (hP : RowInv P) {L : List Rec} (h : ValidLog L) :
    ValidLog (L.filter fun r => P r.vals) := by
  intro n row
  obtain ⟨m, hm⟩ := take_filter_exists (fun r : Rec => P r.vals) L n
  rw [hm, net_filter P hP]
  split
  · exact h m row
  · exact Int.le_refl 0

end Octo
