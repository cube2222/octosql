import Octo.Lemmas.SqlOps
import Octo.Model.Changelog
/-! Where the batch semantics of SQL (`countRow`, `Spec.SqlSem`) meets changelogs (`net`, `Model.Changelog`): kept out of
    `SqlOps` and `Net`, because a file that sees both `Octo.Sql.rowEq` and `Octo.rowEq` has to say which it means. -/
namespace Octo.Sql
open Octo

/-- the two names of the equality of rows (see the head of `GroupFold`) -/
theorem rowEq_eq : @Sql.rowEq = @Octo.rowEq := rfl

theorem net_eq_countRow (rs : List Rec) (h : ∀ r ∈ rs, r.retr = false) (row : Row) :
    net rs row = (countRow row (rs.map (·.vals)) : Int) := by
  induction rs with
  | nil => rfl
  | cons r rs ih =>
    rw [List.map_cons, net_cons, ih fun x hx => h x (List.mem_cons_of_mem _ hx), countRow, Int.natCast_add,
      rowEq_eqv.beq_comm row r.vals, Rec.weight, h r List.mem_cons_self]
    congr 1
    show (if rowEq r.vals row = true then (1 : Int) else 0) = _
    split <;> rfl

theorem net_map_add (rows : List Row) (row : Row) :
    net (rows.map fun x => (⟨x, false, none⟩ : Rec)) row = (countRow row rows : Int) := by
  rw [net_eq_countRow _ (List.forall_mem_map.mpr fun _ _ => rfl), List.map_map]
  exact congrArg (fun l => (countRow row l : Int)) (List.map_id' rows)

end Octo.Sql
