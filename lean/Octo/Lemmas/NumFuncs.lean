import Octo.Lemmas.ParseInt
import Octo.Lemmas.TimeLemmas
/-!
  Octo.Lemmas.NumFuncs — each function of the table `callFn` (`fnAdd`, …) meets its specification (`specAdd`, …) in the
  sense of `Meets`, on arguments that are `ArgsOk`.
-/
namespace Octo.Num
open Octo Octo.Spec13

/-- the arms that are not symmetric are the content: a value
    the specification does not cover (`.val _, .unspecified`) does NOT meet it, so every modelled result has an entry in
    the specification; only results of unmodelled library code (`.opaque`) may go uncovered, matched by TypeID where the
    specification names one; a call outside the declared overloads (`.illTyped`) demands nothing; a panic meets nothing -/
def Meets : Outcome → Expect → Prop
  | .val v, .exact w => v = w
  | .err, .error => True
  | .val v, .someOf t => v.rank = t
  | .opaque t, .someOf t' => t = t'
  | .opaque _, .unspecified => True
  | .illTyped, _ => True
  | _, _ => False

/-- top-level argument well-formedness: ints and durations are int64, times are representable -/
def Value.Ok : Value → Prop
  | .int i => InI64 i
  | .dur d => InI64 d
  | .time t _ => ValidTime t
  | _ => True

def ArgsOk : List Value → Prop
  | [] => True
  | v :: vs => Value.Ok v ∧ ArgsOk vs

theorem memLoop_eq_any (x : Value) (xs : List Value) : memLoop x xs = xs.any fun y => x.equal y := by
  induction xs with
  | nil => rfl
  | cons y ys ih =>
    unfold memLoop
    rw [List.any_cons, ← ih]
    cases x.equal y <;> simp

theorem not_memLoop_eq_all (x : Value) (xs : List Value) : (!memLoop x xs) = xs.all fun y => !x.equal y := by
  rw [memLoop_eq_any, List.not_any_eq_all_not]

theorem repeatBytes_eq (s : List UInt8) (n : Nat) : repeatBytes s n = (List.replicate n s).flatten := by
  induction n with
  | zero => rfl
  | succ k ih => unfold repeatBytes; rw [ih, List.replicate_succ, List.flatten_cons]

theorem repeatBytes_length (s : List UInt8) (n : Nat) : (repeatBytes s n).length = n * s.length := by
  induction n with
  | zero => simp [repeatBytes]
  | succ k ih => unfold repeatBytes; rw [List.length_append, ih, Nat.succ_mul]; omega

/-- the guard `count > max / len(s)` is the overflow-free form of `len(s) * count > max` -/
theorem repeat_guard (len count cap : Int) (hl : 0 < len) :
    count > cap / len ↔ len * count > cap := by
  rw [Int.mul_comm]; exact Int.ediv_lt_iff_lt_mul hl

theorem repeatString_meets (s : List UInt8) (n : Int) : Meets (repeatString s n) (repeatSpec s n) := by
  unfold repeatString repeatSpec
  by_cases hn : n < 0
  · rw [if_pos hn, if_pos (.inl hn)]; trivial
  · rw [if_neg hn]
    cases s with
    | nil =>
      have h1 : ¬ (([] : List UInt8).length > 0 ∧ n > maxRepeatedStringLength / (([] : List UInt8).length : Int)) :=
        fun h => Nat.lt_irrefl 0 h.1
      have h2 : ¬ (n < 0 ∨ (([] : List UInt8).length : Int) * n > maxRepeatedStringLength) := by
        rw [List.length_nil, Int.natCast_zero, Int.zero_mul]; exact fun h => h.elim hn (by decide)
      rw [if_neg h1, if_neg h2]; rfl
    | cons c cs =>
      have hl : (c :: cs).length > 0 := Nat.succ_pos _
      have g := repeat_guard ((c :: cs).length : Int) n maxRepeatedStringLength (by omega)
      by_cases hg : n > maxRepeatedStringLength / ((c :: cs).length : Int)
      · rw [if_pos ⟨hl, hg⟩, if_pos (Or.inr (g.mp hg))]; trivial
      · have h2 : ¬ (n < 0 ∨ ((c :: cs).length : Int) * n > maxRepeatedStringLength) :=
          fun h => h.elim hn (fun h => hg (g.mpr h))
        rw [if_neg (fun h => hg h.2), if_neg h2, repeatBytes_eq]; rfl

theorem indexFn_eq (xs : List Value) (i : Int) :
    indexFn xs i = .val (if 0 ≤ i ∧ i < (xs.length : Int) then xs[i.toNat]?.getD .null else .null) := by
  unfold indexFn
  by_cases h : i < 0 ∨ i ≥ (xs.length : Int)
  · rw [if_pos h, if_neg (by omega)]
  · rw [if_neg h, if_pos (by omega), List.getElem?_eq_getElem (show i.toNat < xs.length by omega)]
    rfl

theorem meets_illTyped (e : Expect) : Meets .illTyped e := by cases e <;> trivial

/-! ### descriptor by descriptor: after `split` on the overload, `Meets` and the specification compute, so that each arm
    is the equation between the two values -/

theorem timeAdd_meets (t d : Int) (l : Nat) :
    Meets (.val (.time (timeAdd t d) l)) (if InI64 (timeExt (t + d)) then .exact (.time (t + d) l) else .someOf tTime) := by
  by_cases hr : InI64 (timeExt (t + d))
  · rw [if_pos hr, timeAdd_exact t d hr]; rfl
  · rw [if_neg hr]; rfl

theorem fnAdd_meets (idx : Nat) (args : List Value) :
    Meets (fnAdd idx args) (specAdd idx args) := by
  unfold fnAdd
  split
  · exact congrArg Value.int (addI64_eq _ _)
  · trivial
  · exact congrArg Value.dur (addI64_eq _ _)
  · exact timeAdd_meets _ _ _
  · exact timeAdd_meets _ _ _
  · rfl
  · exact meets_illTyped _

theorem fnSub_meets (idx : Nat) (args : List Value) (h : ArgsOk args) :
    Meets (fnSub idx args) (specSub idx args) := by
  unfold fnSub
  split
  · exact congrArg Value.int (subI64_eq _ _)
  · exact congrArg Value.int (negI64_eq _)
  · trivial
  · rfl
  · exact congrArg Value.dur (subI64_eq _ _)
  · exact congrArg Value.dur (negI64_eq _)
  · rename_i t l d
    show Meets _ (if d ≠ minI64 ∧ InI64 (timeExt (t - d)) then .exact (.time (t - d) l) else .someOf tTime)
    by_cases hr : d ≠ minI64 ∧ InI64 (timeExt (t - d))
    · rw [if_pos hr, negI64_exact h.2.1 hr.1, timeAdd_exact t (-d) hr.2]; rfl
    · rw [if_neg hr]; rfl
  · exact meets_illTyped _

theorem fnMul_meets (idx : Nat) (args : List Value) :
    Meets (fnMul idx args) (specMul idx args) := by
  unfold fnMul
  split
  · exact congrArg Value.int (mulI64_eq _ _)
  · trivial
  · exact congrArg Value.dur (mulI64_eq _ _)
  · exact congrArg Value.dur ((mulI64_eq _ _).trans (congrArg wrap64 (Int.mul_comm _ _)))
  · exact repeatString_meets _ _
  · exact repeatString_meets _ _
  · exact meets_illTyped _

theorem divFn_meets (a b : Int) (ha : InI64 a) (hb : InI64 b) (f : Int → Value) :
    Meets (ofOptInt (divFn a b) f) (if b = 0 then .error else .exact (f (wrap64 (Int.tdiv a b)))) := by
  unfold divFn
  by_cases h0 : b = 0
  · rw [if_pos h0, if_pos h0]; trivial
  · rw [if_neg h0, if_neg h0, quoI64_eq ha hb]; rfl

theorem fnDiv_meets (idx : Nat) (args : List Value) (h : ArgsOk args) :
    Meets (fnDiv idx args) (specDiv idx args) := by
  unfold fnDiv
  split
  · exact divFn_meets _ _ h.1 h.2.1 _
  · trivial
  · exact divFn_meets _ _ h.1 h.2.1 _
  · trivial
  · exact meets_illTyped _

theorem fnAbs_meets (idx : Nat) (args : List Value) (h : ArgsOk args) :
    Meets (fnAbs idx args) (specAbs idx args) := by
  unfold fnAbs
  split
  · rename_i a
    show Meets _ (.exact (.int (wrap64 (a.natAbs : Int))))
    by_cases hp : a > 0
    · rw [if_pos hp, show ((a.natAbs : Nat) : Int) = a by omega, wrap64_of_inI64 h.1]; rfl
    · rw [if_neg hp, show ((a.natAbs : Nat) : Int) = a * -1 by omega, mulI64_eq]; rfl
  · rfl
  · exact meets_illTyped _

theorem fnLen_meets (idx : Nat) (args : List Value) : Meets (fnLen idx args) (specLen idx args) := by
  unfold fnLen
  split <;> first | rfl | exact meets_illTyped _

theorem fnTimeFromUnix_meets (idx : Nat) (args : List Value) :
    Meets (fnTimeFromUnix idx args) (specTimeFromUnix idx args) := by
  unfold fnTimeFromUnix
  split
  · rename_i x
    show Meets _ (if InI64 (x + unixToInternal) then .exact (.time (x * nsPerSec) 0) else .someOf tTime)
    by_cases hr : InI64 (x + unixToInternal)
    · rw [if_pos hr, timeUnix_exact x hr]; rfl
    · rw [if_neg hr]; rfl
  · trivial
  · exact meets_illTyped _

theorem fnTimeToUnix_meets (idx : Nat) (args : List Value) :
    Meets (fnTimeToUnix idx args) (specTimeToUnix idx args) := by
  unfold fnTimeToUnix
  split
  · exact congrArg Value.int (timeToUnix_eq _)
  · exact meets_illTyped _

theorem fnInt_meets (idx : Nat) (args : List Value) : Meets (fnInt idx args) (specInt idx args) := by
  unfold fnInt
  split
  · rfl
  · rfl
  · trivial
  · rename_i s
    show Meets _ (match parseIntSpec s with | some i => .exact (.int i) | none => .exact .null)
    rw [parseInt_eq_spec]
    cases parseIntSpec s <;> rfl
  · rfl
  · exact meets_illTyped _

theorem fnFloat_meets (idx : Nat) (args : List Value) : Meets (fnFloat idx args) (specFloat idx args) := by
  unfold fnFloat
  split <;> first | rfl | trivial | exact meets_illTyped _

theorem fnString_meets (idx : Nat) (args : List Value) : Meets (fnString idx args) (specString idx args) := by
  unfold fnString
  split
  · rename_i v
    show Meets _ (match valueString v with | some s => .exact (.str s) | none => .someOf tStr)
    cases valueString v <;> rfl
  · exact meets_illTyped _

theorem fnIndex_meets (idx : Nat) (args : List Value) : Meets (fnIndex idx args) (specIndex idx args) := by
  unfold fnIndex
  split
  · rename_i xs i
    show Meets _ (if 0 ≤ i ∧ i < (xs.length : Int) then .exact (xs[i.toNat]?.getD .null) else .exact .null)
    rw [indexFn_eq]
    split <;> rfl
  · exact meets_illTyped _

theorem fnIn_meets (idx : Nat) (args : List Value) : Meets (fnIn idx args) (specIn idx args) := by
  unfold fnIn
  split
  · exact congrArg Value.bool (memLoop_eq_any _ _)
  · exact congrArg Value.bool (memLoop_eq_any _ _)
  · exact meets_illTyped _

theorem fnNotIn_meets (idx : Nat) (args : List Value) : Meets (fnNotIn idx args) (specNotIn idx args) := by
  unfold fnNotIn
  split
  · exact congrArg Value.bool (not_memLoop_eq_all _ _)
  · exact congrArg Value.bool (not_memLoop_eq_all _ _)
  · exact meets_illTyped _

theorem fnMath1_meets (idx : Nat) (args : List Value) : Meets (fnMath1 idx args) .unspecified := by
  unfold fnMath1; split <;> trivial
theorem fnPow_meets (idx : Nat) (args : List Value) : Meets (fnPow idx args) .unspecified := by
  unfold fnPow; split <;> trivial

/-! ### the table at the names that the round trips and witnesses call (string literals are compared by `simp`'s
    evaluator; evaluating `callFn "…"` by unfolding `String` equality is far dearer) -/

theorem callFn_div (idx : Nat) (args : List Value) : callFn "div" idx args = fnDiv idx args := by unfold callFn; simp
theorem callFn_tfu (idx : Nat) (args : List Value) : callFn "tfu" idx args = fnTimeFromUnix idx args := by
  unfold callFn; simp
theorem callFn_ttu (idx : Nat) (args : List Value) : callFn "ttu" idx args = fnTimeToUnix idx args := by
  unfold callFn; simp
theorem callFn_int (idx : Nat) (args : List Value) : callFn "int" idx args = fnInt idx args := by unfold callFn; simp
theorem callFn_string (idx : Nat) (args : List Value) : callFn "string" idx args = fnString idx args := by
  unfold callFn; simp

/-- one step through the two `if … else if …` tables when both test the same name -/
theorem meets_ite {c : Prop} [Decidable c] {a b : Outcome} {x y : Expect} (h1 : c → Meets a x) (h2 : ¬ c → Meets b y) :
    Meets (if c then a else b) (if c then x else y) := by
  by_cases h : c
  · rw [if_pos h, if_pos h]; exact h1 h
  · rw [if_neg h, if_neg h]; exact h2 h

end Octo.Num
