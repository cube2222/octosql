import Octo.Lemmas.OpsNet
/-!
  Octo.Lemmas.OpsAssoc — association lists keyed by `rowEq`, the model of the hash maps of Distinct and of the
  group-by nodes.
-/
namespace Octo.Ops
open Octo

theorem aget_congr (l : List (Row × β)) {y y' : Row} (h : rowEq y y' = true) : aget l y = aget l y' := by
  induction l with
  | nil => rfl
  | cons a as ih =>
    simp only [aget, List.find?_cons] at *
    rw [rowEq_congr_right h a.1]
    split
    · rfl
    · exact ih

theorem aget_key {l : List (Row × β)} {y : Row} {p : Row × β} (h : aget l y = some p) : rowEq p.1 y = true :=
  List.find?_some (p := fun q : Row × β => rowEq q.1 y) h

theorem aget_aremove (l : List (Row × β)) (k y : Row) :
    aget (aremove l k) y = if rowEq k y then none else aget l y := by
  induction l with
  | nil => simp [aget, aremove]
  | cons a as ih =>
    simp only [aget, aremove, List.filter_cons, List.find?_cons] at *
    cases hak : rowEq a.1 k
    · -- kept: if it is found under `y`, then `y` is not in the class of `k`
      rw [Bool.not_false, if_pos rfl, List.find?_cons, ih]
      cases hay : rowEq a.1 y
      · rfl
      · rw [← rowEq_congr_right hay k, rowEq_comm, hak]; rfl
    · rw [Bool.not_true, if_neg Bool.false_ne_true, ih, rowEq_congr_left hak y]
      cases rowEq k y <;> rfl

theorem aget_aput (l : List (Row × β)) (k : Row) (v : β) (y : Row) :
    aget (aput l k v) y = if rowEq k y then some (k, v) else aget l y := by
  simp only [aput, aget, List.find?_cons]
  cases h : rowEq k y
  · simp only [Bool.false_eq_true, ↓reduceIte]
    have := aget_aremove l k y
    simp only [aget, h, Bool.false_eq_true, ↓reduceIte] at this
    exact this
  · simp

theorem getc_congr (cnt : List (Row × Int)) {y y' : Row} (h : rowEq y y' = true) : getc cnt y = getc cnt y' := by
  simp only [getc, aget_congr cnt h]

theorem getc_aput (cnt : List (Row × Int)) (k : Row) (v : Int) (y : Row) :
    getc (aput cnt k v) y = if rowEq k y then v else getc cnt y := by
  cases h : rowEq k y <;> simp [getc, aget_aput, h]

theorem getc_aremove (cnt : List (Row × Int)) (k y : Row) :
    getc (aremove cnt k) y = if rowEq k y then 0 else getc cnt y := by
  cases h : rowEq k y <;> simp [getc, aget_aremove, h]

theorem pairwise_aremove {groups : List (Row × β)} {k : Row}
    (h : groups.Pairwise (fun a b => rowEq a.1 b.1 = false)) :
    (aremove groups k).Pairwise (fun a b => rowEq a.1 b.1 = false) := List.Pairwise.filter _ h

theorem pairwise_aput {groups : List (Row × β)} {k : Row} {v : β}
    (h : groups.Pairwise (fun a b => rowEq a.1 b.1 = false)) :
    (aput groups k v).Pairwise (fun a b => rowEq a.1 b.1 = false) := by
  simp only [aput, List.pairwise_cons]
  refine ⟨?_, pairwise_aremove h⟩
  intro e he
  simp only [aremove, List.mem_filter, Bool.not_eq_eq_eq_not, Bool.not_true] at he
  rw [rowEq_comm]; exact he.2

theorem aget_of_mem_nodup (groups : List (Row × β)) (hn : groups.Pairwise (fun a b => rowEq a.1 b.1 = false))
    (e : Row × β) (he : e ∈ groups) : aget groups e.1 = some e := by
  induction groups with
  | nil => simp at he
  | cons a as ih =>
    have hn' := List.pairwise_cons.mp hn
    simp only [aget, List.find?_cons]
    rcases List.mem_cons.mp he with h | h
    · subst h; simp [rowEq_refl]
    · have := hn'.1 e h
      simp only [this]
      exact ih hn'.2 h

theorem mem_of_aget {groups : List (Row × β)} {k : Row} {e : Row × β} (h : aget groups k = some e) : e ∈ groups :=
  List.mem_of_find?_eq_some h

end Octo.Ops
