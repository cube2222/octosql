import Octo.Lemmas.OpsNet
import Octo.Model.OpTime
/-!
  Octo.Lemmas.OpsBuffer — the stable sort by event time commutes with filtering (`sortByEt_filter`);
  the bucket model of RecordEventTimeBuffer (`etbAdd`/`etbEmit` on a list of (time, FIFO) buckets
  sorted by time) implements the naive specification `bufSpec`.
-/
namespace Octo.Ops
open Octo

theorem insByEt_perm (t : Int) (r : Rec) (l : List (Int × Rec)) : (insByEt t r l).Perm ((t, r) :: l) := by
  induction l with
  | nil => exact List.Perm.refl _
  | cons a as ih =>
    obtain ⟨u, q⟩ := a
    simp only [insByEt]
    split
    · exact List.Perm.refl _
    · exact (List.Perm.cons _ ih).trans (List.Perm.swap _ _ _)

theorem sortByEt_perm (p : List (Int × Rec)) : (sortByEt p).Perm p := by
  have : ∀ acc : List (Int × Rec), (p.foldl (fun acc a => insByEt a.1 a.2 acc) acc).Perm (acc ++ p) := by
    induction p with
    | nil => intro acc; simp
    | cons a as ih =>
      intro acc
      simp only [List.foldl_cons]
      refine (ih _).trans ?_
      refine (List.Perm.append_right as (insByEt_perm a.1 a.2 acc)).trans ?_
      simp only [List.cons_append]
      exact (List.perm_middle (l₁ := acc) (a := a) (l₂ := as)).symm
  simpa [sortByEt] using this []

theorem mem_insByEt (t : Int) (r : Rec) (l : List (Int × Rec)) (q : Int × Rec) :
    q ∈ insByEt t r l ↔ q = (t, r) ∨ q ∈ l :=
  (insByEt_perm t r l).mem_iff.trans List.mem_cons

theorem mem_sortByEt (p : List (Int × Rec)) (q : Int × Rec) : q ∈ sortByEt p ↔ q ∈ p :=
  (sortByEt_perm p).mem_iff

theorem insByEt_sorted (t : Int) (r : Rec) (l : List (Int × Rec)) (h : l.Pairwise fun a b => a.1 ≤ b.1) :
    (insByEt t r l).Pairwise fun a b => a.1 ≤ b.1 := by
  induction l with
  | nil => exact List.pairwise_singleton _ _
  | cons a as ih =>
    obtain ⟨u, q⟩ := a
    obtain ⟨hu, has⟩ := List.pairwise_cons.mp h
    rw [insByEt]
    by_cases htu : t < u
    · rw [if_pos htu]
      exact List.pairwise_cons.mpr ⟨List.forall_mem_cons.mpr
        ⟨Int.le_of_lt htu, fun b hb => Int.le_trans (Int.le_of_lt htu) (hu b hb)⟩, h⟩
    · rw [if_neg htu]
      refine List.pairwise_cons.mpr ⟨fun b hb => ?_, ih has⟩
      rcases (mem_insByEt t r as b).mp hb with rfl | hb'
      · exact Int.not_lt.mp htu
      · exact hu b hb'

theorem sortByEt_sorted (p : List (Int × Rec)) : (sortByEt p).Pairwise fun a b => a.1 ≤ b.1 :=
  List.foldlRecOn p _ List.Pairwise.nil fun acc h a _ => insByEt_sorted a.1 a.2 acc h

theorem insByEt_front (t : Int) (r : Rec) (l : List (Int × Rec)) (h : ∀ p ∈ l, t < p.1) :
    insByEt t r l = (t, r) :: l := by
  cases l with
  | nil => rfl
  | cons a as => simp [insByEt, h a List.mem_cons_self]

theorem insByEt_skip (t : Int) (r : Rec) (l1 l2 : List (Int × Rec)) (h : ∀ p ∈ l1, ¬ t < p.1) :
    insByEt t r (l1 ++ l2) = l1 ++ insByEt t r l2 := by
  induction l1 with
  | nil => rfl
  | cons a as ih =>
    have h1 := h a List.mem_cons_self
    simp only [List.cons_append, insByEt, h1, ↓reduceIte]
    rw [ih (fun p hp => h p (List.mem_cons_of_mem _ hp))]

theorem sortByEt_snoc (p : List (Int × Rec)) (t : Int) (r : Rec) :
    sortByEt (p ++ [(t, r)]) = insByEt t r (sortByEt p) := by
  simp [sortByEt, List.foldl_append]

theorem insByEt_filter (Q : Int × Rec → Bool) (t : Int) (r : Rec) (l : List (Int × Rec))
    (h : l.Pairwise fun a b => a.1 ≤ b.1) :
    (insByEt t r l).filter Q = if Q (t, r) then insByEt t r (l.filter Q) else l.filter Q := by
  induction l with
  | nil => simp only [insByEt, List.filter_cons, List.filter_nil]
  | cons a as ih =>
    obtain ⟨u, q⟩ := a
    obtain ⟨hu, has⟩ := List.pairwise_cons.mp h
    rw [insByEt]
    by_cases htu : t < u
    · -- what is kept behind the new entry lies above it
      rw [if_pos htu, List.filter_cons, insByEt_front t r (((u, q) :: as).filter Q)]
      intro p hp
      rcases List.mem_cons.mp (List.mem_filter.mp hp).1 with rfl | hp'
      · exact htu
      · exact Int.lt_of_lt_of_le htu (hu p hp')
    · rw [if_neg htu, List.filter_cons, ih has, List.filter_cons]
      cases Q (t, r) <;> cases Q (u, q) <;> simp [insByEt, htu]

theorem sortByEt_filter (Q : Int × Rec → Bool) (p : List (Int × Rec)) :
    (sortByEt p).filter Q = sortByEt (p.filter Q) := by
  rw [sortByEt, sortByEt, List.foldl_filter]
  -- along the two folds: the left accumulator is sorted, and filtering it gives the right one
  refine (List.foldl_rel (r := fun (acc acc' : List (Int × Rec)) => acc.Pairwise (fun a b => a.1 ≤ b.1) ∧ acc.filter Q = acc')
    ⟨List.Pairwise.nil, rfl⟩ fun a _ acc acc' h => ?_).2
  obtain ⟨hs, rfl⟩ := h
  exact ⟨insByEt_sorted a.1 a.2 acc hs, insByEt_filter Q a.1 a.2 acc hs⟩

theorem sortByEt_of_keys_eq (l : List (Int × Rec)) (h : ∀ a ∈ l, ∀ b ∈ l, a.1 = b.1) : sortByEt l = l := by
  have : ∀ acc : List (Int × Rec), (∀ a ∈ acc ++ l, ∀ b ∈ acc ++ l, a.1 = b.1) →
      l.foldl (fun acc q => insByEt q.1 q.2 acc) acc = acc ++ l := by
    clear h
    induction l with
    | nil => intro acc _; exact (List.append_nil acc).symm
    | cons a as ih =>
      intro acc hk
      have hins : insByEt a.1 a.2 acc = acc ++ [a] := by
        have := insByEt_skip a.1 a.2 acc [] fun p hp => by
          rw [hk a (by simp) p (List.mem_append_left _ hp)]; exact Int.lt_irrefl _
        rwa [List.append_nil] at this
      rw [List.foldl_cons, hins, ih (acc ++ [a]) (by rwa [← List.append_cons]), ← List.append_cons]
  exact this [] h

/-- the buckets laid out flat, in release order -/
def flat (b : Buckets) : List (Int × Rec) := b.flatMap fun p => p.2.map fun r => (p.1, r)

def SortedKeys (b : Buckets) : Prop := b.Pairwise fun a c => a.1 < c.1

theorem flat_cons (u : Int) (rs : List Rec) (rest : Buckets) :
    flat ((u, rs) :: rest) = rs.map (fun r => (u, r)) ++ flat rest := by simp [flat]

theorem mem_flat {b : Buckets} {p : Int × Rec} (h : p ∈ flat b) : ∃ q ∈ b, q.1 = p.1 := by
  simp only [flat, List.mem_flatMap, List.mem_map] at h
  obtain ⟨q, hq, r, _, rfl⟩ := h
  exact ⟨q, hq, rfl⟩

theorem etbAdd_lb (lo t : Int) (r : Rec) (b : Buckets) (ht : lo < t) (hb : ∀ q ∈ b, lo < q.1) :
    ∀ q ∈ etbAdd t r b, lo < q.1 := by
  induction b with
  | nil => exact List.forall_mem_singleton.mpr ht
  | cons a rest ih =>
    obtain ⟨u, rs⟩ := a
    obtain ⟨hu, hrest⟩ := List.forall_mem_cons.mp hb
    rw [etbAdd]
    by_cases h1 : t < u
    · rw [if_pos h1]; exact List.forall_mem_cons.mpr ⟨ht, hb⟩
    · rw [if_neg h1]
      by_cases h2 : u < t
      · rw [if_pos h2]; exact List.forall_mem_cons.mpr ⟨hu, ih hrest⟩
      · rw [if_neg h2]; exact List.forall_mem_cons.mpr ⟨hu, hrest⟩

theorem etbAdd_sorted (t : Int) (r : Rec) (b : Buckets) (hs : SortedKeys b) : SortedKeys (etbAdd t r b) := by
  induction b with
  | nil => exact List.pairwise_singleton _ _
  | cons a rest ih =>
    obtain ⟨u, rs⟩ := a
    obtain ⟨hu, hrest⟩ := List.pairwise_cons.mp hs
    rw [etbAdd]
    by_cases h1 : t < u
    · rw [if_pos h1]
      exact List.pairwise_cons.mpr ⟨List.forall_mem_cons.mpr ⟨h1, fun q h => Int.lt_trans h1 (hu q h)⟩, hs⟩
    · rw [if_neg h1]
      by_cases h2 : u < t
      · rw [if_pos h2]; exact List.pairwise_cons.mpr ⟨etbAdd_lb u t r rest h2 hu, ih hrest⟩
      · rw [if_neg h2]; exact List.pairwise_cons.mpr ⟨hu, hrest⟩

theorem etbAdd_flat (t : Int) (r : Rec) (b : Buckets) (hs : SortedKeys b) :
    flat (etbAdd t r b) = insByEt t r (flat b) := by
  induction b with
  | nil => rfl
  | cons a rest ih =>
    obtain ⟨u, rs⟩ := a
    obtain ⟨hu, hrest⟩ := List.pairwise_cons.mp hs
    have keys_rest : ∀ p ∈ flat rest, u < p.1 := fun p hp => by
      obtain ⟨q, hq, hqp⟩ := mem_flat hp
      rw [← hqp]; exact hu q hq
    rw [etbAdd]
    by_cases h1 : t < u
    · rw [if_pos h1, flat_cons, flat_cons, insByEt_front t r _ (List.forall_mem_append.mpr
        ⟨List.forall_mem_map.mpr fun _ _ => h1, fun p h => Int.lt_trans h1 (keys_rest p h)⟩)]
      rfl
    · have hskip : ∀ p ∈ rs.map fun r => (u, r), ¬ t < p.1 := List.forall_mem_map.mpr fun _ _ => h1
      rw [if_neg h1]
      by_cases h2 : u < t
      · rw [if_pos h2, flat_cons, flat_cons, ih hrest, insByEt_skip t r _ _ hskip]
      · have hut : u = t := Int.le_antisymm (Int.not_lt.mp h1) (Int.not_lt.mp h2)
        subst hut
        rw [if_neg h2, flat_cons, flat_cons, insByEt_skip u r _ _ hskip, insByEt_front u r _ keys_rest,
          List.map_append, List.append_assoc]
        rfl

theorem etbEmit_flat (w : Int) (b : Buckets) (hs : SortedKeys b) :
    (etbEmit w b).1 = ((flat b).filter fun p => decide (p.1 ≤ w)).map (·.2) ∧
    flat (etbEmit w b).2 = (flat b).filter (fun p => !decide (p.1 ≤ w)) ∧
    SortedKeys (etbEmit w b).2 := by
  induction b with
  | nil => simp [etbEmit, flat, SortedKeys]
  | cons a rest ih =>
    obtain ⟨u, rs⟩ := a
    have hs' := List.pairwise_cons.mp hs
    simp only [etbEmit]
    by_cases h1 : u ≤ w
    · simp only [h1, ↓reduceIte]
      obtain ⟨ih1, ih2, ih3⟩ := ih hs'.2
      -- the bucket `u` is released whole
      have out : (rs.map fun r => (u, r)).filter (fun p => decide (p.1 ≤ w)) = rs.map fun r => (u, r) :=
        List.filter_eq_self.mpr (List.forall_mem_map.mpr fun _ _ => decide_eq_true h1)
      have kept : (rs.map fun r => (u, r)).filter (fun p => !decide (p.1 ≤ w)) = [] :=
        List.filter_eq_nil_iff.mpr (List.forall_mem_map.mpr fun _ _ => by simp [h1])
      refine ⟨?_, ?_, ih3⟩
      · rw [flat_cons, List.filter_append, List.map_append, ih1, out]
        simp [List.map_map, Function.comp_def]
      · rw [flat_cons, List.filter_append, ih2, kept]; rfl
    · simp only [h1, ↓reduceIte]
      have all_gt : ∀ p ∈ flat ((u, rs) :: rest), ¬ p.1 ≤ w := by
        intro p hp
        obtain ⟨q, hq, hqp⟩ := mem_flat hp
        rw [← hqp]
        rcases List.mem_cons.mp hq with h | h
        · subst h; exact h1
        · have := hs'.1 q h; omega
      refine ⟨?_, ?_, hs⟩
      · rw [List.filter_eq_nil_iff.mpr]
        · rfl
        · intro p hp; simpa using all_gt p hp
      · rw [List.filter_eq_self.mpr]
        intro p hp; simpa using all_gt p hp

theorem dataOf_eq (l : List (Int × Rec)) : dataOf l = (l.map (·.2)).map .data := by
  simp [dataOf, List.map_map, Function.comp_def]

theorem wms_dataOf (l : List (Int × Rec)) : wms (dataOf l) = [] := by
  rw [dataOf_eq]; exact wms_map_data _

theorem bufSpec_cases {motive : List (Int × Rec) → List Msg → List Msg → Prop}
    (done : ∀ p, motive p [] (dataOf ((sortByEt p).filter fun q => decide (q.1 ≤ maxWm))))
    (pass : ∀ p r ms, r.et = none → motive p ms (bufSpec p ms) → motive p (.data r :: ms) (.data r :: bufSpec p ms))
    (hold : ∀ p r t ms, r.et = some t → motive (p ++ [(t, r)]) ms (bufSpec (p ++ [(t, r)]) ms) →
      motive p (.data r :: ms) (bufSpec (p ++ [(t, r)]) ms))
    (release : ∀ p w ms, motive (p.filter fun q => !decide (q.1 ≤ w)) ms (bufSpec (p.filter fun q => !decide (q.1 ≤ w)) ms) →
      motive p (.wm w :: ms) (dataOf ((sortByEt p).filter fun q => decide (q.1 ≤ w)) ++ [.wm w] ++
        bufSpec (p.filter fun q => !decide (q.1 ≤ w)) ms)) :
    ∀ ms p, motive p ms (bufSpec p ms) := by
  intro ms
  induction ms with
  | nil => exact done
  | cons m ms ih =>
    intro p
    cases m with
    | wm w => exact release p w ms (ih _)
    | data r =>
      cases het : r.et with
      | none => rw [bufSpec, het]; exact pass p r ms het (ih p)
      | some t => rw [bufSpec, het]; exact hold p r t ms het (ih _)

theorem etb_runFrom (ms : List Msg) :
    ∀ (p : List (Int × Rec)) (b : Buckets), SortedKeys b → flat b = sortByEt p →
      etbOp.runFrom b ms false = (bufSpec p ms, none) := by
  refine bufSpec_cases (motive := fun p ms out => ∀ b : Buckets, SortedKeys b → flat b = sortByEt p →
      etbOp.runFrom b ms false = (out, none))
    (fun p b hs hf => ?done) (fun p r ms het ih b hs hf => ?pass) (fun p r t ms het ih b hs hf => ?hold)
    (fun p w ms ih b hs hf => ?release) ms
  case done =>
    simp only [Op.runFrom, etbOp, dataOf]
    rw [(etbEmit_flat maxWm b hs).1, hf]
    simp [List.map_map, Function.comp_def]
  case pass =>
    have hstep : etbOp.onMsg b (.data r) = (b, [.data r], none) := by simp only [etbOp, het]
    rw [runFrom_cons_ok hstep, ih b hs hf]; rfl
  case hold =>
    have hstep : etbOp.onMsg b (.data r) = (etbAdd t r b, [], none) := by simp only [etbOp, het]
    rw [runFrom_cons_silent hstep]
    exact ih (etbAdd t r b) (etbAdd_sorted t r b hs) (by rw [etbAdd_flat t r b hs, hf, sortByEt_snoc])
  case release =>
    obtain ⟨h1, h2, h3⟩ := etbEmit_flat w b hs
    rw [runFrom_cons_ok (rfl : etbOp.onMsg b (.wm w) = ((etbEmit w b).2, (etbEmit w b).1.map .data ++ [.wm w], none)),
      ih (etbEmit w b).2 h3 (by rw [h2, hf, sortByEt_filter]), h1, hf]
    simp only [dataOf, List.map_map, Function.comp_def, List.append_assoc]

theorem etb_run (ms : List Msg) : etbOp.run ms = (bufSpec [] ms, none) :=
  etb_runFrom ms [] [] List.Pairwise.nil rfl

theorem ctgbNode_run (agg : GAgg α) (keyF insF : Row → Except Err Row) (etIdx : Option Nat) (ms : List Msg) :
    ctgbNode agg keyF insF etIdx ms false = (ctgbOp agg keyF insF etIdx).run (bufSpec [] ms) := by
  simp only [ctgbNode, feed, etb_run, Option.isSome_none]
end Octo.Ops
