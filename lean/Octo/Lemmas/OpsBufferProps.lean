import Octo.Lemmas.OpsBuffer
import Octo.Lemmas.OpsWm
/-!
  Octo.Lemmas.OpsBufferProps — what the buffer specification `bufSpec` guarantees.  The buffer keeps a changelog
  valid when the event time is a function of the row (`EtByRow`): all records of one row then share a bucket (or
  all bypass the buffer), so they are not reordered relative to each other.
-/
namespace Octo.Ops
open Octo

/-- the pending records, without their buffer keys -/
def snds (p : List (Int × Rec)) : List Rec := p.map (·.2)

theorem snds_append (a b : List (Int × Rec)) : snds (a ++ b) = snds a ++ snds b := List.map_append

theorem recs_dataOf (l : List (Int × Rec)) : recs (dataOf l) = snds l := by
  rw [dataOf_eq]; exact recs_map_data _

/-- no event time of the stream lies above `WatermarkMaxValue`: the final `Emit(WatermarkMaxValue)` (the end-of-stream
    case of `bufSpec`) would never release such a record -/
def InRange (ms : List Msg) : Prop := ∀ r ∈ recs ms, ∀ t, r.et = some t → t ≤ maxWm

theorem InRange.tail {m : Msg} {ms : List Msg} (h : InRange (m :: ms)) : InRange ms := fun q hq =>
  h q (by cases m with
    | data r => exact List.mem_cons_of_mem _ hq
    | wm w => exact hq)

theorem recs_bufSpec_perm (ms : List Msg) : ∀ p : List (Int × Rec), (∀ q ∈ p, q.1 ≤ maxWm) → InRange ms →
    (recs (bufSpec p ms)).Perm (snds p ++ recs ms) := by
  refine bufSpec_cases (motive := fun p ms out => (∀ q ∈ p, q.1 ≤ maxWm) → InRange ms →
      (recs out).Perm (snds p ++ recs ms))
    (fun p hp _ => ?done) (fun p r ms _ ih hp hr => ?pass) (fun p r t ms het ih hp hr => ?hold) (fun p w ms ih hp hr => ?release) ms
  case done =>
    rw [recs_dataOf, List.filter_eq_self.mpr fun q hq => decide_eq_true (hp q ((mem_sortByEt p q).mp hq))]
    rw [show recs [] = [] from rfl, List.append_nil]
    exact (sortByEt_perm p).map _
  case pass =>
    exact (List.Perm.cons r (ih hp hr.tail)).trans List.perm_middle.symm
  case hold =>
    have := ih (List.forall_mem_append.mpr ⟨hp, List.forall_mem_singleton.mpr (hr r List.mem_cons_self t het)⟩) hr.tail
    rwa [snds_append, List.append_assoc] at this
  case release =>
    rw [recs_append, recs_append, recs_dataOf, show recs [Msg.wm w] = [] from rfl, List.append_nil]
    refine (List.Perm.append_left _ (ih (fun q hq => hp q (List.mem_filter.mp hq).1) hr.tail)).trans ?_
    rw [← List.append_assoc]
    refine List.Perm.append_right _ ?_
    rw [← snds_append]
    -- released ++ kept is a permutation of pending
    exact ((List.Perm.append_right _ ((sortByEt_perm p).filter _)).trans (List.filter_append_perm _ p)).map _

theorem net_recs_bufSpec (ms : List Msg) (hr : InRange ms) (y : Row) : net (recs (bufSpec [] ms)) y = net (recs ms) y :=
  net_perm (recs_bufSpec_perm ms [] (fun _ h => nomatch h) hr) y

/-- the records of the class of `y`, in their order -/
def cls (y : Row) (l : List Rec) : List Rec := l.filter fun r => rowEq r.vals y

theorem net_cls (y : Row) (l : List Rec) : net (cls y l) y = net l y :=
  (net_filter (fun x => rowEq x y) (fun _ _ h => rowEq_congr_left h y) l y).trans (if_pos (rowEq_refl y))

theorem validLog_of_cls_eq {l l' : List Rec} (hv : ValidLog l) (h : ∀ y, cls y l' = cls y l) : ValidLog l' := by
  intro n y
  -- the class of `y` in a prefix of `l'` is a prefix of its class in `l`, hence its class in a prefix of `l`
  have hp : cls y (l'.take n) <+: cls y l := by rw [← h y]; exact (List.take_prefix n l').filter _
  obtain ⟨k, hk, hk'⟩ := List.prefix_filter_iff.mp hp
  rw [← net_cls, hk']
  show 0 ≤ net (cls y k) y
  rw [net_cls, List.prefix_iff_eq_take.mp hk]
  exact hv _ y

theorem sortByEt_filter_class (p : List (Int × Rec)) (Q : Int × Rec → Bool)
    (hQ : ∀ a ∈ p, ∀ b ∈ p, Q a = true → Q b = true → a.1 = b.1) :
    (sortByEt p).filter Q = p.filter Q := by
  rw [sortByEt_filter, sortByEt_of_keys_eq]
  intro a ha b hb
  exact hQ a (List.mem_filter.mp ha).1 b (List.mem_filter.mp hb).1 (List.mem_filter.mp ha).2 (List.mem_filter.mp hb).2

theorem sortByEt_stable (p : List (Int × Rec)) (u : Int) :
    (sortByEt p).filter (fun a => a.1 == u) = p.filter (fun a => a.1 == u) :=
  sortByEt_filter_class p _ fun _ _ _ _ ha hb => (beq_iff_eq.mp ha).trans (beq_iff_eq.mp hb).symm

theorem filter_append_filter_not {β : Type} (l : List β) (A : β → Bool) (h : ∀ a ∈ l, ∀ b ∈ l, A a = A b) :
    l.filter A ++ l.filter (fun a => !A a) = l := by
  cases l with
  | nil => rfl
  | cons a as =>
    have hall : ∀ b ∈ a :: as, A b = A a := fun b hb => h b hb a List.mem_cons_self
    cases hv : A a
    · rw [List.filter_eq_nil_iff.mpr fun b hb => by rw [hall b hb, hv]; exact Bool.false_ne_true,
        List.filter_eq_self.mpr fun b hb => by rw [hall b hb, hv]; rfl]
      rfl
    · rw [List.filter_eq_self.mpr fun b hb => by rw [hall b hb, hv],
        List.filter_eq_nil_iff.mpr fun b hb => by rw [hall b hb, hv]; exact Bool.false_ne_true, List.append_nil]

theorem filter_bufSpec (Q : Rec → Bool) (ms : List Msg) : ∀ (p : List (Int × Rec)) (e : Option Int),
    (∀ q ∈ p, q.1 ≤ maxWm) → InRange ms →
    (∀ q ∈ p, Q q.2 = true → e = some q.1) →
    (∀ r ∈ recs ms, Q r = true → r.et = e) →
    (recs (bufSpec p ms)).filter Q = (snds p).filter Q ++ (recs ms).filter Q := by
  have filter_snds : ∀ p : List (Int × Rec), (snds p).filter Q = snds (p.filter fun q => Q q.2) := fun p => by
    simp only [snds, List.filter_map, Function.comp_def]
  -- the pending `Q` records have one event time
  have one_et : ∀ {p : List (Int × Rec)} {e : Option Int}, (∀ q ∈ p, Q q.2 = true → e = some q.1) →
      ∀ a ∈ p, ∀ b ∈ p, Q a.2 = true → Q b.2 = true → a.1 = b.1 :=
    fun hkey a ha b hb hay hby => Option.some.inj ((hkey a ha hay).symm.trans (hkey b hb hby))
  refine bufSpec_cases (motive := fun p ms out => ∀ e : Option Int, (∀ q ∈ p, q.1 ≤ maxWm) → InRange ms →
      (∀ q ∈ p, Q q.2 = true → e = some q.1) → (∀ r ∈ recs ms, Q r = true → r.et = e) →
      (recs out).filter Q = (snds p).filter Q ++ (recs ms).filter Q)
    (fun p e hp _ hkey _ => ?done) (fun p r ms het ih e hp hr hkey hcl => ?pass) (fun p r t ms het ih e hp hr hkey hcl => ?hold)
    (fun p w ms ih e hp hr hkey hcl => ?release) ms
  case done =>
    rw [recs_dataOf, List.filter_eq_self.mpr fun q hq => decide_eq_true (hp q ((mem_sortByEt p q).mp hq)),
      show recs [] = [] from rfl, List.filter_nil, List.append_nil]
    rw [filter_snds, filter_snds, sortByEt_filter_class p _ (one_et hkey)]
  case pass =>
    rw [show recs (.data r :: bufSpec p ms) = [r] ++ recs (bufSpec p ms) from rfl, List.filter_append,
      ih e hp hr.tail hkey fun q hq => hcl q (List.mem_cons_of_mem _ hq),
      show recs (.data r :: ms) = [r] ++ recs ms from rfl, List.filter_append]
    cases hry : Q r
    · simp [hry]
    · -- these records bypass the buffer: none of them is pending
      have he : e = none := (hcl r List.mem_cons_self hry).symm.trans het
      have : (snds p).filter Q = [] := by
        rw [filter_snds, List.filter_eq_nil_iff.mpr fun q hq hqy => by
          have := hkey q hq hqy; rw [he] at this; cases this]
        rfl
      rw [this, List.nil_append, List.nil_append]
  case hold =>
    -- `r` joins the pending records; in range by `hr`, and with the class's event time if `Q r`
    have hp' : ∀ q ∈ p ++ [(t, r)], q.1 ≤ maxWm :=
      List.forall_mem_append.mpr ⟨hp, List.forall_mem_singleton.mpr (hr r List.mem_cons_self t het)⟩
    have hkey' : ∀ q ∈ p ++ [(t, r)], Q q.2 = true → e = some q.1 :=
      List.forall_mem_append.mpr
        ⟨hkey, List.forall_mem_singleton.mpr fun hry => (hcl r List.mem_cons_self hry).symm.trans het⟩
    rw [ih e hp' hr.tail hkey' fun q hq => hcl q (List.mem_cons_of_mem _ hq),
      show snds (p ++ [(t, r)]) = snds p ++ [r] from snds_append p _,
      show recs (.data r :: ms) = [r] ++ recs ms from rfl, List.filter_append, List.filter_append, List.append_assoc]
  case release =>
    rw [recs_append, recs_append, recs_dataOf, show recs [Msg.wm w] = [] from rfl, List.append_nil, List.filter_append,
      ih e (fun q hq => hp q (List.mem_filter.mp hq).1) hr.tail (fun q hq => hkey q (List.mem_filter.mp hq).1) hcl,
      ← List.append_assoc]
    congr 1
    -- released part ++ kept part = everything, among the `Q` records
    have hk1 := one_et hkey
    have hcomm : ∀ (A B : Int × Rec → Bool) (l : List (Int × Rec)), (l.filter B).filter A = (l.filter A).filter B :=
      fun A B l => by rw [List.filter_filter, List.filter_filter]; exact List.filter_congr fun _ _ => Bool.and_comm _ _
    rw [filter_snds, filter_snds, filter_snds, hcomm _ _ (sortByEt p), hcomm _ _ p, sortByEt_filter_class p _ hk1,
      snds, snds, ← List.map_append, filter_append_filter_not]
    · rfl
    · intro a ha b hb
      rw [hk1 a (List.mem_filter.mp ha).1 b (List.mem_filter.mp hb).1 (List.mem_filter.mp ha).2 (List.mem_filter.mp hb).2]

/-- event time is a function of the row -/
def EtByRow (log : List Rec) : Prop := ∀ a ∈ log, ∀ b ∈ log, rowEq a.vals b.vals = true → a.et = b.et

/-- the buffer keeps a changelog valid when the event time is a function of the row: the records of one row
    class all carry one event time, so they come out in the order in which they arrived -/
theorem validLog_bufSpec (ms : List Msg) (hr : InRange ms) (he : EtByRow (recs ms)) (hv : ValidLog (recs ms)) :
    ValidLog (recs (bufSpec [] ms)) := by
  refine validLog_of_cls_eq hv fun y => ?_
  obtain ⟨e, hcl⟩ : ∃ e : Option Int, ∀ r ∈ recs ms, rowEq r.vals y = true → r.et = e := by
    by_cases hex : ∃ a ∈ recs ms, rowEq a.vals y = true
    · obtain ⟨a, ha, hay⟩ := hex
      exact ⟨a.et, fun r hrm hry => he r hrm a ha (rowEq_trans hry ((rowEq_comm y a.vals).trans hay))⟩
    · exact ⟨none, fun r hrm hry => absurd ⟨r, hrm, hry⟩ hex⟩
  exact filter_bufSpec _ ms [] e (fun _ h => nomatch h) hr (fun _ h => nomatch h) hcl

theorem wms_bufSpec (ms : List Msg) : ∀ p, wms (bufSpec p ms) = wms ms :=
  bufSpec_cases (motive := fun _ ms out => wms out = wms ms) (fun p => wms_dataOf _)
    (fun _ _ _ _ ih => ih) (fun _ _ _ _ _ ih => ih)
    (fun p w ms ih => by rw [wms_append, wms_append, wms_dataOf, ih]; rfl) ms

theorem noLateFrom_released (p : List (Int × Rec)) (s : List Int) (Q : Int × Rec → Bool)
    (hp : ∀ q ∈ p, q.2.et = some q.1 ∧ ∀ w ∈ s, w < q.1) : NoLateFrom s (dataOf ((sortByEt p).filter Q)) := by
  rw [dataOf_eq, noLateFrom_data]
  intro r hr e he w hw
  obtain ⟨q, hq, rfl⟩ := List.mem_map.mp hr
  have := hp q ((mem_sortByEt p q).mp (List.mem_filter.mp hq).1)
  rw [this.1] at he; cases he
  exact this.2 w hw

/-- the invariant: pending records are above every watermark seen -/
theorem noLate_bufSpec (ms : List Msg) : ∀ (p : List (Int × Rec)) (s : List Int),
    (∀ q ∈ p, q.2.et = some q.1 ∧ ∀ w ∈ s, w < q.1) → NoLateFrom s ms → NoLateFrom s (bufSpec p ms) := by
  refine bufSpec_cases (motive := fun p ms out => ∀ s : List Int,
      (∀ q ∈ p, q.2.et = some q.1 ∧ ∀ w ∈ s, w < q.1) → NoLateFrom s ms → NoLateFrom s out)
    (fun p s hp _ => noLateFrom_released p s _ hp) (fun p r ms _ ih s hp hn => ⟨hn.1, ih s hp hn.2⟩)
    (fun p r t ms het ih s hp hn =>
      ih s (List.forall_mem_append.mpr ⟨hp, List.forall_mem_singleton.mpr ⟨het, hn.1 t het⟩⟩) hn.2)
    (fun p w ms ih s hp hn => ?release) ms
  case release =>
    -- what stays pending at `w` is above `w` as well
    rw [List.append_assoc, noLateFrom_append, wms_dataOf]
    refine ⟨noLateFrom_released p s _ hp, ih _ (fun q hq => ?_) hn⟩
    obtain ⟨hq, hw⟩ := List.mem_filter.mp hq
    refine ⟨(hp q hq).1, fun w' hw' => ?_⟩
    rcases List.mem_cons.mp hw' with rfl | h
    · simpa using hw
    · exact (hp q hq).2 w' h

end Octo.Ops
