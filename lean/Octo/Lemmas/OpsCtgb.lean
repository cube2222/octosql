import Octo.Lemmas.OpsGroup
/-!
  Octo.Lemmas.OpsCtgb — CustomTriggerGroupBy with the end-of-stream trigger: the group state obeys the
  same invariant as SimpleGroupBy (`GInv`); the trigger's key tree is sorted, duplicate-free and
  holds a representative of every stored group; the end-of-stream flush therefore emits each group once.
-/
namespace Octo.Ops
open Octo

def KeysSorted (keys : List Row) : Prop := keys.Pairwise fun a b => cmpList a b < 0

theorem keyInsert_cases {motive : List Row → Prop} (k x : Row) (xs : List Row)
    (below : cmpList k x < 0 → motive (k :: x :: xs))
    (above : cmpList x k < 0 → motive (x :: keyInsert k xs))
    (replace : cmpList k x = 0 → motive (k :: xs)) : motive (keyInsert k (x :: xs)) := by
  rw [keyInsert]
  by_cases h1 : cmpList k x < 0
  · rw [if_pos h1]; exact below h1
  · rw [if_neg h1]
    by_cases h2 : cmpList x k < 0
    · rw [if_pos h2]; exact above h2
    · rw [if_neg h2]; exact replace (by have := cmpList_antisymm k x; omega)

theorem keyInsert_all {Q : Row → Prop} (k : Row) (hk : Q k) (keys : List Row) (ht : ∀ q ∈ keys, Q q) :
    ∀ q ∈ keyInsert k keys, Q q := by
  induction keys with
  | nil => exact List.forall_mem_singleton.mpr hk
  | cons x xs ih =>
    obtain ⟨hx, hxs⟩ := List.forall_mem_cons.mp ht
    exact keyInsert_cases (motive := fun t => ∀ q ∈ t, Q q) k x xs (fun _ => List.forall_mem_cons.mpr ⟨hk, ht⟩)
      (fun _ => List.forall_mem_cons.mpr ⟨hx, ih hxs⟩) (fun _ => List.forall_mem_cons.mpr ⟨hk, hxs⟩)

theorem keyInsert_sorted (k : Row) (keys : List Row) (hs : KeysSorted keys) : KeysSorted (keyInsert k keys) := by
  induction keys with
  | nil => exact List.pairwise_singleton _ _
  | cons x xs ih =>
    obtain ⟨hx, hxs⟩ := List.pairwise_cons.mp hs
    -- what is not above `x` is below everything behind `x`
    have lt_rest : cmpList k x ≤ 0 → ∀ b ∈ xs, cmpList k b < 0 := fun h b hb =>
      cmpList_lt_of_le_of_lt h (hx b hb)
    refine keyInsert_cases (motive := KeysSorted) k x xs (fun h1 => ?below) (fun h2 => ?above) (fun h0 => ?replace)
    case below =>
      exact List.pairwise_cons.mpr ⟨List.forall_mem_cons.mpr ⟨h1, lt_rest (Int.le_of_lt h1)⟩, hs⟩
    case above =>
      exact List.pairwise_cons.mpr ⟨keyInsert_all (Q := fun b => cmpList x b < 0) k h2 xs hx, ih hxs⟩
    case replace =>
      exact List.pairwise_cons.mpr ⟨lt_rest (Int.le_of_eq h0), hxs⟩

theorem self_mem_keyInsert (k : Row) (keys : List Row) : k ∈ keyInsert k keys := by
  induction keys with
  | nil => exact List.mem_singleton.mpr rfl
  | cons x xs ih =>
    exact keyInsert_cases (motive := fun t => k ∈ t) k x xs (fun _ => List.mem_cons_self)
      (fun _ => List.mem_cons_of_mem _ ih) (fun _ => List.mem_cons_self)

theorem keyInsert_keeps (k : Row) (keys : List Row) : ∀ q ∈ keys, ∃ q' ∈ keyInsert k keys, rowEq q' q = true := by
  induction keys with
  | nil => exact fun _ h => nomatch h
  | cons x xs ih =>
    refine keyInsert_cases (motive := fun t => ∀ q ∈ x :: xs, ∃ q' ∈ t, rowEq q' q = true) k x xs
      (fun _ q hq => ⟨q, List.mem_cons_of_mem _ hq, rowEq_refl q⟩)
      (fun _ => List.forall_mem_cons.mpr ⟨⟨x, List.mem_cons_self, rowEq_refl x⟩, fun q h =>
        let ⟨q', h1, h2⟩ := ih q h; ⟨q', List.mem_cons_of_mem _ h1, h2⟩⟩)
      (fun h0 => ?_)
    -- `x` is replaced by the equal key `k`
    exact List.forall_mem_cons.mpr
      ⟨⟨k, List.mem_cons_self, rowEq_iff.mpr h0⟩, fun q h => ⟨q, List.mem_cons_of_mem _ h, rowEq_refl q⟩⟩

theorem keysSorted_nodup (keys : List Row) (hs : KeysSorted keys) : keys.Pairwise fun a b => rowEq a b = false := by
  refine List.Pairwise.imp ?_ hs
  intro a b h
  cases hr : rowEq a b
  · rfl
  · rw [rowEq_iff] at hr; omega

/-- `isKey` (every key of the tree is the key of an input row) is what lets `ctgb_spec` apply its hypothesis on the
    event-time column, which speaks of rows `kf x ++ out` -/
structure CInv (agg : GAgg α) (kf inf : Row → Row) (s : CtgbState α) (done : List Rec) : Prop where
  ginv : GInv agg kf inf s.groups done
  sorted : KeysSorted s.keys
  covers : ∀ k e, aget s.groups k = some e → ∃ k' ∈ s.keys, rowEq k' k = true
  isKey : ∀ k ∈ s.keys, ∃ x, k = kf x

theorem cinv_init (agg : GAgg α) (kf inf : Row → Row) : CInv agg kf inf ⟨[], []⟩ [] :=
  ⟨ginv_init agg kf inf, List.Pairwise.nil, by intro k e h; simp [aget] at h, by simp⟩

theorem cinv_step (agg : GAgg α) (kf inf : Row → Row) (hk : RowCongr kf) (hi : RowCongr inf)
    (s : CtgbState α) (done : List Rec) (r : Rec) (inv : CInv agg kf inf s done) (hv : ValidLog (done ++ [r])) :
    CInv agg kf inf ⟨gUpdate agg s.groups (kf r.vals) r.retr (inf r.vals), keyInsert (kf r.vals) s.keys⟩ (done ++ [r]) := by
  refine ⟨ginv_step agg kf inf hk hi s.groups done r inv.ginv hv, keyInsert_sorted _ _ inv.sorted, ?_, ?_⟩
  · intro k e hke
    simp only at hke ⊢
    by_cases hkk : rowEq (kf r.vals) k = true
    · exact ⟨kf r.vals, self_mem_keyInsert _ _, hkk⟩
    · -- an untouched key: it was stored before
      rw [aget_gUpdate, if_neg hkk] at hke
      obtain ⟨k', hk', hkk''⟩ := inv.covers k e hke
      obtain ⟨q, hq1, hq2⟩ := keyInsert_keeps (kf r.vals) s.keys k' hk'
      exact ⟨q, hq1, rowEq_trans hq2 hkk''⟩
  · exact keyInsert_all (Q := fun k => ∃ x, k = kf x) _ ⟨r.vals, rfl⟩ _ inv.isKey

theorem ctgbFlush_ok (agg : GAgg α) (etIdx : Option Nat) (groups : List (Row × GItem α)) (keys : List Row)
    (htrig : ∀ k ∈ keys, ∀ e, aget groups k = some e → ∃ out, agg.trig e.2.st = some out)
    (het : ∀ k ∈ keys, ∀ out, ∃ et, ctgbEventTime etIdx (k ++ out) = .ok et) :
    ∃ l : List Rec, ctgbFlush agg etIdx groups keys = .ok (l.map .data) ∧
      l.map (·.vals) = (presentKeys groups keys).map (cOutRow agg groups) ∧ ∀ q ∈ l, q.retr = false := by
  induction keys with
  | nil => exact ⟨[], rfl, rfl, by simp⟩
  | cons k ks ih =>
    obtain ⟨l, h1, h2, h3⟩ := ih (List.forall_mem_cons.mp htrig).2 (List.forall_mem_cons.mp het).2
    cases hg : aget groups k with
    | none =>
      refine ⟨l, ?_, ?_, h3⟩
      · simp only [ctgbFlush, hg]; exact h1
      · simp only [presentKeys, List.filter_cons, hg, Option.isSome_none, Bool.false_eq_true, ↓reduceIte]; exact h2
    | some e =>
      obtain ⟨out, ho⟩ := htrig k List.mem_cons_self e hg
      obtain ⟨et, he⟩ := het k List.mem_cons_self out
      obtain ⟨k0, it⟩ := e
      simp only at ho
      refine ⟨{ vals := k ++ out, retr := false, et := et } :: l, ?_, ?_, List.forall_mem_cons.mpr ⟨rfl, h3⟩⟩
      · simp only [ctgbFlush, hg, gRow, ho, Option.map_some, he, h1, List.map_cons]
      · simp only [presentKeys, List.filter_cons, hg, Option.isSome_some, ↓reduceIte, List.map_cons, cOutRow, ho,
          Option.getD_some, List.cons.injEq, true_and]
        exact h2

theorem cinv_result (agg : GAgg α) (spec : List Row → Row) (hagg : GAggOK agg spec) (kf inf : Row → Row)
    (hk : RowCongr kf) (hi : RowCongr inf) (log : List Rec) (s : CtgbState α)
    (inv : CInv agg kf inf s log) (rows : List Row) (hc : Consolidates rows log) :
    (∀ k ∈ s.keys, ∀ e, aget s.groups k = some e → ∃ out, agg.trig e.2.st = some out) ∧
    ∀ y, cnt ((presentKeys s.groups s.keys).map (cOutRow agg s.groups)) y = cnt (groupB spec kf inf rows) y :=
  ⟨fun _ _ e he =>
      (ginv_trig hagg hk hi inv.ginv hc e (mem_of_aget he)).imp fun _ h => h.1,
    ginv_keys_result hagg hk hi inv.ginv hc s.keys
      (keysSorted_nodup _ inv.sorted) inv.covers⟩

theorem ctgb_run (agg : GAgg α) (kf inf : Row → Row) (hk : RowCongr kf) (hi : RowCongr inf) (etIdx : Option Nat)
    (ms : List Msg) (hv : ValidLog (recs ms)) :
    ∃ s', CInv agg kf inf s' (recs ms) ∧
      (ctgbOp agg (fun x => .ok (kf x)) (fun x => .ok (inf x)) etIdx).run ms =
        (wmMsgs ms ++ ((ctgbOp agg (fun x => .ok (kf x)) (fun x => .ok (inf x)) etIdx).onEnd s').1,
         ((ctgbOp agg (fun x => .ok (kf x)) (fun x => .ok (inf x)) etIdx).onEnd s').2) := by
  refine ⟨_, foldl_inv (Q := fun _ => True) (fun s done r inv _ hv => cinv_step agg kf inf hk hi s done r inv hv)
    (recs ms) ⟨[], []⟩ [] (cinv_init agg kf inf) (fun _ _ => trivial) hv, ?_⟩
  exact run_collect_fwd (ctgbOp agg (fun x => .ok (kf x)) (fun x => .ok (inf x)) etIdx)
    (fun s r => ⟨gUpdate agg s.groups (kf r.vals) r.retr (inf r.vals), keyInsert (kf r.vals) s.keys⟩)
    (fun _ _ => rfl) (fun _ _ => rfl) ms

end Octo.Ops
