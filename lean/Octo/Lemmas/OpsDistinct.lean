import Octo.Lemmas.OpsAssoc
/-!
  Octo.Lemmas.OpsDistinct — the Distinct node: the invariant "output so far = ind(state + rest) − ind(state)".
-/
namespace Octo.Ops
open Octo

def ind (n : Int) : Int := if n > 0 then 1 else 0

theorem ind_nonneg (n : Int) : 0 ≤ ind n := by simp only [ind]; omega

/-- what Distinct passes on of a record that brings the count of its row to `c'`: nothing if the row
    was and stays present -/
def passed (c' : Int) (r : Rec) : List Rec := if 0 < c' ∧ (r.retr = true ∨ c' ≠ 1) then [] else [r]

theorem passed_cases (c' : Int) (r : Rec) : passed c' r = [] ∨ passed c' r = [r] := by
  unfold passed
  split
  · exact .inl rfl
  · exact .inr rfl

/-- the callback on a record, its branches on the new count written as one: the count is stored while it
    is positive -/
theorem distinct_onMsg_data (cnt : List (Row × Int)) (r : Rec) :
    distinctOp.onMsg cnt (.data r) =
      (if 0 < getc cnt r.vals + sgn r then aput cnt r.vals (getc cnt r.vals + sgn r) else aremove cnt r.vals,
       (passed (getc cnt r.vals + sgn r) r).map .data, none) := by
  have hc : (if r.retr then getc cnt r.vals - 1 else getc cnt r.vals + 1) = getc cnt r.vals + sgn r := by
    simp only [sgn]; split <;> rfl
  simp only [distinctOp, hc, passed]
  generalize getc cnt r.vals + sgn r = c'
  by_cases h1 : 0 < c'
  · rw [if_pos h1, if_pos h1]
    cases r.retr <;> by_cases h2 : c' = 1 <;> simp [h1, h2]
  · rw [if_neg h1, if_neg h1, if_neg (fun h => h1 h.1)]; rfl

theorem distinct_onMsg_cases (cnt : List (Row × Int)) (m : Msg) :
    (distinctOp.onMsg cnt m).2.1 = [m] ∨ (distinctOp.onMsg cnt m).2.1 = [] := by
  cases m with
  | wm t => exact .inr rfl
  | data r =>
    rw [distinct_onMsg_data]
    rcases passed_cases (getc cnt r.vals + sgn r) r with h | h <;> rw [h]
    · exact .inr rfl
    · exact .inl rfl

/-- a row becomes present with its first addition and absent with the retraction of its last copy -/
theorem net_passed (c : Int) (r : Rec) (hc : 0 ≤ c) (hr : 0 ≤ c + sgn r) :
    net (passed (c + sgn r) r) r.vals = ind (c + sgn r) - ind c := by
  have : net (passed (c + sgn r) r) r.vals = if 0 < c + sgn r ∧ (r.retr = true ∨ c + sgn r ≠ 1) then 0 else sgn r := by
    unfold passed
    split
    · rfl
    · rw [net, net, Int.add_zero, weight_eq, if_pos (rowEq_refl _)]
  rw [this]
  unfold ind sgn at *
  revert hr
  cases r.retr
  · -- an addition is passed on iff the count was 0
    simp only [Bool.false_eq_true, ↓reduceIte, false_or]; omega
  · -- a retraction is passed on iff the count falls to 0
    simp only [↓reduceIte, true_or, and_true]; omega

theorem distinct_step (cnt : List (Row × Int)) (r : Rec) (hc : 0 ≤ getc cnt r.vals)
    (hr : 0 ≤ getc cnt r.vals + sgn r) :
    ∃ cnt' out, distinctOp.onMsg cnt (.data r) = (cnt', out.map .data, none) ∧
      (∀ y, getc cnt' y = getc cnt y + r.weight y) ∧
      (∀ y, net out y = ind (getc cnt y + r.weight y) - ind (getc cnt y)) ∧
      ValidFrom (fun y => ind (getc cnt y)) out := by
  have hnet : ∀ y, net (passed (getc cnt r.vals + sgn r) r) y = ind (getc cnt y + r.weight y) - ind (getc cnt y) := by
    intro y
    by_cases hy : rowEq r.vals y = true
    · rw [weight_eq, if_pos hy, ← getc_congr cnt hy, ← net_congr_row _ hy]; exact net_passed _ r hc hr
    · rw [weight_eq, if_neg hy, Int.add_zero, Int.sub_self]
      rcases passed_cases (getc cnt r.vals + sgn r) r with h | h <;> rw [h]
      · rfl
      · rw [net, net, weight_eq, if_neg hy]; rfl
  refine ⟨_, _, distinct_onMsg_data cnt r, fun y => ?_, hnet, ?_⟩
  · rw [weight_eq]
    by_cases hy : rowEq r.vals y = true
    · rw [if_pos hy, ← getc_congr cnt hy]
      split
      · rw [getc_aput, if_pos hy]
      · rw [getc_aremove, if_pos hy]; omega
    · rw [if_neg hy, Int.add_zero]
      split
      · rw [getc_aput, if_neg hy]
      · rw [getc_aremove, if_neg hy]
  · refine validFrom_of_same_sign _ r.retr (fun q hq => ?_) (fun y => ind_nonneg _) fun y => ?_
    · rcases passed_cases (getc cnt r.vals + sgn r) r with h | h <;> rw [h] at hq
      · cases hq
      · rw [List.mem_singleton.mp hq]
    · rw [hnet y]
      have := ind_nonneg (getc cnt y + r.weight y)
      omega

/-- the Distinct invariant of DESIGN §2.8, for a run from any count state -/
theorem distinct_runFrom (ms : List Msg) :
    ∀ cnt : List (Row × Int), ValidFrom (getc cnt) (recs ms) →
      (distinctOp.runFrom cnt ms false).2 = none ∧
      (∀ y, net (recs (distinctOp.runFrom cnt ms false).1) y = ind (getc cnt y + net (recs ms) y) - ind (getc cnt y)) ∧
      ValidFrom (fun y => ind (getc cnt y)) (recs (distinctOp.runFrom cnt ms false).1) := by
  induction ms with
  | nil =>
    intro cnt _
    exact ⟨rfl, fun y => by rw [recs, net, Int.add_zero, Int.sub_self]; rfl, validFrom_nil fun y => ind_nonneg _⟩
  | cons m ms ih =>
    intro cnt hv
    cases m with
    | wm t => rw [runFrom_cons_silent (rfl : distinctOp.onMsg cnt (.wm t) = (cnt, [], none))]; exact ih cnt hv
    | data r =>
      obtain ⟨h0, hrest⟩ := validFrom_cons.mp hv
      have h1 : 0 ≤ getc cnt r.vals + sgn r := by
        have := validFrom_base hrest r.vals
        rwa [weight_eq, if_pos (rowEq_refl _)] at this
      obtain ⟨cnt', out, hstep, hcnt, hout, hval⟩ := distinct_step cnt r (h0 r.vals) h1
      obtain ⟨e, hn, hval'⟩ := ih cnt' (by rw [show getc cnt' = _ from funext hcnt]; exact hrest)
      -- what is present after the block `out` is the indicator of the new counts
      have hbase : (fun y => ind (getc cnt y) + net out y) = fun y => ind (getc cnt' y) :=
        funext fun y => by rw [hout, hcnt]; omega
      rw [runFrom_cons_ok hstep, recs_append, recs_map_data]
      refine ⟨e, fun y => ?_, validFrom_append hval (hbase ▸ hval')⟩
      rw [net_append, hout, hn, hcnt, recs, net, Int.add_assoc]; omega

theorem distinct_run (ms : List Msg) (hv : ValidLog (recs ms)) :
    (distinctOp.run ms).2 = none ∧ (∀ y, net (recs (distinctOp.run ms).1) y = ind (net (recs ms) y)) ∧
      ValidLog (recs (distinctOp.run ms).1) := by
  have hget : ∀ y, getc ([] : List (Row × Int)) y = 0 := fun _ => rfl
  have h := distinct_runFrom ms [] fun n y => by rw [hget, Int.zero_add]; exact hv n y
  simp only [hget, Int.zero_add, show ind 0 = 0 from rfl, Int.sub_zero] at h
  exact ⟨h.1, h.2.1, (validLog_iff_validFrom _).mpr h.2.2⟩

end Octo.Ops
