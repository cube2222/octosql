import Octo.Lemmas.OpsGroup
import Octo.Model.OpTime
/-!
  Octo.Lemmas.OpsExamples — the decidable forms of `NoLate` and `Mono` (for the closed witnesses of the
  refutation theorems and the non-vacuity examples) and a concrete aggregate satisfying the C14 contract.
-/
namespace Octo.Ops
open Octo

theorem okAfter_iff (s : List Int) (r : Rec) : okAfter s r ↔ okAfterB s r = true := by
  simp only [okAfter, okAfterB]
  cases r.et with
  | none => simp
  | some e => simp

theorem noLateFrom_iff (ms : List Msg) : ∀ s, NoLateFrom s ms ↔ noLateFromB s ms = true := by
  induction ms with
  | nil => intro s; simp [NoLateFrom, noLateFromB]
  | cons m ms ih =>
    intro s
    cases m with
    | wm t => simp only [NoLateFrom, noLateFromB, ih]
    | data r => simp only [NoLateFrom, noLateFromB, ih, okAfter_iff, Bool.and_eq_true]

theorem mono_iff_B (l : List Int) : Mono l ↔ monoB l = true := by
  induction l with
  | nil => simp [Mono, monoB]
  | cons a as ih =>
    cases as with
    | nil => simp [Mono, monoB]
    | cons b bs => simp only [Mono, monoB, ih, Bool.and_eq_true, decide_eq_true_eq]

/-! ### COUNT(*) as a `GAgg`: the C14 contract is satisfiable -/
def countAgg : GAgg Int where
  init := 0
  add s retr _ := if retr then s - 1 else s + 1
  trig s := some [.int s]

def countSpec (rows : List Row) : Row := [.int rows.length]

theorem foldl_count (h : List Rec) : ∀ s : Int,
    h.foldl (fun s r => if r.retr then s - 1 else s + 1) s = s + wsum (fun _ => 1) h := by
  induction h with
  | nil => intro s; simp [wsum]
  | cons r rs ih =>
    intro s
    simp only [List.foldl_cons, ih, wsum, sgn]
    cases r.retr <;> simp <;> omega

theorem sumBy_one (rows : List Row) : sumBy (fun _ => 1) rows = rows.length := by
  induction rows with
  | nil => rfl
  | cons x xs ih => simp only [sumBy, ih, List.length_cons]; omega

theorem countAgg_ok : GAggOK countAgg countSpec := by
  intro h rows _ hc
  refine ⟨[.int rows.length], ?_, rowEq_refl _⟩
  have h1 : foldH countAgg h = (0 : Int) + wsum (fun _ => 1) h := foldl_count h 0
  rw [wsum_of_consolidates (fun _ => 1) (fun _ _ _ => rfl) hc, sumBy_one] at h1
  show some [Value.int (foldH countAgg h)] = _
  rw [h1]; simp

end Octo.Ops
