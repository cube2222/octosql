import Octo.Lemmas.OpsAssoc
/-!
  Octo.Lemmas.OpsGroup — group by, over abstract aggregates `GAgg` satisfying the C14 contract `GAggOK`.
  Invariant `GInv`: the hash map holds exactly the keys with a non-zero record count, each with that count and
  with aggregates fed *some* valid history whose net content is that of the group's sub-changelog (this absorbs
  the reset when a count reaches 0).  A flush through any duplicate-free list of the stored keys gives `groupB`.
-/
namespace Octo.Ops
open Octo

def foldH (agg : GAgg α) (h : List Rec) : α := h.foldl (fun s r => agg.add s r.retr r.vals) agg.init

theorem foldH_snoc (agg : GAgg α) (h : List Rec) (r : Rec) :
    foldH agg (h ++ [r]) = agg.add (foldH agg h) r.retr r.vals := by
  simp [foldH, List.foldl_append]

/-- the C14 contract for the aggregates of a group, `spec` being the batch aggregate of a list of
    aggregate-input tuples -/
def GAggOK (agg : GAgg α) (spec : List Row → Row) : Prop :=
  ∀ (h : List Rec) (rows : List Row), ValidLog h → Consolidates rows h →
    ∃ out, agg.trig (foldH agg h) = some out ∧ rowEq out (spec rows) = true

/-- the changelog of aggregate inputs of group `k` -/
def sub (kf inf : Row → Row) (k : Row) (log : List Rec) : List Rec :=
  (log.filter fun r => rowEq (kf r.vals) k).map fun r => { vals := inf r.vals, retr := r.retr, et := none }

def keyW (kf : Row → Row) (k : Row) (x : Row) : Int := if rowEq (kf x) k then 1 else 0
def subW (kf inf : Row → Row) (k y : Row) (x : Row) : Int := if rowEq (kf x) k then ind1 (inf x) y else 0

/-- OverallRecordCount of group `k` -/
def keyCount (kf : Row → Row) (k : Row) (log : List Rec) : Int := wsum (keyW kf k) log

theorem net_sub (kf inf : Row → Row) (k y : Row) (log : List Rec) :
    net (sub kf inf k log) y = wsum (subW kf inf k y) log := by
  induction log with
  | nil => rfl
  | cons r rs ih =>
    simp only [sub, List.filter_cons, wsum, subW] at *
    split
    · simp only [List.map_cons, net, weight_eq, ih, sgn, ind1]; split <;> simp
    · simp [ih]

theorem subW_congr (kf inf : Row → Row) (hk : RowCongr kf) (hi : RowCongr inf) (k y : Row) :
    Congr (subW kf inf k y) := by
  intro x x' h
  simp only [subW, rowEq_congr_left (hk x x' h) k, ind1, rowEq_congr_left (hi x x' h) y]

theorem keyW_nonneg (kf : Row → Row) (k x : Row) : 0 ≤ keyW kf k x := by simp only [keyW]; split <;> omega
theorem subW_nonneg (kf inf : Row → Row) (k y x : Row) : 0 ≤ subW kf inf k y x := by
  simp only [subW, ind1]; split <;> (try split) <;> omega

theorem sub_congr_key (kf inf : Row → Row) {k k' : Row} (h : rowEq k k' = true) (log : List Rec) :
    sub kf inf k log = sub kf inf k' log := by
  simp only [sub]
  congr 1
  apply List.filter_congr
  intro r _
  exact rowEq_congr_right h _

theorem keyCount_congr_key (kf : Row → Row) {k k' : Row} (h : rowEq k k' = true) (log : List Rec) :
    keyCount kf k log = keyCount kf k' log := by
  simp only [keyCount]
  congr 1
  funext x
  simp only [keyW, rowEq_congr_right h (kf x)]

theorem keyCount_snoc (kf : Row → Row) (k : Row) (log : List Rec) (r : Rec) :
    keyCount kf k (log ++ [r]) = keyCount kf k log + (if rowEq (kf r.vals) k then sgn r else 0) := by
  simp only [keyCount, wsum_append, wsum, keyW]; split <;> simp

theorem sub_snoc (kf inf : Row → Row) (k : Row) (log : List Rec) (r : Rec) :
    sub kf inf k (log ++ [r]) = sub kf inf k log ++
      (if rowEq (kf r.vals) k then [{ vals := inf r.vals, retr := r.retr, et := none }] else []) := by
  simp only [sub, List.filter_append, List.map_append, List.filter_cons, List.filter_nil]
  split <;> simp

theorem sumBy_keyW (kf : Row → Row) (k : Row) (rows : List Row) :
    sumBy (keyW kf k) rows = cnt (rows.map kf) k := by
  induction rows with
  | nil => rfl
  | cons x xs ih => simp only [sumBy, List.map_cons, cnt, keyW, ih]

theorem sumBy_subW (kf inf : Row → Row) (k y : Row) (rows : List Row) :
    sumBy (subW kf inf k y) rows = cnt ((rows.filter fun x => rowEq (kf x) k).map inf) y := by
  induction rows with
  | nil => rfl
  | cons x xs ih =>
    simp only [sumBy, List.filter_cons, subW, ih, ind1]
    split <;> simp [cnt]

theorem keyCount_of_consolidates (kf : Row → Row) (hk : RowCongr kf) (k : Row) {rows : List Row} {log : List Rec}
    (hc : Consolidates rows log) : keyCount kf k log = cnt (rows.map kf) k := by
  rw [keyCount, wsum_of_consolidates _ (fun x x' h => by simp only [keyW, rowEq_congr_left (hk x x' h) k]) hc, sumBy_keyW]

theorem sub_consolidates (kf inf : Row → Row) (hk : RowCongr kf) (hi : RowCongr inf) (k : Row) {rows : List Row}
    {log : List Rec} (hc : Consolidates rows log) :
    Consolidates ((rows.filter fun x => rowEq (kf x) k).map inf) (sub kf inf k log) := by
  intro y
  rw [net_sub, wsum_of_consolidates _ (subW_congr kf inf hk hi k y) hc, sumBy_subW]

theorem cnt_zero_filter (kf : Row → Row) (k : Row) (rows : List Row) (h : cnt (rows.map kf) k = 0) :
    (rows.filter fun x => rowEq (kf x) k) = [] := by
  induction rows with
  | nil => rfl
  | cons x xs ih =>
    simp only [List.map_cons, cnt] at h
    have := cnt_nonneg (xs.map kf) k
    cases hx : rowEq (kf x) k
    · simp only [hx, Bool.false_eq_true, ↓reduceIte, Int.zero_add] at h
      simp [hx, ih h]
    · simp only [hx, ↓reduceIte] at h; omega

/-- a group whose record count is zero has an empty (net) sub-changelog — this is where validity of
    the input is used: `aggregates.Remove(key)` forgets nothing -/
theorem sub_net_zero (kf inf : Row → Row) (hk : RowCongr kf) (hi : RowCongr inf) (k : Row) {log : List Rec}
    (hv : ValidLog log) (h0 : keyCount kf k log = 0) (y : Row) : net (sub kf inf k log) y = 0 := by
  have hc := consolidate_correct hv
  rw [keyCount_of_consolidates kf hk k hc] at h0
  rw [sub_consolidates kf inf hk hi k hc y, cnt_zero_filter kf k _ h0]
  rfl

theorem sub_net_nonneg (kf inf : Row → Row) (hk : RowCongr kf) (hi : RowCongr inf) (k : Row) {log : List Rec}
    (hv : ValidLog log) (y : Row) : 0 ≤ net (sub kf inf k log) y := by
  rw [net_sub]
  exact wsum_nonneg_of_valid _ (subW_congr kf inf hk hi k y) (subW_nonneg kf inf k y) hv

structure GInv (agg : GAgg α) (kf inf : Row → Row) (groups : List (Row × GItem α)) (done : List Rec) : Prop where
  nodup : groups.Pairwise (fun a b => rowEq a.1 b.1 = false)
  absent : ∀ k, aget groups k = none → keyCount kf k done = 0
  present : ∀ k e, aget groups k = some e →
    e.2.count = keyCount kf k done ∧ e.2.count ≠ 0 ∧
    ∃ h, ValidLog h ∧ (∀ y, net h y = net (sub kf inf k done) y) ∧ e.2.st = foldH agg h

theorem ginv_init (agg : GAgg α) (kf inf : Row → Row) : GInv agg kf inf [] [] where
  nodup := List.Pairwise.nil
  absent := by intro k _; rfl
  present := by intro k e h; simp [aget] at h

theorem pairwise_gUpdate (agg : GAgg α) (groups : List (Row × GItem α)) (key : Row) (retr : Bool) (ins : Row)
    (h : groups.Pairwise (fun a b => rowEq a.1 b.1 = false)) :
    (gUpdate agg groups key retr ins).Pairwise (fun a b => rowEq a.1 b.1 = false) := by
  unfold gUpdate
  dsimp only
  generalize (if retr = true then (gEntry agg groups key).2.count - 1 else (gEntry agg groups key).2.count + 1) = c'
  by_cases hz : (c' == 0) = true
  · rw [if_pos hz]; exact pairwise_aremove h
  · rw [if_neg hz]; exact pairwise_aput h

theorem gEntry_key (agg : GAgg α) (groups : List (Row × GItem α)) (key : Row) :
    rowEq (gEntry agg groups key).1 key = true := by
  unfold gEntry
  split
  · rename_i p hg; exact aget_key hg
  · exact rowEq_refl _

theorem aget_gUpdate (agg : GAgg α) (groups : List (Row × GItem α)) (key k : Row) (retr : Bool) (ins : Row) :
    aget (gUpdate agg groups key retr ins) k =
      if rowEq key k then
        let e0 := gEntry agg groups key
        let it : GItem α :=
          { count := if retr then e0.2.count - 1 else e0.2.count + 1, st := agg.add e0.2.st retr ins }
        if it.count == 0 then none else some (e0.1, it)
      else aget groups k := by
  unfold gUpdate
  dsimp only
  generalize (if retr = true then (gEntry agg groups key).2.count - 1 else (gEntry agg groups key).2.count + 1) = c'
  by_cases hz : (c' == 0) = true
  · rw [if_pos hz, if_pos hz, aget_aremove]
  · rw [if_neg hz, if_neg hz, aget_aput, rowEq_congr_left (gEntry_key agg groups key) k]

theorem ginv_step (agg : GAgg α) (kf inf : Row → Row) (hk : RowCongr kf) (hi : RowCongr inf)
    (groups : List (Row × GItem α)) (done : List Rec) (r : Rec)
    (inv : GInv agg kf inf groups done) (hv : ValidLog (done ++ [r])) :
    GInv agg kf inf (gUpdate agg groups (kf r.vals) r.retr (inf r.vals)) (done ++ [r]) := by
  have hvd : ValidLog done := validLog_prefix hv
  -- the entry the callback works on, stored or fresh: its count and a history of its aggregates
  obtain ⟨hcount0, h0, hv0, hnet0, hst0⟩ :
      (gEntry agg groups (kf r.vals)).2.count = keyCount kf (kf r.vals) done ∧
        ∃ h, ValidLog h ∧ (∀ y, net h y = net (sub kf inf (kf r.vals) done) y) ∧
          (gEntry agg groups (kf r.vals)).2.st = foldH agg h := by
    unfold gEntry
    split
    · rename_i p hg
      obtain ⟨c1, _, h, hh⟩ := inv.present _ p hg
      exact ⟨c1, h, hh⟩
    · rename_i hg
      have hz := inv.absent _ hg
      exact ⟨hz.symm, [], validLog_nil, fun y => (sub_net_zero kf inf hk hi _ hvd hz y).symm, rfl⟩
  let rin : Rec := { vals := inf r.vals, retr := r.retr, et := none }
  have hcount1 : (if r.retr then (gEntry agg groups (kf r.vals)).2.count - 1 else (gEntry agg groups (kf r.vals)).2.count + 1)
      = keyCount kf (kf r.vals) (done ++ [r]) := by
    rw [keyCount_snoc, if_pos (rowEq_refl _), hcount0, sgn]; split <;> rfl
  have hnet1 : ∀ y, net (h0 ++ [rin]) y = net (sub kf inf (kf r.vals) (done ++ [r])) y := by
    intro y
    rw [sub_snoc, if_pos (rowEq_refl _), net_append, net_append, hnet0 y]
  have hv1 : ValidLog (h0 ++ [rin]) :=
    validLog_snoc hv0 rin (fun y => by rw [hnet1 y]; exact sub_net_nonneg kf inf hk hi _ hv y)
  have other : ∀ k, ¬ rowEq (kf r.vals) k = true →
      keyCount kf k (done ++ [r]) = keyCount kf k done ∧ sub kf inf k (done ++ [r]) = sub kf inf k done :=
    fun k hk' => ⟨by rw [keyCount_snoc, if_neg hk', Int.add_zero], by rw [sub_snoc, if_neg hk', List.append_nil]⟩
  -- what the new map holds under the key of the record, and under any other key
  have hget : ∀ k, aget (gUpdate agg groups (kf r.vals) r.retr (inf r.vals)) k =
      if rowEq (kf r.vals) k then
        if (keyCount kf (kf r.vals) (done ++ [r]) == 0) = true then none
        else some ((gEntry agg groups (kf r.vals)).1, ⟨keyCount kf (kf r.vals) (done ++ [r]),
          agg.add (gEntry agg groups (kf r.vals)).2.st r.retr (inf r.vals)⟩)
      else aget groups k := fun k => by
    rw [aget_gUpdate]; dsimp only; rw [hcount1]
  refine ⟨pairwise_gUpdate agg groups _ _ _ inv.nodup, fun k hkq => ?_, fun k e hkq => ?_⟩
  · rw [hget] at hkq
    by_cases hkk : rowEq (kf r.vals) k = true
    · rw [if_pos hkk] at hkq
      split at hkq
      · rename_i hz
        rw [← keyCount_congr_key kf hkk]; exact beq_iff_eq.mp hz
      · cases hkq
    · rw [if_neg hkk] at hkq
      rw [(other k hkk).1]; exact inv.absent k hkq
  · rw [hget] at hkq
    by_cases hkk : rowEq (kf r.vals) k = true
    · rw [if_pos hkk] at hkq
      split at hkq
      · cases hkq
      · rename_i hz
        cases hkq
        refine ⟨keyCount_congr_key kf hkk _, fun h => hz (beq_iff_eq.mpr h), h0 ++ [rin], hv1, fun y => ?_, ?_⟩
        · rw [← sub_congr_key kf inf hkk]; exact hnet1 y
        · rw [foldH_snoc, ← hst0]
    · rw [if_neg hkk] at hkq
      rw [(other k hkk).1, (other k hkk).2]; exact inv.present k e hkq

theorem cnt_map_snd_append (l1 l2 : List (Row × Row)) (y : Row) :
    cnt ((l1 ++ l2).map (·.2)) y = cnt (l1.map (·.2)) y + cnt (l2.map (·.2)) y := by
  rw [List.map_append, cnt_append]

theorem cnt_equiv {v1 v2 : Row → Row} {k1 : List Row} : ∀ {k2 : List Row},
    k1.Pairwise (fun a b => rowEq a b = false) → k2.Pairwise (fun a b => rowEq a b = false) →
    (∀ a ∈ k1, ∃ b ∈ k2, rowEq a b = true) → (∀ b ∈ k2, ∃ a ∈ k1, rowEq a b = true) →
    (∀ a ∈ k1, ∀ b ∈ k2, rowEq a b = true → rowEq (v1 a) (v2 b) = true) →
    ∀ y, cnt (k1.map v1) y = cnt (k2.map v2) y := by
  induction k1 with
  | nil =>
    intro k2 _ _ _ h21 _ y
    cases k2 with
    | nil => rfl
    | cons b bs => obtain ⟨a, ha, _⟩ := h21 b List.mem_cons_self; cases ha
  | cons a k1 ih =>
    intro k2 n1 n2 h12 h21 hv y
    -- take the partner `b` of `a` out of `k2`; the rest match as before
    obtain ⟨b, hb, hab⟩ := h12 a List.mem_cons_self
    obtain ⟨pre, post, rfl⟩ := List.append_of_mem hb
    obtain ⟨na, n1'⟩ := List.pairwise_cons.mp n1
    obtain ⟨_, nb, npre⟩ := List.pairwise_append.mp n2
    have hmem : ∀ c, c ∈ pre ++ b :: post ↔ c = b ∨ c ∈ pre ++ post := fun c => by
      rw [List.mem_append, List.mem_cons, List.mem_append, or_left_comm]
    have hb_other : ∀ c ∈ pre ++ post, rowEq c b = false := fun c hc => by
      rcases List.mem_append.mp hc with h | h
      · exact npre c h b List.mem_cons_self
      · rw [rowEq_comm]; exact (List.pairwise_cons.mp nb).1 c h
    have ih := ih (k2 := pre ++ post) n1'
      (n2.sublist (List.Sublist.append_left (List.sublist_cons_self b post) pre))
      (fun a' ha' => by
        obtain ⟨b', hb', hab'⟩ := h12 a' (List.mem_cons_of_mem _ ha')
        rcases (hmem b').mp hb' with rfl | h
        · -- a' ≃ b ≃ a contradicts the nodup of a :: k1
          have := rowEq_trans hab (by rw [rowEq_comm]; exact hab')
          rw [na a' ha'] at this; cases this
        · exact ⟨b', h, hab'⟩)
      (fun b' hb' => by
        obtain ⟨a', ha', hab'⟩ := h21 b' ((hmem b').mpr (.inr hb'))
        rcases List.mem_cons.mp ha' with rfl | h
        · -- b' ≃ a ≃ b contradicts the nodup of k2
          have := rowEq_trans (by rw [rowEq_comm]; exact hab') hab
          rw [hb_other b' hb'] at this; cases this
        · exact ⟨a', h, hab'⟩)
      (fun a' ha' b' hb' => hv a' (List.mem_cons_of_mem _ ha') b' ((hmem b').mpr (.inr hb')))
      y
    simp only [List.map_cons, List.map_append, cnt, cnt_append] at ih ⊢
    rw [ih, rowEq_congr_left (hv a List.mem_cons_self b hb hab) y]; omega

theorem mem_of_mem_dedupRows (l : List Row) (k : Row) (h : k ∈ dedupRows l) : k ∈ l := by
  induction l with
  | nil => simp [dedupRows] at h
  | cons x xs ih =>
    simp only [dedupRows, List.mem_cons, List.mem_filter] at h
    rcases h with h | h
    · exact h ▸ List.mem_cons_self
    · exact List.mem_cons_of_mem _ (ih h.1)

theorem dedupRows_nodup (l : List Row) : (dedupRows l).Pairwise (fun a b => rowEq a b = false) := by
  induction l with
  | nil => exact List.Pairwise.nil
  | cons x xs ih =>
    simp only [dedupRows, List.pairwise_cons]
    refine ⟨?_, List.Pairwise.filter _ ih⟩
    intro y hy
    simp only [List.mem_filter, Bool.not_eq_eq_eq_not, Bool.not_true] at hy
    exact hy.2

theorem exists_dedupRows (l : List Row) (y : Row) (h : 0 < cnt l y) : ∃ k ∈ dedupRows l, rowEq k y = true := by
  induction l with
  | nil => simp [cnt] at h
  | cons x xs ih =>
    cases hx : rowEq x y
    · simp only [cnt, hx, Bool.false_eq_true, ↓reduceIte, Int.zero_add] at h
      obtain ⟨k, hk, hky⟩ := ih h
      refine ⟨k, ?_, hky⟩
      simp only [dedupRows, List.mem_cons, List.mem_filter, Bool.not_eq_eq_eq_not, Bool.not_true]
      right
      refine ⟨hk, ?_⟩
      cases hxk : rowEq x k
      · rfl
      · have := rowEq_trans hxk hky; rw [hx] at this; cases this
    · exact ⟨x, by simp [dedupRows], hx⟩

theorem cnt_pos_of_mem (l : List Row) (k : Row) (h : k ∈ l) : 0 < cnt l k := by
  obtain ⟨s, t, rfl⟩ := List.append_of_mem h
  have := cnt_nonneg s k
  have := cnt_nonneg t k
  rw [cnt_append, cnt, if_pos (rowEq_refl k)]
  omega

/-- what the flush of SimpleGroupBy emits for a stored group -/
def gOutRow (agg : GAgg α) (e : Row × GItem α) : Row := e.1 ++ (agg.trig e.2.st).getD []

theorem gFlush_all (agg : GAgg α) (groups : List (Row × GItem α)) :
    gFlush agg groups = if groups.all (fun e => (agg.trig e.2.st).isSome)
      then some ((adds (groups.map (gOutRow agg))).map .data) else none := by
  induction groups with
  | nil => rfl
  | cons e es ih =>
    obtain ⟨k, it⟩ := e
    rw [gFlush, gRow, ih, List.all_cons]
    cases hso : agg.trig it.st with
    | none => rfl
    | some out =>
      cases es.all fun e => (agg.trig e.2.st).isSome
      · rfl
      · simp [gOutRow, hso, adds]

/-- the keys that still have a group -/
def presentKeys (groups : List (Row × GItem α)) (keys : List Row) : List Row :=
  keys.filter fun k => (aget groups k).isSome

/-- the row emitted for a triggered key -/
def cOutRow (agg : GAgg α) (groups : List (Row × GItem α)) (k : Row) : Row :=
  match aget groups k with
  | some e => k ++ (agg.trig e.2.st).getD []
  | none => []

theorem presentKeys_self (agg : GAgg α) (groups : List (Row × GItem α))
    (hn : groups.Pairwise (fun a b => rowEq a.1 b.1 = false)) :
    (presentKeys groups (groups.map (·.1))).map (cOutRow agg groups) = groups.map (gOutRow agg) := by
  have hget := aget_of_mem_nodup groups hn
  rw [presentKeys, List.filter_eq_self.mpr, List.map_map]
  · exact List.map_congr_left fun e he => by simp only [Function.comp, cOutRow, hget e he, gOutRow]
  · intro k hk
    obtain ⟨e, he, rfl⟩ := List.mem_map.mp hk
    rw [hget e he]; rfl

theorem ginv_trig {agg : GAgg α} {spec : List Row → Row} (hagg : GAggOK agg spec) {kf inf : Row → Row}
    (hk : RowCongr kf) (hi : RowCongr inf) {log : List Rec} {groups : List (Row × GItem α)}
    (inv : GInv agg kf inf groups log) {rows : List Row} (hc : Consolidates rows log) :
    ∀ e ∈ groups, ∃ out, agg.trig e.2.st = some out ∧
      rowEq out (spec ((rows.filter fun x => rowEq (kf x) e.1).map inf)) = true := by
  intro e he
  obtain ⟨_, _, h, hvh, hnet, hst⟩ := inv.present e.1 e (aget_of_mem_nodup groups inv.nodup e he)
  have hcons : Consolidates ((rows.filter fun x => rowEq (kf x) e.1).map inf) h := by
    intro y; rw [hnet y]; exact sub_consolidates kf inf hk hi e.1 hc y
  obtain ⟨out, ho, hr⟩ := hagg h _ hvh hcons
  exact ⟨out, hst ▸ ho, hr⟩

theorem ginv_keys_result {agg : GAgg α} {spec : List Row → Row} (hagg : GAggOK agg spec) {kf inf : Row → Row}
    (hk : RowCongr kf) (hi : RowCongr inf) {log : List Rec} {groups : List (Row × GItem α)}
    (inv : GInv agg kf inf groups log) {rows : List Row} (hc : Consolidates rows log) (keys : List Row)
    (hn : keys.Pairwise fun a b => rowEq a b = false)
    (hcov : ∀ k e, aget groups k = some e → ∃ k' ∈ keys, rowEq k' k = true) (y : Row) :
    cnt ((presentKeys groups keys).map (cOutRow agg groups)) y = cnt (groupB spec kf inf rows) y := by
  apply cnt_equiv (hn.filter _) (dedupRows_nodup _)
  · -- a key with a stored group has a non-zero count, so it occurs among the keys of `rows`
    intro k hkm
    obtain ⟨e, he⟩ := Option.isSome_iff_exists.mp (List.mem_filter.mp hkm).2
    obtain ⟨hcount, hne, _⟩ := inv.present k e he
    rw [keyCount_of_consolidates kf hk k hc] at hcount
    have := cnt_nonneg (rows.map kf) k
    obtain ⟨k2, hk1, hk2⟩ := exists_dedupRows (rows.map kf) k (by omega)
    exact ⟨k2, hk1, by rw [rowEq_comm]; exact hk2⟩
  · -- a key of `rows` has a positive count, so its group is stored and `keys` covers it
    intro k hkm
    have hpos := cnt_pos_of_mem _ _ (mem_of_mem_dedupRows _ _ hkm)
    cases hg : aget groups k with
    | none =>
      have := inv.absent k hg
      rw [keyCount_of_consolidates kf hk k hc] at this; omega
    | some e =>
      obtain ⟨k', hk', hkk⟩ := hcov k e hg
      exact ⟨k', List.mem_filter.mpr ⟨hk', by rw [aget_congr groups hkk, hg]; rfl⟩, hkk⟩
  · -- equivalent keys give equivalent rows: the aggregates agree by `ginv_trig`
    intro k' hk' k _ hab
    obtain ⟨e, he⟩ := Option.isSome_iff_exists.mp (List.mem_filter.mp hk').2
    obtain ⟨out, ho, hr⟩ := ginv_trig hagg hk hi inv hc e (mem_of_aget he)
    simp only [cOutRow, he, ho, Option.getD_some]
    apply rowEq_append hab
    have hek : rowEq e.1 k = true := rowEq_trans (aget_key he) hab
    rw [← List.filter_congr fun x _ => rowEq_congr_right hek (kf x)]; exact hr

theorem ginv_result {agg : GAgg α} {spec : List Row → Row} (hagg : GAggOK agg spec) {kf inf : Row → Row}
    (hk : RowCongr kf) (hi : RowCongr inf) {log : List Rec} {groups : List (Row × GItem α)}
    (inv : GInv agg kf inf groups log) {rows : List Row} (hc : Consolidates rows log) :
    (∀ e ∈ groups, ∃ out, agg.trig e.2.st = some out) ∧
    ∀ y, cnt (groups.map (gOutRow agg)) y = cnt (groupB spec kf inf rows) y := by
  refine ⟨fun e he => (ginv_trig hagg hk hi inv hc e he).imp fun _ h => h.1, ?_⟩
  rw [← presentKeys_self agg groups inv.nodup]
  exact ginv_keys_result hagg hk hi inv hc _ (List.pairwise_map.mpr inv.nodup)
    fun k e he => ⟨e.1, List.mem_map.mpr ⟨e, mem_of_aget he, rfl⟩, aget_key he⟩

theorem sgroup_run (agg : GAgg α) (spec : List Row → Row) (hagg : GAggOK agg spec) (kf inf : Row → Row)
    (hk : RowCongr kf) (hi : RowCongr inf) (ms : List Msg) (hv : ValidLog (recs ms)) :
    ∃ groups, GInv agg kf inf groups (recs ms) ∧
      (simpleGroupOp agg (fun x => .ok (kf x)) (fun x => .ok (inf x))).run ms =
        (wmMsgs ms ++ (adds (groups.map (gOutRow agg))).map .data, none) := by
  have hg := foldl_inv (Q := fun _ => True) (fun g done r inv _ hv => ginv_step agg kf inf hk hi g done r inv hv)
    (recs ms) [] [] (ginv_init agg kf inf) (fun _ _ => trivial) hv
  refine ⟨_, hg, ?_⟩
  have htrig := (ginv_result hagg hk hi hg (consolidate_correct hv)).1
  rw [run_collect_fwd _ (fun g r => gUpdate agg g (kf r.vals) r.retr (inf r.vals)) (fun _ _ => rfl) (fun _ _ => rfl)]
  simp only [simpleGroupOp, gFlush_all,
    if_pos (List.all_eq_true.mpr fun e he => Option.isSome_iff_exists.mpr (htrig e he))]

end Octo.Ops
