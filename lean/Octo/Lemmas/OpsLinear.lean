import Octo.Lemmas.OpsWm
/-!
  Octo.Lemmas.OpsLinear — record-by-record ("linear") operators: Filter, Map, Unnest, LookupJoin.  Each record `r`
  is replaced by a block `B r` of records whose net is `sgn r * k r.vals ·` for a row-level kernel `k`; one pair of
  lemmas gives `net_commutes` and `valid_out` for all of them.  Filter, Map and Unnest turn the row of a record
  into a list of rows `g` (`rowBlock g`) and share one instance (`rows_linear`) with the batch operator `flatMap g`.
-/
namespace Octo.Ops
open Octo

theorem runFrom_stateless (op : Op Unit) (emit : Msg → List Msg) (hend : op.onEnd () = ([], none)) (ms : List Msg)
    (h : ∀ m ∈ ms, op.onMsg () m = ((), emit m, none)) :
    op.runFrom () ms false = (ms.flatMap emit, none) := by
  induction ms with
  | nil => simp [Op.runFrom, hend]
  | cons m ms ih =>
    have h1 := h m List.mem_cons_self
    have h2 := ih (fun q hq => h q (List.mem_cons_of_mem _ hq))
    simp [Op.runFrom, h1, h2]

theorem recs_flatMap (emit : Msg → List Msg) (B : Rec → List Rec)
    (hw : ∀ t, recs (emit (.wm t)) = []) (hd : ∀ r, recs (emit (.data r)) = B r) (ms : List Msg) :
    recs (ms.flatMap emit) = (recs ms).flatMap B := by
  induction ms with
  | nil => rfl
  | cons m ms ih =>
    cases m with
    | data r => simp [List.flatMap_cons, recs_append, recs, hd, ih]
    | wm t => simp [List.flatMap_cons, recs_append, recs, hw, ih]

def emitOf (B : Rec → List Rec) : Msg → List Msg
  | .wm t => [.wm t]
  | .data r => (B r).map .data

theorem recs_emitOf (B : Rec → List Rec) (ms : List Msg) : recs (ms.flatMap (emitOf B)) = (recs ms).flatMap B :=
  recs_flatMap _ B (fun _ => rfl) (fun _ => recs_map_data _) ms

theorem wms_emitOf (B : Rec → List Rec) (ms : List Msg) : wms (ms.flatMap (emitOf B)) = wms ms := by
  induction ms with
  | nil => rfl
  | cons m ms ih =>
    rw [List.flatMap_cons, wms_append, ih]
    cases m with
    | data r => exact congrArg (· ++ wms ms) (wms_map_data _)
    | wm t => rfl

theorem noLateFrom_emitOf (B : Rec → List Rec) (het : ∀ r, ∀ q ∈ B r, q.et = r.et) (ms : List Msg) :
    ∀ s, NoLateFrom s ms → NoLateFrom s (ms.flatMap (emitOf B)) := by
  induction ms with
  | nil => intro _ _; trivial
  | cons m ms ih =>
    intro s hn
    cases m with
    | wm t => exact ih _ hn
    | data r =>
      rw [List.flatMap_cons, emitOf, noLateFrom_append, wms_map_data, noLateFrom_data]
      exact ⟨fun q hq e he => hn.1 e (by rw [← het r q hq]; exact he), ih s hn.2⟩

structure Linear (B : Rec → List Rec) (k : Row → Row → Int) : Prop where
  net_block : ∀ r y, net (B r) y = sgn r * k r.vals y
  congr : ∀ y, Congr (fun x => k x y)
  sign : ∀ r, ∀ j ∈ B r, j.retr = r.retr

theorem Linear.nonneg {B : Rec → List Rec} {k : Row → Row → Int} (L : Linear B k) (x y : Row) : 0 ≤ k x y := by
  -- the kernel is the net content of the block of an addition, which consists of additions
  have := net_signed_nonneg (B ⟨x, false, none⟩) false (L.sign _) y
  rwa [L.net_block, sgn, if_neg Bool.false_ne_true, Int.one_mul, Int.one_mul] at this

theorem net_flatMap_blocks {B : Rec → List Rec} {k : Row → Row → Int}
    (hb : ∀ r y, net (B r) y = sgn r * k r.vals y) (log : List Rec) (y : Row) :
    net (log.flatMap B) y = wsum (fun x => k x y) log := by
  rw [net_flatMap, wsum_eq_sumBy]; exact sumBy_congr fun r _ => hb r y

/-- no sign condition on the blocks is needed for this half -/
theorem linear_net {B : Rec → List Rec} {k : Row → Row → Int}
    (hb : ∀ r y, net (B r) y = sgn r * k r.vals y) (hk : ∀ y, Congr (fun x => k x y))
    {rows : List Row} {log : List Rec} (h : Consolidates rows log) (y : Row) :
    net (log.flatMap B) y = sumBy (fun x => k x y) rows := by
  rw [net_flatMap_blocks hb, wsum_of_consolidates _ (hk y) h]

theorem linear_validFrom {B : Rec → List Rec} {k : Row → Row → Int} (L : Linear B k) (rest : List Rec) :
    ∀ done : List Rec, ValidLog (done ++ rest) →
      ValidFrom (fun y => wsum (fun x => k x y) done) (rest.flatMap B) := by
  have nn : ∀ {l : List Rec}, ValidLog l → ∀ y, 0 ≤ wsum (fun x => k x y) l := fun h y =>
    wsum_nonneg_of_valid _ (L.congr y) (fun x => L.nonneg x y) h
  induction rest with
  | nil => intro done hv; exact validFrom_nil (nn (validLog_prefix hv))
  | cons r rs ih =>
    intro done hv
    rw [List.append_cons] at hv
    have e : ∀ y, wsum (fun x => k x y) (done ++ [r]) = wsum (fun x => k x y) done + net (B r) y := fun y => by
      rw [wsum_append, L.net_block, wsum, wsum, Int.add_zero]
    rw [List.flatMap_cons]
    refine validFrom_append (validFrom_of_same_sign (B r) r.retr (L.sign r)
      (nn (validLog_prefix (validLog_prefix hv))) fun y => ?_) ?_
    · rw [← e]; exact nn (validLog_prefix hv) y
    · rw [← funext e]; exact ih _ hv

theorem linear_valid {B : Rec → List Rec} {k : Row → Row → Int} (L : Linear B k) {log : List Rec} (hv : ValidLog log) :
    ValidLog (log.flatMap B) :=
  (validLog_iff_validFrom _).mpr (linear_validFrom L log [] hv)

/-- the block of a node that turns the row of a record into the rows `g` makes of it, keeping the
    record's sign and event time (Filter, Map, Unnest) -/
def rowBlock (g : Row → List Row) (r : Rec) : List Rec :=
  (g r.vals).map fun v => { vals := v, retr := r.retr, et := r.et }

theorem mem_rowBlock {g : Row → List Row} {r q : Rec} (h : q ∈ rowBlock g r) : q.retr = r.retr ∧ q.et = r.et := by
  obtain ⟨_, _, rfl⟩ := List.mem_map.mp h
  exact ⟨rfl, rfl⟩

theorem rows_linear (g : Row → List Row) (hg : ∀ y, Congr fun x => cnt (g x) y) :
    Linear (rowBlock g) (fun x y => cnt (g x) y) where
  net_block r y := by
    rw [net_of_sign _ r.retr fun q hq => (mem_rowBlock hq).1, rowBlock, List.map_map]
    exact congrArg (fun l => sgn r * cnt l y) (List.map_id' _)
  congr := hg
  sign r q hq := (mem_rowBlock hq).1

theorem sumBy_cnt (g : Row → List Row) (rows : List Row) (y : Row) :
    sumBy (fun x => cnt (g x) y) rows = cnt (rows.flatMap g) y := by
  induction rows with
  | nil => rfl
  | cons x xs ih => rw [sumBy, ih, List.flatMap_cons, cnt_append]

theorem rows_net {g : Row → List Row} (hg : ∀ y, Congr fun x => cnt (g x) y) {rows : List Row} {log : List Rec}
    (h : Consolidates rows log) (y : Row) : net (log.flatMap (rowBlock g)) y = cnt (rows.flatMap g) y := by
  rw [linear_net (rows_linear g hg).net_block hg h, sumBy_cnt]

def filterRows (p : Row → Value) (x : Row) : List Row := if isTrue (p x) then [x] else []

theorem filterB_eq (p : Row → Value) (rows : List Row) : filterB p rows = rows.flatMap (filterRows p) := by
  induction rows with
  | nil => rfl
  | cons x xs ih =>
    rw [filterB, List.filter_cons, List.flatMap_cons, ← ih, filterRows]
    split <;> rfl

theorem filterRows_congr (p : Row → Value) (hp : PredCongr p) (y : Row) : Congr fun x => cnt (filterRows p x) y := by
  intro x x' h
  show cnt (filterRows p x) y = cnt (filterRows p x') y
  unfold filterRows
  rw [hp x x' h]
  split
  · simp only [cnt, rowEq_congr_left h y]
  · rfl

theorem filterOp_onMsg (p : Row → Value) (m : Msg) :
    (filterOp fun x => .ok (p x)).onMsg () m = ((), emitOf (rowBlock (filterRows p)) m, none) := by
  cases m with
  | wm t => rfl
  | data r =>
    simp only [filterOp, emitOf, rowBlock, filterRows]
    cases h : p r.vals <;> simp [isTrue]
    rename_i b; cases b <;> simp

theorem filter_run (p : Row → Value) (ms : List Msg) :
    (filterOp fun x => .ok (p x)).run ms = (ms.flatMap (emitOf (rowBlock (filterRows p))), none) :=
  runFrom_stateless _ _ rfl ms (fun m _ => filterOp_onMsg p m)

theorem mapRows_congr (f : Row → Row) (hf : RowCongr f) (y : Row) : Congr fun x => cnt [f x] y := by
  intro x x' h
  show cnt [f x] y = cnt [f x'] y
  simp only [cnt, rowEq_congr_left (hf x x' h) y]

theorem map_run (f : Row → Row) (ms : List Msg) :
    (mapOp fun x => .ok (f x)).run ms = (ms.flatMap (emitOf (rowBlock fun x => [f x])), none) :=
  runFrom_stateless _ _ rfl ms (fun m _ => by cases m <;> rfl)

theorem unnestRow_congr (idx : Nat) (y : Row) : Congr fun x => cnt (unnestRow idx x) y := by
  intro x x' h
  show cnt (unnestRow idx x) y = cnt (unnestRow idx x') y
  have hp := rowEq_iff.mp h
  rcases cmpList_getElem? hp idx with ⟨h1, h2⟩ | ⟨u, v, h1, h2, huv⟩
  · rw [unnestRow, unnestRow, h1, h2]
  · rw [unnestRow, unnestRow, h1, h2]
    -- a list on the left: a list on the right, pointwise equal; any other value unnests to nothing on both sides
    cases Value.cmpEq_of_zero huv with
    | list xs ys hl =>
      exact cmpList_eq_rec (motive := fun xs ys => cnt (xs.map fun v => x.set idx v) y = cnt (ys.map fun v => x'.set idx v) y)
        rfl (fun hab _ ih => by
          simp only [List.map_cons, cnt, ih, rowEq_congr_left (rowEq_iff.mpr (cmpList_set hp idx hab)) y]) hl
    | _ => rfl

theorem mem_recs {r : Rec} {ms : List Msg} (h : .data r ∈ ms) : r ∈ recs ms := by
  obtain ⟨a, b, rfl⟩ := List.append_of_mem h
  rw [recs_append]; exact List.mem_append_right _ List.mem_cons_self

theorem unnest_run (idx : Nat) (ms : List Msg) (h : ∀ r ∈ recs ms, idx < r.vals.length) :
    (unnestOp idx).run ms = (ms.flatMap (emitOf (rowBlock (unnestRow idx))), none) := by
  apply runFrom_stateless _ _ rfl ms
  intro m hm
  cases m with
  | wm t => rfl
  | data r =>
    have hlen := h r (mem_recs hm)
    simp only [unnestOp, emitOf, rowBlock, unnestRow, List.getElem?_eq_getElem hlen]
    cases r.vals[idx] <;> simp

def lookupBlock (J : Row → List Msg) (r : Rec) : List Rec :=
  (recs (J r.vals)).map fun j =>
    { vals := r.vals ++ j.vals, retr := (r.retr || j.retr) && !(r.retr && j.retr), et := r.et }
def lookupEmitAll (J : Row → List Msg) : Msg → List Msg
  | .wm t => [.wm t]
  | .data r => (J r.vals).map (lookupEmit r)
/-- the kernel of LookupJoin: the net multiplicity of `y` among the rows `x ++ j`, `j` running through the changelog the
    joined side yields for `x` -/
def lookupK (J : Row → List Msg) (x y : Row) : Int := net (lookupRecs (fun x => recs (J x)) x) y

theorem lookup_run (J : Row → List Msg) (ms : List Msg) :
    (lookupOp fun x => (J x, none)).run ms = (ms.flatMap (lookupEmitAll J), none) :=
  runFrom_stateless _ _ rfl ms (fun m _ => by cases m <;> rfl)

theorem recs_map_lookupEmit (r : Rec) (jm : List Msg) :
    recs (jm.map (lookupEmit r)) = (recs jm).map fun j =>
      { vals := r.vals ++ j.vals, retr := (r.retr || j.retr) && !(r.retr && j.retr), et := r.et } := by
  induction jm with
  | nil => rfl
  | cons m ms ih => cases m <;> simp [lookupEmit, recs, ih]

theorem eq_map_data_of_wms_nil : ∀ (ms : List Msg), wms ms = [] → ms = (recs ms).map .data
  | [], _ => rfl
  | .data r :: ms, h => congrArg (.data r :: ·) (eq_map_data_of_wms_nil ms h)
  | .wm _ :: _, h => nomatch h

theorem lookupEmitAll_eq (J : Row → List Msg) (hJ : ∀ x, wms (J x) = []) (m : Msg) :
    lookupEmitAll J m = emitOf (lookupBlock J) m := by
  cases m with
  | wm t => rfl
  | data r =>
    rw [lookupEmitAll, emitOf, lookupBlock, eq_map_data_of_wms_nil _ (hJ r.vals), recs_map_data, List.map_map, List.map_map]
    rfl

theorem lookup_recs (J : Row → List Msg) (ms : List Msg) :
    recs ((lookupOp fun x => (J x, none)).run ms).1 = (recs ms).flatMap (lookupBlock J) := by
  rw [lookup_run]
  apply recs_flatMap
  · intro t; rfl
  · intro r; exact recs_map_lookupEmit r (J r.vals)

theorem net_congr_vals (l l' : List Rec)
    (h : l.map (fun r => (r.vals, r.retr)) = l'.map (fun r => (r.vals, r.retr))) (y : Row) : net l y = net l' y := by
  -- `net` reads of a record its values and its sign only
  have e : ∀ l : List Rec, net l y =
      sumBy (fun p : Row × Bool => Rec.weight ⟨p.1, p.2, none⟩ y) (l.map fun r => (r.vals, r.retr)) := fun l => by
    rw [sumBy_map, net_eq_sumBy]; rfl
  rw [e, e, h]

/-- the block of a source record is the joined changelog of its row, with all signs flipped when
    the record is a retraction -/
theorem lookup_net_block (J : Row → List Msg) (r : Rec) (y : Row) :
    net (lookupBlock J r) y = sgn r * lookupK J r.vals y := by
  rw [lookupK, sgn]
  cases hr : r.retr
  · rw [if_neg Bool.false_ne_true, Int.one_mul]
    exact net_congr_vals _ _ (by simp [lookupBlock, lookupRecs, hr]) y
  · rw [if_pos rfl, Int.neg_mul, Int.one_mul, ← net_flip]
    exact net_congr_vals _ _ (by simp [lookupBlock, lookupRecs, flip, hr]) y

theorem sumBy_lookupK (J : Row → List Msg) (rows : List Row) (y : Row) :
    sumBy (fun x => lookupK J x y) rows = lookupSpec (fun x => recs (J x)) rows y := by
  induction rows with
  | nil => rfl
  | cons x xs ih => simp only [sumBy, lookupSpec]; rw [ih]; rfl

theorem lookup_linear (J : Row → List Msg) (hJ : ∀ y, Congr (fun x => lookupK J x y))
    (hadd : ∀ x, ∀ j ∈ recs (J x), j.retr = false) : Linear (lookupBlock J) (lookupK J) where
  net_block := lookup_net_block J
  congr := hJ
  sign r j hj := by
    obtain ⟨q, hq, rfl⟩ := List.mem_map.mp hj
    simp [hadd _ q hq]

end Octo.Ops
