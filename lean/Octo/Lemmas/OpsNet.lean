import Octo.Lemmas.Net
import Octo.Lemmas.ValidFrom
import Octo.Model.OpSpec
/-!
  Octo.Lemmas.OpsNet — what the operator theorems (C15, C18) share: the changelog algebra of `Lemmas/Net` (here `wsum`) against the
  batch side of `Model.OpSpec` (`cnt`, consolidation), and how `Op.runFrom` unfolds.
-/
namespace Octo.Ops
open Octo

/-- `Rec.sign` of `Net`, under the name the operator statements use; likewise `Congr` is `RowInv` at `Int`, and `wsum g`
    is `sumBy (fun r => r.sign * g r.vals)` (`wsum_eq_sumBy`); the model's `delta r.retr` is the same sign -/
def sgn (r : Rec) : Int := if r.retr then -1 else 1

theorem weight_eq (r : Rec) (y : Row) : r.weight y = if rowEq r.vals y then sgn r else 0 := r.weight_eq y

def wsum (g : Row → Int) : List Rec → Int
  | [] => 0
  | r :: rs => sgn r * g r.vals + wsum g rs

def Congr (g : Row → Int) : Prop := ∀ x x', rowEq x x' = true → g x = g x'

def RowCongr (f : Row → Row) : Prop := ∀ x x', rowEq x x' = true → rowEq (f x) (f x') = true

def PredCongr (p : Row → Value) : Prop := ∀ x x', rowEq x x' = true → isTrue (p x) = isTrue (p x')

def ind1 (x y : Row) : Int := if rowEq x y then 1 else 0

theorem net_eq_wsum (l : List Rec) (y : Row) : net l y = wsum (fun x => ind1 x y) l := by
  induction l with
  | nil => rfl
  | cons r rs ih => simp only [net, wsum, weight_eq, ih, ind1]; split <;> simp

theorem ind1_congr (y : Row) : Congr (fun x => ind1 x y) := by
  intro x x' h; simp only [ind1, rowEq_congr_left h y]

theorem wsum_eq_sumBy (g : Row → Int) (l : List Rec) : wsum g l = sumBy (fun r => r.sign * g r.vals) l := by
  induction l with
  | nil => rfl
  | cons r rs ih => exact congrArg (sgn r * g r.vals + ·) ih

theorem wsum_append (g : Row → Int) (a b : List Rec) : wsum g (a ++ b) = wsum g a + wsum g b := by
  rw [wsum_eq_sumBy, wsum_eq_sumBy, wsum_eq_sumBy]; exact sumBy_append _ a b

def flip (l : List Rec) : List Rec := l.map fun r => { r with retr := !r.retr }

theorem wsum_flip (g : Row → Int) (l : List Rec) : wsum g (flip l) = - wsum g l := by
  induction l with
  | nil => rfl
  | cons r rs ih =>
    simp only [flip, List.map_cons, wsum, sgn] at *
    rw [ih]; cases r.retr <;> simp <;> omega

theorem net_append' (a b : List Rec) (y : Row) : net (a ++ b) y = net a y + net b y := net_append a b y

theorem net_flip (l : List Rec) (y : Row) : net (flip l) y = - net l y := by
  rw [net_eq_wsum, net_eq_wsum, wsum_flip]

theorem wsum_congr_net (g : Row → Int) (hg : Congr g) (l1 l2 : List Rec) (h : ∀ y, net l1 y = net l2 y) :
    wsum g l1 = wsum g l2 := by
  rw [wsum_eq_sumBy, wsum_eq_sumBy]; exact sumBy_congr_of_net g hg h

theorem wsum_nonneg_of_valid (g : Row → Int) (hg : Congr g) (hpos : ∀ x, 0 ≤ g x) {l : List Rec}
    (hv : ValidLog l) : 0 ≤ wsum g l := by
  rw [wsum_eq_sumBy]; exact sumBy_mono_of_net g hg hpos (A := []) (validLog_net_nonneg hv)

def adds (rows : List Row) : List Rec := rows.map fun x => { vals := x, retr := false, et := none }

theorem net_of_sign (l : List Rec) (b : Bool) (h : ∀ r ∈ l, r.retr = b) (y : Row) :
    net l y = (if b then -1 else 1) * cnt (l.map (·.vals)) y := by
  induction l with
  | nil => rw [net, List.map_nil, cnt, Int.mul_zero]
  | cons r rs ih =>
    rw [net, weight_eq, sgn, h r List.mem_cons_self, ih fun q hq => h q (List.mem_cons_of_mem _ hq), List.map_cons,
      cnt, Int.mul_add]
    split <;> simp

theorem net_of_adds (l : List Rec) (h : ∀ r ∈ l, r.retr = false) (y : Row) : net l y = cnt (l.map (·.vals)) y := by
  rw [net_of_sign l false h, if_neg Bool.false_ne_true, Int.one_mul]

theorem net_adds (rows : List Row) (y : Row) : net (adds rows) y = cnt rows y := by
  rw [adds, net_of_adds _ (List.forall_mem_map.mpr fun _ _ => rfl), List.map_map]
  exact congrArg (cnt · y) (List.map_id' rows)

theorem wsum_adds (g : Row → Int) (rows : List Row) : wsum g (adds rows) = sumBy g rows := by
  induction rows with
  | nil => rfl
  | cons x xs ih => simp only [adds, List.map_cons, wsum, sumBy, sgn] at *; rw [ih]; simp

theorem wsum_of_consolidates (g : Row → Int) (hg : Congr g) {rows : List Row} {log : List Rec}
    (h : Consolidates rows log) : wsum g log = sumBy g rows := by
  rw [← wsum_adds]
  exact wsum_congr_net g hg _ _ (by intro y; rw [net_adds]; exact h y)

theorem cnt_eq_zero (l : List Row) (y : Row) (h : ∀ x ∈ l, rowEq x y = false) : cnt l y = 0 := by
  rw [← net_adds]
  exact net_eq_zero _ y fun r hr => by obtain ⟨x, hx, rfl⟩ := List.mem_map.mp hr; exact h x hx

theorem cnt_nonneg (rows : List Row) (y : Row) : 0 ≤ cnt rows y := by
  induction rows with
  | nil => simp [cnt]
  | cons x xs ih => simp only [cnt]; split <;> omega

theorem cnt_append (a b : List Row) (y : Row) : cnt (a ++ b) y = cnt a y + cnt b y := by
  rw [← net_adds, ← net_adds, ← net_adds, adds, List.map_append]; exact net_append _ _ y

theorem cnt_congr (rows : List Row) {y y' : Row} (h : rowEq y y' = true) : cnt rows y = cnt rows y' := by
  rw [← net_adds, ← net_adds]; exact net_congr_row _ h

theorem cnt_eraseRow (x : Row) (rows : List Row) (hpos : 0 < cnt rows x) (y : Row) :
    cnt (eraseRow x rows) y = cnt rows y - (if rowEq x y then 1 else 0) := by
  induction rows with
  | nil => simp [cnt] at hpos
  | cons z zs ih =>
    simp only [eraseRow]
    cases hz : rowEq z x
    · simp only [Bool.false_eq_true, ↓reduceIte, cnt]
      simp only [cnt, hz, Bool.false_eq_true, ↓reduceIte, Int.zero_add] at hpos
      rw [ih hpos]; omega
    · simp only [↓reduceIte, cnt, rowEq_congr_left hz y]; omega

theorem validLog_take {l : List Rec} (h : ValidLog l) (n : Nat) : ValidLog (l.take n) := by
  have := List.take_append_drop n l
  exact validLog_prefix (this ▸ h)

theorem validLog_snoc {h : List Rec} (hv : ValidLog h) (r : Rec) (hn : ∀ y, 0 ≤ net (h ++ [r]) y) :
    ValidLog (h ++ [r]) := by
  intro n y
  by_cases hl : n ≤ h.length
  · rw [List.take_append_of_le_length hl]; exact hv n y
  · rw [List.take_of_length_le (by simp; omega)]; exact hn y

theorem retr_present_of_valid {done : List Rec} {r : Rec} (hv : ValidLog (done ++ [r])) (hr : r.retr = true) :
    0 < net done r.vals := by
  have := validLog_net_nonneg hv r.vals
  rw [net_append, net, net, weight_eq, if_pos (rowEq_refl _), sgn, if_pos hr] at this
  omega

theorem validLog_snoc_of_present {done : List Rec} (hv : ValidLog done) (r : Rec)
    (h : r.retr = true → 0 < net done r.vals) : ValidLog (done ++ [r]) := by
  refine validLog_snoc hv r fun y => ?_
  have := validLog_net_nonneg hv y
  rw [net_append, net, net, Int.add_zero, weight_eq, sgn]
  by_cases hy : rowEq r.vals y = true
  · rw [if_pos hy]
    cases hr : r.retr
    · rw [if_neg Bool.false_ne_true]; omega
    · have := h hr
      rw [net_congr_row done hy] at this
      rw [if_pos rfl]; omega
  · rw [if_neg hy]; omega

theorem foldl_inv {Inv : σ → List Rec → Prop} {step : σ → Rec → σ} {Q : Rec → Prop}
    (hstep : ∀ s done r, Inv s done → Q r → ValidLog (done ++ [r]) → Inv (step s r) (done ++ [r]))
    (log : List Rec) (s : σ) (done : List Rec) (inv : Inv s done) (hq : ∀ r ∈ log, Q r)
    (hv : ValidLog (done ++ log)) : Inv (log.foldl step s) (done ++ log) := by
  induction log generalizing s done with
  | nil => rwa [List.append_nil]
  | cons r rs ih =>
    rw [List.append_cons] at hv ⊢
    exact ih _ _ (hstep s done r inv (hq r List.mem_cons_self) (validLog_prefix hv))
      (fun q h => hq q (List.mem_cons_of_mem _ h)) hv

theorem consolidate_correct {log : List Rec} (h : ValidLog log) : Consolidates (consolidate log) log := by
  refine foldl_inv (Inv := fun rows done => Consolidates rows done) (Q := fun _ => True) (fun rows done r inv _ hv y => ?_)
    log [] [] (fun _ => rfl) (fun _ _ => trivial) h
  -- one step: an addition appends the row, a retraction finds a copy to remove
  rw [net_append, inv y, net, net, Int.add_zero, weight_eq, sgn, consStep]
  cases hr : r.retr
  · rw [if_neg Bool.false_ne_true, if_neg Bool.false_ne_true, cnt_append, cnt, cnt, Int.add_zero]
  · have := retr_present_of_valid hv hr
    rw [if_pos rfl, if_pos rfl, cnt_eraseRow _ _ (inv r.vals ▸ this)]
    split <;> omega

theorem net_signed_nonneg (l : List Rec) (b : Bool) (h : ∀ r ∈ l, r.retr = b) (y : Row) :
    0 ≤ (if b then -1 else 1) * net l y := by
  have := cnt_nonneg (l.map (·.vals)) y
  rw [net_of_sign l b h]
  cases b <;> simp only [Bool.false_eq_true, ↓reduceIte] <;> omega

theorem net_take_of_same_sign (l : List Rec) (b : Bool) (h : ∀ r ∈ l, r.retr = b) (n : Nat) (y : Row) :
    0 ≤ net (l.take n) y ∨ net l y ≤ net (l.take n) y := by
  have e := net_append (l.take n) (l.drop n) y
  rw [List.take_append_drop] at e
  have h1 := net_signed_nonneg (l.take n) b (fun r hr => h r (List.mem_of_mem_take hr)) y
  have h2 := net_signed_nonneg (l.drop n) b (fun r hr => h r (List.mem_of_mem_drop hr)) y
  cases b <;> simp only [Bool.false_eq_true, ↓reduceIte] at h1 h2 <;> omega

theorem validFrom_of_same_sign {b : Row → Int} (l : List Rec) (s : Bool) (h : ∀ r ∈ l, r.retr = s)
    (h0 : ∀ y, 0 ≤ b y) (h1 : ∀ y, 0 ≤ b y + net l y) : ValidFrom b l := fun n y => by
  -- a prefix of a block of one sign lies between nothing and the whole block
  have := net_take_of_same_sign l s h n y
  have := h0 y
  have := h1 y
  omega

theorem validLog_of_adds (l : List Rec) (h : ∀ r ∈ l, r.retr = false) : ValidLog l := by
  intro n y
  have := net_signed_nonneg (l.take n) false (fun r hr => h r (List.mem_of_mem_take hr)) y
  rwa [if_neg Bool.false_ne_true, Int.one_mul] at this

theorem runFrom_cons_ok {op : Op σ} {s s' : σ} {m : Msg} {out : List Msg} (h : op.onMsg s m = (s', out, none))
    (ms : List Msg) (f : Bool) :
    op.runFrom s (m :: ms) f = (out ++ (op.runFrom s' ms f).1, (op.runFrom s' ms f).2) := by
  simp only [Op.runFrom, h]

theorem runFrom_cons_err {op : Op σ} {s s' : σ} {m : Msg} {out : List Msg} {e : Err}
    (h : op.onMsg s m = (s', out, some e)) (ms : List Msg) (f : Bool) :
    op.runFrom s (m :: ms) f = (out ++ (op.onFail s' e).1, (op.onFail s' e).2) := by
  simp only [Op.runFrom, h]

theorem runFrom_cons_silent {op : Op σ} {s s' : σ} {m : Msg} (h : op.onMsg s m = (s', [], none))
    (ms : List Msg) (f : Bool) : op.runFrom s (m :: ms) f = op.runFrom s' ms f := by
  rw [runFrom_cons_ok h]; rfl

theorem runFrom_collect (op : Op σ) (step : σ → Rec → σ) (wf : Int → List Msg)
    (hw : ∀ s t, op.onMsg s (.wm t) = (s, wf t, none)) (hd : ∀ s r, op.onMsg s (.data r) = (step s r, [], none))
    (ms : List Msg) (s : σ) :
    op.runFrom s ms false =
      ((wms ms).flatMap wf ++ (op.onEnd ((recs ms).foldl step s)).1, (op.onEnd ((recs ms).foldl step s)).2) := by
  induction ms generalizing s with
  | nil => rfl
  | cons m ms ih =>
    cases m with
    | wm t => rw [runFrom_cons_ok (hw s t), ih]; simp only [wms, recs, List.flatMap_cons, List.append_assoc]
    | data r => rw [runFrom_cons_ok (hd s r), ih]; simp only [wms, recs, List.foldl_cons, List.nil_append]

/-- the watermarks of a stream, as a node that forwards them emits them -/
def wmMsgs (ms : List Msg) : List Msg := (wms ms).map .wm

theorem recs_wmMsgs (ms : List Msg) : recs (wmMsgs ms) = [] := recs_map_wm _

theorem wms_wmMsgs (ms : List Msg) : wms (wmMsgs ms) = wms ms := wms_map_wm _

theorem run_collect_fwd (op : Op σ) (step : σ → Rec → σ) (hw : ∀ s t, op.onMsg s (.wm t) = (s, [.wm t], none))
    (hd : ∀ s r, op.onMsg s (.data r) = (step s r, [], none)) (ms : List Msg) :
    op.run ms = (wmMsgs ms ++ (op.onEnd ((recs ms).foldl step op.init)).1, (op.onEnd ((recs ms).foldl step op.init)).2) := by
  rw [Op.run, runFrom_collect op step _ hw hd, wmMsgs, List.map_eq_flatMap]

theorem runFrom_sublist (op : Op σ) (hmsg : ∀ s m, (op.onMsg s m).2.1 = [m] ∨ (op.onMsg s m).2.1 = [])
    (hend : ∀ s, (op.onEnd s).1 = []) (hfail : ∀ s e, (op.onFail s e).1 = []) (ms : List Msg) (s : σ) (f : Bool) :
    (op.runFrom s ms f).1.Sublist ms := by
  induction ms generalizing s with
  | nil =>
    cases f
    · rw [Op.runFrom, hend]; exact List.Sublist.slnil
    · rw [Op.runFrom, hfail]; exact List.Sublist.slnil
  | cons m ms ih =>
    have hm := hmsg s m
    rcases h : op.onMsg s m with ⟨s', out, _ | e⟩
    · rw [runFrom_cons_ok h]
      rw [h] at hm
      rcases hm with rfl | rfl
      · exact List.Sublist.cons_cons m (ih s')
      · exact List.Sublist.cons m (ih s')
    · rw [runFrom_cons_err h, hfail, List.append_nil]
      rw [h] at hm
      rcases hm with rfl | rfl
      · exact List.Sublist.cons_cons m (List.nil_sublist ms)
      · exact List.nil_sublist _

end Octo.Ops
