import Octo.Lemmas.OpsWm
import Octo.Lemmas.OpsDistinct
import Octo.Lemmas.OpsGroup
/-!
  Octo.Lemmas.OpsShape — the *shape* of a node's output, without any validity hypothesis (C18 has none): sublist of
  the input (Distinct), prefix of it (Limit), watermarks followed by a final batch (SimpleGroupBy,
  CustomTriggerGroupBy), final batch only (OrderSensitiveTransform).
-/
namespace Octo.Ops
open Octo

theorem distinct_out_sublist (ms : List Msg) : ∀ cnt f, (distinctOp.runFrom cnt ms f).1.Sublist ms :=
  runFrom_sublist distinctOp distinct_onMsg_cases (fun _ => rfl) (fun _ _ => rfl) ms

theorem limit_out_prefix (n : Int) (ms : List Msg) : ∀ i f, ((limitOp n).runFrom i ms f).1 <+: ms := by
  induction ms with
  | nil => intro i f; cases f <;> exact List.prefix_refl []
  | cons m ms ih =>
    intro i f
    cases m with
    | wm t =>
      rw [runFrom_cons_ok (rfl : (limitOp n).onMsg i (.wm t) = (i, [.wm t], none))]
      exact (List.prefix_cons_inj _).mpr (ih i f)
    | data r =>
      by_cases h : (i + 1 == n) = true
      · rw [runFrom_cons_err (if_pos h : (limitOp n).onMsg i (.data r) = (i + 1, [.data r], some .limit))]
        exact (List.prefix_cons_inj _).mpr (List.nil_prefix)
      · rw [runFrom_cons_ok (if_neg h : (limitOp n).onMsg i (.data r) = (i + 1, [.data r], none))]
        exact (List.prefix_cons_inj _).mpr (ih (i + 1) f)

theorem limitNode_prefix (n : Int) (ms : List Msg) (f : Bool) : (limitNode n ms f).1 <+: ms := by
  rw [limitNode]
  split
  · exact List.nil_prefix
  · exact limit_out_prefix n ms 0 f

theorem sgroup_shape (agg : GAgg α) (kf inf : Row → Row) (ms : List Msg) :
    ∃ l : List Rec,
      ((simpleGroupOp agg (fun x => .ok (kf x)) (fun x => .ok (inf x))).run ms).1 = wmMsgs ms ++ l.map .data ∧
        ∀ q ∈ l, q.et = none := by
  rw [run_collect_fwd _ (fun g r => gUpdate agg g (kf r.vals) r.retr (inf r.vals)) (fun _ _ => rfl) (fun _ _ => rfl)]
  dsimp only [simpleGroupOp]
  rw [gFlush_all]
  generalize List.foldl _ _ (recs ms) = g
  cases g.all fun e => (agg.trig e.2.st).isSome
  · exact ⟨[], rfl, by simp⟩
  · exact ⟨adds _, rfl, List.forall_mem_map.mpr fun _ _ => rfl⟩

theorem order_shape (dirs : List Int) (kf : Row → Row) (limit : Option Int) (noRetr : Bool) (ms : List Msg) :
    ∃ l : List Rec,
      ((orderOp dirs (fun x => .ok (kf x)) limit noRetr).run ms).1 = l.map .data ∧
        ∀ q ∈ l, q.et = none ∧ q.retr = false := by
  -- with an error-free key the callback emits nothing and cannot fail, whatever the limit and the pruning do to the
  -- tree: the step is read off `onMsg`, and no hypothesis on `limit` and `noRetr` is needed
  rw [Op.run, runFrom_collect _ (fun t r => ((orderOp dirs (fun x => .ok (kf x)) limit noRetr).onMsg t (.data r)).1)
    (fun _ => []) (fun _ _ => rfl) (fun _ _ => rfl), List.flatMap_eq_nil_iff.mpr fun _ _ => rfl]
  exact ⟨adds (takeOpt limit (treeRows _)), by rw [adds, List.map_map]; rfl,
    List.forall_mem_map.mpr fun _ _ => ⟨rfl, rfl⟩⟩

theorem ctgbFlush_shape (agg : GAgg α) (groups : List (Row × GItem α)) (keys : List Row) :
    ∀ out, ctgbFlush agg none groups keys = .ok out →
      ∃ l : List Rec, out = l.map .data ∧ ∀ q ∈ l, q.et = some maxWm ∧ q.retr = false := by
  induction keys with
  | nil => intro out h; simp only [ctgbFlush, Except.ok.injEq] at h; subst h; exact ⟨[], rfl, by simp⟩
  | cons k ks ih =>
    intro out h
    simp only [ctgbFlush] at h
    split at h
    · exact ih out h
    · split at h
      · cases h
      · split at h
        · rename_i row _ _ _ et ms' het hrest
          simp only [Except.ok.injEq] at h; subst h
          obtain ⟨l, hl, hq⟩ := ih ms' hrest
          simp only [ctgbEventTime, Except.ok.injEq] at het
          exact ⟨{ vals := row, retr := false, et := et } :: l, by simp [hl],
            List.forall_mem_cons.mpr ⟨⟨het.symm, rfl⟩, hq⟩⟩
        · cases h
        · cases h

theorem ctgb_shape (agg : GAgg α) (kf inf : Row → Row) (ms : List Msg) :
    ∃ l : List Rec,
      ((ctgbOp agg (fun x => .ok (kf x)) (fun x => .ok (inf x)) none).run ms).1 = wmMsgs ms ++ l.map .data ∧
        ∀ q ∈ l, q.et = some maxWm ∧ q.retr = false := by
  rw [run_collect_fwd _ (fun s r => ⟨gUpdate agg s.groups (kf r.vals) r.retr (inf r.vals), keyInsert (kf r.vals) s.keys⟩)
    (fun _ _ => rfl) (fun _ _ => rfl)]
  dsimp only [ctgbOp]
  split
  · rename_i out h
    obtain ⟨l, rfl, het⟩ := ctgbFlush_shape agg _ _ out h
    exact ⟨l, rfl, het⟩
  · exact ⟨[], rfl, by simp⟩

theorem wms_wm_then (ms : List Msg) (l : List Rec) : wms (wmMsgs ms ++ l.map .data) = wms ms := by
  rw [wms_append, wms_wmMsgs, wms_map_data, List.append_nil]

theorem noLate_wm_then (ms : List Msg) (l : List Rec) (h : ∀ q ∈ l, okAfter (wms ms).reverse q) :
    NoLate (wmMsgs ms ++ l.map .data) := by
  have hw : ∀ (ws : List Int) s, NoLateFrom s (ws.map Msg.wm) := by
    intro ws
    induction ws with
    | nil => intro _; trivial
    | cons w ws ih => intro s; exact ih _
  rw [NoLate, noLateFrom_append, wms_wmMsgs, List.append_nil, noLateFrom_data]
  exact ⟨hw _ _, h⟩

end Octo.Ops
