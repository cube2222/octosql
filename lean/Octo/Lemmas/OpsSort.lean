import Octo.Lemmas.OpsNet
/-!
  Octo.Lemmas.OpsSort — ORDER BY (OrderSensitiveTransform) and the batch printer.  The btree of
  `(key, values, count)` items is a list kept strictly sorted by the node's `Less`.  The tree lemmas hold for any
  strict weak order `less` that looks at key and values only; `orderByItem.Less` is one only on items of fixed widths
  (hence `SWO P less`), by the C09 laws of `Value.Compare`, and its classes are those of `rowEq` on the values when
  the key is a row-congruent function of the values.  Run invariant `SInv`: the count of the class of every row is
  its net multiplicity in the consumed changelog.
-/
namespace Octo.Ops
open Octo

/-- `less` is a strict weak order on the well-formed items `P` (same key and value widths) that looks
    at key and values only -/
structure SWO (P : SItem → Prop) (less : SItem → SItem → Bool) : Prop where
  irrefl : ∀ a, P a → less a a = false
  trans : ∀ a b c, P a → P b → P c → less a b = true → less b c = true → less a c = true
  incomp_left : ∀ a b c, P a → P b → P c → less a b = false → less b a = false → less a c = less b c
  incomp_right : ∀ a b c, P a → P b → P c → less a b = false → less b a = false → less c a = less c b
  ext_left : ∀ a a' b, a.key = a'.key → a.vals = a'.vals → less a b = less a' b
  ext_right : ∀ a a' b, a.key = a'.key → a.vals = a'.vals → less b a = less b a'
  ext_P : ∀ a a', a.key = a'.key → a.vals = a'.vals → P a → P a'

def eqv (less : SItem → SItem → Bool) (a b : SItem) : Bool := !less a b && !less b a

def StrictSorted (less : SItem → SItem → Bool) (t : List SItem) : Prop := t.Pairwise fun a b => less a b = true

/-- total count of the items in the class of `z`; needs no order on the tree, unlike the search
    `treeCount`, which in a sorted tree finds the one item of the class -/
def classCount (less : SItem → SItem → Bool) (z : SItem) : List SItem → Int
  | [] => 0
  | y :: ys => (if eqv less z y then y.count else 0) + classCount less z ys

theorem classCount_of_all_gt (less : SItem → SItem → Bool) (z : SItem) (t : List SItem)
    (h : ∀ a ∈ t, less z a = true) : classCount less z t = 0 := by
  induction t with
  | nil => rfl
  | cons a as ih =>
    rw [classCount, eqv, h a List.mem_cons_self, ih fun b hb => h b (List.mem_cons_of_mem _ hb)]; rfl

theorem SWO.eqv_count {P : SItem → Prop} {less : SItem → SItem → Bool} (S : SWO P less) (z y : SItem) (n : Int) :
    eqv less z { y with count := n } = eqv less z y := by
  rw [eqv, eqv, S.ext_right { y with count := n } y z rfl rfl, S.ext_left { y with count := n } y z rfl rfl]

theorem treeCount_eq_classCount {P : SItem → Prop} {less : SItem → SItem → Bool} (S : SWO P less) {z : SItem}
    (hz : P z) {t : List SItem} (hP : ∀ a ∈ t, P a) (hs : StrictSorted less t) :
    treeCount less z t = classCount less z t := by
  induction t with
  | nil => rfl
  | cons y ys ih =>
    obtain ⟨hy, hys⟩ := List.pairwise_cons.mp hs
    obtain ⟨hPy, hPys⟩ := List.forall_mem_cons.mp hP
    rw [treeCount, classCount, eqv]
    cases h1 : less z y
    · cases h2 : less y z
      · -- `y` is the item of the class: the rest of the tree is above `z`
        rw [classCount_of_all_gt less z ys fun a ha => by
          rw [S.incomp_left z y a hz hPy (hPys a ha) h1 h2]; exact hy a ha]
        simp
      · rw [ih hPys hys]; simp
    · rw [classCount_of_all_gt less z ys fun a ha => S.trans z y a hz hPy (hPys a ha) h1 (hy a ha)]
      simp

theorem bump_cases {motive : List SItem → Prop} (less : SItem → SItem → Bool) (x : SItem) (retr : Bool) (y : SItem)
    (ys : List SItem)
    (insert : less x y = true → retr = false → motive ({ x with count := 1 } :: y :: ys))
    (absent : less x y = true → retr = true → motive (y :: ys))
    (above : less x y = false → less y x = true → motive (y :: bump less x retr ys))
    (move : less x y = false → less y x = false → y.count + delta retr > 0 →
      motive ({ y with count := y.count + delta retr } :: ys))
    (drop : less x y = false → less y x = false → ¬ y.count + delta retr > 0 → motive ys) :
    motive (bump less x retr (y :: ys)) := by
  rw [bump]
  by_cases h1 : less x y = true
  · rw [if_pos h1]
    cases retr
    · exact insert h1 rfl
    · exact absent h1 rfl
  · have h1' := (Bool.not_eq_true _).mp h1
    rw [if_neg h1]
    by_cases h2 : less y x = true
    · rw [if_pos h2]; exact above h1' h2
    · have h2' := (Bool.not_eq_true _).mp h2
      rw [if_neg h2]
      by_cases h3 : y.count + delta retr > 0
      · rw [if_pos h3]; exact move h1' h2' h3
      · rw [if_neg h3]; exact drop h1' h2' h3

theorem bump_all {Q : SItem → Prop} (less : SItem → SItem → Bool) (x : SItem) (retr : Bool)
    (hx : retr = false → Q { x with count := 1 })
    (hy : ∀ y, Q y → y.count + delta retr > 0 → Q { y with count := y.count + delta retr }) (t : List SItem)
    (ht : ∀ a ∈ t, Q a) : ∀ a ∈ bump less x retr t, Q a := by
  induction t with
  | nil =>
    cases retr
    · exact List.forall_mem_singleton.mpr (hx rfl)
    · exact fun _ h => nomatch h
  | cons y ys ih =>
    obtain ⟨hQy, hQys⟩ := List.forall_mem_cons.mp ht
    exact bump_cases (motive := fun t => ∀ a ∈ t, Q a) less x retr y ys
      (fun _ hr => List.forall_mem_cons.mpr ⟨hx hr, ht⟩) (fun _ _ => ht)
      (fun _ _ => List.forall_mem_cons.mpr ⟨hQy, ih hQys⟩)
      (fun _ _ h3 => List.forall_mem_cons.mpr ⟨hy y hQy h3, hQys⟩) (fun _ _ _ => hQys)

theorem bump_P (P : SItem → Prop) (less : SItem → SItem → Bool) (S : SWO P less) (x : SItem) (retr : Bool)
    (t : List SItem) (hx : P x) (hP : ∀ a ∈ t, P a) : ∀ a ∈ bump less x retr t, P a :=
  bump_all less x retr (fun _ => S.ext_P x _ rfl rfl hx) (fun y hy _ => S.ext_P y _ rfl rfl hy) t hP

theorem bump_sorted (P : SItem → Prop) (less : SItem → SItem → Bool) (S : SWO P less) (x : SItem) (retr : Bool)
    (t : List SItem) (hx : P x) (hP : ∀ a ∈ t, P a)
    (hs : StrictSorted less t) : StrictSorted less (bump less x retr t) := by
  induction t with
  | nil => cases retr <;> simp [bump, StrictSorted]
  | cons y ys ih =>
    obtain ⟨hPy, hPys⟩ := List.forall_mem_cons.mp hP
    obtain ⟨hy, hys⟩ := List.pairwise_cons.mp hs
    refine bump_cases (motive := StrictSorted less) less x retr y ys (fun h1 _ => ?insert) (fun _ _ => hs) (fun _ h2 => ?above)
      (fun _ _ _ => ?move) (fun _ _ _ => hys)
    case insert =>
      -- the fresh item is below `y`, hence below the whole tree
      refine List.pairwise_cons.mpr ⟨fun b hb => ?_, hs⟩
      rw [S.ext_left ⟨x.key, x.vals, 1⟩ x b rfl rfl]
      rcases List.mem_cons.mp hb with rfl | h
      · exact h1
      · exact S.trans _ _ _ hx hPy (hPys b h) h1 (hy b h)
    case above =>
      -- `y` is below `x` and below the rest, hence below whatever `bump` makes of the rest
      exact List.pairwise_cons.mpr ⟨bump_all (Q := fun b => less y b = true) less x retr
        (fun _ => (S.ext_right ⟨x.key, x.vals, 1⟩ x y rfl rfl).trans h2)
        (fun b hb _ => (S.ext_right ⟨b.key, b.vals, b.count + delta retr⟩ b y rfl rfl).trans hb) ys hy, ih hPys hys⟩
    case move =>
      refine List.pairwise_cons.mpr ⟨fun b hb => ?_, hys⟩
      rw [S.ext_left ⟨y.key, y.vals, y.count + delta retr⟩ y b rfl rfl]; exact hy b hb

theorem classCount_bump (P : SItem → Prop) (less : SItem → SItem → Bool) (S : SWO P less) (x : SItem) (retr : Bool)
    (t : List SItem) (hx : P x) (hP : ∀ a ∈ t, P a)
    (hs : StrictSorted less t) (hp : ∀ a ∈ t, 0 < a.count) (hr : retr = true → 0 < classCount less x t)
    (z : SItem) (hz : P z) :
    classCount less z (bump less x retr t) = classCount less z t + (if eqv less z x then delta retr else 0) := by
  induction t with
  | nil =>
    cases retr
    · simp [bump, classCount, S.eqv_count, delta]
    · exact absurd (hr rfl) (Int.lt_irrefl 0)
  | cons y ys ih =>
    obtain ⟨hy, hys⟩ := List.pairwise_cons.mp hs
    obtain ⟨hPy, hPys⟩ := List.forall_mem_cons.mp hP
    have hy0 := hp y List.mem_cons_self
    -- when `x` and `y` are in one class
    have e : less x y = false → less y x = false → eqv less z x = eqv less z y := fun h1 h2 => by
      rw [eqv, eqv, S.incomp_right x y z hx hPy hz h1 h2, S.incomp_left x y z hx hPy hz h1 h2]
    refine bump_cases (motive := fun t' => classCount less z t' = classCount less z (y :: ys) + _) less x retr y ys
      (fun _ hr' => ?insert) (fun h1 hr' => ?absent) (fun h1 h2 => ?above) (fun h1 h2 h3 => ?move) (fun h1 h2 h3 => ?drop)
    case insert =>
      subst hr'; rw [classCount, S.eqv_count, Int.add_comm]; rfl
    case absent =>
      -- a retraction of something below the whole tree is excluded by `hr`
      have := classCount_of_all_gt less x (y :: ys) (List.forall_mem_cons.mpr
        ⟨h1, fun a h => S.trans x y a hx hPy (hPys a h) h1 (hy a h)⟩)
      exact absurd (hr hr') (by rw [this]; exact Int.lt_irrefl 0)
    case above =>
      -- `x` is above `y`: only the rest changes
      have hxy : eqv less x y = false := by rw [eqv, h2]; simp
      rw [classCount, classCount, Int.add_assoc,
        ih hPys hys (fun a ha => hp a (List.mem_cons_of_mem _ ha)) fun h => by
          have := hr h
          rwa [classCount, hxy, if_neg Bool.false_ne_true, Int.zero_add] at this]
    case move =>
      rw [e h1 h2, classCount, classCount, S.eqv_count]
      cases eqv less z y <;> simp <;> omega
    case drop =>
      -- the item goes: its count was 1 and the record is a retraction
      rw [e h1 h2, classCount]
      cases retr
      · exact absurd (show y.count + 1 > 0 by omega) h3
      · have : y.count = 1 := by have : ¬ y.count + -1 > 0 := h3; omega
        rw [this]; cases eqv less z y <;> simp [delta] <;> omega

theorem treeCount_bump (P : SItem → Prop) (less : SItem → SItem → Bool) (S : SWO P less) (x : SItem) (retr : Bool)
    (t : List SItem) (hx : P x) (hP : ∀ a ∈ t, P a)
    (hs : StrictSorted less t) (hp : ∀ a ∈ t, 0 < a.count) (hr : retr = true → 0 < treeCount less x t)
    (z : SItem) (hz : P z) :
    treeCount less z (bump less x retr t) = treeCount less z t + (if eqv less z x then delta retr else 0) := by
  rw [treeCount_eq_classCount S hz (bump_P P less S x retr t hx hP) (bump_sorted P less S x retr t hx hP hs),
    treeCount_eq_classCount S hz hP hs]
  exact classCount_bump P less S x retr t hx hP hs hp
    (fun h => by rw [← treeCount_eq_classCount S hx hP hs]; exact hr h) z hz

theorem cmp_antisymm (a b : Value) : cmp a b = - cmp b a := Octo.cmp_antisymm a b
theorem cmp_trans (a b c : Value) : cmp a b ≤ 0 → cmp b c ≤ 0 → cmp a c ≤ 0 := Octo.cmp_trans a b c

theorem cmpK_of_eq (ds : List Int) (a b : Row) (h : cmpList a b = 0) : cmpK ds a b = 0 :=
  cmpList_eq_rec (motive := fun a b => ∀ ds, cmpK ds a b = 0) (fun ds => by cases ds <;> rfl)
    (fun hxy _ ih ds => by
      cases ds with
      | nil => rfl
      | cons d ds => rw [cmpK, if_neg (by simp [hxy])]; exact ih ds) h ds

theorem lessKey_eq (ds : List Int) (a b : Row) (hd : Dirs ds) :
    lessKey ds a b = if cmpK ds a b = 0 then none else some (cmpK ds a b == -1) := by
  induction ds generalizing a b with
  | nil => simp [lessKey, cmpK]
  | cons d ds ih =>
    cases a with
    | nil => simp [lessKey, cmpK]
    | cons x xs =>
      cases b with
      | nil => simp [lessKey, cmpK]
      | cons y ys =>
        have ih := ih xs ys fun q hq => hd q (List.mem_cons_of_mem _ hq)
        simp only [lessKey, cmpK]
        by_cases hc : cmp x y = 0
        · simp only [hc, bne_self_eq_false, Bool.false_eq_true, ↓reduceIte, ih]
        · have : cmp x y * d ≠ 0 := by rcases hd d List.mem_cons_self with h | h <;> subst h <;> omega
          simp only [bne_iff_ne, ne_eq, hc, not_false_eq_true, ↓reduceIte, this]

theorem lessVals_eq (a b : Row) (h : a.length = b.length) : lessVals a b = (cmpList a b == -1) := by
  induction a generalizing b with
  | nil =>
    cases b with
    | nil => rfl
    | cons y ys => cases h
  | cons x xs ih =>
    cases b with
    | nil => cases h
    | cons y ys =>
      rw [cmpList_cons, lessVals]
      by_cases hc : cmp x y = 0
      · rw [if_pos hc, if_neg (by simp [hc])]
        exact ih ys (Nat.succ.inj h)
      · rw [if_neg hc, if_pos (by simp [hc])]

/-- items of the widths the node works with -/
def WF (dirs : List Int) (w : Nat) (a : SItem) : Prop := a.key.length = dirs.length ∧ a.vals.length = w

def cmpI (dirs : List Int) (a b : SItem) : Int := lexC (fun a b => cmpK dirs a.key b.key) (fun a b => cmpList a.vals b.vals) a b

theorem cmpI_cmpOn (dirs : List Int) (w : Nat) (hd : Dirs dirs) : CmpOn (WF dirs w) (cmpI dirs) :=
  ((cmpK_cmpOn dirs hd dirs.length).comap SItem.key fun _ h => h.1).lex (cmpList_cmpOn.comap SItem.vals fun _ _ => trivial)

theorem cmpI_of_eq {dirs : List Int} {a b : SItem} (h : cmpK dirs a.key b.key = 0) :
    cmpI dirs a b = cmpList a.vals b.vals := lexC_of_eq (c1 := fun a b : SItem => cmpK dirs a.key b.key) h

theorem cmpI_of_ne {dirs : List Int} {a b : SItem} (h : cmpK dirs a.key b.key ≠ 0) :
    cmpI dirs a b = cmpK dirs a.key b.key := lexC_of_ne (c1 := fun a b : SItem => cmpK dirs a.key b.key) h

theorem lessItem_eq (dirs : List Int) (w : Nat) (hd : Dirs dirs) (a b : SItem) (ha : WF dirs w a) (hb : WF dirs w b) :
    lessItem dirs a b = (cmpI dirs a b == -1) := by
  rw [lessItem, lessKey_eq dirs a.key b.key hd]
  by_cases h : cmpK dirs a.key b.key = 0
  · rw [cmpI_of_eq h, if_pos h]; exact lessVals_eq a.vals b.vals (by rw [ha.2, hb.2])
  · rw [cmpI_of_ne h, if_neg h]

theorem lessItem_swo (dirs : List Int) (w : Nat) (hd : Dirs dirs) : SWO (WF dirs w) (lessItem dirs) := by
  have C := cmpI_cmpOn dirs w hd
  have E := lessItem_eq dirs w hd
  -- incomparable items are equivalent for the comparator
  have eqv0 : ∀ a b, WF dirs w a → WF dirs w b → lessItem dirs a b = false → lessItem dirs b a = false →
      cmpI dirs a b = 0 := by
    intro a b ha hb h1 h2
    rw [E a b ha hb, beq_eq_false_iff_ne] at h1
    rw [E b a hb ha, beq_eq_false_iff_ne] at h2
    have := C.range a b ha hb
    have := C.antisymm a b ha hb
    omega
  -- `less` in terms of the sign of the comparator
  have L : ∀ a b, WF dirs w a → WF dirs w b → (lessItem dirs a b = true ↔ cmpI dirs a b < 0) := by
    intro a b ha hb
    have := C.range a b ha hb
    rw [E a b ha hb, beq_iff_eq]; omega
  refine ⟨?_, ?_, ?_, ?_, ?_, ?_, ?_⟩
  · intro a ha
    have := C.antisymm a a ha ha
    rw [E a a ha ha, beq_eq_false_iff_ne]; omega
  · intro a b c ha hb hc h1 h2
    rw [L _ _ ha hb] at h1
    rw [L _ _ hb hc] at h2
    rw [L _ _ ha hc]
    exact C.lt_of_le_of_lt ha hb hc (by omega) h2
  · intro a b c ha hb hc h1 h2
    rw [E a c ha hc, E b c hb hc, C.eq_congr ha hb hc hc (eqv0 a b ha hb h1 h2) (C.refl hc)]
  · intro a b c ha hb hc h1 h2
    rw [E c a hc ha, E c b hc hb, C.eq_congr hc hc ha hb (C.refl hc) (eqv0 a b ha hb h1 h2)]
  · intro a a' b hk hv; simp only [lessItem, hk, hv]
  · intro a a' b hk hv; simp only [lessItem, hk, hv]
  · intro a a' hk hv h; exact ⟨hk ▸ h.1, hv ▸ h.2⟩

theorem eqv_iff_rowEq (dirs : List Int) (w : Nat) (hd : Dirs dirs) (kf : Row → Row)
    (hk : RowCongr kf)
    (a b : SItem) (ha : WF dirs w a) (hb : WF dirs w b) (hka : a.key = kf a.vals) (hkb : b.key = kf b.vals) :
    eqv (lessItem dirs) a b = rowEq a.vals b.vals := by
  have C := cmpI_cmpOn dirs w hd
  -- equal values have equal keys, so the comparator is 0 exactly when the values compare equal
  have hkey : cmpList a.vals b.vals = 0 → cmpK dirs a.key b.key = 0 := fun hv => by
    rw [hka, hkb]; exact cmpK_of_eq dirs _ _ (rowEq_iff.mp (hk _ _ (rowEq_iff.mpr hv)))
  have hI : cmpI dirs a b = 0 ↔ cmpList a.vals b.vals = 0 :=
    lexC_eq_zero.trans ⟨And.right, fun hv => ⟨hkey hv, hv⟩⟩
  have hv : rowEq a.vals b.vals = (cmpI dirs a b == 0) := by
    rw [rowEq, Bool.eq_iff_iff, beq_iff_eq, beq_iff_eq]; exact hI.symm
  have an := C.antisymm a b ha hb
  rw [eqv, lessItem_eq dirs w hd a b ha hb, lessItem_eq dirs w hd b a hb ha, hv]
  rcases C.range a b ha hb with r | r | r
  · rw [r, (by omega : cmpI dirs b a = 1)]; rfl
  · rw [r, (by omega : cmpI dirs b a = 0)]; rfl
  · rw [r, (by omega : cmpI dirs b a = -1)]; rfl

structure SortCfg where
  dirs : List Int
  w : Nat
  kf : Row → Row
  hd : Dirs dirs
  hkl : ∀ v, (kf v).length = dirs.length
  hk : RowCongr kf

def SortCfg.mk' (c : SortCfg) (v : Row) : SItem := { key := c.kf v, vals := v, count := 0 }
abbrev SortCfg.less (c : SortCfg) : SItem → SItem → Bool := lessItem c.dirs

theorem SortCfg.wf (c : SortCfg) (v : Row) (h : v.length = c.w) : WF c.dirs c.w (c.mk' v) := ⟨c.hkl v, h⟩

structure SInv (c : SortCfg) (t : List SItem) (done : List Rec) : Prop where
  sorted : StrictSorted c.less t
  items : ∀ a ∈ t, 0 < a.count ∧ WF c.dirs c.w a ∧ a.key = c.kf a.vals
  counts : ∀ v, v.length = c.w → treeCount c.less (c.mk' v) t = net done v

/-- what `SInv.items` says of one stored item -/
def ItemOK (c : SortCfg) (a : SItem) : Prop := 0 < a.count ∧ WF c.dirs c.w a ∧ a.key = c.kf a.vals

theorem ItemOK.pos {c : SortCfg} {a : SItem} (h : ItemOK c a) : 0 < a.count := h.1
theorem ItemOK.wf {c : SortCfg} {a : SItem} (h : ItemOK c a) : WF c.dirs c.w a := h.2.1
theorem ItemOK.key {c : SortCfg} {a : SItem} (h : ItemOK c a) : a.key = c.kf a.vals := h.2.2

theorem SInv.item {c : SortCfg} {t : List SItem} {done : List Rec} (inv : SInv c t done) {a : SItem} (ha : a ∈ t) :
    ItemOK c a := inv.items a ha

theorem sinv_init (c : SortCfg) : SInv c [] [] :=
  ⟨List.Pairwise.nil, by simp, by intro v _; rfl⟩

theorem delta_eq_sgn (r : Rec) : delta r.retr = sgn r := rfl

theorem sinv_step (c : SortCfg) (t : List SItem) (done : List Rec) (r : Rec) (inv : SInv c t done)
    (hw : r.vals.length = c.w) (hv : r.retr = true → 0 < net done r.vals) :
    SInv c (bump c.less (c.mk' r.vals) r.retr t) (done ++ [r]) := by
  have S := lessItem_swo c.dirs c.w c.hd
  have hx := c.wf r.vals hw
  have hP : ∀ a ∈ t, WF c.dirs c.w a := fun a ha => (inv.item ha).wf
  have hp : ∀ a ∈ t, 0 < a.count := fun a ha => (inv.item ha).pos
  refine ⟨bump_sorted _ _ S _ _ _ hx hP inv.sorted, ?_, ?_⟩
  · -- the fresh item has count 1; an old one keeps its key and values, and its count stays positive
    exact bump_all (Q := ItemOK c) _ _ _
      (fun _ => ⟨Int.one_pos, hx, rfl⟩) (fun y hy h3 => ⟨h3, hy.wf, hy.key⟩) t inv.items
  · intro v hvl
    have hr : r.retr = true → 0 < treeCount c.less (c.mk' r.vals) t := by
      intro h; rw [inv.counts _ hw]; exact hv h
    rw [treeCount_bump _ _ S _ _ _ hx hP inv.sorted hp hr _ (c.wf v hvl), inv.counts v hvl]
    have e : eqv (lessItem c.dirs) (c.mk' v) (c.mk' r.vals) = rowEq v r.vals :=
      eqv_iff_rowEq c.dirs c.w c.hd c.kf c.hk (c.mk' v) (c.mk' r.vals) (c.wf v hvl) hx rfl rfl
    rw [e, net_append, net, net, Int.add_zero, weight_eq]
    simp only [rowEq_comm v r.vals, delta_eq_sgn]

theorem cnt_replicate (n : Nat) (v y : Row) : cnt (List.replicate n v) y = if rowEq v y then (n : Int) else 0 := by
  induction n with
  | zero => simp [cnt]
  | succ n ih => simp only [List.replicate_succ, cnt, ih]; split <;> simp <;> omega

theorem cnt_treeRows (c : SortCfg) (t : List SItem)
    (hi : ∀ a ∈ t, ItemOK c a) (v : Row) (hv : v.length = c.w) :
    cnt (treeRows t) v = classCount c.less (c.mk' v) t := by
  induction t with
  | nil => rfl
  | cons y ys ih =>
    have hy := hi y List.mem_cons_self
    have e : eqv (lessItem c.dirs) (c.mk' v) y = rowEq v y.vals :=
      eqv_iff_rowEq c.dirs c.w c.hd c.kf c.hk (c.mk' v) y (c.wf v hv) hy.wf rfl hy.key
    rw [treeRows, List.flatMap_cons, cnt_append, ← treeRows, itemRows, cnt_replicate, ih fun a ha => hi a (List.mem_cons_of_mem _ ha), classCount, e,
      rowEq_comm, Int.toNat_of_nonneg (Int.le_of_lt hy.pos)]

theorem mem_treeRows {t : List SItem} {x : Row} (h : x ∈ treeRows t) : ∃ a ∈ t, x = a.vals := by
  simp only [treeRows, List.mem_flatMap, itemRows] at h
  obtain ⟨a, ha, hx⟩ := h
  exact ⟨a, ha, (List.mem_replicate.mp hx).2⟩

theorem treeRows_sorted (c : SortCfg) (t : List SItem) (hs : StrictSorted c.less t)
    (hi : ∀ a ∈ t, ItemOK c a) :
    (treeRows t).Pairwise fun x y => lessRow c.dirs c.kf y x = false := by
  have S := lessItem_swo c.dirs c.w c.hd
  -- on the values of stored items `lessRow` is the node's `Less`
  have L : ∀ a ∈ t, ∀ b ∈ t, lessRow c.dirs c.kf b.vals a.vals = lessItem c.dirs b a := fun a ha b hb =>
    (S.ext_left ⟨c.kf b.vals, b.vals, 0⟩ b _ (hi b hb).key.symm rfl).trans
      (S.ext_right ⟨c.kf a.vals, a.vals, 0⟩ a b (hi a ha).key.symm rfl)
  rw [treeRows, List.pairwise_flatMap]
  refine ⟨fun a ha => ?_, hs.imp_of_mem fun {a b} ha hb hab x hx y hy => ?_⟩
  · rw [itemRows, List.pairwise_replicate, L a ha a ha]
    exact .inr (S.irrefl a (hi a ha).wf)
  · rw [(List.mem_replicate.mp hx).2, (List.mem_replicate.mp hy).2, L a ha b hb]
    cases hba : lessItem c.dirs b a
    · rfl
    · have := S.trans a b a (hi a ha).wf (hi b hb).wf (hi a ha).wf hab hba
      rw [S.irrefl a (hi a ha).wf] at this; cases this

/-- `hlim` excludes the pruning branch of the callback (`DeleteMax` once the tree is longer than the limit, taken only when
    the input has no retractions); that branch is covered by the correspondence run only -/
theorem order_onMsg_data (c : SortCfg) (limit : Option Int) (noRetr : Bool) (hlim : limit = none ∨ noRetr = false)
    (t : List SItem) (r : Rec) :
    (orderOp c.dirs (fun x => .ok (c.kf x)) limit noRetr).onMsg t (.data r) =
      (bump c.less (c.mk' r.vals) r.retr t, [], none) := by
  rcases hlim with h | h
  · subst h; rfl
  · subst h
    cases limit with
    | none => rfl
    | some n => simp [orderOp, SortCfg.mk']

theorem order_run (c : SortCfg) (limit : Option Int) (noRetr : Bool) (hlim : limit = none ∨ noRetr = false)
    (ms : List Msg) (hv : ValidLog (recs ms)) (hw : ∀ r ∈ recs ms, r.vals.length = c.w) :
    ∃ t', SInv c t' (recs ms) ∧
      (orderOp c.dirs (fun x => .ok (c.kf x)) limit noRetr).run ms = ((takeOpt limit (treeRows t')).map addRec, none) := by
  refine ⟨_, foldl_inv (Q := fun r => r.vals.length = c.w)
    (fun t done r inv hwr hv => sinv_step c t done r inv hwr (retr_present_of_valid hv))
    (recs ms) [] [] (sinv_init c) hw hv, ?_⟩
  rw [Op.run, runFrom_collect _ (fun t r => bump c.less (c.mk' r.vals) r.retr t) (fun _ => [])
    (fun _ _ => rfl) (order_onMsg_data c limit noRetr hlim), List.flatMap_eq_nil_iff.mpr fun _ _ => rfl]
  rfl

theorem printer_onMsg_data (c : SortCfg) (limit : Option Int) (noRetr : Bool) (hlim : limit = none ∨ noRetr = false)
    (t : List SItem) (r : Rec) :
    (printerOp c.dirs (fun x => .ok (c.kf x)) limit noRetr).onMsg t (.data r) =
      if r.retr && treeCount c.less (c.mk' r.vals) t == 0 then (t, [], some .panic)
      else (bump c.less (c.mk' r.vals) r.retr t, [], none) := by
  rcases hlim with h | h
  · subst h; rfl
  · subst h
    cases limit with
    | none => rfl
    | some n => simp [printerOp, SortCfg.mk']

/-- the batch printer: on a valid changelog it ends with the sorted table; otherwise it panics
    ("received retraction before value") — the executable form of `valid_out` -/
theorem printer_runFrom (c : SortCfg) (limit : Option Int) (noRetr : Bool) (hlim : limit = none ∨ noRetr = false)
    (ms : List Msg) :
    ∀ (t : List SItem) (done : List Rec), SInv c t done → ValidLog done →
      (∀ r ∈ recs ms, r.vals.length = c.w) →
      (ValidLog (done ++ recs ms) →
        ∃ t', SInv c t' (done ++ recs ms) ∧
          (printerOp c.dirs (fun x => .ok (c.kf x)) limit noRetr).runFrom t ms false =
            ((takeOpt limit (treeRows t')).map addRec, none)) ∧
      (¬ ValidLog (done ++ recs ms) →
        (printerOp c.dirs (fun x => .ok (c.kf x)) limit noRetr).runFrom t ms false = ([], some .panic)) := by
  induction ms with
  | nil =>
    intro t done inv hvd _
    rw [recs, List.append_nil]
    exact ⟨fun _ => ⟨t, inv, rfl⟩, fun h => absurd hvd h⟩
  | cons m ms ih =>
    intro t done inv hvd hw
    cases m with
    | wm w =>
      rw [runFrom_cons_silent (rfl : (printerOp c.dirs (fun x => .ok (c.kf x)) limit noRetr).onMsg t (.wm w) = (t, [], none))]
      exact ih t done inv hvd hw
    | data r =>
      have hwr : r.vals.length = c.w := hw r List.mem_cons_self
      have hstep := printer_onMsg_data c limit noRetr hlim t r
      rw [inv.counts _ hwr] at hstep
      rw [show recs (.data r :: ms) = r :: recs ms from rfl, List.append_cons]
      by_cases hok : r.retr = true → 0 < net done r.vals
      · -- the record keeps the changelog valid: the printer goes on
        have hne : (r.retr && net done r.vals == 0) = false := by
          cases hr : r.retr
          · rfl
          · have := hok hr; simp; omega
        rw [hne, if_neg Bool.false_ne_true] at hstep
        rw [runFrom_cons_silent hstep]
        exact ih _ _ (sinv_step c t done r inv hwr hok) (validLog_snoc_of_present hvd r hok)
          fun q hq => hw q (List.mem_cons_of_mem _ hq)
      · -- retraction of an absent row: the printer panics, and the changelog is invalid
        have hbad : (r.retr && net done r.vals == 0) = true := by
          have := validLog_net_nonneg hvd r.vals
          cases hr : r.retr
          · exact absurd (fun h => by rw [hr] at h; cases h) hok
          · -- `hok` fails, so the row is not present
            have hle : net done r.vals ≤ 0 := Int.not_lt.mp fun h => hok fun _ => h
            simp; omega
        rw [hbad, if_pos rfl] at hstep
        rw [runFrom_cons_err hstep]
        exact ⟨fun hv => absurd (fun hr => retr_present_of_valid (validLog_prefix hv) hr) hok, fun _ => rfl⟩

theorem sinv_rows (c : SortCfg) (t : List SItem) (log : List Rec) (inv : SInv c t log)
    (hw : ∀ r ∈ log, r.vals.length = c.w) :
    (treeRows t).Pairwise (fun x y => lessRow c.dirs c.kf y x = false) ∧ ∀ y, cnt (treeRows t) y = net log y := by
  refine ⟨treeRows_sorted c t inv.sorted inv.items, ?_⟩
  intro y
  by_cases hy : y.length = c.w
  · rw [cnt_treeRows c t inv.items y hy, ← treeCount_eq_classCount (lessItem_swo c.dirs c.w c.hd) (c.wf y hy)
      (fun a ha => (inv.item ha).wf) inv.sorted, inv.counts y hy]
  · -- rows of another width occur neither in the log nor in the tree
    rw [net_eq_zero log y fun r hr => rowEq_of_length_ne (by rw [hw r hr]; exact fun h => hy h.symm)]
    refine cnt_eq_zero _ y fun x hx => rowEq_of_length_ne ?_
    obtain ⟨a, ha, rfl⟩ := mem_treeRows hx
    rw [(inv.item ha).wf.2]; exact fun h => hy h.symm

theorem recs_map_addRec (l : List Row) : recs (l.map addRec) = adds l := by
  rw [← recs_map_data (adds l), adds, List.map_map]; rfl

end Octo.Ops
