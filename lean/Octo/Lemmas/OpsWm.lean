import Octo.Lemmas.OpsNet
import Octo.Model.OpTime
/-!
  Octo.Lemmas.OpsWm — watermarks and late records (C18): how `Mono` and `NoLate` pass to sublists, along `++` and
  to a batch of records.
-/
namespace Octo.Ops
open Octo

theorem wms_sublist {l l' : List Msg} (h : l'.Sublist l) : (wms l').Sublist (wms l) := by
  induction h with
  | slnil => exact List.Sublist.slnil
  | cons a _ ih => cases a <;> simp only [wms] <;> first | exact ih | exact List.Sublist.cons _ ih
  | cons_cons a _ ih => cases a <;> simp only [wms] <;> first | exact ih | exact List.Sublist.cons_cons _ ih

theorem noLateFrom_of_subset (ms : List Msg) : ∀ {s s' : List Int}, (∀ w ∈ s', w ∈ s) → NoLateFrom s ms → NoLateFrom s' ms := by
  induction ms with
  | nil => intro _ _ _ _; trivial
  | cons m ms ih =>
    intro s s' h hn
    cases m with
    | wm t =>
      simp only [NoLateFrom] at *
      exact ih (List.cons_subset_cons t h) hn
    | data r =>
      simp only [NoLateFrom] at *
      exact ⟨fun e he w hw => hn.1 e he w (h w hw), ih h hn.2⟩

theorem noLateFrom_sublist {l l' : List Msg} (h : l'.Sublist l) : ∀ {s : List Int}, NoLateFrom s l → NoLateFrom s l' := by
  induction h with
  | slnil => intro _ _; trivial
  | cons a _ ih =>
    intro s hn
    cases a with
    | wm t => simp only [NoLateFrom] at hn; exact noLateFrom_of_subset _ (fun w hw => List.mem_cons_of_mem _ hw) (ih hn)
    | data r => simp only [NoLateFrom] at hn; exact ih hn.2
  | cons_cons a _ ih =>
    intro s hn
    cases a with
    | wm t => simp only [NoLateFrom] at *; exact ih hn
    | data r => simp only [NoLateFrom] at *; exact ⟨hn.1, ih hn.2⟩

theorem noLateFrom_append (a b : List Msg) : ∀ (s : List Int),
    NoLateFrom s (a ++ b) ↔ NoLateFrom s a ∧ NoLateFrom ((wms a).reverse ++ s) b := by
  induction a with
  | nil => intro s; simp [NoLateFrom, wms]
  | cons m ms ih =>
    intro s
    cases m with
    | wm t => simp only [List.cons_append, NoLateFrom, ih, wms, List.reverse_cons, List.append_assoc, List.nil_append]
    | data r => simp only [List.cons_append, NoLateFrom, ih, wms, and_assoc]

theorem noLateFrom_data (l : List Rec) (s : List Int) :
    NoLateFrom s (l.map .data) ↔ ∀ r ∈ l, okAfter s r := by
  induction l with
  | nil => simp [NoLateFrom]
  | cons r rs ih => simp [NoLateFrom, ih]

end Octo.Ops
