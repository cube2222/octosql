import Octo.Model.Overload
/-!
  Octo.Lemmas.Overload — the repaired overload resolution wraps every argument in at most one `TypeAssertion`.
-/
namespace Octo.Ovl
open Octo

theorem exactPass_asserts (ds : List Descr) (argTys : List Ty) (r : Resolved) (h : exactPass ds argTys = some r) :
    ∀ a, a ∈ r.asserts → a = [] := by
  unfold exactPass at h
  refine List.foldlRecOn (motive := fun acc => ∀ r, acc = some r → ∀ a, a ∈ r.asserts → a = []) _ _ (b := none)
    (fun _ h => nomatch h) ?_ r h
  intro acc hacc di _ r' hr' a ha
  have hnew : ∀ x ∈ argTys.map (fun _ => ([] : List Ty)), x = [] := fun x hx => by
    obtain ⟨_, _, h⟩ := List.mem_map.1 hx; exact h.symm
  simp only [] at hr'
  split at hr'
  · split at hr'
    · cases hr'; exact hnew a ha
    · exact hacc r' hr' a ha
  · split at hr'
    · exact hacc r' hr' a ha
    · split at hr'
      · cases hr'; exact hnew a ha
      · exact hacc r' hr' a ha

theorem maybePass_asserts (ds : List (Descr × Nat)) (argTys : List Ty) (r : Resolved)
    (h : maybePass ds argTys = some r) : ∀ a, a ∈ r.asserts → a.length ≤ 1 := by
  induction ds with
  | nil => simp [maybePass] at h
  | cons di rest ih =>
    obtain ⟨d, i⟩ := di
    unfold maybePass at h
    split at h
    · injection h with h; subst h
      intro a ha
      simp only [List.mem_map] at ha
      obtain ⟨t, _, ht⟩ := ha
      subst ht
      cases t <;> simp
    · exact ih h

theorem resolve_asserts_le_one (name : String) (argTys : List Ty) (r : Resolved)
    (h : resolve name argTys = some r) : ∀ a, a ∈ r.asserts → a.length ≤ 1 := by
  unfold resolve at h
  split at h
  · rename_i r' he
    injection h with h; subst h
    intro a ha
    rw [exactPass_asserts _ argTys r' he a ha]
    exact Nat.zero_le 1
  · exact maybePass_asserts _ argTys r h

end Octo.Ovl
