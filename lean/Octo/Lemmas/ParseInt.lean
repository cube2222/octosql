import Octo.Spec.NumFuncs
/-!
  Octo.Lemmas.ParseInt — Go's `strconv.ParseInt(s, 10, 64)` (digit loop with the `cutoff` overflow test on a
  wrapping uint64 accumulator) accepts exactly `[+-]?[0-9]+` within the Int64 range; the digits that `FormatInt`
  writes (`natDigits`) denote its argument; a body of at most 18 digits never reaches the range check
  (`parseIntBody_digits`, used for `fastfloat.ParseInt64` in `FilesCsv`).
-/
namespace Octo.Num
open Octo.Spec13

def accDigits (n : Nat) (s : List UInt8) : Nat := s.foldl (fun acc c => acc * 10 + (c.toNat - 48)) n

theorem digitsVal_eq (s : List UInt8) : digitsVal s = accDigits 0 s := by
  unfold digitsVal accDigits; rfl

theorem accDigits_nil (n : Nat) : accDigits n [] = n := rfl
theorem accDigits_cons (n : Nat) (c : UInt8) (cs : List UInt8) :
    accDigits n (c :: cs) = accDigits (n * 10 + (c.toNat - 48)) cs := by
  unfold accDigits; rw [List.foldl_cons]

theorem accDigits_ge (s : List UInt8) : ∀ n, n ≤ accDigits n s := by
  induction s with
  | nil => intro n; exact Nat.le_refl _
  | cons c cs ih =>
    intro n
    rw [accDigits_cons]
    have := ih (n * 10 + (c.toNat - 48))
    omega

theorem accDigits_append (n : Nat) (xs : List UInt8) (c : UInt8) :
    accDigits n (xs ++ [c]) = accDigits n xs * 10 + (c.toNat - 48) := by
  unfold accDigits; rw [List.foldl_append]; rfl

def optOf : Except PErr Nat → Option Nat
  | .ok n => some n
  | .error _ => none

/-- a step of the digit loop reports overflow (by either of Go's two tests) exactly when `n * 10 + d` does not fit a
    uint64 -/
theorem uint_step (n d : Nat) (hd : d ≤ 9) :
    (n ≥ cutoffU ∨ (n * 10 + d) % 2 ^ 64 < n * 10 ∨ (n * 10 + d) % 2 ^ 64 > maxU64) ↔ ¬ n * 10 + d < 2 ^ 64 := by
  unfold cutoffU maxU64; omega

theorem parseUintLoop_spec (s : List UInt8) : ∀ n, n < 2 ^ 64 →
    optOf (parseUintLoop n s) =
      if s.all isDigit = true ∧ accDigits n s < 2 ^ 64 then some (accDigits n s) else none := by
  induction s with
  | nil => intro n hn; rw [if_pos ⟨rfl, hn⟩]; rfl
  | cons c cs ih =>
    intro n hn
    unfold parseUintLoop
    rw [List.all_cons, accDigits_cons]
    have hdig : isDigit c = decide (48 ≤ c.toNat ∧ c.toNat ≤ 57) := by
      unfold isDigit; rw [Bool.decide_and]
    by_cases hd : 48 ≤ c.toNat ∧ c.toNat ≤ 57
    · rw [if_pos hd, hdig, decide_eq_true hd, Bool.true_and]
      have hstep := uint_step n (c.toNat - 48) (by omega)
      simp only []
      by_cases hfit : n * 10 + (c.toNat - 48) < 2 ^ 64
      · rw [if_neg (fun h => hstep.1 (.inl h) hfit), if_neg (fun h => hstep.1 (.inr h) hfit), Nat.mod_eq_of_lt hfit]
        exact ih _ hfit
      · have hbig : ¬ (cs.all isDigit = true ∧ accDigits (n * 10 + (c.toNat - 48)) cs < 2 ^ 64) :=
          fun h => hfit (Nat.lt_of_le_of_lt (accDigits_ge cs _) h.2)
        rw [if_neg hbig]
        -- one of the two tests reports the range error
        split
        · rfl
        · rename_i h1
          split
          · rfl
          · rename_i h2; exact absurd (hstep.2 hfit) (fun h => h.elim h1 h2)
    · rw [if_neg hd, hdig, decide_eq_false hd, Bool.false_and, if_neg (fun h => Bool.noConfusion h.1)]; rfl

theorem parseUint_spec (s : List UInt8) :
    optOf (parseUint s) =
      if s ≠ [] ∧ s.all isDigit = true ∧ digitsVal s < 2 ^ 64 then some (digitsVal s) else none := by
  cases s with
  | nil => simp [parseUint, optOf]
  | cons c cs =>
    unfold parseUint
    rw [parseUintLoop_spec _ 0 (by decide), digitsVal_eq]
    simp

theorem parseIntBody_spec (neg : Bool) (body : List UInt8) :
    parseIntBody neg body =
      if body.isEmpty ∨ body.all isDigit = false then none
      else
        let v : Int := if neg then -(digitsVal body : Int) else (digitsVal body : Int)
        if minI64 ≤ v ∧ v ≤ maxI64 then some v else none := by
  -- either error of `ParseUint` makes `ParseInt` fail
  have hb : parseIntBody neg body = (optOf (parseUint body)).bind fun un =>
      if !neg ∧ un ≥ 2 ^ 63 then none else if neg ∧ un > 2 ^ 63 then none
      else some (if neg then -(un : Int) else (un : Int)) := by
    unfold parseIntBody
    cases parseUint body with
    | error e => cases e <;> rfl
    | ok un => rfl
  rw [hb, parseUint_spec]
  unfold minI64 maxI64
  by_cases h1 : body.isEmpty ∨ body.all isDigit = false
  · rw [if_pos h1, if_neg fun hc => h1.elim (fun he => hc.1 (List.isEmpty_iff.1 he))
      (fun hf => Bool.noConfusion (hc.2.1.symm.trans hf))]
    rfl
  · have hne : body ≠ [] := fun hb => h1 (.inl (List.isEmpty_iff.2 hb))
    have hall := (Bool.eq_false_or_eq_true (body.all isDigit)).resolve_right fun hf => h1 (.inr hf)
    rw [if_neg h1]
    by_cases hlt : digitsVal body < 2 ^ 64
    · rw [if_pos ⟨hne, hall, hlt⟩, Option.bind_some]
      cases neg
      · simp only [Bool.not_false, true_and, Bool.false_eq_true, false_and, if_false]
        by_cases hb : digitsVal body ≥ 2 ^ 63
        · rw [if_pos hb, if_neg]; omega
        · rw [if_neg hb, if_pos]; omega
      · simp only [Bool.not_true, Bool.false_eq_true, false_and, if_false, true_and, if_true]
        by_cases hb : digitsVal body > 2 ^ 63
        · rw [if_pos hb, if_neg]; omega
        · rw [if_neg hb, if_pos]; omega
    · -- a digit string beyond the uint64 range is beyond the int64 range
      rw [if_neg fun hc => hlt hc.2.2, Option.bind_none]
      cases neg <;> simp only [if_true, if_false, Bool.false_eq_true] <;> rw [if_neg] <;> omega

theorem parseInt_eq_body (s : List UInt8) : parseInt s = parseIntBody (signBody s).1 (signBody s).2 := by
  cases s with
  | nil => simp [parseInt, signBody, parseIntBody, parseUint]
  | cons c rest =>
    unfold parseInt signBody
    by_cases h45 : c = 45
    · subst h45; simp
    · by_cases h43 : c = 43
      · subst h43; simp
      · have e45 : (c == 45) = false := by simp [h45]
        have e43 : (c == 43) = false := by simp [h43]
        simp [e45, e43, h45, h43]

theorem parseInt_eq_spec (s : List UInt8) : parseInt s = parseIntSpec s := by
  rw [parseInt_eq_body, parseIntBody_spec]; rfl

theorem parseInt_minus (rest : List UInt8) : parseInt (45 :: rest) = parseIntBody true rest := by
  rw [parseInt_eq_body]; rfl

theorem parseInt_plain (c : UInt8) (rest : List UInt8) (h43 : c ≠ 43) (h45 : c ≠ 45) :
    parseInt (c :: rest) = parseIntBody false (c :: rest) := by
  rw [parseInt_eq_body, signBody, if_neg h45, if_neg h43]

theorem accDigits_lt (s : List UInt8) : ∀ (n : Nat), s.all isDigit = true → accDigits n s < (n + 1) * 10 ^ s.length := by
  induction s with
  | nil => intro n _; simp [accDigits_nil]
  | cons c cs ih =>
    intro n h
    simp only [List.all_cons, Bool.and_eq_true] at h
    rw [accDigits_cons]
    have := ih (n * 10 + (c.toNat - 48)) h.2
    have hd : c.toNat - 48 ≤ 9 := by
      have := h.1; simp only [isDigit, Bool.and_eq_true, decide_eq_true_eq] at this; omega
    simp only [List.length_cons, Nat.pow_succ]
    calc accDigits (n * 10 + (c.toNat - 48)) cs < (n * 10 + (c.toNat - 48) + 1) * 10 ^ cs.length := this
      _ ≤ ((n + 1) * 10) * 10 ^ cs.length := Nat.mul_le_mul_right _ (by omega)
      _ = (n + 1) * (10 ^ cs.length * 10) := by rw [Nat.mul_assoc, Nat.mul_comm 10]

theorem parseIntBody_nondigit (neg : Bool) (body : List UInt8) (h : body.all isDigit = false) :
    parseIntBody neg body = none := by
  rw [parseIntBody_spec]; simp [h]

theorem parseIntBody_digits (neg : Bool) (body : List UInt8) (hne : body ≠ []) (h : body.all isDigit = true)
    (hl : body.length ≤ 18) :
    parseIntBody neg body = some (if neg then -((accDigits 0 body : Nat) : Int) else ((accDigits 0 body : Nat) : Int)) := by
  rw [parseIntBody_spec]
  have h1 : ¬ (body.isEmpty ∨ body.all isDigit = false) := by
    simp [h]; exact hne
  rw [if_neg h1]
  simp only [digitsVal_eq]
  -- at most 18 digits denote a number below 10^18 < 2^63, so the range check of `ParseInt` cannot fire: this is why
  -- `fastfloat.ParseInt64` may skip it and falls back to `strconv` only from the 19th digit on (`i > 18`)
  have hb := accDigits_lt body 0 h
  have hp : (10 : Nat) ^ body.length ≤ 10 ^ 18 := Nat.pow_le_pow_right (by omega) hl
  rw [if_pos]
  unfold minI64 maxI64
  cases neg <;> simp <;> omega

theorem digit_spec (k : Nat) (h : k < 10) :
    isDigit (UInt8.ofNat (48 + k)) = true ∧ (UInt8.ofNat (48 + k)).toNat - 48 = k := by
  unfold isDigit
  rw [UInt8.toNat_ofNat', Nat.mod_eq_of_lt (by omega), Nat.add_sub_cancel_left]
  exact ⟨by rw [Bool.and_eq_true, decide_eq_true_eq, decide_eq_true_eq]; omega, rfl⟩

theorem natDigitsF_spec : ∀ fuel n, n < fuel →
    (natDigitsF fuel n).all isDigit = true ∧ accDigits 0 (natDigitsF fuel n) = n ∧ natDigitsF fuel n ≠ []
  | 0, _, h => absurd h (Nat.not_lt_zero _)
  | f + 1, n, hn => by
    unfold natDigitsF
    by_cases h10 : n < 10
    · rw [if_pos h10]
      obtain ⟨hd, hv⟩ := digit_spec n h10
      exact ⟨by rw [List.all_cons, hd]; rfl, by rw [accDigits_cons, accDigits_nil, hv, Nat.zero_mul, Nat.zero_add],
        List.cons_ne_nil _ _⟩
    · rw [if_neg h10]
      obtain ⟨h1, h2, _⟩ := natDigitsF_spec f (n / 10) (by omega)
      obtain ⟨hd, hv⟩ := digit_spec (n % 10) (Nat.mod_lt _ (by decide))
      exact ⟨by rw [List.all_append, h1, List.all_cons, hd]; rfl, by rw [accDigits_append, h2, hv, Nat.div_add_mod'],
        fun e => List.cons_ne_nil _ _ (List.append_eq_nil_iff.1 e).2⟩

theorem natDigits_spec (n : Nat) :
    (natDigits n).all isDigit = true ∧ digitsVal (natDigits n) = n ∧ natDigits n ≠ [] :=
  natDigitsF_spec (n + 1) n (Nat.lt_succ_self n)

theorem signBody_of_digits (s : List UInt8) (h : s.all isDigit = true) : signBody s = (false, s) := by
  cases s with
  | nil => rfl
  | cons c r =>
    simp only [List.all_cons, Bool.and_eq_true, isDigit, decide_eq_true_eq] at h
    have h45 : c ≠ 45 := by intro e; subst e; have := h.1.1; simp at this
    have h43 : c ≠ 43 := by intro e; subst e; have := h.1.1; simp at this
    simp [signBody, h45, h43]

theorem parseIntSpec_digits {s body : List UInt8} (neg : Bool) {v : Int} (hs : signBody s = (neg, body))
    (hne : body ≠ []) (hall : body.all isDigit = true)
    (hv : (if neg then -(digitsVal body : Int) else (digitsVal body : Int)) = v) (hr : InI64 v) :
    parseIntSpec s = some v := by
  have h1 : ¬ (body.isEmpty ∨ body.all isDigit = false) :=
    fun ho => ho.elim (fun he => hne (List.isEmpty_iff.1 he)) (fun hf => by rw [hall] at hf; cases hf)
  unfold parseIntSpec
  rw [hs]
  simp only []
  rw [if_neg h1, hv]
  exact if_pos hr

end Octo.Num
