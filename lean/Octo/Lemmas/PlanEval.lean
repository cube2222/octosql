import Octo.Model.Plan
import Octo.Lemmas.ListFacts
/-!
  Lemmas about expression evaluation in `Octo.Plan`: an expression only sees the variables it uses
  (`eval_congr`), conjunction splitting (`SplitByAnd`) preserves "is TRUE", hereditary safety (`HSafe`).
-/
namespace Octo.Plan
open Octo

theorem lookupRow_append (x : String) (a b : Row) :
    lookupRow x (a ++ b) = match lookupRow x a with | some v => some v | none => lookupRow x b := by
  induction a with
  | nil => simp [lookupRow]
  | cons p a ih =>
    obtain ⟨k, v⟩ := p
    by_cases h : (k == x) = true
    · simp [lookupRow, h]
    · simp [lookupRow, h, ih]

theorem lookupRow_isSome_iff {x : String} : ∀ {a : Row}, (lookupRow x a).isSome = true ↔ x ∈ Row.names a
  | [] => by simp [lookupRow, Row.names]
  | (k, v) :: a => by
    rw [lookupRow, Row.names, List.map_cons, List.mem_cons]
    by_cases hk : k = x
    · simp [hk]
    · rw [if_neg (by simpa using hk)]
      exact lookupRow_isSome_iff.trans ⟨Or.inr, fun h => h.resolve_left (Ne.symm hk)⟩

theorem lookupRow_none_of_not_mem {x : String} {a : Row} (h : x ∉ Row.names a) : lookupRow x a = none :=
  Option.not_isSome_iff_eq_none.mp (mt lookupRow_isSome_iff.mp h)

theorem lookupRow_mem_of_isSome {x : String} {a : Row} (h : (lookupRow x a).isSome = true) : x ∈ Row.names a :=
  lookupRow_isSome_iff.mp h

/-- structural induction on expressions, the arguments of an n-ary node taken as a list -/
theorem PExpr.ind {P : PExpr → Prop} (var : ∀ x l, P (.var x l)) (const : ∀ v, P (.const v))
    (nary : ∀ k args, (∀ e ∈ args, P e) → P (.nary k args)) (unary : ∀ k e, P e → P (.unary k e)) : ∀ e, P e :=
  PExpr.rec (motive_1 := P) (motive_2 := fun es => ∀ e ∈ es, P e) var const nary unary
    (fun _ h => nomatch h) (fun _ _ h hs => List.forall_mem_cons.mpr ⟨h, hs⟩)

theorem evalL_eq_map (ctx : Ctx) : ∀ es : List PExpr, evalL ctx es = es.map (eval ctx)
  | [] => rfl
  | e :: es => by rw [evalL, evalL_eq_map ctx es, List.map_cons]

theorem varsUsedL_eq : ∀ es : List PExpr, varsUsedL es = es.flatMap varsUsed
  | [] => rfl
  | e :: es => by rw [varsUsedL, varsUsedL_eq es, List.flatMap_cons]

theorem splitByAndL_eq : ∀ es : List PExpr, splitByAndL es = es.flatMap splitByAnd
  | [] => rfl
  | e :: es => by rw [splitByAndL, splitByAndL_eq es, List.flatMap_cons]

theorem mem_varsUsedL {x : String} {es : List PExpr} : x ∈ varsUsedL es ↔ ∃ e ∈ es, x ∈ varsUsed e := by
  rw [varsUsedL_eq, List.mem_flatMap]

theorem eval_congr (c1 c2 : Ctx) (e : PExpr) :
    (∀ x ∈ varsUsed e, lookupVar x c1 = lookupVar x c2) → eval c1 e = eval c2 e := by
  induction e using PExpr.ind with
  | var x _ => exact fun h => h x (List.mem_singleton.mpr rfl)
  | const _ => exact fun _ => rfl
  | nary k args ih =>
    intro h
    rw [eval, eval, evalL_eq_map, evalL_eq_map]
    exact congrArg _ (List.map_congr_left fun e he => ih e he fun x hx => h x (mem_varsUsedL.mpr ⟨e, he, hx⟩))
  | unary k e ih =>
    intro h
    rw [eval, eval, ih h]

theorem evalL_congr (c1 c2 : Ctx) (es : List PExpr) (h : ∀ x ∈ varsUsedL es, lookupVar x c1 = lookupVar x c2) :
    evalL c1 es = evalL c2 es := by
  rw [evalL_eq_map, evalL_eq_map]
  exact List.map_congr_left fun e he => eval_congr c1 c2 e fun x hx => h x (mem_varsUsedL.mpr ⟨e, he, hx⟩)

theorem lookupRow_append_left {x : String} {l r : Row} (h : x ∉ Row.names r) : lookupRow x (l ++ r) = lookupRow x l := by
  rw [lookupRow_append, lookupRow_none_of_not_mem h]
  cases lookupRow x l <;> rfl

theorem lookupRow_append_right {x : String} {l r : Row} (h : x ∉ Row.names l) : lookupRow x (l ++ r) = lookupRow x r := by
  rw [lookupRow_append, lookupRow_none_of_not_mem h]

theorem eval_congr_row {r r' : Row} (ctx : Ctx) (e : PExpr) (h : ∀ x ∈ varsUsed e, lookupRow x r = lookupRow x r') :
    eval (r :: ctx) e = eval (r' :: ctx) e :=
  eval_congr _ _ e fun x hx => by rw [lookupVar, lookupVar, h x hx]

theorem evalL_congr_row {r r' : Row} (ctx : Ctx) (es : List PExpr) (h : ∀ x ∈ varsUsedL es, lookupRow x r = lookupRow x r') :
    evalL (r :: ctx) es = evalL (r' :: ctx) es :=
  evalL_congr _ _ es fun x hx => by rw [lookupVar, lookupVar, h x hx]

theorem eval_append_left (l r : Row) (ctx : Ctx) (e : PExpr) (h : ∀ x ∈ varsUsed e, x ∉ Row.names r) :
    eval ((l ++ r) :: ctx) e = eval (l :: ctx) e :=
  eval_congr_row ctx e fun x hx => lookupRow_append_left (h x hx)

theorem eval_append_right (l r : Row) (ctx : Ctx) (e : PExpr) (h : ∀ x ∈ varsUsed e, x ∉ Row.names l) :
    eval ((l ++ r) :: ctx) e = eval (r :: ctx) e :=
  eval_congr_row ctx e fun x hx => lookupRow_append_right (h x hx)

theorem evalL_append (ctx : Ctx) (a b : List PExpr) : evalL ctx (a ++ b) = evalL ctx a ++ evalL ctx b := by
  simp only [evalL_eq_map, List.map_append]

theorem sequence_eq_mapM : ∀ (rs : List (Option Value)), sequence rs = rs.mapM id
  | [] => rfl
  | none :: _ => rfl
  | some v :: rs => by rw [sequence, List.mapM_cons, sequence_eq_mapM rs]; cases rs.mapM id <;> rfl

theorem sequence_eq_some {rs : List (Option Value)} {vs : List Value} : sequence rs = some vs ↔ rs = vs.map some := by
  rw [sequence_eq_mapM, List.mapM_eq_some_iff, List.map_id]

theorem sequence_isSome {rs : List (Option Value)} (h : ∀ r ∈ rs, r.isSome = true) : (sequence rs).isSome = true :=
  sequence_eq_mapM rs ▸ List.mapM_isSome h

theorem sequence_length {rs : List (Option Value)} {vs : List Value} (h : sequence rs = some vs) :
    vs.length = rs.length := by
  rw [sequence_eq_some.mp h, List.length_map]

theorem evalArgs_length {ctx : Ctx} {es : List PExpr} {vs : List Value} (h : evalArgs ctx es = some vs) :
    vs.length = es.length := by
  unfold evalArgs at h
  rw [sequence_length h, evalL_eq_map, List.length_map]

theorem evalArgs_append_left (l r : Row) (ctx : Ctx) (es : List PExpr) (h : ∀ x ∈ varsUsedL es, x ∉ Row.names r) :
    evalArgs ((l ++ r) :: ctx) es = evalArgs (l :: ctx) es :=
  congrArg sequence (evalL_congr_row ctx es fun x hx => lookupRow_append_left (h x hx))

theorem nameMatchesField_self (x : String) : nameMatchesField x x = true := by
  simp [nameMatchesField]

theorem not_mem_of_not_uses {fields vars : List String} (h : usesVariablesFromSchema fields vars = false) :
    ∀ x ∈ vars, x ∉ fields := by
  intro x hx hf
  have : usesVariablesFromSchema fields vars = true := by
    simp only [usesVariablesFromSchema, List.any_eq_true]
    exact ⟨x, hx, x, hf, nameMatchesField_self x⟩
  rw [h] at this
  cases this

def isTrueV : Option Value → Bool
  | some (.bool true) => true
  | _ => false

theorem andLoop_true (ns : Bool) : ∀ rs : List (Option Value),
    isTrueV (andLoop ns rs) = (!ns && rs.all isTrueV)
  | [] => by cases ns <;> simp [andLoop, isTrueV]
  | none :: rs => by simp [andLoop, isTrueV]
  | some v :: rs => by
    cases v with
    | null =>
      have h : andLoop ns (some Value.null :: rs) = andLoop true rs := by simp [andLoop]
      rw [h, andLoop_true true rs]
      simp [isTrueV]
    | bool b =>
      cases b
      · simp [andLoop, isTrueV]
      · have h : andLoop ns (some (Value.bool true) :: rs) = andLoop ns rs := by simp [andLoop]
        rw [h, andLoop_true ns rs]
        simp [isTrueV]
    | _ => simp [andLoop, isTrueV]

theorem isTrue_and (ctx : Ctx) (args : List PExpr) :
    isTrueV (eval ctx (.nary .and args)) = (evalL ctx args).all isTrueV := by
  simp [eval, combineN, andLoop_true]

theorem all_evalL (ctx : Ctx) (f : Option Value → Bool) (es : List PExpr) :
    (evalL ctx es).all f = es.all fun e => f (eval ctx e) := by
  rw [evalL_eq_map, List.all_map]
  rfl

theorem isTrue_split (ctx : Ctx) (e : PExpr) : isTrueV (eval ctx e) = (evalL ctx (splitByAnd e)).all isTrueV := by
  induction e using PExpr.ind with
  | nary k args ih =>
    cases k with
    | and =>
      rw [isTrue_and, splitByAnd, splitByAndL_eq, all_evalL, all_evalL, List.all_flatMap, Bool.eq_iff_iff, List.all_eq_true,
        List.all_eq_true]
      exact forall₂_congr fun e he => by rw [ih e he, all_evalL]
    | _ => simp [splitByAnd, evalL]
  | _ => simp [splitByAnd, evalL]

theorem isTrue_splitL (ctx : Ctx) : ∀ es : List PExpr,
    (evalL ctx es).all isTrueV = (evalL ctx (splitByAndL es)).all isTrueV := by
  intro es
  rw [splitByAndL_eq, all_evalL, all_evalL, List.all_flatMap]
  exact List.all_congr rfl fun e => by rw [isTrue_split, all_evalL]

/-- a property handed from a conjunction to its arguments holds of every conjunct `SplitByAnd` finds -/
theorem splitByAnd_forall {Q : PExpr → Prop} (hand : ∀ args, Q (.nary .and args) → ∀ a ∈ args, Q a) :
    ∀ {e : PExpr}, Q e → ∀ c ∈ splitByAnd e, Q c := by
  intro e
  induction e using PExpr.ind with
  | nary k args ih =>
    cases k with
    | and =>
      intro h c hc
      rw [splitByAnd, splitByAndL_eq] at hc
      obtain ⟨a, ha, hc⟩ := List.mem_flatMap.mp hc
      exact ih a ha (hand args h a ha) c hc
    | _ => exact fun h c hc => List.mem_singleton.mp hc ▸ h
  | _ => exact fun h c hc => List.mem_singleton.mp hc ▸ h

theorem vars_splitL : ∀ (es : List PExpr) (x : String), x ∈ varsUsedL (splitByAndL es) → x ∈ varsUsedL es := by
  intro es x h
  rw [splitByAndL_eq] at h
  obtain ⟨c, hc, hx⟩ := mem_varsUsedL.mp h
  obtain ⟨e, he, hc⟩ := List.mem_flatMap.mp hc
  exact mem_varsUsedL.mpr ⟨e, he, splitByAnd_forall (Q := fun c => ∀ x ∈ varsUsed c, x ∈ varsUsed e)
    (fun _ h a ha x hx => h x (mem_varsUsedL.mpr ⟨a, ha, hx⟩)) (fun _ hx => hx) c hc x hx⟩

def Binds (scope : List String) (cx : Ctx) : Prop := ∀ x ∈ scope, (lookupVar x cx).isSome = true

/-- no runtime error: whenever its variables are bound, the expression has a value -/
def SafeE (e : PExpr) : Prop :=
  ∀ cx : Ctx, (∀ x ∈ varsUsed e, (lookupVar x cx).isSome = true) → (eval cx e).isSome = true

/-- `=` has the two arguments its descriptor declares (the join-key rule reads `Arguments[0]` and `Arguments[1]`) -/
def ArityOK : NK → List PExpr → Prop
  | .call fn, args => fn = "=" → args.length = 2
  | _, _ => True

mutual
/-- hereditarily safe: the expression and all its subexpressions cannot fail (and are well-formed calls) -/
def HSafe : PExpr → Prop
  | .var _ _ => True
  | .const _ => True
  | .nary k args => SafeE (.nary k args) ∧ ArityOK k args ∧ HSafeL args
  | .unary k e => SafeE (.unary k e) ∧ HSafe e
def HSafeL : List PExpr → Prop
  | [] => True
  | e :: es => HSafe e ∧ HSafeL es
end

theorem hsafeL_iff : ∀ {es : List PExpr}, HSafeL es ↔ ∀ e ∈ es, HSafe e
  | [] => by simp [HSafeL]
  | e :: es => by simp [HSafeL, hsafeL_iff (es := es)]

theorem HSafe.safe : ∀ {e : PExpr}, HSafe e → SafeE e
  | .var x _, _ => by
    intro cx h
    simp only [eval]
    exact h x (by simp [varsUsed])
  | .const _, _ => by intro cx _; simp [eval]
  | .nary _ _, h => h.1
  | .unary _ _, h => h.1

theorem andLoop_isSome (ns : Bool) : ∀ rs : List (Option Value), (∀ r ∈ rs, r.isSome = true) → (andLoop ns rs).isSome = true
  | [], _ => by simp [andLoop]
  | none :: _, h => by simpa using h none (by simp)
  | some v :: rs, h => by
    have ih := fun ns => andLoop_isSome ns rs (fun r hr => h r (by simp [hr]))
    cases v with
    | null => simpa [andLoop] using ih true
    | bool b =>
      cases b
      · simp [andLoop]
      · simpa [andLoop] using ih ns
    | _ => simp [andLoop]

theorem mem_evalL {ctx : Ctx} {r : Option Value} {es : List PExpr} (h : r ∈ evalL ctx es) : ∃ e ∈ es, r = eval ctx e := by
  rw [evalL_eq_map] at h
  obtain ⟨e, he, rfl⟩ := List.mem_map.mp h
  exact ⟨e, he, rfl⟩

theorem hsafe_and {cs : List PExpr} (h : HSafeL cs) : HSafe (.nary .and cs) := by
  refine ⟨?_, trivial, h⟩
  intro cx hb
  simp only [eval, combineN]
  apply andLoop_isSome
  intro r hr
  obtain ⟨e, he, rfl⟩ := mem_evalL hr
  exact (hsafeL_iff.mp h e he).safe cx (fun x hx => hb x (by
    simp only [varsUsed]
    exact mem_varsUsedL.mpr ⟨e, he, hx⟩))

theorem hsafe_splitL : ∀ {es : List PExpr}, HSafeL es → HSafeL (splitByAndL es) := by
  intro es h
  rw [splitByAndL_eq, hsafeL_iff]
  intro c hc
  obtain ⟨e, he, hc⟩ := List.mem_flatMap.mp hc
  exact splitByAnd_forall (fun _ h => hsafeL_iff.mp h.2.2) (hsafeL_iff.mp h e he) c hc

theorem eval_isSome {scope : List String} {cx : Ctx} {e : PExpr}
    (hs : HSafe e) (hsc : ∀ x ∈ varsUsed e, x ∈ scope) (hb : Binds scope cx) : (eval cx e).isSome = true :=
  hs.safe cx (fun x hx => hb x (hsc x hx))

theorem binds_cons {fs outer : List String} {r : Row} {ctx : Ctx} (hn : Row.names r = fs) (hc : Binds outer ctx) :
    Binds (fs ++ outer) (r :: ctx) := by
  intro x hx
  rw [lookupVar]
  cases hl : lookupRow x r with
  | some v => rfl
  | none =>
    refine hc x ((List.mem_append.mp hx).resolve_left fun hm => ?_)
    have := lookupRow_isSome_iff.mpr (hn.symm ▸ hm)
    rw [hl] at this
    cases this

end Octo.Plan
