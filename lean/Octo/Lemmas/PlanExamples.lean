import Octo.Lemmas.PlanRemoveRule
/-!
  Concrete plans used by `Octo.Props.C04`: the witness that refutes the full statement and the plans that show the
  hypotheses of the soundness theorems are satisfiable by plans on which the rules fire.
-/
namespace Octo.Plan
open Octo

/-! Running a rule or the optimizer on a concrete plan is stated through `decide`, so that `decide +kernel` evaluates
  once, in the kernel, where `⟨_, rfl⟩` would have the elaborator evaluate as well. -/

theorem exists_ok_of_decide {r : OptRes} {P : Plan → Prop} [DecidablePred P]
    (h : (match r with | .ok q => decide (P q) | _ => false) = true) : ∃ q, r = .ok q ∧ P q := by
  cases r with
  | ok q => exact ⟨q, rfl, of_decide_eq_true h⟩
  | _ => cases h

theorem exists_changed {r : Option (Plan × Bool)} (h : r.map Prod.snd = some true) :
    ∃ q, r = some (q, true) := by
  cases r with
  | none => cases h
  | some qc =>
    obtain ⟨q, c⟩ := qc
    simp only [Option.map_some, Option.some.injEq] at h
    subst h
    exact ⟨q, rfl⟩

namespace Examples

/-! ### the refutation witness: `SELECT a FROM (SELECT b, a, k FROM t ORDER BY k LIMIT 1) q` -/

def tS : Schema := { fields := ["t.a_0", "t.b_0", "t.k_0"], timeField := -1, noRetr := true }
def mS : Schema := { fields := ["t.b_1", "t.a_1", "t.k_1"], timeField := -1, noRetr := true }
def qS : Schema := { fields := ["q.a_0"], timeField := -1, noRetr := true }
def tMap : List (String × String) := [("t.a_0", "a"), ("t.b_0", "b"), ("t.k_0", "k")]
def ds0 : Plan := .leaf tS (.ds "t.csv" "t" "none" [] tMap)

def p0 : Plan :=
  .un qS (.map [.var "t.a_1" true])
    (.un mS (.ost [.var "t.k_1" true] [1] (some (.const (.int 1))))
      (.un mS (.map [.var "t.b_0" true, .var "t.a_0" true, .var "t.k_0" true]) ds0))

/-- what `optimize` makes of it: `b` is gone from the inner Map, the ORDER BY node and the datasource -/
def p1 : Plan :=
  .un qS (.map [.var "t.a_1" true])
    (.un { mS with fields := ["t.a_1", "t.k_1"] } (.ost [.var "t.k_1" true] [1] (some (.const (.int 1))))
      (.un { mS with fields := ["t.a_1", "t.k_1"] } (.map [.var "t.a_0" true, .var "t.k_0" true])
        (.leaf { tS with fields := ["t.a_0", "t.k_0"] } (.ds "t.csv" "t" "none" [] tMap))))

def db0 : Db := fun n =>
  if n == "t.csv" then
    some [[("a", .int 2), ("b", .int 1), ("k", .int 0)], [("a", .int 1), ("b", .int 2), ("k", .int 0)]]
  else none

theorem p0_optimized : optimize 64 p0 = .ok p1 := by rw [optimize_eq]; rfl
theorem p0_result : denote db0 p0 [] = some [[("q.a_0", .int 2)]] := by rfl
theorem p1_result : denote db0 p1 [] = some [[("q.a_0", .int 1)]] := by rfl

theorem ds0_good : Good db0 ds0 [] := good_ds (by decide) rfl rfl

theorem p0_wellFormed : Good db0 p0 [] :=
  have hm : mS.fields.Nodup := by decide
  ⟨by decide, ⟨hm, ⟨hm, ds0_good, exprsOK_vars (xs := ["t.b_0", "t.a_0", "t.k_0"]) (by decide), rfl⟩, rfl,
      exprsOK_vars (xs := ["t.k_1"]) (by decide), fun _ he => Option.some.inj he ▸ exprOK_const⟩,
    exprsOK_vars (xs := ["t.a_1"]) (by decide), rfl⟩

/-! ### an unused Map field that is removable: `SELECT a FROM (SELECT a, b FROM t) q` -/

def mS2 : Schema := { fields := ["t.a_1", "t.b_1"], timeField := -1, noRetr := true }

def pM : Plan :=
  .un qS (.map [.var "t.a_1" true])
    (.un mS2 (.map [.var "t.a_0" true, .var "t.b_0" true]) ds0)

theorem pM_wellFormed : Good db0 pM [] :=
  ⟨by decide, ⟨by decide, ds0_good, exprsOK_vars (xs := ["t.a_0", "t.b_0"]) (by decide), rfl⟩,
    exprsOK_vars (xs := ["t.a_1"]) (by decide), rfl⟩

theorem pM_removable : MapRemovable pM :=
  fun f _ => ⟨by simp [Removable, pM, ds0], by simp [NoGroupByHas, pM, ds0]⟩

/-! ### a join with left-only, right-only and key conjuncts:
    `SELECT … FROM t JOIN u ON t.a = u.a WHERE t.b = 1 AND u.c = 2` -/

def uS : Schema := { fields := ["u.a_0", "u.c_0"], timeField := -1, noRetr := true }
def jS : Schema := { fields := ["t.a_0", "t.b_0", "t.k_0", "u.a_0", "u.c_0"], timeField := -1, noRetr := true }
def dsU : Plan := .leaf uS (.ds "u.csv" "u" "none" [] [("u.a_0", "a"), ("u.c_0", "c")])

def predJ : PExpr :=
  .nary .and [.nary (.call "=") [.var "t.a_0" true, .var "u.a_0" true],
              .nary .and [.nary (.call "=") [.var "t.b_0" true, .const (.int 1)],
                          .nary (.call "=") [.var "u.c_0" true, .const (.int 2)]]]

def pJ : Plan := .un jS (.filter predJ) (.bin jS (.sjoin [] []) ds0 dsU)

def dbJ : Db := fun n =>
  if n == "t.csv" then
    some [[("a", .int 1), ("b", .int 1), ("k", .int 0)], [("a", .int 1), ("b", .int 2), ("k", .int 0)],
          [("a", .null), ("b", .int 1), ("k", .int 0)], [("a", .int 3), ("b", .int 1), ("k", .int 5)]]
  else if n == "u.csv" then
    some [[("a", .int 1), ("c", .int 2)], [("a", .int 3), ("c", .int 2)], [("a", .null), ("c", .int 2)],
          [("a", .int 1), ("c", .int 7)]]
  else none

theorem pJ_wellFormed : Good dbJ pJ [] := by
  have hj : jS.fields.Nodup := by decide
  have hv : ∀ x, x ∈ jS.fields → ExprOK (jS.fields ++ []) (.var x true) := fun x hx => exprOK_var (by simpa using hx)
  refine ⟨hj, ⟨hj, good_ds (by decide) rfl rfl, good_ds (by decide) rfl rfl,
    And.intro rfl (And.intro (fun _ he => nomatch he) (And.intro (fun _ he => nomatch he) rfl))⟩,
    And.intro rfl (exprOK_and fun c hc => ?_)⟩
  simp only [List.mem_cons, List.not_mem_nil, or_false] at hc
  rcases hc with rfl | rfl
  · exact exprOK_eq (hv _ (by decide)) (hv _ (by decide))
  · refine exprOK_and fun c hc => ?_
    simp only [List.mem_cons, List.not_mem_nil, or_false] at hc
    rcases hc with rfl | rfl <;> exact exprOK_eq (hv _ (by decide)) exprOK_const

/-- the same join under a projection: `SELECT t.b, u.c FROM …` (unused columns everywhere) -/
def qS2 : Schema := { fields := ["q.b_0", "q.c_0"], timeField := -1, noRetr := true }
def pJ2 : Plan := .un qS2 (.map [.var "t.b_0" true, .var "u.c_0" true]) pJ

theorem pJ2_wellFormed : Good dbJ pJ2 [] :=
  ⟨by decide, pJ_wellFormed, exprsOK_vars (xs := ["t.b_0", "u.c_0"]) (by decide), rfl⟩

theorem pJ2_prunable : Prunable pJ2 := by
  -- no node of `pJ2` restricts removal and none is a group-by: only `NoMapHas` depends on the field
  have hr : ∀ f, Removable f pJ2 := fun f => by simp [Removable, pJ2, pJ, ds0, dsU]
  have hg : ∀ f, NoGroupByHas f pJ2 := fun f => by simp [NoGroupByHas, pJ2, pJ, ds0, dsU]
  refine ⟨fun f _ => ⟨hr f, hg f⟩, fun f hf => ⟨hr f, ?_, hg f⟩, fun f hf => nomatch hf⟩
  have : collectFields allDsFields pJ2 = ["t.a_0", "t.b_0", "t.k_0", "u.a_0", "u.c_0"] := rfl
  rw [this] at hf
  simp only [List.mem_cons, List.not_mem_nil, or_false] at hf
  rcases hf with rfl | rfl | rfl | rfl | rfl <;> simp [NoMapHas, pJ2, pJ, ds0, dsU, qS2]

/-! ### a group-by with unused aggregates: `SELECT k FROM (SELECT k, COUNT(*) AS c, MAX(a) AS m FROM t GROUP BY k) g` -/

def gS : Schema := { fields := ["g.k_0", "g.c_0", "g.m_0"], timeField := -1, noRetr := true }
def qS3 : Schema := { fields := ["q.k_0"], timeField := -1, noRetr := true }
def pG : Plan :=
  .un qS3 (.map [.var "g.k_0" true])
    (.un gS (.groupBy ["count", "max"] [.const (.bool true), .var "t.a_0" true] [.var "t.k_0" true] (-1) "eos") ds0)

theorem pG_wellFormed : Good db0 pG [] := by
  have hes : ExprsOK (ds0.schema.fields ++ []) ([.const (.bool true), .var "t.a_0" true] ++ [.var "t.k_0" true]) := by
    intro e he
    simp only [List.cons_append, List.nil_append, List.mem_cons, List.not_mem_nil, or_false] at he
    rcases he with rfl | rfl | rfl
    · exact exprOK_const
    · exact exprOK_var (by decide)
    · exact exprOK_var (by decide)
  simp only [Good, UnGood, pG]
  refine ⟨by decide, ⟨by decide, ds0_good, hes, by first | rfl | trivial, by first | rfl | trivial, ?_⟩, ?_,
    by first | rfl | trivial⟩
  · intro ctx rows hb
    exact groupByRows_isSome hes rfl (by intro a ha; simp at ha; rcases ha with rfl | rfl <;> simp) hb
  · intro e he
    simp only [List.mem_cons, List.not_mem_nil, or_false] at he
    subst he
    exact exprOK_var (by decide)

theorem pG_prunable : Prunable pG := by
  refine ⟨?_, ?_, ?_⟩
  · intro f hf
    have : collectFields allMapFields pG = ["q.k_0"] := rfl
    rw [this] at hf
    simp only [List.mem_cons, List.not_mem_nil, or_false] at hf
    subst hf
    exact ⟨by simp [Removable, pG, ds0, gS], by simp [NoGroupByHas, pG, ds0, gS]⟩
  · intro f hf
    have : collectFields allDsFields pG = ["t.a_0", "t.b_0", "t.k_0"] := rfl
    rw [this] at hf
    simp only [List.mem_cons, List.not_mem_nil, or_false] at hf
    rcases hf with rfl | rfl | rfl <;>
      exact ⟨by simp [Removable, pG, ds0, gS], by simp [NoMapHas, pG, ds0, qS3], by simp [NoGroupByHas, pG, ds0, gS]⟩
  · intro f hf
    have : collectFields allGbFields pG = ["g.c_0", "g.m_0"] := rfl
    rw [this] at hf
    simp only [List.mem_cons, List.not_mem_nil, or_false] at hf
    rcases hf with rfl | rfl <;>
      exact ⟨by simp [Removable, pG, ds0, gS, tS], by simp [NoMapHas, pG, ds0, qS3]⟩

end Examples
end Octo.Plan
