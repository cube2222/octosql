import Octo.Lemmas.PlanRules
import Octo.Lemmas.Comparator
/-!
  Soundness of `PushDownFilterPredicatesIntoStreamJoinKey`: an equality conjunct whose sides read one join input
  each is TRUE on a joined record exactly when the two key values are non-NULL and `Compare`-equal — what the
  stream join's key matching tests.
-/
namespace Octo.Plan
open Octo

/-- `a` (evaluated on the left record) `=` `b` (evaluated on the right record) is TRUE -/
def eqT (cxl cxr : Ctx) (a b : PExpr) : Bool :=
  match eval cxl a, eval cxr b with
  | some va, some vb => !isNull va && !isNull vb && cmp va vb == 0
  | _, _ => false

theorem applyBin_eq (x y : Value) : Sql.applyBin .eq x y = some (.bool (cmp x y == 0)) := by
  unfold Sql.applyBin
  rfl

theorem applyFn_eq (va vb : Value) :
    applyFn "=" [va, vb] = if isNull va || isNull vb then some .null else some (.bool (cmp va vb == 0)) := by
  simp only [applyFn, String.reduceBEq, Bool.false_eq_true, ↓reduceIte, List.any_cons, List.any_nil,
    Bool.or_false, applyBin_eq]

theorem isTrue_eq_call (cx : Ctx) (a b : PExpr) :
    isTrueV (eval cx (.nary (.call "=") [a, b])) = eqT cx cx a b := by
  simp only [eval, evalL, combineN, eqT]
  cases eval cx a with
  | none => simp [isTrueV, sequence]
  | some va =>
    cases eval cx b with
    | none => simp [isTrueV, sequence]
    | some vb =>
      simp only [sequence, applyFn_eq]
      cases isNull va <;> cases isNull vb <;> cases cmp va vb == 0 <;> rfl

theorem hsafe_eq {a b : PExpr} (ha : HSafe a) (hb : HSafe b) : HSafe (.nary (.call "=") [a, b]) := by
  refine ⟨?_, fun _ => rfl, ha, hb, trivial⟩
  intro cx hbound
  obtain ⟨va, hva⟩ := Option.isSome_iff_exists.mp (ha.safe cx fun x hx => hbound x (by simp [varsUsed, varsUsedL, hx]))
  obtain ⟨vb, hvb⟩ := Option.isSome_iff_exists.mp (hb.safe cx fun x hx => hbound x (by simp [varsUsed, varsUsedL, hx]))
  simp only [eval, evalL, combineN, hva, hvb, sequence, applyFn_eq]
  split <;> rfl

theorem exprOK_eq {scope : List String} {a b : PExpr} (ha : ExprOK scope a) (hb : ExprOK scope b) :
    ExprOK scope (.nary (.call "=") [a, b]) := by
  refine ⟨?_, hsafe_eq ha.safe hb.safe⟩
  intro x hx
  simp only [varsUsed, varsUsedL, List.append_nil, List.mem_append] at hx
  rcases hx with hx | hx
  · exact ha.inScope x hx
  · exact hb.inScope x hx

theorem classifyKey_spec {lf rf : List String} {c : PExpr} {cls : KeyClass} (h : classifyKey lf rf c = some cls) :
    cls = .stay c ∨ ∃ x y rest, c = .nary (.call "=") (x :: y :: rest) ∧
      ((cls = .key x y ∧ usesVariablesFromSchema rf (varsUsed x) = false ∧ usesVariablesFromSchema lf (varsUsed y) = false) ∨
       (cls = .key y x ∧ usesVariablesFromSchema lf (varsUsed x) = false ∧ usesVariablesFromSchema rf (varsUsed y) = false)) := by
  unfold classifyKey at h
  split at h
  · rename_i fn args
    split at h
    · exact .inl (Option.some.inj h).symm
    · rename_i hfn
      obtain rfl : fn = "=" := by simpa using hfn
      split at h
      · rename_i x y rest
        simp only at h
        split at h
        · rename_i hcond
          simp only [Bool.and_eq_true, Bool.not_eq_true'] at hcond
          obtain ⟨⟨⟨_, hfR⟩, hsL⟩, _⟩ := hcond
          exact .inr ⟨x, y, rest, rfl, .inl ⟨(Option.some.inj h).symm, hfR, hsL⟩⟩
        · split at h
          · rename_i hcond
            simp only [Bool.and_eq_true, Bool.not_eq_true'] at hcond
            obtain ⟨⟨⟨hfL, _⟩, _⟩, hsR⟩ := hcond
            exact .inr ⟨x, y, rest, rfl, .inr ⟨(Option.some.inj h).symm, hfL, hsR⟩⟩
          · exact .inl (Option.some.inj h).symm
      · cases h
  · exact .inl (Option.some.inj h).symm

theorem keep_of_key {ctx : Ctx} {lf rf : List String} {c a b : PExpr} {l r : Row}
    (hc : classifyKey lf rf c = some (.key a b)) (hs : HSafe c)
    (hl : Row.names l = lf) (hr : Row.names r = rf) :
    keep ctx c (l ++ r) = eqT (l :: ctx) (r :: ctx) a b := by
  rcases classifyKey_spec hc with h | ⟨x, y, rest, rfl, h⟩
  · cases h
  obtain rfl : rest = [] := List.eq_nil_of_length_eq_zero (by simpa using hs.2.1 rfl)
  simp only [keep, isTrue_eq_call, eqT]
  rcases h with ⟨h, hx, hy⟩ | ⟨h, hx, hy⟩
  · obtain ⟨rfl, rfl⟩ := KeyClass.key.inj h
    rw [eval_left_of_not_uses hr hx, eval_right_of_not_uses hl hy]
  · obtain ⟨rfl, rfl⟩ := KeyClass.key.inj h
    rw [eval_right_of_not_uses hl hx, eval_left_of_not_uses hr hy]
    cases eval (r :: ctx) b with
    | none => cases eval (l :: ctx) a <;> rfl
    | some vb =>
      cases eval (l :: ctx) a with
      | none => rfl
      | some va =>
        simp only
        -- the pair was written `right = left`: `Compare = 0` is symmetric
        rw [cmp_cmpOn.eqv_beq.beq_comm vb va, Bool.and_comm (!isNull vb) (!isNull va)]

theorem stay_of_classify {lf rf : List String} {c c' : PExpr}
    (hc : classifyKey lf rf c = some (.stay c')) : c' = c := by
  rcases classifyKey_spec hc with h | ⟨_, _, _, _, ⟨h, _⟩ | ⟨h, _⟩⟩
  · exact KeyClass.stay.inj h
  · cases h
  · cases h

theorem evalArgs_append (ctx : Ctx) (a b : List PExpr) :
    evalArgs ctx (a ++ b) = (evalArgs ctx a).bind fun x => (evalArgs ctx b).map (x ++ ·) := by
  simp only [evalArgs, evalL_append, sequence_eq_mapM, List.mapM_append]
  cases (evalL ctx a).mapM id <;> cases (evalL ctx b).mapM id <;> rfl

theorem cmpList_append (kl kr a b : List Value) (h : kl.length = kr.length) :
    (cmpList (kl ++ a) (kr ++ b) == 0) = (cmpList kl kr == 0 && cmpList a b == 0) := by
  unfold cmpList
  rw [cmpListWith_append a b h]
  split <;> simp [*]

theorem hasNull_append (a b : List Value) : hasNull (a ++ b) = (hasNull a || hasNull b) := by
  simp [hasNull]

theorem keyMatch_append (ctx : Ctx) (lk rk lk' rk' : List PExpr) (l r : Row) (hlen : lk.length = rk.length) :
    keyMatch ctx (lk ++ lk') (rk ++ rk') l r = (keyMatch ctx lk rk l r && keyMatch ctx lk' rk' l r) := by
  simp only [keyMatch, evalArgs_append]
  cases h1 : evalArgs (l :: ctx) lk with
  | none => rfl
  | some kl =>
    cases h2 : evalArgs (r :: ctx) rk with
    | none => cases evalArgs (l :: ctx) lk' <;> rfl
    | some kr =>
      cases evalArgs (l :: ctx) lk' with
      | none => simp
      | some a =>
        cases evalArgs (r :: ctx) rk' with
        | none => simp
        | some b =>
          have hl : kl.length = kr.length := by rw [evalArgs_length h1, evalArgs_length h2, hlen]
          simp only [Option.bind_some, Option.map_some, hasNull_append, cmpList_append kl kr a b hl, Bool.not_or]
          ac_rfl

theorem keyMatch_single (ctx : Ctx) (a b : PExpr) (l r : Row) :
    keyMatch ctx [a] [b] l r = eqT (l :: ctx) (r :: ctx) a b := by
  simp only [keyMatch, evalArgs, evalL, eqT]
  cases eval (l :: ctx) a with
  | none => rfl
  | some va =>
    cases eval (r :: ctx) b with
    | none => rfl
    | some vb =>
      simp only [sequence, hasNull, List.any_cons, List.any_nil, Bool.or_false, cmpList, cmpListWith, cmp]
      by_cases hc : cmpWith cmpFloatFixed va vb = 0
      · simp [hc]
      · simp [hc]

/-- induction along `classifyKeys`: a conjunct either stays as it is or turns into a pair of keys.  The motive is inferred
    when the goal keeps `∀ {fp cls}, classifyKeys lf rf fp = some cls → …` after the colon and the call is
    `refine @classifyKeys_induct lf rf _ …`; with the hypothesis as a binder it has to be written out. -/
theorem classifyKeys_induct {lf rf : List String} {P : List PExpr → List KeyClass → Prop} (nil : P [] [])
    (stay : ∀ c fp ks, P fp ks → P (c :: fp) (.stay c :: ks))
    (key : ∀ c a b fp ks, classifyKey lf rf c = some (.key a b) → P fp ks → P (c :: fp) (.key a b :: ks)) :
    ∀ {fp : List PExpr} {cls : List KeyClass}, classifyKeys lf rf fp = some cls → P fp cls
  | [], _, h => Option.some.inj h ▸ nil
  | c :: fp, _, h => by
    rw [classifyKeys] at h
    split at h
    · rename_i k ks hk hks
      obtain rfl := Option.some.inj h
      have ih := classifyKeys_induct nil stay key hks
      cases k with
      | stay c' =>
        obtain rfl := stay_of_classify hk
        exact stay _ fp ks ih
      | key a b => exact key c a b fp ks hk ih
    · cases h

theorem all_keep_classify {ctx : Ctx} {lf rf : List String} {l r : Row}
    (hl : Row.names l = lf) (hr : Row.names r = rf) : ∀ {fp : List PExpr} {cls : List KeyClass},
    classifyKeys lf rf fp = some cls → (∀ c ∈ fp, HSafe c) →
    fp.all (fun c => keep ctx c (l ++ r)) =
      ((stays cls).all (fun c => keep ctx c (l ++ r)) && keyMatch ctx (leftKeys cls) (rightKeys cls) l r) := by
  refine @classifyKeys_induct lf rf _ ?nil ?stay ?key
  case nil => exact fun _ => rfl
  case stay =>
    intro c fp ks ih hs
    simp only [List.all_cons, stays, leftKeys, rightKeys, ih (fun x hx => hs x (by simp [hx])), Bool.and_assoc]
  case key =>
    intro c a b fp ks hk ih hs
    have hm := keyMatch_append ctx [a] [b] (leftKeys ks) (rightKeys ks) l r rfl
    simp only [List.singleton_append] at hm
    simp only [List.all_cons, stays, leftKeys, rightKeys, ih (fun x hx => hs x (by simp [hx])),
      keep_of_key hk (hs c (by simp)) hl hr, hm, keyMatch_single]
    ac_rfl

theorem stays_mem {lf rf : List String} : ∀ {fp : List PExpr} {cls : List KeyClass},
    classifyKeys lf rf fp = some cls → ∀ c ∈ stays cls, c ∈ fp := by
  refine @classifyKeys_induct lf rf _ ?nil ?stay ?key
  case nil => exact fun _ hc => nomatch hc
  case stay => exact fun c0 fp ks ih c hc => List.mem_cons.mpr ((List.mem_cons.mp hc).imp id (ih c))
  case key => exact fun c0 a b fp ks _ ih c hc => List.mem_cons_of_mem _ (ih c hc)

theorem key_exprs_ok {lf rf outer : List String} {c a b : PExpr}
    (hc : classifyKey lf rf c = some (.key a b)) (hok : ExprOK ((lf ++ rf) ++ outer) c) :
    ExprOK (lf ++ outer) a ∧ ExprOK (rf ++ outer) b := by
  rcases classifyKey_spec hc with h | ⟨x, y, rest, rfl, h⟩
  · cases h
  have hx : ExprOK ((lf ++ rf) ++ outer) x := hok.arg List.mem_cons_self
  have hy : ExprOK ((lf ++ rf) ++ outer) y := hok.arg (List.mem_cons_of_mem _ List.mem_cons_self)
  rcases h with ⟨h, hux, huy⟩ | ⟨h, hux, huy⟩
  · obtain ⟨rfl, rfl⟩ := KeyClass.key.inj h
    exact ⟨scope_drop_right hx hux, scope_drop_left hy huy⟩
  · obtain ⟨rfl, rfl⟩ := KeyClass.key.inj h
    exact ⟨scope_drop_right hy huy, scope_drop_left hx hux⟩

theorem keys_length : ∀ (cls : List KeyClass), (leftKeys cls).length = (rightKeys cls).length
  | [] => rfl
  | .stay _ :: ks => keys_length ks
  | .key _ _ :: ks => congrArg (· + 1) (keys_length ks)

theorem keys_ok {lf rf outer : List String} : ∀ {fp : List PExpr} {cls : List KeyClass},
    classifyKeys lf rf fp = some cls → (∀ c ∈ fp, ExprOK ((lf ++ rf) ++ outer) c) →
    ExprsOK (lf ++ outer) (leftKeys cls) ∧ ExprsOK (rf ++ outer) (rightKeys cls) := by
  refine @classifyKeys_induct lf rf _ ?nil ?stay ?key
  case nil => exact fun _ => ⟨fun _ h => (nomatch h), fun _ h => (nomatch h)⟩
  case stay => exact fun c fp ks ih hs => ih fun x hx => hs x (by simp [hx])
  case key =>
    intro c a b fp ks hk ih hs
    obtain ⟨ih1, ih2⟩ := ih fun x hx => hs x (by simp [hx])
    obtain ⟨ha, hb⟩ := key_exprs_ok hk (hs c (by simp))
    exact ⟨List.forall_mem_cons.mpr ⟨ha, ih1⟩, List.forall_mem_cons.mpr ⟨hb, ih2⟩⟩

theorem pushIntoStreamJoinKey_local (db : Db) : LocalOK db pushIntoStreamJoinKeyLocal := by
  intro outer q q' c hg h
  unfold pushIntoStreamJoinKeyLocal at h
  split at h
  · rename_i s e s2 lk rk l r
    simp only at h
    split at h
    · cases h
    · rename_i cls hcls
      split at h
      · exact unchanged_ok hg h
      · obtain ⟨rfl, _⟩ := Prod.mk.inj (Option.some.inj h)
        obtain rfl : s = s2 := hg.filter_schema
        obtain ⟨hnd, hgj, _, he⟩ := id hg
        obtain ⟨_, hgl, hgr, hs2, hlk, hrk, hlen⟩ := id hgj
        replace he : ExprOK ((l.fields ++ r.fields) ++ outer) e := by rw [← hs2]; exact he
        have hfp : ∀ c ∈ splitByAnd e, ExprOK ((l.fields ++ r.fields) ++ outer) c := fun c hc => exprOK_conjunct he hc
        obtain ⟨hk1, hk2⟩ := keys_ok (outer := outer) hcls hfp
        have hgout : Good db (.bin s (.sjoin (lk ++ leftKeys cls) (rk ++ rightKeys cls)) l r) outer :=
          ⟨hnd, hgl, hgr, hs2, fun x hx => (List.mem_append.mp hx).elim (hlk x) (hk1 x),
            fun x hx => (List.mem_append.mp hx).elim (hrk x) (hk2 x), by simp [hlen, keys_length cls]⟩
        refine filter_push_ok hg hgout rfl (NoHarderToPrune.sjoinKeys s lk rk _ _ l r) (stays_mem hcls) fun ctx hb => ?_
        rw [denote_sjoin hgout hb, denote_sjoin hgj hb]
        cases hdl : denote db l ctx with
        | none => rfl
        | some ls =>
          cases hdr : denote db r ctx with
          | none => rfl
          | some rs =>
            have hnl := denote_names hdl
            have hnr := denote_names hdr
            simp only [Option.map_some, Option.bind_some]
            congr 1
            symm
            rw [filter_nlJoin, filter_nlJoin]
            refine nlJoin_congr fun lrow hlrow rrow hrrow => ?_
            rw [keep_split, all_keep_classify (hnl lrow hlrow) (hnr rrow hrrow) hcls (fun c hc => (hfp c hc).safe),
              keyMatch_append ctx lk rk _ _ lrow rrow hlen]
            ac_rfl
  · exact unchanged_ok hg h

theorem pushIntoStreamJoinKey_ok (db : Db) : RuleOK db pushDownFilterPredicatesIntoStreamJoinKey :=
  (rule_of_local (pushIntoStreamJoinKey_local db)).ruleOK

end Octo.Plan
