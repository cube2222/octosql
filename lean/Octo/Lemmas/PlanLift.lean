import Octo.Lemmas.PlanSem
import Octo.Lemmas.PlanPrunable
/-!
  From a node to the optimizer: a local rewrite that is sound and leaves a node no harder to prune (`LocalOK`) stays so
  under `TransformNode` and `finish`; rules that keep an invariant keep it under the rule loop and the fixpoint.
-/
namespace Octo.Plan
open Octo

def LocalOK (db : Db) (f : Plan → Option (Plan × Bool)) : Prop :=
  ∀ (outer : List String) (q q' : Plan) (c : Bool), Good db q outer → f q = some (q', c) →
    StepOK db outer q q' ∧ NoHarderToPrune q q'

def RuleOK (db : Db) (r : Rule) : Prop :=
  ∀ (outer : List String) (p p' : Plan) (c : Bool), Good db p outer → r p = some (p', c) → StepOK db outer p p'

/-- the arm of a local rewrite that hands the node back as it is -/
theorem unchanged_ok {db : Db} {outer : List String} {q q' : Plan} {c c' : Bool} (hg : Good db q outer)
    (h : some (q, c) = some (q', c')) : StepOK db outer q q' ∧ NoHarderToPrune q q' := by
  obtain ⟨rfl, _⟩ := Prod.mk.inj (Option.some.inj h)
  exact ⟨StepOK.refl hg, NoHarderToPrune.refl q⟩

theorem transformNode_ok {db : Db} {f : Plan → Option (Plan × Bool)} (hf : LocalOK db f) :
    LocalOK db (transformNode f) := by
  intro outer q
  induction q generalizing outer with
  | leaf s k =>
    intro q' c hg h
    exact hf outer _ q' c hg h
  | un s k src ih =>
    intro q' c hg h
    simp only [transformNode] at h
    split at h
    · cases h
    · rename_i src' c1 hsrc
      split at h
      · cases h
      · rename_i out c2 hn
        obtain ⟨rfl, _⟩ := Prod.mk.inj (Option.some.inj h)
        obtain ⟨hstep, hsub⟩ := ih outer src' c1 hg.2.1 hsrc
        have hnode := StepOK.un hg hstep
        obtain ⟨h1, h2⟩ := hf outer _ out c2 hnode.good hn
        exact ⟨hnode.trans h1, (NoHarderToPrune.un hsub hstep.fields_sub).trans h2⟩
  | bin s k l r ihl ihr =>
    intro q' c hg h
    simp only [transformNode] at h
    split at h
    · cases h
    · rename_i l' c1 hl
      split at h
      · cases h
      · rename_i r' c2 hr
        split at h
        · cases h
        · rename_i out c3 hn
          obtain ⟨rfl, _⟩ := Prod.mk.inj (Option.some.inj h)
          have hnode : StepOK db outer (.bin s k l r) (.bin s k l' r') ∧ NoHarderToPrune (.bin s k l r) (.bin s k l' r') := by
            cases k with
            | ljoin =>
              -- the right side runs under the left records: its scope is `l.fields ++ outer`, and the `Binds` it needs
              -- comes from `denote_names` of the left rows; the other joins differ only in that and in the totality clause
              obtain ⟨hnd, hgl, hgr, hb, htot⟩ := hg
              obtain ⟨⟨hl1, hl2, hl3⟩, hsl⟩ := ihl outer l' c1 hgl hl
              obtain ⟨⟨hr1, hr2, hr3⟩, hsr⟩ := ihr (l.fields ++ outer) r' c2 hgr hr
              have hlf : l'.fields = l.fields := by simp only [Plan.fields, hl2]
              have hrf : r'.fields = r.fields := by simp only [Plan.fields, hr2]
              refine ⟨⟨?_, rfl, ?_⟩, NoHarderToPrune.bin hsl hsr (fun _ => (hlf ▸ id))⟩
              · simp only [Good, hlf, hrf]
                refine ⟨hnd, hl1, hr1, hb, ?_⟩
                intro ctx hbd
                rw [hr3 ctx hbd]
                exact htot ctx hbd
              · intro ctx hbd
                simp only [denote, hl3 ctx hbd]
                cases hd : denote db l ctx with
                | none => rfl
                | some ls =>
                  simp only
                  rw [lookupJoinRows_congr (j1 := denote db r') (j2 := denote db r)]
                  intro row hrow
                  exact hr3 _ (binds_cons (denote_names hd row hrow) hbd)
            | _ =>
              obtain ⟨hnd, hgl, hgr, hb⟩ := hg
              obtain ⟨⟨hl1, hl2, hl3⟩, hsl⟩ := ihl outer l' c1 hgl hl
              obtain ⟨⟨hr1, hr2, hr3⟩, hsr⟩ := ihr outer r' c2 hgr hr
              have hlf : l'.fields = l.fields := by simp only [Plan.fields, hl2]
              have hrf : r'.fields = r.fields := by simp only [Plan.fields, hr2]
              refine ⟨⟨?_, rfl, ?_⟩, NoHarderToPrune.bin hsl hsr (fun _ => (hlf ▸ id))⟩
              · simp only [Good, hlf, hrf]
                exact ⟨hnd, hl1, hr1, hb⟩
              · intro ctx hbd
                simp only [denote, hl3 ctx hbd, hr3 ctx hbd, hlf, hrf]
          obtain ⟨h1, h2⟩ := hf outer _ out c3 hnode.1.good hn
          exact ⟨hnode.1.trans h1, hnode.2.trans h2⟩

theorem rule_of_local {db : Db} {f : Plan → Option (Plan × Bool)} (hf : LocalOK db f) :
    LocalOK db (fun p => finish p (transformNode f p)) := by
  intro outer p p' c hg h
  cases ht : transformNode f p with
  | none => simp [ht, finish] at h
  | some pr =>
    obtain ⟨out, ch⟩ := pr
    cases ch with
    | true =>
      simp only [ht, finish, Option.some.injEq, Prod.mk.injEq] at h
      obtain ⟨rfl, _⟩ := h
      exact transformNode_ok hf outer p out true hg ht
    | false =>
      simp only [ht, finish] at h
      exact unchanged_ok hg h

theorem LocalOK.ruleOK {db : Db} {r : Rule} (h : LocalOK db r) : RuleOK db r :=
  fun outer p p' c hg hr => (h outer p p' c hg hr).1

def RuleInv (db : Db) (I : Plan → Prop) (r : Rule) : Prop :=
  ∀ (outer : List String) (p p' : Plan) (c : Bool), Good db p outer → I p → r p = some (p', c) →
    StepOK db outer p p' ∧ I p'

theorem LocalOK.ruleInv {db : Db} {r : Rule} (h : LocalOK db r) : RuleInv db Prunable r :=
  fun outer p p' c hg hp hr => (h outer p p' c hg hr).imp id hp.of_noHarder

theorem RuleOK.inv {db : Db} {r : Rule} (h : RuleOK db r) : RuleInv db (fun _ => True) r :=
  fun outer p p' c hg _ hr => ⟨h outer p p' c hg hr, trivial⟩

theorem runRules_inv {db : Db} {I : Plan → Prop} : ∀ {rules : List Rule}, (∀ r ∈ rules, RuleInv db I r) →
    ∀ (outer : List String) (p p' : Plan) (c c' : Bool), Good db p outer → I p →
      runRules rules p c = some (p', c') → StepOK db outer p p' ∧ I p'
  | [], _, outer, p, p', c, c', hg, hp, h => by
    simp only [runRules, Option.some.injEq, Prod.mk.injEq] at h
    obtain ⟨rfl, _⟩ := h
    exact ⟨StepOK.refl hg, hp⟩
  | r :: rs, hr, outer, p, p', c, c', hg, hp, h => by
    simp only [runRules] at h
    split at h
    · cases h
    · rename_i out ch hrp
      have hrest : ∀ r' ∈ rs, RuleInv db I r' := fun r' h' => hr r' (List.mem_cons_of_mem _ h')
      cases ch with
      | true =>
        obtain ⟨h1, h1p⟩ := hr r List.mem_cons_self outer p out true hg hp hrp
        obtain ⟨h2, h2p⟩ := runRules_inv hrest outer out p' true c' h1.good h1p h
        exact ⟨h1.trans h2, h2p⟩
      | false => exact runRules_inv hrest outer p p' c c' hg hp h

theorem optimizeWith_inv {db : Db} {I : Plan → Prop} {rules : List Rule} (hr : ∀ r ∈ rules, RuleInv db I r) :
    ∀ (fuel : Nat) (outer : List String) (p p' : Plan), Good db p outer → I p →
      optimizeWith rules fuel p = .ok p' → StepOK db outer p p' ∧ I p'
  | 0, _, _, _, _, _, h => by simp [optimizeWith] at h
  | n + 1, outer, p, p', hg, hp, h => by
    simp only [optimizeWith] at h
    split at h
    · cases h
    · rename_i out hrr
      obtain ⟨h1, h1p⟩ := runRules_inv hr outer p out false true hg hp hrr
      obtain ⟨h2, h2p⟩ := optimizeWith_inv hr n outer out p' h1.good h1p h
      exact ⟨h1.trans h2, h2p⟩
    · rename_i out hrr
      obtain rfl := OptRes.ok.inj h
      exact runRules_inv hr outer p out false false hg hp hrr

theorem optimizeWith_ok {db : Db} {rules : List Rule} (hr : ∀ r ∈ rules, RuleOK db r) (fuel : Nat)
    (outer : List String) (p p' : Plan) (hg : Good db p outer) (h : optimizeWith rules fuel p = .ok p') :
    StepOK db outer p p' :=
  (optimizeWith_inv (fun r hm => (hr r hm).inv) fuel outer p p' hg trivial h).1

/-- `defaultOptimizationRules` as Lean rules, in the generated order -/
def defaultRuleList : List Rule :=
  [pushDownFilterPredicatesToDatasource, pushDownFilterPredicatesIntoLookupJoinBranch,
   pushDownFilterPredicatesIntoStreamJoinBranch, pushDownFilterPredicatesIntoStreamJoinKey, removeUnusedMapFields,
   removeUnusedGroupByNonKeyFields, removeUnusedDatasourceFields, mergeFilters]

/-- Looking the generated names up compares long strings, which is slow to check: everything that runs `optimize` goes
    through `optimize_eq` and so through this one evaluation (`C04.filterRules_ok` looks its five names up itself).
    (`simp` decides the comparisons by `String.reduceBEq` and leaves only the kernel to evaluate them; `rfl` would have
    the elaborator evaluate them as well.) -/
theorem defaultRules_eq : defaultRules = some defaultRuleList := by
  simp only [defaultRules, Gen.OptimizerRules.rules, rulesOfNames, ruleOfName, String.reduceBEq, Bool.false_eq_true,
    ↓reduceIte, defaultRuleList]

theorem optimize_eq (fuel : Nat) (p : Plan) : optimize fuel p = optimizeWith defaultRuleList fuel p := by
  rw [optimize, defaultRules_eq]

end Octo.Plan
