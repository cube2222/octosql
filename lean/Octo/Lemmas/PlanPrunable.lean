import Octo.Model.Optimizer
/-!
  The side conditions of the removal rules, which are about the shape of a plan only (`NoMapHas` / `NoGroupByHas`: each
  rule only meets its own kind of node holding the field), and the preorder `NoHarderToPrune` along which every rewrite
  of the optimizer moves.
-/
namespace Octo.Plan
open Octo

def NoGroupByHas (f : String) : Plan → Prop
  | .leaf _ _ => True
  | .un s (.groupBy _ _ _ _ _) src => f ∉ s.fields ∧ NoGroupByHas f src
  | .un _ _ src => NoGroupByHas f src
  | .bin _ _ l r => NoGroupByHas f l ∧ NoGroupByHas f r

/-- no Map node declares the field (a datasource's field names are its own) -/
def NoMapHas (f : String) : Plan → Prop
  | .leaf _ _ => True
  | .un s (.map _) src => f ∉ s.fields ∧ NoMapHas f src
  | .un _ _ src => NoMapHas f src
  | .bin _ _ l r => NoMapHas f l ∧ NoMapHas f r

/-- where an unused field may be removed without being noticed: it must not be a field of a table valued function or
    an in-memory table, of an ORDER BY / LIMIT node (its tie-break reads every column), a key of a group-by or a
    group-by field that its input has as well, or a field of the source side of a lookup join (a DISTINCT over the
    field counts as a use, so nothing is asked there) -/
def Removable (f : String) : Plan → Prop
  | .leaf _ (.ds _ _ _ _ _) => True
  | .leaf s _ => f ∉ s.fields
  | .un s k src => Removable f src ∧
      (match k with
       | .map _ => True
       | .filter _ => True
       | .unnest _ => True
       | .distinct => True
       | .groupBy _ _ key _ _ =>
         f ∈ s.fields → f ∉ src.fields ∧ f ∉ s.fields.take key.length
       | _ => f ∉ s.fields)
  | .bin s k l r => Removable f l ∧ Removable f r ∧
      (match k with
       | .sjoin _ _ => True
       | .ljoin => f ∉ l.fields
       | .ojoin _ _ _ _ => True)

def allMapFields : Plan → List String
  | .un s (.map _) _ => s.fields
  | _ => []

def allDsFields : Plan → List String
  | .leaf s (.ds _ _ _ _ _) => s.fields
  | _ => []

/-- the aggregate (non-key) fields of a group-by node -/
def allGbFields : Plan → List String
  | .un s (.groupBy _ _ key _ _) _ => s.fields.drop key.length
  | _ => []

/-- every field of a Map node or a datasource and every aggregate field of a group-by — a superset of what the removal
    rules may pick — can be removed without being noticed (and belongs to one kind of node only) -/
structure Prunable (p : Plan) : Prop where
  maps : ∀ f ∈ collectFields allMapFields p, Removable f p ∧ NoGroupByHas f p
  dss : ∀ f ∈ collectFields allDsFields p, Removable f p ∧ NoMapHas f p ∧ NoGroupByHas f p
  gbs : ∀ f ∈ collectFields allGbFields p, Removable f p ∧ NoMapHas f p

/-- `q'` is no harder to prune than `q` -/
structure NoHarderToPrune (q q' : Plan) : Prop where
  rem : ∀ f, Removable f q → Removable f q'
  mapf : ∀ f, f ∈ collectFields allMapFields q' → f ∈ collectFields allMapFields q
  dsf : ∀ f, f ∈ collectFields allDsFields q' → f ∈ collectFields allDsFields q
  nogbh : ∀ f, NoGroupByHas f q → NoGroupByHas f q'
  gbf : ∀ f, f ∈ collectFields allGbFields q' → f ∈ collectFields allGbFields q

/-- `NoMapHas f` says that `f` is none of the collected Map fields -/
theorem noMapHas_iff {f : String} : ∀ {p : Plan}, NoMapHas f p ↔ f ∉ collectFields allMapFields p
  | .leaf s k => by simp [NoMapHas, collectFields, allMapFields]
  | .un s k src => by
    cases k <;> simp [NoMapHas, collectFields, allMapFields, noMapHas_iff (p := src), and_comm]
  | .bin s k l r => by
    simp [NoMapHas, collectFields, allMapFields, noMapHas_iff (p := l), noMapHas_iff (p := r)]

theorem NoHarderToPrune.nomap {q q' : Plan} (h : NoHarderToPrune q q') (f : String) (hn : NoMapHas f q) : NoMapHas f q' :=
  noMapHas_iff.mpr fun hm => noMapHas_iff.mp hn (h.mapf f hm)

theorem NoHarderToPrune.refl (q : Plan) : NoHarderToPrune q q :=
  { rem := fun _ h => h, mapf := fun _ h => h, dsf := fun _ h => h, nogbh := fun _ h => h, gbf := fun _ h => h }

theorem NoHarderToPrune.trans {a b c : Plan} (h1 : NoHarderToPrune a b) (h2 : NoHarderToPrune b c) : NoHarderToPrune a c :=
  { rem := fun f h => h2.rem f (h1.rem f h),
    nogbh := fun f h => h2.nogbh f (h1.nogbh f h), mapf := fun f h => h1.mapf f (h2.mapf f h),
    dsf := fun f h => h1.dsf f (h2.dsf f h), gbf := fun f h => h1.gbf f (h2.gbf f h) }

theorem Prunable.of_noHarder {q q' : Plan} (hp : Prunable q) (hs : NoHarderToPrune q q') : Prunable q' :=
  ⟨fun f hf => ⟨hs.rem f (hp.maps f (hs.mapf f hf)).1, hs.nogbh f (hp.maps f (hs.mapf f hf)).2⟩,
   fun f hf => ⟨hs.rem f (hp.dss f (hs.dsf f hf)).1, hs.nomap f (hp.dss f (hs.dsf f hf)).2.1,
     hs.nogbh f (hp.dss f (hs.dsf f hf)).2.2⟩,
   fun f hf => ⟨hs.rem f (hp.gbs f (hs.gbf f hf)).1, hs.nomap f (hp.gbs f (hs.gbf f hf)).2⟩⟩

theorem NoHarderToPrune.un {s : Schema} {k : Un} {src src' : Plan} (h : NoHarderToPrune src src')
    (hsf : ∀ x ∈ src'.fields, x ∈ src.fields) :
    NoHarderToPrune (.un s k src) (.un s k src') := by
  constructor
  case rem =>
    intro f hr
    simp only [Removable] at hr ⊢
    refine ⟨h.rem f hr.1, ?_⟩
    cases k with
    | groupBy aggs aggExprs key kti trig => exact fun hm => ⟨fun hx => (hr.2 hm).1 (hsf f hx), (hr.2 hm).2⟩
    | _ => exact hr.2
  case mapf =>
    intro f hf
    simp only [collectFields, List.mem_append] at hf ⊢
    exact hf.imp (h.mapf f) (by cases k <;> exact id)
  case dsf =>
    intro f hf
    simp only [collectFields, List.mem_append] at hf ⊢
    exact hf.imp (h.dsf f) (by cases k <;> exact id)
  case nogbh =>
    intro f hn
    cases k with
    | groupBy aggs aggExprs key kti trig => exact ⟨hn.1, h.nogbh f hn.2⟩
    | _ => exact h.nogbh f hn
  case gbf =>
    intro f hf
    simp only [collectFields, List.mem_append] at hf ⊢
    exact hf.imp (h.gbf f) (by cases k <;> exact id)

/-- the removal rules do not look at the schema of a join -/
theorem NoHarderToPrune.bin {s s' : Schema} {k : Bin} {l l' r r' : Plan} (hl : NoHarderToPrune l l') (hr : NoHarderToPrune r r')
    (hlf : ∀ x ∈ l'.fields, x ∈ l.fields) : NoHarderToPrune (.bin s k l r) (.bin s' k l' r') := by
  constructor
  case rem =>
    intro f h
    simp only [Removable] at h ⊢
    refine ⟨hl.rem f h.1, hr.rem f h.2.1, ?_⟩
    cases k with
    | ljoin => exact fun hx => h.2.2 (hlf f hx)
    | _ => trivial
  case mapf =>
    intro f hf
    simp only [collectFields, List.mem_append] at hf ⊢
    exact hf.imp (Or.imp (hl.mapf f) (hr.mapf f)) id
  case dsf =>
    intro f hf
    simp only [collectFields, List.mem_append] at hf ⊢
    exact hf.imp (Or.imp (hl.dsf f) (hr.dsf f)) id
  case nogbh =>
    intro f h
    exact ⟨hl.nogbh f h.1, hr.nogbh f h.2⟩
  case gbf =>
    intro f hf
    simp only [collectFields, List.mem_append] at hf ⊢
    exact hf.imp (Or.imp (hl.gbf f) (hr.gbf f)) id

theorem NoHarderToPrune.addFilter (s : Schema) (e : PExpr) (p : Plan) : NoHarderToPrune p (.un s (.filter e) p) where
  rem := fun _ h => ⟨h, trivial⟩
  mapf := fun _ hf => (List.mem_append.mp hf).elim id (fun h => nomatch h)
  dsf := fun _ hf => (List.mem_append.mp hf).elim id (fun h => nomatch h)
  nogbh := fun _ h => h
  gbf := fun _ hf => (List.mem_append.mp hf).elim id (fun h => nomatch h)

theorem NoHarderToPrune.dropFilter (s : Schema) (e : PExpr) (p : Plan) : NoHarderToPrune (.un s (.filter e) p) p where
  rem := fun _ h => h.1
  mapf := fun _ hf => List.mem_append_left _ hf
  dsf := fun _ hf => List.mem_append_left _ hf
  nogbh := fun _ h => h
  gbf := fun _ hf => List.mem_append_left _ hf

theorem NoHarderToPrune.sjoinKeys (s : Schema) (lk rk lk' rk' : List PExpr) (l r : Plan) :
    NoHarderToPrune (.bin s (.sjoin lk rk) l r) (.bin s (.sjoin lk' rk') l r) :=
  { rem := fun _ h => h, mapf := fun _ h => h, dsf := fun _ h => h, nogbh := fun _ h => h, gbf := fun _ h => h }

theorem NoHarderToPrune.dsPreds (s : Schema) (name alias pol : String) (preds preds' : List PExpr) (m : List (String × String)) :
    NoHarderToPrune (.leaf s (.ds name alias pol preds m)) (.leaf s (.ds name alias pol preds' m)) :=
  { rem := fun _ h => h, mapf := fun _ h => h, dsf := fun _ h => h, nogbh := fun _ h => h, gbf := fun _ h => h }

end Octo.Plan
