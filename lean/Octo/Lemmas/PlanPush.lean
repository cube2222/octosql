import Octo.Lemmas.PlanRules
/-!
  Soundness of `PushDownFilterPredicatesToDatasource` (for the two modelled answers of
  `DatasourceImplementation.PushDownPredicates`) and of `PushDownFilterPredicatesIntoLookupJoinBranch`.
-/
namespace Octo.Plan
open Octo

theorem pushToDatasource_local (db : Db) : LocalOK db pushToDatasourceLocal := by
  intro outer q q' c hg h
  unfold pushToDatasourceLocal at h
  split at h
  · rename_i s e s2 name alias pol preds mapping
    split at h
    · cases h
    · rename_i rejected pushedDown changed heq
      split at h
      · exact unchanged_ok hg h
      · rename_i hch
        obtain ⟨rfl, _⟩ := Prod.mk.inj (Option.some.inj h)
        simp only [pushDownPredicates] at heq
        split at heq
        · -- the built-in file formats: nothing is pushed down, nothing changes
          simp only [Option.some.injEq, Prod.mk.injEq] at heq
          obtain ⟨_, _, rfl⟩ := heq
          simp at hch
        · split at heq
          · -- the mock: `col = const` conjuncts are accepted
            simp only [Option.some.injEq, Prod.mk.injEq] at heq
            obtain ⟨rfl, rfl, _⟩ := heq
            obtain rfl : s = s2 := hg.filter_schema
            obtain ⟨hnd, hgl, _, he⟩ := id hg
            obtain ⟨_, hpreds, htab⟩ := id hgl
            have hfp : ∀ c ∈ splitByAnd e, ExprOK (s.fields ++ outer) c := fun c hc => exprOK_conjunct he hc
            have hgout : Good db (.leaf s (.ds name alias pol (preds ++ (splitByAnd e).filter isEqConst) mapping)) outer :=
              ⟨hnd, fun x hx => (List.mem_append.mp hx).elim (hpreds x) fun hx => hfp x (List.mem_filter.mp hx).1, htab⟩
            refine filter_push_ok hg hgout rfl (NoHarderToPrune.dsPreds s name alias pol preds _ mapping)
              (fun c hc => (List.mem_filter.mp hc).1) fun ctx hb => ?_
            rw [denote_ds hgout hb, denote_ds hgl hb, Option.map_map, Option.map_map]
            congr 1
            funext rows
            simp only [Function.comp, List.filter_filter]
            apply List.filter_congr
            intro r _
            rw [keep_split, all_partition (fun c => keep ctx c r) isEqConst (splitByAnd e), List.all_append]
            ac_rfl
          · cases heq
  · exact unchanged_ok hg h

theorem pushToDatasource_ok (db : Db) : RuleOK db pushDownFilterPredicatesToDatasource :=
  (rule_of_local (pushToDatasource_local db)).ruleOK

mutual
theorem vars_setNonLevel0 (fs : List String) : ∀ e : PExpr, varsUsed (setNonLevel0 fs e) = varsUsed e
  | .var x l => by
    simp only [setNonLevel0]
    split <;> rfl
  | .const _ => rfl
  | .nary k args => by simp only [setNonLevel0, varsUsed, vars_setNonLevel0L fs args]
  | .unary k e => by simp only [setNonLevel0, varsUsed, vars_setNonLevel0 fs e]
theorem vars_setNonLevel0L (fs : List String) : ∀ es : List PExpr, varsUsedL (setNonLevel0L fs es) = varsUsedL es
  | [] => rfl
  | e :: es => by simp only [setNonLevel0L, varsUsedL, vars_setNonLevel0 fs e, vars_setNonLevel0L fs es]
end

mutual
/-- `IsLevel0` is not read by evaluation (the level is recomputed from the record chain) -/
theorem eval_setNonLevel0 (fs : List String) (cx : Ctx) : ∀ e : PExpr, eval cx (setNonLevel0 fs e) = eval cx e
  | .var x l => by
    simp only [setNonLevel0]
    split <;> rfl
  | .const _ => rfl
  | .nary k args => by simp only [setNonLevel0, eval, evalL_setNonLevel0 fs cx args]
  | .unary k e => by simp only [setNonLevel0, eval, eval_setNonLevel0 fs cx e]
theorem evalL_setNonLevel0 (fs : List String) (cx : Ctx) : ∀ es : List PExpr, evalL cx (setNonLevel0L fs es) = evalL cx es
  | [] => rfl
  | e :: es => by simp only [setNonLevel0L, evalL, eval_setNonLevel0 fs cx e, evalL_setNonLevel0 fs cx es]
end

theorem setNonLevel0L_length (fs : List String) : ∀ es : List PExpr, (setNonLevel0L fs es).length = es.length
  | [] => rfl
  | e :: es => by simp [setNonLevel0L, setNonLevel0L_length fs es]

theorem safeE_setNonLevel0 {fs : List String} {e : PExpr} (h : SafeE e) : SafeE (setNonLevel0 fs e) := by
  intro cx hb
  rw [eval_setNonLevel0]
  exact h cx (by rw [vars_setNonLevel0] at hb; exact hb)

mutual
theorem hsafe_setNonLevel0 (fs : List String) : ∀ {e : PExpr}, HSafe e → HSafe (setNonLevel0 fs e)
  | .var x l, _ => by
    simp only [setNonLevel0]
    split <;> trivial
  | .const _, _ => trivial
  | .nary k args, h => by
    have h0 : SafeE (setNonLevel0 fs (.nary k args)) := safeE_setNonLevel0 h.1
    simp only [setNonLevel0] at h0 ⊢
    refine ⟨h0, ?_, hsafe_setNonLevel0L fs h.2.2⟩
    cases k with
    | call fn =>
      intro hfn
      rw [setNonLevel0L_length]
      exact h.2.1 hfn
    | _ => trivial
  | .unary k e, h => by
    have h0 : SafeE (setNonLevel0 fs (.unary k e)) := safeE_setNonLevel0 h.1
    simp only [setNonLevel0] at h0 ⊢
    exact ⟨h0, hsafe_setNonLevel0 fs h.2⟩
theorem hsafe_setNonLevel0L (fs : List String) : ∀ {es : List PExpr}, HSafeL es → HSafeL (setNonLevel0L fs es)
  | [], _ => trivial
  | _ :: _, h => ⟨hsafe_setNonLevel0 fs h.1, hsafe_setNonLevel0L fs h.2⟩
end

theorem exprOK_setNonLevel0 {scope fs : List String} {e : PExpr} (h : ExprOK scope e) : ExprOK scope (setNonLevel0 fs e) :=
  ⟨by rw [vars_setNonLevel0]; exact h.inScope, hsafe_setNonLevel0 fs h.safe⟩

theorem eval_append_nested (l j : Row) (ctx : Ctx) (e : PExpr) (hd : ∀ x ∈ Row.names l, x ∉ Row.names j) :
    eval ((l ++ j) :: ctx) e = eval (j :: l :: ctx) e := by
  apply eval_congr
  intro x _
  simp only [lookupVar, lookupRow_append]
  by_cases hx : x ∈ Row.names l
  · rw [lookupRow_none_of_not_mem (hd x hx)]
    cases lookupRow x l <;> rfl
  · rw [lookupRow_none_of_not_mem hx]

theorem mem_perm_scope {a b c : List String} {x : String} (h : x ∈ (a ++ b) ++ c) : x ∈ b ++ (a ++ c) := by
  simp only [List.mem_append] at h ⊢
  rcases h with (h | h) | h
  · exact Or.inr (Or.inl h)
  · exact Or.inl h
  · exact Or.inr (Or.inr h)

/-- the filter node put on the joined side: its variables of the source schema are marked non-level-0 -/
abbrev optFilterNL (fs : List String) (cs : List PExpr) (p : Plan) : Plan :=
  filterIf (setNonLevel0 fs (.nary .and cs)) cs p

theorem optFilterNL_ok {db : Db} {scope fs : List String} {cs : List PExpr} {p : Plan}
    (hg : Good db p scope) (hcs : ∀ c ∈ cs, ExprOK (p.fields ++ scope) c) :
    Good db (optFilterNL fs cs p) scope ∧ (optFilterNL fs cs p).schema = p.schema ∧
      ∀ cx, Binds scope cx →
        denote db (optFilterNL fs cs p) cx = (denote db p cx).map fun rows => rows.filter fun r => cs.all fun c => keep cx c r :=
  filterIf_ok hg (exprOK_setNonLevel0 (exprOK_and hcs)) fun cx r => by
    rw [keep, eval_setNonLevel0]
    exact keep_and cx cs r

theorem pushIntoLookupJoin_local (db : Db) : LocalOK db pushIntoLookupJoinLocal := by
  intro outer q q' c hg h
  unfold pushIntoLookupJoinLocal at h
  split at h
  · rename_i s e s2 src joined
    obtain ⟨rfl, _⟩ := Prod.mk.inj (Option.some.inj h)
    obtain rfl : s = s2 := hg.filter_schema
    obtain ⟨_, hgj, _, he⟩ := id hg
    obtain ⟨hnd, hgs, hgjo, ⟨hs2, hdisj⟩, htot⟩ := id hgj
    replace he : ExprOK ((src.fields ++ joined.fields) ++ outer) e := by rw [← hs2]; exact he
    let usesJ := fun c => usesVariablesFromSchema joined.fields (varsUsed c)
    let fp := splitByAnd e
    let pS := fp.filter fun c => !usesJ c
    let pJ := fp.filter fun c => usesJ c
    have hfp : ∀ c ∈ fp, ExprOK ((src.fields ++ joined.fields) ++ outer) c := fun c hc => exprOK_conjunct he hc
    have hpS : ∀ c ∈ pS, ExprOK (src.fields ++ outer) c := by
      intro c hc
      obtain ⟨hc1, hc2⟩ := List.mem_filter.mp hc
      exact scope_drop_right (hfp c hc1) (by simpa using hc2)
    have hpJ : ∀ c ∈ pJ, ExprOK (joined.fields ++ (src.fields ++ outer)) c :=
      fun c hc => (hfp c (List.mem_filter.mp hc).1).mono fun _ _ => mem_perm_scope
    obtain ⟨hl1, hl2, hl3⟩ := optFilter_ok (cs := pS) hgs hpS
    obtain ⟨hj1, hj2, hj3⟩ := optFilterNL_ok (fs := src.fields) (cs := pJ) hgjo hpJ
    have hgout : Good db (.bin s .ljoin (optFilter pS src) (optFilterNL src.fields pJ joined)) outer := by
      have hlf : (optFilter pS src).fields = src.fields := congrArg Schema.fields hl2
      have hjf : (optFilterNL src.fields pJ joined).fields = joined.fields := congrArg Schema.fields hj2
      refine ⟨hnd, hl1, ?_⟩
      rw [hlf, hjf]
      refine ⟨hj1, ⟨hs2, hdisj⟩, fun cx hb => ?_⟩
      rw [hj3 cx hb]
      obtain ⟨rows, hd⟩ := Option.isSome_iff_exists.mp (htot cx hb)
      rw [hd]
      rfl
    show StepOK db outer _ (Plan.bin s .ljoin (optFilter pS src) (optFilterNL src.fields pJ joined)) ∧ _
    refine ⟨⟨hgout, rfl, fun ctx hb => ?_⟩, (NoHarderToPrune.dropFilter s e _).trans
      (NoHarderToPrune.bin (NoHarderToPrune.filterIf _ pS src) (NoHarderToPrune.filterIf _ pJ joined)
        (filterIf_fields_sub _ pS src))⟩
    rw [denote_ljoin hgout hb, hl3 ctx hb, denote_filter hg hb, denote_ljoin hgj hb, Option.map_map, Option.map_map]
    cases hds : denote db src ctx with
    | none => rfl
    | some ls =>
      have hns := denote_names hds
      have hbl : ∀ a ∈ ls, Binds (src.fields ++ outer) (a :: ctx) := fun a ha => binds_cons (hns a ha) hb
      simp only [Option.map_some, Function.comp]
      congr 1
      rw [depJoin_move (PL := fun a => pS.all fun c => keep ctx c a) (PJ := fun a j => pJ.all fun c => keep (a :: ctx) c j)]
      · apply depJoin_congr
        intro a ha
        rw [hj3 _ (hbl a (List.mem_filter.mp ha).1)]
        cases denote db joined (a :: ctx) <;> rfl
      · -- a conjunct that does not read the joined side is decided by the source record alone; the others see the
        -- same values whether the source record is part of the current record or the enclosing one
        intro a ha j hj
        obtain ⟨rows, hd⟩ := Option.isSome_iff_exists.mp (htot _ (hbl a ha))
        rw [hd] at hj
        have hnj := denote_names hd j hj
        rw [keep_split, all_partition (fun c => keep ctx c (a ++ j)) (fun c => !usesJ c) fp]
        congr 1
        · exact all_filter_congr (fun c _ hc => keep_left_of_not_uses hnj (by simpa using hc))
        · simp only [Bool.not_not]
          apply List.all_congr rfl
          intro c
          rw [keep, eval_append_nested a j ctx c (by
            intro x hx
            rw [hns a ha] at hx
            rw [hnj]
            exact hdisj x hx)]
          rfl
  · exact unchanged_ok hg h

theorem pushIntoLookupJoin_ok (db : Db) : RuleOK db pushDownFilterPredicatesIntoLookupJoinBranch :=
  (rule_of_local (pushIntoLookupJoin_local db)).ruleOK

end Octo.Plan
