import Octo.Lemmas.PlanErase
import Octo.Lemmas.PlanSem
import Octo.Lemmas.PlanPrunable
/-!
  One step of a removal rule (`remove…Field f` followed by `removeFieldFromPassers f`) computes `rmPlan f`: the
  single pass that takes `f` out of every schema and drops the Map expression / the aggregate that produced it.
-/
namespace Octo.Plan
open Octo

/-- what the two passes do to one schema -/
def rmSchema (f : String) (s : Schema) : Schema :=
  match lastIndexOf f s.fields with
  | none => s
  | some i => eraseSchemaField s i

/-- `removeMapField f` / `removeGroupByField f` / `removeUnusedDatasourceField f`, then `removeFieldFromPassers f`, in
    one pass (each rule only ever meets its own kind of node holding `f`: `NoMapHas` / `NoGroupByHas`) -/
def rmPlan (f : String) : Plan → Option Plan
  | .leaf s k => some (.leaf (rmSchema f s) k)
  | .un s k src =>
    match rmPlan f src with
    | none => none
    | some src' =>
      match k, lastIndexOf f s.fields with
      | .map es, some i =>
        match eraseAt es i with
        | some es' => some (.un (eraseSchemaField s i) (.map es') src')
        | none => none
      | .groupBy aggs aggExprs key kti trig, some i =>
        match eraseAt aggExprs ((i : Int) - key.length), eraseAt aggs ((i : Int) - key.length) with
        | some aggExprs', some aggs' => some (.un (eraseSchemaField s i) (.groupBy aggs' aggExprs' key kti trig) src')
        | _, _ => none
      | _, _ => some (.un (rmSchema f s) k src')
  | .bin s k l r =>
    match rmPlan f l, rmPlan f r with
    | some l', some r' => some (.bin (rmSchema f s) k l' r')
    | _, _ => none

theorem rmSchema_fields {f : String} {s : Schema} (hnd : s.fields.Nodup) :
    (rmSchema f s).fields = eraseField f s.fields := by
  unfold rmSchema
  by_cases hm : f ∈ s.fields
  · obtain ⟨j, h1, _, _, h4⟩ := lastIndexOf_some hnd hm
    simp only [h1, eraseSchemaField, h4]
  · simp only [lastIndexOf_none hm, eraseField_id hm]

theorem rmSchema_id {f : String} {s : Schema} (h : f ∉ s.fields) : rmSchema f s = s := by
  unfold rmSchema
  rw [lastIndexOf_none h]

theorem rmSchema_idem {f : String} {s : Schema} (hnd : s.fields.Nodup) : rmSchema f (rmSchema f s) = rmSchema f s := by
  apply rmSchema_id
  rw [rmSchema_fields hnd]
  exact not_mem_eraseField f _

theorem mem_drop_rmSchema {f x : String} {s : Schema} (n : Nat) (h : x ∈ (rmSchema f s).fields.drop n) :
    x ∈ s.fields.drop n := by
  unfold rmSchema at h
  cases hi : lastIndexOf f s.fields with
  | none => simpa [hi] using h
  | some i =>
    simp only [hi, eraseSchemaField] at h
    exact ((List.eraseIdx_sublist _ _).drop _).subset h

theorem mem_rmSchema_fields {f x : String} {s : Schema} (h : x ∈ (rmSchema f s).fields) : x ∈ s.fields :=
  mem_drop_rmSchema 0 h

theorem passersLocal_eq (f : String) (p : Plan) :
    removeFromPassersLocal f p = some (p.withSchema (rmSchema f p.schema)) := by
  unfold removeFromPassersLocal rmSchema
  cases lastIndexOf f p.fields with
  | none => cases p <;> rfl
  | some i => rfl

/-- the kind of a node after `rmPlan f`: a Map or group-by that declares `f` loses the expression at its index
    (`none`: the index is out of range, as in `rmPlan`) -/
def rmKind (f : String) (s : Schema) : Un → Option Un
  | .map es =>
    match lastIndexOf f s.fields with
    | some i => (eraseAt es i).map .map
    | none => some (.map es)
  | .groupBy aggs aggExprs key kti trig =>
    match lastIndexOf f s.fields with
    | some i =>
      match eraseAt aggExprs ((i : Int) - key.length), eraseAt aggs ((i : Int) - key.length) with
      | some aggExprs', some aggs' => some (.groupBy aggs' aggExprs' key kti trig)
      | _, _ => none
    | none => some (.groupBy aggs aggExprs key kti trig)
  | k => some k

theorem rmPlan_un (f : String) (s : Schema) (k : Un) (src : Plan) :
    rmPlan f (.un s k src) =
      (rmPlan f src).bind fun src' => (rmKind f s k).map fun k' => .un (rmSchema f s) k' src' := by
  simp only [rmPlan]
  cases rmPlan f src with
  | none => rfl
  | some src' =>
    cases k with
    | map es =>
      cases hi : lastIndexOf f s.fields with
      | none => simp only [rmKind, rmSchema, hi, Option.bind_some, Option.map_some]
      | some i => cases he : eraseAt es i <;> simp only [rmKind, rmSchema, hi, he, Option.bind_some, Option.map_some, Option.map_none]
    | groupBy aggs aggExprs key kti trig =>
      cases hi : lastIndexOf f s.fields with
      | none => simp only [rmKind, rmSchema, hi, Option.bind_some, Option.map_some]
      | some i =>
        cases h1 : eraseAt aggExprs ((i : Int) - key.length) <;> cases h2 : eraseAt aggs ((i : Int) - key.length) <;>
          simp only [rmKind, rmSchema, hi, h1, h2, Option.bind_some, Option.map_some, Option.map_none]
    | _ => rfl

theorem rmPlan_bin (f : String) (s : Schema) (k : Bin) (l r : Plan) :
    rmPlan f (.bin s k l r) =
      (rmPlan f l).bind fun l' => (rmPlan f r).map fun r' => .bin (rmSchema f s) k l' r' := by
  simp only [rmPlan]
  cases rmPlan f l <;> cases rmPlan f r <;> rfl

theorem rmKind_of_not_mem {f : String} {s : Schema} (h : f ∉ s.fields) (k : Un) : rmKind f s k = some k := by
  cases k <;> simp only [rmKind, lastIndexOf_none h]

theorem rmPlan_schema {f : String} : ∀ {p p' : Plan}, rmPlan f p = some p' → p'.schema = rmSchema f p.schema
  | .leaf s k, p', h => by
    simp only [rmPlan, Option.some.injEq] at h
    subst h
    rfl
  | .un s k src, p', h => by
    rw [rmPlan_un] at h
    obtain ⟨src', _, h⟩ := Option.bind_eq_some_iff.mp h
    obtain ⟨k', _, rfl⟩ := Option.map_eq_some_iff.mp h
    rfl
  | .bin s k l r, p', h => by
    rw [rmPlan_bin] at h
    obtain ⟨l', _, h⟩ := Option.bind_eq_some_iff.mp h
    obtain ⟨r', _, rfl⟩ := Option.map_eq_some_iff.mp h
    rfl

def AllNodup : Plan → Prop
  | .leaf s _ => s.fields.Nodup
  | .un s _ src => s.fields.Nodup ∧ AllNodup src
  | .bin s _ l r => s.fields.Nodup ∧ AllNodup l ∧ AllNodup r

theorem Good.allNodup {db : Db} : ∀ {p : Plan} {outer : List String}, Good db p outer → AllNodup p
  | .leaf _ _, _, h => h.1
  | .un _ _ _, _, h => ⟨h.1, Good.allNodup h.2.1⟩
  | .bin _ .ljoin _ _, _, h | .bin _ (.sjoin _ _) _ _, _, h | .bin _ (.ojoin _ _ _ _) _ _, _, h =>
    ⟨h.1, Good.allNodup h.2.1, Good.allNodup h.2.2.1⟩

theorem NoGroupByHas.src {f : String} {s : Schema} {k : Un} {src : Plan} (h : NoGroupByHas f (.un s k src)) :
    NoGroupByHas f src := by
  cases k <;> first | exact h.2 | exact h

theorem NoMapHas.src {f : String} {s : Schema} {k : Un} {src : Plan} (h : NoMapHas f (.un s k src)) :
    NoMapHas f src := by
  cases k <;> first | exact h.2 | exact h

/-- the two `TransformNode` passes of one removal step: the rule's own `loc`, then `removeFieldFromPassers f` -/
def twoPasses (loc : Plan → Option Plan) (f : String) (p : Plan) : Option Plan :=
  match mapNodes loc p with
  | some p1 => removeFieldFromPassers f p1
  | none => none

section
variable {loc : Plan → Option Plan} {f : String} {s s1 : Schema}

theorem twoPass_leaf {k : Leaf} (hs : rmSchema f s1 = rmSchema f s) (hloc : loc (.leaf s k) = some (.leaf s1 k)) :
    twoPasses loc f (.leaf s k) = rmPlan f (.leaf s k) := by
  simp only [twoPasses, mapNodes, hloc, removeFieldFromPassers, passersLocal_eq, schema_leaf, Plan.withSchema, hs,
    rmPlan]

/-- `loc` rewrites schema and kind of a un-node as `rmPlan` does, but for the part of the schema left to
    `removeFieldFromPassers`; it does not look at the node's input -/
theorem twoPass_un {k : Un} {src : Plan} (hs : rmSchema f s1 = rmSchema f s)
    (hloc : ∀ a, loc (.un s k a) = (rmKind f s k).map fun k1 => .un s1 k1 a)
    (ih : twoPasses loc f src = rmPlan f src) : twoPasses loc f (.un s k src) = rmPlan f (.un s k src) := by
  rw [rmPlan_un, ← ih, ← hs]
  simp only [twoPasses, mapNodes]
  cases mapNodes loc src with
  | none => rfl
  | some src1 =>
    simp only [hloc]
    cases rmKind f s k with
    | none => cases removeFieldFromPassers f src1 <;> rfl
    | some k1 =>
      simp only [Option.map_some, removeFieldFromPassers, mapNodes, passersLocal_eq, schema_un, Plan.withSchema]
      cases mapNodes (removeFromPassersLocal f) src1 <;> rfl

theorem twoPass_bin {k : Bin} {l r : Plan} (hloc : ∀ a b, loc (.bin s k a b) = some (.bin s k a b))
    (ihl : twoPasses loc f l = rmPlan f l) (ihr : twoPasses loc f r = rmPlan f r) :
    twoPasses loc f (.bin s k l r) = rmPlan f (.bin s k l r) := by
  rw [rmPlan_bin, ← ihl, ← ihr]
  simp only [twoPasses, mapNodes]
  cases mapNodes loc l with
  | none => rfl
  | some l1 =>
    cases mapNodes loc r with
    | none =>
      dsimp only
      cases removeFieldFromPassers f l1 <;> rfl
    | some r1 =>
      simp only [hloc, removeFieldFromPassers, mapNodes, passersLocal_eq, schema_bin, Plan.withSchema]
      cases mapNodes (removeFromPassersLocal f) l1 <;> cases mapNodes (removeFromPassersLocal f) r1 <;> rfl

end

theorem rmSchema_erased {f : String} {s : Schema} {i : Nat} (hnd : s.fields.Nodup)
    (hi : lastIndexOf f s.fields = some i) : rmSchema f (eraseSchemaField s i) = rmSchema f s := by
  have h : rmSchema f s = eraseSchemaField s i := by simp only [rmSchema, hi]
  rw [← h, rmSchema_idem hnd]

theorem twoPass_map (f : String) : ∀ (p : Plan), AllNodup p → NoGroupByHas f p →
    twoPasses (removeMapFieldLocal f) f p = rmPlan f p
  | .leaf s k, _, _ => twoPass_leaf rfl rfl
  | .un s k src, h, hgb => by
    have ih := twoPass_map f src h.2 hgb.src
    cases k with
    | map es =>
      cases hi : lastIndexOf f s.fields with
      | none => exact twoPass_un (s1 := s) rfl (fun a => by simp only [removeMapFieldLocal, rmKind, hi]; rfl) ih
      | some i =>
        exact twoPass_un (rmSchema_erased h.1 hi)
          (fun a => by simp only [removeMapFieldLocal, rmKind, hi]; cases eraseAt es i <;> rfl) ih
    | groupBy aggs aggExprs key kti trig =>
      exact twoPass_un (s1 := s) rfl (fun a => by rw [rmKind_of_not_mem hgb.1]; rfl) ih
    | _ => exact twoPass_un (s1 := s) rfl (fun _ => rfl) ih
  | .bin s k l r, h, hgb => twoPass_bin (fun _ _ => rfl) (twoPass_map f l h.2.1 hgb.1) (twoPass_map f r h.2.2 hgb.2)

theorem twoPass_datasource (f : String) : ∀ (p : Plan), AllNodup p → NoMapHas f p → NoGroupByHas f p →
    twoPasses (removeDatasourceFieldLocal f) f p = rmPlan f p
  | .leaf s k, hn, _, _ => by
    cases k with
    | ds name alias pol preds mapping =>
      cases hi : lastIndexOf f s.fields with
      | none => exact twoPass_leaf (s1 := s) rfl (by simp only [removeDatasourceFieldLocal, hi])
      | some i => exact twoPass_leaf (rmSchema_erased hn hi) (by simp only [removeDatasourceFieldLocal, hi])
    | _ => exact twoPass_leaf rfl rfl
  | .un s k src, h, hm, hgb => by
    have ih := twoPass_datasource f src h.2 hm.src hgb.src
    cases k with
    | map es => exact twoPass_un (s1 := s) rfl (fun a => by rw [rmKind_of_not_mem hm.1]; rfl) ih
    | groupBy aggs aggExprs key kti trig =>
      exact twoPass_un (s1 := s) rfl (fun a => by rw [rmKind_of_not_mem hgb.1]; rfl) ih
    | _ => exact twoPass_un (s1 := s) rfl (fun _ => rfl) ih
  | .bin s k l r, h, hm, hgb =>
    twoPass_bin (fun _ _ => rfl) (twoPass_datasource f l h.2.1 hm.1 hgb.1) (twoPass_datasource f r h.2.2 hm.2 hgb.2)

theorem twoPass_groupBy (f : String) : ∀ (p : Plan), AllNodup p → NoMapHas f p →
    twoPasses (removeGroupByFieldLocal f) f p = rmPlan f p
  | .leaf s k, _, _ => twoPass_leaf rfl rfl
  | .un s k src, h, hm => by
    have ih := twoPass_groupBy f src h.2 hm.src
    cases k with
    | map es => exact twoPass_un (s1 := s) rfl (fun a => by rw [rmKind_of_not_mem hm.1]; rfl) ih
    | groupBy aggs aggExprs key kti trig =>
      cases hi : lastIndexOf f s.fields with
      | none => exact twoPass_un (s1 := s) rfl (fun a => by simp only [removeGroupByFieldLocal, rmKind, hi]; rfl) ih
      | some i =>
        exact twoPass_un (rmSchema_erased h.1 hi) (fun a => by
          simp only [removeGroupByFieldLocal, rmKind, hi]
          cases eraseAt aggExprs ((i : Int) - key.length) <;> cases eraseAt aggs ((i : Int) - key.length) <;> rfl) ih
    | _ => exact twoPass_un (s1 := s) rfl (fun _ => rfl) ih
  | .bin s k l r, h, hm => twoPass_bin (fun _ _ => rfl) (twoPass_groupBy f l h.2.1 hm.1) (twoPass_groupBy f r h.2.2 hm.2)

end Octo.Plan
