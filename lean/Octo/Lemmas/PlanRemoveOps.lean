import Octo.Lemmas.PlanRemove
/-!
  The operators of Map, group-by, Unnest, outer-join and datasource nodes and — what the removal rules rest on — that
  they commute with erasing an unused field from their input records.
-/
namespace Octo.Plan
open Octo

theorem mapRows_eq (ctx : Ctx) (fs : List String) (es : List PExpr) : ∀ (rows : List Row),
    mapRows ctx fs es rows = rows.mapM fun r => (evalArgs (r :: ctx) es).bind (zipNames fs)
  | [] => rfl
  | r :: rs => by
    rw [mapRows, List.mapM_cons, mapRows_eq ctx fs es rs]
    cases evalArgs (r :: ctx) es with
    | none => rfl
    | some vs =>
      dsimp only [Option.bind_some]
      cases zipNames fs vs <;> cases rs.mapM (fun r => (evalArgs (r :: ctx) es).bind (zipNames fs)) <;> rfl

theorem mapRows_erase_src {f : String} {es : List PExpr} (hf : f ∉ varsUsedL es) (ctx : Ctx) (fs : List String)
    (rows : List Row) : mapRows ctx fs es (rows.map (eraseKey f)) = mapRows ctx fs es rows := by
  rw [mapRows_eq, mapRows_eq, List.mapM_map]
  exact List.mapM_congr_mem fun r _ => by rw [Function.comp, evalArgs_eraseKey hf]

theorem mapRows_names {ctx : Ctx} {fs : List String} {es : List PExpr} {rows out : List Row}
    (h : mapRows ctx fs es rows = some out) : ∀ r ∈ out, Row.names r = fs := by
  intro r hr
  rw [mapRows_eq] at h
  obtain ⟨_, _, ha⟩ := List.mapM_mem h hr
  obtain ⟨vs, _, hz⟩ := Option.bind_eq_some_iff.mp ha
  exact zipNames_names hz

theorem mapRows_drop {f : String} {ctx : Ctx} {fs : List String} {es : List PExpr} {i : Nat}
    (hnd : fs.Nodup) (hi : fs[i]? = some f) {rows out : List Row} (h : mapRows ctx fs es rows = some out) :
    mapRows ctx (fs.eraseIdx i) (es.eraseIdx i) rows = some (out.map (eraseKey f)) := by
  rw [mapRows_eq] at h ⊢
  refine List.mapM_lift (fun r _ row hrow => ?_) h
  obtain ⟨vs, he, hz⟩ := Option.bind_eq_some_iff.mp hrow
  rw [evalArgs_eraseIdx i he]
  exact zipNames_eraseIdx f i hnd hi hz

theorem mapRows_isSome {ctx : Ctx} {fs scope outer : List String} {es : List PExpr}
    (hes : ExprsOK (scope ++ outer) es) (hlen : es.length = fs.length) (hb : Binds outer ctx) {rows : List Row}
    (h : ∀ r ∈ rows, Row.names r = scope) : (mapRows ctx fs es rows).isSome = true := by
  rw [mapRows_eq]
  refine List.mapM_isSome fun r hr => ?_
  obtain ⟨vs, he⟩ := Option.isSome_iff_exists.mp (evalArgs_isSome hes (binds_cons (h r hr) hb))
  rw [he]
  exact zipNames_isSome (by rw [evalArgs_length he, hlen])

theorem keyInputs_eq (ctx : Ctx) (key aggExprs : List PExpr) : ∀ (rows : List Row),
    keyInputs ctx key aggExprs rows =
      rows.mapM fun r => (evalArgs (r :: ctx) key).bind fun k => (evalArgs (r :: ctx) aggExprs).map fun a => (k, a)
  | [] => rfl
  | r :: rs => by
    rw [keyInputs, List.mapM_cons, keyInputs_eq ctx key aggExprs rs]
    cases evalArgs (r :: ctx) key <;> cases evalArgs (r :: ctx) aggExprs <;>
      cases rs.mapM (fun r => (evalArgs (r :: ctx) key).bind fun k => (evalArgs (r :: ctx) aggExprs).map fun a => (k, a)) <;>
      rfl

theorem keyInputs_erase {f : String} {key aggExprs : List PExpr} (hk : f ∉ varsUsedL key) (ha : f ∉ varsUsedL aggExprs)
    (ctx : Ctx) (rows : List Row) :
    keyInputs ctx key aggExprs (rows.map (eraseKey f)) = keyInputs ctx key aggExprs rows := by
  rw [keyInputs_eq, keyInputs_eq, List.mapM_map]
  exact List.mapM_congr_mem fun r _ => by rw [Function.comp, evalArgs_eraseKey hk, evalArgs_eraseKey ha]

theorem keyInputs_dropAgg {ctx : Ctx} {key aggExprs : List PExpr} (j : Nat) {rows : List Row}
    {pairs : List (List Value × List Value)} (h : keyInputs ctx key aggExprs rows = some pairs) :
    keyInputs ctx key (aggExprs.eraseIdx j) rows = some (pairs.map fun p => (p.1, p.2.eraseIdx j)) := by
  rw [keyInputs_eq] at h ⊢
  refine List.mapM_lift (fun r _ p hp => ?_) h
  obtain ⟨k, hk, hp⟩ := Option.bind_eq_some_iff.mp hp
  obtain ⟨a, ha, rfl⟩ := Option.map_eq_some_iff.mp hp
  rw [hk, evalArgs_eraseIdx j ha]
  rfl

theorem keyInputs_keyLen {ctx : Ctx} {key aggExprs : List PExpr} {rows : List Row}
    {pairs : List (List Value × List Value)} (h : keyInputs ctx key aggExprs rows = some pairs) :
    ∀ p ∈ pairs, p.1.length = key.length := by
  intro p hp
  rw [keyInputs_eq] at h
  obtain ⟨_, _, hr⟩ := List.mapM_mem h hp
  obtain ⟨k, hk, hr⟩ := Option.bind_eq_some_iff.mp hr
  obtain ⟨a, _, rfl⟩ := Option.map_eq_some_iff.mp hr
  exact evalArgs_length hk

theorem keyInputs_isSome {ctx : Ctx} {scope : List String} {key aggExprs : List PExpr}
    (hk : ExprsOK scope key) (ha : ExprsOK scope aggExprs) {rows : List Row}
    (hb : ∀ r ∈ rows, Binds scope (r :: ctx)) : (keyInputs ctx key aggExprs rows).isSome = true := by
  rw [keyInputs_eq]
  refine List.mapM_isSome fun r hr => ?_
  obtain ⟨k, h1⟩ := Option.isSome_iff_exists.mp (evalArgs_isSome hk (hb r hr))
  obtain ⟨a, h2⟩ := Option.isSome_iff_exists.mp (evalArgs_isSome ha (hb r hr))
  rw [h1, h2]
  rfl

theorem addToGroups_map (j : Nat) (k inp : List Value) : ∀ (gs : List (List Value × List (List Value))),
    addToGroups k (inp.eraseIdx j) (gs.map fun g => (g.1, g.2.map fun x => x.eraseIdx j)) =
      (addToGroups k inp gs).map fun g => (g.1, g.2.map fun x => x.eraseIdx j)
  | [] => rfl
  | (k', ins) :: rest => by
    simp only [List.map_cons, addToGroups]
    split
    · simp [List.map_append]
    · simp only [List.map_cons, addToGroups_map j k inp rest]

theorem groupPairs_map (j : Nat) (ps : List (List Value × List Value)) :
    groupPairs (ps.map fun p => (p.1, p.2.eraseIdx j)) =
      (groupPairs ps).map fun g => (g.1, g.2.map fun x => x.eraseIdx j) := by
  unfold groupPairs
  rw [List.foldl_map]
  exact List.foldl_hom (init := []) (List.map _) fun gs p => addToGroups_map j p.1 p.2 gs

theorem addToGroups_keys {P : List Value → Prop} {k inp : List Value} (hk : P k) :
    ∀ {gs : List (List Value × List (List Value))}, (∀ g ∈ gs, P g.1) → ∀ g ∈ addToGroups k inp gs, P g.1
  | [], _ => List.forall_mem_singleton.mpr hk
  | (k', ins) :: rest, h => by
    obtain ⟨h1, h2⟩ := List.forall_mem_cons.mp h
    simp only [addToGroups]
    split
    · exact List.forall_mem_cons.mpr ⟨h1, h2⟩
    · exact List.forall_mem_cons.mpr ⟨h1, addToGroups_keys hk h2⟩

theorem groupPairs_keys {P : List Value → Prop} {ps : List (List Value × List Value)} (h : ∀ p ∈ ps, P p.1) :
    ∀ g ∈ groupPairs ps, P g.1 :=
  List.foldlRecOn ps _ (motive := fun acc => ∀ g ∈ acc, P (Prod.fst g)) (fun _ hg => absurd hg List.not_mem_nil)
    (fun _ ha p hp => addToGroups_keys (h p hp) ha)

theorem aggCols_cons (a : String) (as : List String) (inputs : List (List Value)) :
    aggCols (a :: as) inputs =
      (aggOne a (inputs.filterMap List.head?)).bind fun v => (aggCols as (inputs.map List.tail)).map (v :: ·) := by
  rw [aggCols]
  cases aggOne a (inputs.filterMap List.head?) <;> cases aggCols as (inputs.map List.tail) <;> rfl

theorem aggCols_eraseIdx : ∀ {aggs : List String} {inputs : List (List Value)} {vs : List Value} (j : Nat),
    aggCols aggs inputs = some vs →
    aggCols (aggs.eraseIdx j) (inputs.map fun x => x.eraseIdx j) = some (vs.eraseIdx j)
  | [], _, _, _, h => by
    obtain rfl := Option.some.inj h
    rfl
  | a :: as, inputs, _, j, h => by
    rw [aggCols_cons] at h
    obtain ⟨v, h1, h⟩ := Option.bind_eq_some_iff.mp h
    obtain ⟨vs', h2, rfl⟩ := Option.map_eq_some_iff.mp h
    cases j with
    | zero =>
      rw [List.eraseIdx_cons_zero, List.eraseIdx_cons_zero, ← h2]
      congr 1
      exact List.map_congr_left fun x _ => by cases x <;> rfl
    | succ j =>
      have hh : List.head? ∘ (fun x : List Value => x.eraseIdx (j + 1)) = List.head? :=
        funext fun x => by cases x <;> rfl
      have ht : List.tail ∘ (fun x : List Value => x.eraseIdx (j + 1)) = (fun x => x.eraseIdx j) ∘ List.tail :=
        funext fun x => by cases x <;> rfl
      rw [List.eraseIdx_cons_succ, List.eraseIdx_cons_succ, aggCols_cons, List.filterMap_map, List.map_map, hh, ht,
        ← List.map_map, h1, aggCols_eraseIdx j h2]
      rfl

theorem aggCols_length : ∀ {aggs : List String} {inputs : List (List Value)} {vs : List Value},
    aggCols aggs inputs = some vs → vs.length = aggs.length
  | [], _, _, h => by
    obtain rfl := Option.some.inj h
    rfl
  | a :: as, inputs, _, h => by
    rw [aggCols_cons] at h
    obtain ⟨v, _, h⟩ := Option.bind_eq_some_iff.mp h
    obtain ⟨vs', h2, rfl⟩ := Option.map_eq_some_iff.mp h
    rw [List.length_cons, List.length_cons, aggCols_length h2]

theorem groupOut_eq (fs aggs : List String) : ∀ (gs : List (List Value × List (List Value))),
    groupOut fs aggs gs = gs.mapM fun g => (aggCols aggs g.2).bind fun avs => zipNames fs (g.1 ++ avs)
  | [] => rfl
  | (k, inputs) :: rest => by
    rw [groupOut, List.mapM_cons, groupOut_eq fs aggs rest]
    cases aggCols aggs inputs with
    | none => rfl
    | some avs =>
      cases rest.mapM (fun g => (aggCols aggs g.2).bind fun avs => zipNames fs (g.1 ++ avs)) <;>
        cases h : zipNames fs (k ++ avs) <;> simp [h]

theorem groupOut_names {fs aggs : List String} {gs : List (List Value × List (List Value))} {out : List Row}
    (h : groupOut fs aggs gs = some out) : ∀ r ∈ out, Row.names r = fs := by
  intro r hr
  rw [groupOut_eq] at h
  obtain ⟨_, _, hg⟩ := List.mapM_mem h hr
  obtain ⟨avs, _, hz⟩ := Option.bind_eq_some_iff.mp hg
  exact zipNames_names hz

theorem groupByRows_names {ctx : Ctx} {fs aggs : List String} {aggExprs key : List PExpr} {rows out : List Row}
    (h : groupByRows ctx fs aggs aggExprs key rows = some out) : ∀ r ∈ out, Row.names r = fs := by
  unfold groupByRows at h
  split at h
  · cases h
  · exact groupOut_names h

theorem groupOut_dropAgg {f : String} {fs aggs : List String} {keyLen j : Nat}
    (hnd : fs.Nodup) (hi : fs[keyLen + j]? = some f)
    {gs : List (List Value × List (List Value))} {out : List Row} (hk : ∀ g ∈ gs, g.1.length = keyLen)
    (h : groupOut fs aggs gs = some out) :
    groupOut (fs.eraseIdx (keyLen + j)) (aggs.eraseIdx j) (gs.map fun g => (g.1, g.2.map fun x => x.eraseIdx j)) =
      some (out.map (eraseKey f)) := by
  rw [groupOut_eq] at h ⊢
  rw [List.mapM_map]
  refine List.mapM_lift (fun g hg row hrow => ?_) h
  obtain ⟨avs, ha, hz⟩ := Option.bind_eq_some_iff.mp hrow
  obtain rfl := hk g hg
  have hz' := zipNames_eraseIdx f (g.1.length + j) hnd hi hz
  rw [List.eraseIdx_append_of_length_le (Nat.le_add_right _ _), Nat.add_sub_cancel_left] at hz'
  rw [Function.comp, aggCols_eraseIdx j ha]
  exact hz'

theorem groupByRows_dropAgg {f : String} {ctx : Ctx} {fs aggs : List String} {aggExprs key : List PExpr} {j : Nat}
    {rows out : List Row} (hnd : fs.Nodup) (hi : fs[key.length + j]? = some f)
    (h : groupByRows ctx fs aggs aggExprs key rows = some out) :
    groupByRows ctx (fs.eraseIdx (key.length + j)) (aggs.eraseIdx j) (aggExprs.eraseIdx j) key rows =
      some (out.map (eraseKey f)) := by
  unfold groupByRows at h ⊢
  cases hk : keyInputs ctx key aggExprs rows with
  | none => simp [hk] at h
  | some pairs =>
    simp only [hk] at h
    simp only [keyInputs_dropAgg j hk, groupPairs_map]
    exact groupOut_dropAgg hnd hi (groupPairs_keys (P := fun k => k.length = key.length) (keyInputs_keyLen hk)) h

theorem applyAgg_isSome {a : String} (ha : a = "count" ∨ a = "min" ∨ a = "max") {vs : List Value} (hv : vs ≠ []) :
    (applyAgg a vs).isSome = true := by
  obtain ⟨v, rest, rfl⟩ := List.exists_cons_of_ne_nil hv
  rcases ha with rfl | rfl | rfl <;>
    simp only [applyAgg, String.reduceBEq, Bool.false_eq_true, ↓reduceIte, Option.isSome_some]

theorem aggOne_isSome {a : String} (ha : a = "count" ∨ a = "min" ∨ a = "max") (col : List Value) :
    (aggOne a col).isSome = true := by
  simp only [aggOne]
  split
  · rfl
  · rename_i h
    apply applyAgg_isSome ha
    intro he
    rw [he] at h
    exact h rfl

theorem aggCols_isSome : ∀ {aggs : List String}, (∀ a ∈ aggs, a = "count" ∨ a = "min" ∨ a = "max") →
    ∀ (inputs : List (List Value)), (aggCols aggs inputs).isSome = true
  | [], _, _ => rfl
  | a :: as, h, inputs => by
    obtain ⟨v, hv⟩ := Option.isSome_iff_exists.mp (aggOne_isSome (h a List.mem_cons_self) (inputs.filterMap List.head?))
    rw [aggCols_cons, hv, Option.bind_some, Option.isSome_map]
    exact aggCols_isSome (fun x hx => h x (List.mem_cons_of_mem _ hx)) _

theorem groupOut_isSome {fs aggs : List String} {keyLen : Nat} (hlen : fs.length = keyLen + aggs.length)
    (hagg : ∀ a ∈ aggs, a = "count" ∨ a = "min" ∨ a = "max") {gs : List (List Value × List (List Value))}
    (hk : ∀ g ∈ gs, g.1.length = keyLen) : (groupOut fs aggs gs).isSome = true := by
  rw [groupOut_eq]
  refine List.mapM_isSome fun g hg => ?_
  obtain ⟨avs, ha⟩ := Option.isSome_iff_exists.mp (aggCols_isSome hagg g.2)
  rw [ha]
  exact zipNames_isSome (by rw [List.length_append, aggCols_length ha, hk g hg, hlen])

/-- the totality hypothesis of `Good` for group-by nodes holds for `count`, `min`, `max` over safe expressions -/
theorem groupByRows_isSome {ctx : Ctx} {scope fs aggs : List String} {aggExprs key : List PExpr}
    (hes : ExprsOK scope (aggExprs ++ key)) (hlen : fs.length = key.length + aggs.length)
    (hagg : ∀ a ∈ aggs, a = "count" ∨ a = "min" ∨ a = "max") {rows : List Row}
    (hb : ∀ r ∈ rows, Binds scope (r :: ctx)) : (groupByRows ctx fs aggs aggExprs key rows).isSome = true := by
  have hk : ExprsOK scope key := fun e he => hes e (List.mem_append_right _ he)
  have ha : ExprsOK scope aggExprs := fun e he => hes e (List.mem_append_left _ he)
  obtain ⟨pairs, e1⟩ := Option.isSome_iff_exists.mp (keyInputs_isSome hk ha hb)
  rw [groupByRows, e1]
  exact groupOut_isSome hlen hagg (groupPairs_keys (P := fun k => k.length = key.length) (keyInputs_keyLen e1))

/-! Records with one more (unused) field at the end: how `RmOK.groupBy_pass` meets the totality clause of a group-by
  whose input has lost `f`. -/

theorem keyInputs_trailing_unused {f : String} {key aggExprs : List PExpr} (hk : f ∉ varsUsedL key)
    (ha : f ∉ varsUsedL aggExprs)
    (v : Value) (ctx : Ctx) (rows : List Row) :
    keyInputs ctx key aggExprs (rows.map (· ++ [(f, v)])) = keyInputs ctx key aggExprs rows := by
  have h : ∀ {es : List PExpr}, f ∉ varsUsedL es → ∀ x ∈ varsUsedL es, x ∉ Row.names [(f, v)] :=
    fun hf x hx hm => by
      obtain rfl : x = f := List.mem_singleton.mp hm
      exact hf hx
  rw [keyInputs_eq, keyInputs_eq, List.mapM_map]
  exact List.mapM_congr_mem fun r _ => by rw [Function.comp, evalArgs_append_left r _ ctx key (h hk), evalArgs_append_left r _ ctx aggExprs (h ha)]

theorem binds_append_erase {f : String} {fs outer : List String} {r : Row} {ctx : Ctx} (v : Value)
    (h : Binds (eraseField f fs ++ outer) (r :: ctx)) : Binds (fs ++ outer) ((r ++ [(f, v)]) :: ctx) := by
  intro x hx
  simp only [lookupVar, lookupRow_append]
  by_cases hxf : x = f
  · subst hxf
    cases lookupRow x r <;> simp [lookupRow]
  · have hx' : x ∈ eraseField f fs ++ outer := by
      simp only [List.mem_append] at hx ⊢
      exact hx.imp (fun hx => mem_eraseField.mpr ⟨hx, hxf⟩) id
    have hfx : (f == x) = false := by simpa using Ne.symm hxf
    have := h x hx'
    simp only [lookupVar] at this
    cases hl : lookupRow x r with
    | some _ => rfl
    | none =>
      rw [hl] at this
      simpa [lookupRow, hfx] using this

theorem replaceField_erase {f g : String} (hgf : g ≠ f) (v : Value) : ∀ (r : Row),
    replaceField g v (eraseKey f r) = eraseKey f (replaceField g v r)
  | [] => rfl
  | (k, x) :: r => by
    by_cases hk : k = f
    · subst hk
      have hkg : (k == g) = false := by
        simp only [beq_eq_false_iff_ne, ne_eq]
        exact fun e => hgf e.symm
      simp only [eraseKey, List.filter_cons, bne_self_eq_false, Bool.false_eq_true, if_false, replaceField, hkg]
      exact replaceField_erase hgf v r
    · have hkf : (k != f) = true := by simpa using hk
      simp only [eraseKey, List.filter_cons, hkf, if_true, replaceField]
      by_cases hkg : (k == g) = true
      · simp only [hkg, if_true, List.filter_cons, hkf]
      · simp only [hkg, Bool.false_eq_true, if_false, List.filter_cons, hkf, if_true]
        congr 1
        exact replaceField_erase hgf v r

theorem replaceField_names (g : String) (v : Value) : ∀ (r : Row), Row.names (replaceField g v r) = Row.names r
  | [] => rfl
  | (k, x) :: r => by
    rw [replaceField]
    split
    · rfl
    · exact congrArg (k :: ·) (replaceField_names g v r)

theorem unnestRows_erase {f g : String} (hgf : g ≠ f) : ∀ (rows : List Row),
    unnestRows g (rows.map (eraseKey f)) = (unnestRows g rows).map (List.map (eraseKey f))
  | [] => rfl
  | r :: rs => by
    simp only [List.map_cons, unnestRows, lookupRow_eraseKey hgf, unnestRows_erase hgf rs]
    cases lookupRow g r with
    | none => rfl
    | some v =>
      cases unnestRows g rs with
      | none => rfl
      | some out =>
        simp only [Option.map_some, List.map_append, List.map_map]
        congr 2
        apply List.map_congr_left
        intro e _
        exact replaceField_erase hgf e r

theorem unnestRows_names {g : String} {fs : List String} : ∀ {rows out : List Row},
    (∀ r ∈ rows, Row.names r = fs) → unnestRows g rows = some out → ∀ r ∈ out, Row.names r = fs
  | [], _, _, h => by
    obtain rfl := Option.some.inj h
    exact fun _ hx => nomatch hx
  | r :: rs, _, hn, h => by
    rw [unnestRows] at h
    split at h
    · rename_i v rest _ hu
      obtain rfl := Option.some.inj h
      intro x hx
      rcases List.mem_append.mp hx with hx | hx
      · obtain ⟨e, _, rfl⟩ := List.mem_map.mp hx
        rw [replaceField_names]
        exact hn r List.mem_cons_self
      · exact unnestRows_names (fun y hy => hn y (List.mem_cons_of_mem _ hy)) hu x hx
    · cases h

theorem keysOk_erase {f : String} {ks : List PExpr} (hf : f ∉ varsUsedL ks) (ctx : Ctx) (rows : List Row) :
    keysOk ctx ks (rows.map (eraseKey f)) = keysOk ctx ks rows := by
  simp only [keysOk, List.all_map]
  apply List.all_congr rfl
  intro r
  simp only [Function.comp, evalArgs_eraseKey hf]

theorem keyMatch_erase {f : String} {lk rk : List PExpr} (hl : f ∉ varsUsedL lk) (hr : f ∉ varsUsedL rk)
    (ctx : Ctx) (l r : Row) : keyMatch ctx lk rk (eraseKey f l) (eraseKey f r) = keyMatch ctx lk rk l r := by
  simp only [keyMatch, evalArgs_eraseKey hl, evalArgs_eraseKey hr]

theorem tableRow_erase {f : String} {mapping : List (String × String)} {tr : Row} : ∀ {fields : List String} {r : Row},
    tableRow mapping tr fields = some r → tableRow mapping tr (eraseField f fields) = some (eraseKey f r)
  | [], _, h => by
    obtain rfl := Option.some.inj h
    rfl
  | u :: us, _, h => by
    rw [tableRow_cons] at h
    obtain ⟨col, hm, h⟩ := Option.bind_eq_some_iff.mp h
    obtain ⟨v, hv, h⟩ := Option.bind_eq_some_iff.mp h
    obtain ⟨rest, hr, rfl⟩ := Option.map_eq_some_iff.mp h
    have ih := tableRow_erase (f := f) hr
    unfold eraseField eraseKey at ih ⊢
    rw [List.filter_cons, List.filter_cons]
    by_cases huf : u = f
    · rw [if_neg (by simpa using huf), if_neg (by simpa using huf)]
      exact ih
    · rw [if_pos (by simpa using huf), if_pos (by simpa using huf), tableRow_cons, hm, Option.bind_some, hv, ih]
      rfl

theorem tableRows_erase {f : String} {mapping : List (String × String)} {fields : List String} {trs rows : List Row}
    (h : tableRows mapping fields trs = some rows) :
    tableRows mapping (eraseField f fields) trs = some (rows.map (eraseKey f)) := by
  rw [tableRows_eq] at h ⊢
  exact List.mapM_lift (fun _ _ _ hr => tableRow_erase hr) h

theorem nullRow_erase (f : String) (fs : List String) : eraseKey f (nullRow fs) = nullRow (eraseField f fs) :=
  List.filter_map

theorem nullRow_names (fs : List String) : Row.names (nullRow fs) = fs :=
  List.map_map.trans (List.map_id fs)

/-- the NULL-padded unmatched records of one side of an outer join, under erasure (`g` pads a record) -/
theorem pad_erase {f : String} {q q' : Row → Row → Bool} {g g' : Row → Row}
    (hq : ∀ a b, q' (eraseKey f a) (eraseKey f b) = q a b) (hg : ∀ a, g' (eraseKey f a) = eraseKey f (g a))
    (xs ys : List Row) :
    ((xs.map (eraseKey f)).filter fun x => !(ys.map (eraseKey f)).any (q' x)).map g' =
      ((xs.filter fun x => !ys.any (q x)).map g).map (eraseKey f) := by
  simp only [List.filter_map, List.map_map]
  congr 1
  · funext x
    exact hg x
  · apply List.filter_congr
    intro x _
    simp only [Function.comp, List.any_map]
    congr 2
    funext y
    exact hq x y

theorem outerJoinRows_erase {f : String} {lk rk : List PExpr} (hl : f ∉ varsUsedL lk) (hr : f ∉ varsUsedL rk)
    (ctx : Ctx) (il ir : Bool) (lf rf : List String) (ls rs : List Row) :
    outerJoinRows ctx il ir (eraseField f lf) (eraseField f rf) lk rk (ls.map (eraseKey f)) (rs.map (eraseKey f)) =
      (outerJoinRows ctx il ir lf rf lk rk ls rs).map (List.map (eraseKey f)) := by
  simp only [outerJoinRows, keysOk_erase hl, keysOk_erase hr]
  cases keysOk ctx lk ls && keysOk ctx rk rs with
  | false => rfl
  | true =>
    simp only [↓reduceIte, Option.map_some, List.map_append]
    have hm := keyMatch_erase hl hr ctx
    congr 3
    · exact nlJoin_map (eraseKey_append f) hm ls rs
    · cases il with
      | false => rfl
      | true => exact pad_erase hm (fun a => by rw [eraseKey_append, nullRow_erase]) ls rs
    · cases ir with
      | false => rfl
      | true => exact pad_erase (fun a b => hm b a) (fun a => by rw [eraseKey_append, nullRow_erase]) rs ls

theorem outerJoinRows_names {lf rf : List String} {ctx : Ctx} {il ir : Bool} {lk rk : List PExpr} {ls rs out : List Row}
    (hl : ∀ r ∈ ls, Row.names r = lf) (hr : ∀ r ∈ rs, Row.names r = rf)
    (h : outerJoinRows ctx il ir lf rf lk rk ls rs = some out) : ∀ x ∈ out, Row.names x = lf ++ rf := by
  unfold outerJoinRows at h
  by_cases hk : (keysOk ctx lk ls && keysOk ctx rk rs) = true
  · rw [if_pos hk] at h
    obtain rfl := Option.some.inj h
    intro x hx
    simp only [List.mem_append] at hx
    rcases hx with (hx | hx) | hx
    · exact names_of_join hl hr x hx
    · cases il with
      | false => simp at hx
      | true =>
        simp only [if_true, List.mem_map, List.mem_filter] at hx
        obtain ⟨l, ⟨hl', _⟩, rfl⟩ := hx
        rw [names_append, hl l hl', nullRow_names]
    · cases ir with
      | false => simp at hx
      | true =>
        simp only [if_true, List.mem_map, List.mem_filter] at hx
        obtain ⟨r, ⟨hr', _⟩, rfl⟩ := hx
        rw [names_append, hr r hr', nullRow_names]
  · rw [if_neg hk] at h
    cases h

theorem checked_erase {f : String} {s s' : Schema} (hs : s'.fields = eraseField f s.fields) {o : Option (List Row)}
    (hn : ∀ out, o = some out → ∀ r ∈ out, Row.names r = s.fields) :
    checked s' (o.map (List.map (eraseKey f))) = (checked s o).map (List.map (eraseKey f)) := by
  cases o with
  | none => rfl
  | some out =>
    simp only [Option.map_some]
    rw [checked_pass (hn out rfl), checked_pass]
    · rfl
    · intro r hr
      simp only [List.mem_map] at hr
      obtain ⟨r0, hr0, rfl⟩ := hr
      rw [names_eraseKey, hn out rfl r0 hr0, hs]

end Octo.Plan
