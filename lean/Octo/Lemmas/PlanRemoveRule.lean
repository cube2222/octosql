import Octo.Lemmas.PlanRemoveSim
import Octo.Lemmas.PlanLift
import Octo.Lemmas.PlanJoinKey
import Octo.Lemmas.PlanPush
/-!
  The three removal rules as a whole: the loop over the collected fields is sound (every step is `rmPlan`, which
  `rm_sim` covers) and leaves the plan no harder to prune.  With that, every rule of the generated list keeps
  `Prunable`, and `optimize` is sound on well-formed prunable plans.
-/
namespace Octo.Plan
open Octo

theorem rmPlan_fields_sub {f : String} {p p' : Plan} (h : rmPlan f p = some p') : ∀ x ∈ p'.fields, x ∈ p.fields := by
  intro x hx
  rw [Plan.fields, rmPlan_schema h] at hx
  exact mem_rmSchema_fields hx

/-- the key columns of the schema stay where they are: the erased index lies behind them (else `eraseAt` fails) -/
theorem rmKind_groupBy {f : String} {s : Schema} {aggs : List String} {aggExprs key : List PExpr} {kti : Int}
    {trig : String} {k' : Un} (h : rmKind f s (.groupBy aggs aggExprs key kti trig) = some k') :
    (∃ aggs' aggExprs', k' = .groupBy aggs' aggExprs' key kti trig) ∧
      (rmSchema f s).fields.take key.length = s.fields.take key.length := by
  simp only [rmKind, rmSchema] at h ⊢
  cases hi : lastIndexOf f s.fields with
  | none =>
    rw [hi] at h
    exact ⟨⟨_, _, (Option.some.inj h).symm⟩, rfl⟩
  | some i =>
    simp only [hi] at h ⊢
    split at h
    · rename_i h1 _
      have := (eraseAt_some h1).1
      exact ⟨⟨_, _, (Option.some.inj h).symm⟩, take_eraseIdx_of_le _ _ _ (by omega)⟩
    · cases h

theorem NoHarderToPrune.rmLeaf (f : String) (s : Schema) (k : Leaf) : NoHarderToPrune (.leaf s k) (.leaf (rmSchema f s) k) := by
  refine
    { rem := ?_, mapf := fun _ hx => hx, dsf := ?_, nogbh := fun _ _ => trivial,
      gbf := fun _ hx => hx }
  · intro g hr
    cases k with
    | ds => trivial
    | _ => exact fun hm => hr (mem_rmSchema_fields hm)
  · intro g hx
    cases k with
    | ds => exact mem_rmSchema_fields hx
    | _ => exact hx

theorem NoHarderToPrune.rmUn {f : String} {s : Schema} {k k' : Un} {a : Plan} (hk : rmKind f s k = some k') :
    NoHarderToPrune (.un s k a) (.un (rmSchema f s) k' a) := by
  have hsub : ∀ {x : String}, x ∉ s.fields → x ∉ (rmSchema f s).fields := fun hn hm => hn (mem_rmSchema_fields hm)
  cases k with
  | map es =>
    obtain ⟨es', rfl⟩ : ∃ es', k' = .map es' := by
      simp only [rmKind] at hk
      split at hk
      · exact (Option.map_eq_some_iff.mp hk).imp fun _ h => h.2.symm
      · exact ⟨es, (Option.some.inj hk).symm⟩
    refine
      { rem := fun _ hr => hr, mapf := ?_, dsf := fun _ hx => hx,
        nogbh := fun _ hn => hn, gbf := fun _ hx => hx }
    intro g hx
    simp only [collectFields, allMapFields, List.mem_append] at hx ⊢
    exact hx.imp id mem_rmSchema_fields
  | groupBy aggs aggExprs key kti trig =>
    obtain ⟨⟨aggs', aggExprs', rfl⟩, htake⟩ := rmKind_groupBy hk
    refine
      { rem := ?_, mapf := fun _ hx => hx, dsf := fun _ hx => hx,
        nogbh := fun _ hn => ⟨hsub hn.1, hn.2⟩, gbf := ?_ }
    · intro g hr
      refine ⟨hr.1, fun hm => ?_⟩
      rw [htake]
      exact hr.2 (mem_rmSchema_fields hm)
    · intro g hx
      simp only [collectFields, allGbFields, List.mem_append] at hx ⊢
      exact hx.imp id (mem_drop_rmSchema _)
  -- `Removable` asks nothing of a filter, Unnest or DISTINCT node …
  | filter _ | unnest _ | distinct =>
    obtain rfl := Option.some.inj hk
    exact
      { rem := fun _ hr => ⟨hr.1, trivial⟩, mapf := fun _ hx => hx, dsf := fun _ hx => hx,
        nogbh := fun _ hn => hn, gbf := fun _ hx => hx }
  -- … and of an ORDER BY / LIMIT node or a table valued function that the field is not in its schema, which shrinks
  | ost _ _ _ | tvf _ _ _ =>
    obtain rfl := Option.some.inj hk
    exact
      { rem := fun _ hr => ⟨hr.1, hsub hr.2⟩, mapf := fun _ hx => hx, dsf := fun _ hx => hx,
        nogbh := fun _ hn => hn, gbf := fun _ hx => hx }

theorem rmPlan_noHarder {f : String} : ∀ {p p' : Plan}, rmPlan f p = some p' → NoHarderToPrune p p'
  | .leaf s k, p', h => by
    obtain rfl := Option.some.inj h
    exact NoHarderToPrune.rmLeaf f s k
  | .un s k src, p', h => by
    rw [rmPlan_un] at h
    obtain ⟨src', hs, h⟩ := Option.bind_eq_some_iff.mp h
    obtain ⟨k', hk, rfl⟩ := Option.map_eq_some_iff.mp h
    exact (NoHarderToPrune.un (rmPlan_noHarder hs) (rmPlan_fields_sub hs)).trans (NoHarderToPrune.rmUn hk)
  | .bin s k l r, p', h => by
    rw [rmPlan_bin] at h
    obtain ⟨l', hl, h⟩ := Option.bind_eq_some_iff.mp h
    obtain ⟨r', hr, rfl⟩ := Option.map_eq_some_iff.mp h
    exact NoHarderToPrune.bin (rmPlan_noHarder hl) (rmPlan_noHarder hr) (rmPlan_fields_sub hl)

theorem rm_step {db : Db} {f : String} {p p1 : Plan} {outer : List String}
    (hg : Good db p outer) (hu : isUsed f p = false) (hr : Removable f p) (h : rmPlan f p = some p1) :
    StepOK db outer p p1 := by
  simp only [isUsed, Bool.or_eq_false_iff] at hu
  have hf : f ∉ p.fields := fun hm => List.any_eq_false.mp hu.1 f hm (beq_self_eq_true f)
  exact (rm_sim db f p outer p1 hg hu.2 hr h).toStep hf

/-- the loop of a removal rule whose two passes compute `rmPlan` under a side condition `Q` that is kept when a plan
    gets no harder to prune -/
theorem removeLoop_ok (db : Db) (loc : String → Plan → Option Plan) (Q : String → Plan → Prop)
    (htp : ∀ f p, AllNodup p → Q f p → twoPasses (loc f) f p = rmPlan f p)
    (hQ : ∀ g p p', NoHarderToPrune p p' → Q g p → Q g p') :
    ∀ (fields : List String) (p : Plan) (outer : List String) (c : Bool) (p' : Plan) (c' : Bool),
    Good db p outer → (∀ f ∈ fields, Removable f p ∧ Q f p) →
    removeLoop loc fields p c = some (p', c') → StepOK db outer p p' ∧ NoHarderToPrune p p'
  | [], p, outer, c, p', c', hg, _, h => by
    simp only [removeLoop, Option.some.injEq, Prod.mk.injEq] at h
    obtain ⟨rfl, _⟩ := h
    exact ⟨StepOK.refl hg, NoHarderToPrune.refl p⟩
  | f :: fs, p, outer, c, p', c', hg, hr, h => by
    simp only [removeLoop] at h
    cases hu : isUsed f p with
    | true =>
      simp only [hu, Bool.not_true, Bool.false_eq_true, if_false] at h
      exact removeLoop_ok db loc Q htp hQ fs p outer c p' c' hg (fun g hg' => hr g (by simp [hg'])) h
    | false =>
      simp only [hu, Bool.not_false, if_true] at h
      have htp' := htp f p hg.allNodup (hr f (by simp)).2
      simp only [twoPasses] at htp'
      cases h1 : mapNodes (loc f) p with
      | none => simp [h1] at h
      | some n1 =>
        simp only [h1] at h htp'
        cases h2 : removeFieldFromPassers f n1 with
        | none => simp [h2] at h
        | some n2 =>
          simp only [h2] at h htp'
          have hstep := rm_step hg hu (hr f (by simp)).1 htp'.symm
          have hsub := rmPlan_noHarder htp'.symm
          obtain ⟨h3, h4⟩ := removeLoop_ok db loc Q htp hQ fs n2 outer true p' c' hstep.good
            (fun g hg' => ⟨hsub.rem g (hr g (by simp [hg'])).1, hQ g p n2 hsub (hr g (by simp [hg'])).2⟩) h
          exact ⟨hstep.trans h3, hsub.trans h4⟩

theorem collectFields_mono {pick pick' : Plan → List String} (h : ∀ n x, x ∈ pick n → x ∈ pick' n) :
    ∀ (p : Plan) (x : String), x ∈ collectFields pick p → x ∈ collectFields pick' p
  | .leaf s k, x, hx => h _ x hx
  | .un s k src, x, hx => by
    simp only [collectFields, List.mem_append] at hx ⊢
    exact hx.imp (collectFields_mono h src x) (h _ x)
  | .bin s k l r, x, hx => by
    simp only [collectFields, List.mem_append] at hx ⊢
    exact hx.imp (Or.imp (collectFields_mono h l x) (collectFields_mono h r x)) (h _ x)

theorem mem_candidateFields_drop {s : Schema} {skip : Nat} {x : String} (h : x ∈ candidateFields s skip) :
    x ∈ s.fields.drop skip := by
  -- a candidate sits at an index that is not below `skip`
  have key : ∀ (fs : List String) (i : Nat), x ∈ candidateFields.go s skip i fs → ∃ j, skip ≤ i + j ∧ fs[j]? = some x := by
    intro fs
    induction fs with
    | nil => intro i h; simp [candidateFields.go] at h
    | cons f fs ih =>
      intro i h
      simp only [candidateFields.go, List.mem_append] at h
      rcases h with h | h
      · split at h
        · cases h
        · rename_i hc
          simp only [Bool.or_eq_true, decide_eq_true_eq, not_or, Nat.not_lt] at hc
          exact ⟨0, hc.1, by rw [List.mem_singleton.mp h]; rfl⟩
      · obtain ⟨j, hj, hx⟩ := ih (i + 1) h
        exact ⟨j + 1, by omega, hx⟩
  obtain ⟨j, hj, hx⟩ := key s.fields 0 h
  rw [List.mem_iff_getElem?]
  refine ⟨j - skip, ?_⟩
  rw [List.getElem?_drop, show skip + (j - skip) = j by omega]
  exact hx

theorem pickMap_sub_all (n : Plan) (x : String) (h : x ∈ pickMap n) : x ∈ allMapFields n := by
  unfold pickMap at h
  split at h
  · exact List.mem_of_mem_drop (mem_candidateFields_drop h)
  · cases h

theorem pickDatasource_sub_all (n : Plan) (x : String) (h : x ∈ pickDatasource n) : x ∈ allDsFields n := by
  unfold pickDatasource at h
  split at h
  · exact List.mem_of_mem_drop (mem_candidateFields_drop h)
  · cases h

theorem pickGroupBy_sub_all (n : Plan) (x : String) (h : x ∈ pickGroupBy n) : x ∈ allGbFields n := by
  unfold pickGroupBy at h
  split at h
  · exact mem_candidateFields_drop h
  · cases h

/-- every Map field `RemoveUnusedMapFields` may pick could be removed without being noticed, should it turn out to be unused -/
def MapRemovable (p : Plan) : Prop := ∀ f ∈ collectFields pickMap p, Removable f p ∧ NoGroupByHas f p

/-- every datasource field `RemoveUnusedDatasourceFields` may pick could be removed without being noticed, should it turn
    out to be unused -/
def DatasourceRemovable (p : Plan) : Prop :=
  ∀ f ∈ collectFields pickDatasource p, Removable f p ∧ NoMapHas f p ∧ NoGroupByHas f p

/-- every aggregate `RemoveUnusedGroupByNonKeyFields` may pick could be removed without being noticed, should it turn out
    to be unused -/
def GroupByRemovable (p : Plan) : Prop := ∀ f ∈ collectFields pickGroupBy p, Removable f p ∧ NoMapHas f p

theorem Prunable.mapRemovable {p : Plan} (hp : Prunable p) : MapRemovable p :=
  fun f hf => hp.maps f (collectFields_mono pickMap_sub_all p f hf)

theorem Prunable.datasourceRemovable {p : Plan} (hp : Prunable p) : DatasourceRemovable p :=
  fun f hf => hp.dss f (collectFields_mono pickDatasource_sub_all p f hf)

theorem Prunable.groupByRemovable {p : Plan} (hp : Prunable p) : GroupByRemovable p :=
  fun f hf => hp.gbs f (collectFields_mono pickGroupBy_sub_all p f hf)

theorem removeUnusedMapFields_ok (db : Db) (outer : List String) (p p' : Plan) (c : Bool)
    (hg : Good db p outer) (hr : MapRemovable p) (h : removeUnusedMapFields p = some (p', c)) :
    StepOK db outer p p' ∧ NoHarderToPrune p p' :=
  removeLoop_ok db removeMapFieldLocal NoGroupByHas twoPass_map (fun g _ _ hs => hs.nogbh g)
    (collectFields pickMap p) p outer false p' c hg hr h

theorem removeUnusedDatasourceFields_ok (db : Db) (outer : List String) (p p' : Plan) (c : Bool)
    (hg : Good db p outer) (hr : DatasourceRemovable p) (h : removeUnusedDatasourceFields p = some (p', c)) :
    StepOK db outer p p' ∧ NoHarderToPrune p p' :=
  removeLoop_ok db removeDatasourceFieldLocal (fun f p => NoMapHas f p ∧ NoGroupByHas f p)
    (fun f p hn hq => twoPass_datasource f p hn hq.1 hq.2) (fun g _ _ hs hq => ⟨hs.nomap g hq.1, hs.nogbh g hq.2⟩)
    (collectFields pickDatasource p) p outer false p' c hg hr h

theorem removeUnusedGroupByNonKeyFields_ok (db : Db) (outer : List String) (p p' : Plan) (c : Bool)
    (hg : Good db p outer) (hr : GroupByRemovable p) (h : removeUnusedGroupByNonKeyFields p = some (p', c)) :
    StepOK db outer p p' ∧ NoHarderToPrune p p' :=
  removeLoop_ok db removeGroupByFieldLocal NoMapHas twoPass_groupBy (fun g _ _ hs => hs.nomap g)
    (collectFields pickGroupBy p) p outer false p' c hg hr h

theorem defaultRules_inv (db : Db) : ∀ r ∈ defaultRuleList, RuleInv db Prunable r := by
  intro r hr
  simp only [defaultRuleList, List.mem_cons, List.not_mem_nil, or_false] at hr
  rcases hr with rfl | rfl | rfl | rfl | rfl | rfl | rfl | rfl
  · exact (rule_of_local (pushToDatasource_local db)).ruleInv
  · exact (rule_of_local (pushIntoLookupJoin_local db)).ruleInv
  · exact (rule_of_local (pushIntoStreamJoinBranch_local db)).ruleInv
  · exact (rule_of_local (pushIntoStreamJoinKey_local db)).ruleInv
  · exact fun outer p p' c hg hp h =>
      (removeUnusedMapFields_ok db outer p p' c hg hp.mapRemovable h).imp id hp.of_noHarder
  · exact fun outer p p' c hg hp h =>
      (removeUnusedGroupByNonKeyFields_ok db outer p p' c hg hp.groupByRemovable h).imp id hp.of_noHarder
  · exact fun outer p p' c hg hp h =>
      (removeUnusedDatasourceFields_ok db outer p p' c hg hp.datasourceRemovable h).imp id hp.of_noHarder
  · exact (rule_of_local (mergeFilters_local db)).ruleInv

theorem optimize_ok (db : Db) (fuel : Nat) (outer : List String) (p p' : Plan) (hg : Good db p outer) (hp : Prunable p)
    (h : optimize fuel p = .ok p') : StepOK db outer p p' ∧ Prunable p' :=
  optimizeWith_inv (defaultRules_inv db) fuel outer p p' hg hp (optimize_eq fuel p ▸ h)

end Octo.Plan
