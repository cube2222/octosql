import Octo.Lemmas.PlanRemoveOps
/-!
  One removal step is sound: `rmPlan f p` computes the records of `p` with the field `f` erased, and stays well-formed.
-/
namespace Octo.Plan
open Octo

/-- `p'` is `p` without the field `f` -/
structure RmOK (db : Db) (f : String) (outer : List String) (p p' : Plan) : Prop where
  good : Good db p' outer
  schema : p'.schema = rmSchema f p.schema
  sim : ∀ ctx, Binds outer ctx → denote db p' ctx = (denote db p ctx).map (List.map (eraseKey f))

theorem RmOK.fields {db : Db} {f : String} {outer : List String} {p p' : Plan} (h : RmOK db f outer p p')
    (hnd : p.fields.Nodup) : p'.fields = eraseField f p.fields := by
  simp only [Plan.fields, h.schema]
  exact rmSchema_fields hnd

theorem denote_map_erase_id {db : Db} {f : String} {p : Plan} {ctx : Ctx} (hf : f ∉ p.fields) :
    (denote db p ctx).map (List.map (eraseKey f)) = denote db p ctx := by
  cases hd : denote db p ctx with
  | none => rfl
  | some rows =>
    simp only [Option.map_some]
    rw [map_eraseKey_id (fun r hr => by rw [denote_names hd r hr]; exact hf)]

theorem RmOK.of_step {db : Db} {f : String} {outer : List String} {p p' : Plan}
    (h : StepOK db outer p p') (hf : f ∉ p.fields) : RmOK db f outer p p' :=
  ⟨h.good, by rw [h.schema, rmSchema_id hf], fun ctx hb => by rw [h.sim ctx hb, denote_map_erase_id hf]⟩

theorem RmOK.toStep {db : Db} {f : String} {outer : List String} {p p' : Plan}
    (h : RmOK db f outer p p') (hf : f ∉ p.fields) : StepOK db outer p p' :=
  ⟨h.good, by rw [h.schema, rmSchema_id hf], fun ctx hb => by rw [h.sim ctx hb, denote_map_erase_id hf]⟩

theorem exprOK_erase {f : String} {fs outer : List String} {e : PExpr} (h : ExprOK (fs ++ outer) e)
    (hf : f ∉ varsUsed e) : ExprOK (eraseField f fs ++ outer) e :=
  h.mono fun x hx hm => by
    simp only [List.mem_append] at hm ⊢
    exact hm.imp_left fun h1 => mem_eraseField.mpr ⟨h1, fun e' => hf (e' ▸ hx)⟩

theorem exprsOK_erase {f : String} {fs outer : List String} {es : List PExpr} (h : ExprsOK (fs ++ outer) es)
    (hf : f ∉ varsUsedL es) : ExprsOK (eraseField f fs ++ outer) es :=
  fun e he => exprOK_erase (h e he) (fun hm => hf (mem_varsUsedL.mpr ⟨e, he, hm⟩))

theorem any_eraseField {f g : String} (hgf : g ≠ f) (fs : List String) :
    (eraseField f fs).any (· == g) = fs.any (· == g) := by
  unfold eraseField
  rw [List.any_filter]
  congr 1
  funext x
  by_cases hx : x = g
  · simp [hx, hgf]
  · simp [hx]

theorem varsUsedL_eraseIdx {x : String} {es : List PExpr} {i : Nat} (h : x ∈ varsUsedL (es.eraseIdx i)) :
    x ∈ varsUsedL es := by
  obtain ⟨e, he, hx⟩ := mem_varsUsedL.mp h
  exact mem_varsUsedL.mpr ⟨e, List.mem_of_mem_eraseIdx he, hx⟩

theorem not_mem_varsUsedL_append {f : String} {a b : List PExpr} (h : f ∉ varsUsedL (a ++ b)) :
    f ∉ varsUsedL a ∧ f ∉ varsUsedL b := by
  constructor <;> intro hm <;> obtain ⟨e, he, hx⟩ := mem_varsUsedL.mp hm
  · exact h (mem_varsUsedL.mpr ⟨e, List.mem_append_left _ he, hx⟩)
  · exact h (mem_varsUsedL.mpr ⟨e, List.mem_append_right _ he, hx⟩)

theorem checked_eraseKey_id {f : String} {s : Schema} {o : Option (List Row)} (hf : f ∉ s.fields) :
    (checked s o).map (List.map (eraseKey f)) = checked s o := by
  cases hc : checked s o with
  | none => rfl
  | some out =>
    -- what the check lets through carries the names `s.fields`, which do not hold `f`
    simp only [Option.map_some]
    rw [map_eraseKey_id (fun r hr => by rw [(checked_eq_some.mp hc).2 r hr]; exact hf)]

theorem RmOK.un {db : Db} {f : String} {outer : List String} {s : Schema} {k k' : Un} {src src' : Plan}
    (hg : Good db (.un s k src) outer) (ih : RmOK db f outer src src')
    (hgood : UnGood outer (rmSchema f s) src'.schema k')
    (hsim : ∀ ctx rows, Binds outer ctx → (∀ r ∈ rows, Row.names r = src.fields) →
      checked (rmSchema f s) (unRows ctx (rmSchema f s) src'.schema k' (rows.map (eraseKey f))) =
        (checked s (unRows ctx s src.schema k rows)).map (List.map (eraseKey f))) :
    RmOK db f outer (.un s k src) (.un (rmSchema f s) k' src') := by
  refine ⟨⟨?_, ih.good, hgood⟩, rfl, fun ctx hb => ?_⟩
  · rw [rmSchema_fields hg.1]
    exact nodup_eraseField hg.1
  · simp only [denote, ih.sim ctx hb]
    cases hd : denote db src ctx with
    | none => rfl
    | some rows => exact hsim ctx rows hb (denote_names hd)

theorem RmOK.un_untouched {db : Db} {f : String} {outer : List String} {s : Schema} {k : Un} {src src' : Plan}
    (hg : Good db (.un s k src) outer) (ih : RmOK db f outer src src') (hfs : f ∉ s.fields) (hfsrc : f ∉ src.fields) :
    RmOK db f outer (.un s k src) (.un (rmSchema f s) k src') := by
  rw [rmSchema_id hfs]
  exact RmOK.of_step (StepOK.un hg (ih.toStep hfsrc)) hfs

theorem RmOK.ds {db : Db} {f : String} {outer : List String} {s : Schema} {name alias pol : String}
    {preds : List PExpr} {mapping : List (String × String)}
    (hg : Good db (.leaf s (.ds name alias pol preds mapping)) outer) (hfp : f ∉ varsUsedL preds) :
    RmOK db f outer (.leaf s (.ds name alias pol preds mapping)) (.leaf (rmSchema f s) (.ds name alias pol preds mapping)) := by
  obtain ⟨hnds, hpreds, htab⟩ := id hg
  have hfields := rmSchema_fields (f := f) hnds
  have hgnew : Good db (.leaf (rmSchema f s) (.ds name alias pol preds mapping)) outer := by
    refine ⟨by rw [hfields]; exact nodup_eraseField hnds, by rw [hfields]; exact exprsOK_erase hpreds hfp, ?_⟩
    intro trows hdb
    obtain ⟨rows, ht⟩ := Option.isSome_iff_exists.mp (htab trows hdb)
    rw [hfields, tableRows_erase ht]
    rfl
  refine ⟨hgnew, rfl, fun ctx hb => ?_⟩
  rw [denote_ds hgnew hb, denote_ds hg hb, hfields]
  cases hdb : db name with
  | none => rfl
  | some trows =>
    obtain ⟨rows, ht⟩ := Option.isSome_iff_exists.mp (htab trows hdb)
    simp only [Option.bind_some, ht, tableRows_erase ht, Option.map_some, List.filter_map]
    congr 2
    apply List.filter_congr
    intro r _
    show (preds.all fun c => keep ctx c (eraseKey f r)) = preds.all fun c => keep ctx c r
    rw [← keep_and, ← keep_and, keep, keep, eval_eraseKey (e := .nary .and preds) hfp]

theorem RmOK.filter {db : Db} {f : String} {outer : List String} {s : Schema} {e : PExpr} {src src' : Plan}
    (hg : Good db (.un s (.filter e) src) outer) (ih : RmOK db f outer src src') (hfe : f ∉ varsUsed e) :
    RmOK db f outer (.un s (.filter e) src) (.un (rmSchema f s) (.filter e) src') := by
  obtain ⟨hnds, hgsrc, rfl, he⟩ := id hg
  have hsf : src'.schema.fields = eraseField f src.fields := ih.fields hgsrc.nodup
  have hgnew : Good db (.un (rmSchema f src.schema) (.filter e) src') outer :=
    ⟨by rw [rmSchema_fields hnds]; exact nodup_eraseField hnds, ih.good, ih.schema.symm,
      by rw [hsf]; exact exprOK_erase he hfe⟩
  refine ⟨hgnew, rfl, fun ctx hb => ?_⟩
  rw [denote_filter hgnew hb, denote_filter hg hb, ih.sim ctx hb, Option.map_map, Option.map_map]
  congr 1
  funext rows
  simp only [Function.comp, List.filter_map]
  congr 1
  exact List.filter_congr fun r _ => congrArg isTrueV (eval_eraseKey hfe r ctx)

theorem RmOK.unnest {db : Db} {f : String} {outer : List String} {s : Schema} {g : String} {src src' : Plan}
    (hg : Good db (.un s (.unnest g) src) outer) (ih : RmOK db f outer src src') (hgf : g ≠ f) :
    RmOK db f outer (.un s (.unnest g) src) (.un (rmSchema f s) (.unnest g) src') := by
  obtain ⟨hnds, hgsrc, hug⟩ := id hg
  have hsf : src'.schema.fields = eraseField f src.fields := ih.fields hgsrc.nodup
  have hfields := rmSchema_fields (f := f) hnds
  refine RmOK.un hg ih (by rw [UnGood, hfields, hug, hsf]) fun ctx rows hb hn => ?_
  simp only [unRows]
  rw [hfields, any_eraseField hgf]
  cases s.fields.any (· == g) with
  | false => rfl
  | true =>
    rw [if_pos rfl, if_pos rfl, unnestRows_erase hgf]
    apply checked_erase hfields
    intro out ho
    rw [hug]
    exact unnestRows_names hn ho

/-- a Map node that declares `f` loses the expression at the index of `f` (`k'`); one that does not is left as it is -/
theorem RmOK.map {db : Db} {f : String} {outer : List String} {s : Schema} {es : List PExpr} {k' : Un} {src src' : Plan}
    (hg : Good db (.un s (.map es) src) outer)
    (ih : RmOK db f outer src src') (hfes : f ∉ varsUsedL es) (hk : rmKind f s (.map es) = some k') :
    RmOK db f outer (.un s (.map es) src) (.un (rmSchema f s) k' src') := by
  obtain ⟨hnds, hgsrc, hes, hlen⟩ := id hg
  have hsf : src'.schema.fields = eraseField f src.fields := ih.fields hgsrc.nodup
  have hfields := rmSchema_fields (f := f) hnds
  by_cases hm : f ∈ s.fields
  · obtain ⟨i, hi, hilt, hif, hie⟩ := lastIndexOf_some hnds hm
    simp only [rmKind, hi] at hk
    obtain ⟨es', hea, rfl⟩ := Option.map_eq_some_iff.mp hk
    obtain ⟨_, _, hes'⟩ := eraseAt_some hea
    rw [Int.toNat_natCast] at hes'
    subst hes'
    have hfes' : f ∉ varsUsedL (es.eraseIdx i) := fun hx => hfes (varsUsedL_eraseIdx hx)
    have hfi : (rmSchema f s).fields = s.fields.eraseIdx i := by rw [hfields, hie]
    refine RmOK.un hg ih ⟨?_, ?_⟩ fun ctx rows hb hn => ?_
    · rw [hsf]
      exact fun e he => exprOK_erase (hes e (List.mem_of_mem_eraseIdx he)) (fun hx => hfes' (mem_varsUsedL.mpr ⟨e, he, hx⟩))
    · rw [hfi, List.length_eraseIdx, List.length_eraseIdx, hlen]
    · simp only [unRows]
      rw [hfi, mapRows_erase_src hfes']
      obtain ⟨out, ho⟩ := Option.isSome_iff_exists.mp (mapRows_isSome (fs := s.fields) hes hlen hb hn)
      rw [mapRows_drop hnds hif ho, ho]
      exact checked_erase hfields fun _ h => Option.some.inj h ▸ mapRows_names ho
  · rw [rmKind_of_not_mem hm] at hk
    obtain rfl := Option.some.inj hk
    refine RmOK.un hg ih (by rw [rmSchema_id hm, UnGood, hsf]; exact ⟨exprsOK_erase hes hfes, hlen⟩)
      fun ctx rows hb hn => ?_
    simp only [unRows, rmSchema_id hm]
    rw [mapRows_erase_src hfes]
    exact (checked_eraseKey_id hm).symm

/-- a group-by that declares `f` as an aggregate (`Removable`: not as a key column, and its input does not have `f`)
    loses that aggregate (`k'`) -/
theorem RmOK.groupBy_agg {db : Db} {f : String} {outer : List String} {s : Schema}
    {aggs : List String} {aggExprs key : List PExpr} {kti : Int} {trig : String} {k' : Un}
    {src src' : Plan} (hg : Good db (.un s (.groupBy aggs aggExprs key kti trig) src) outer)
    (ih : RmOK db f outer src src') (hm : f ∈ s.fields) (hfsrc : f ∉ src.fields) (hkey : f ∉ s.fields.take key.length)
    (hk : rmKind f s (.groupBy aggs aggExprs key kti trig) = some k') :
    RmOK db f outer (.un s (.groupBy aggs aggExprs key kti trig) src) (.un (rmSchema f s) k' src') := by
  obtain ⟨hnds, hgsrc, hes, hl1, hl2, htot⟩ := id hg
  have hfields := rmSchema_fields (f := f) hnds
  obtain ⟨i, hi, hilt, hif, hie⟩ := lastIndexOf_some hnds hm
  -- `f` is not among the key columns, so its index is `key.length + j`
  obtain ⟨j, rfl⟩ := Nat.exists_eq_add_of_le (Nat.le_of_not_lt fun h' => hkey
    (List.mem_iff_getElem?.mpr ⟨i, by rw [List.getElem?_take_of_lt h']; exact hif⟩))
  simp only [rmKind, hi] at hk
  split at hk
  · rename_i aggExprs' aggs' hea heb
    obtain rfl := Option.some.inj hk
    obtain ⟨_, _, rfl⟩ := eraseAt_some hea
    obtain ⟨_, hjlen, rfl⟩ := eraseAt_some heb
    -- the aggregate's index: the field's index minus the number of key columns
    have hj : (((key.length + j : Nat) : Int) - key.length).toNat = j := by
      rw [Int.natCast_add, Int.add_comm, Int.add_sub_cancel, Int.toNat_natCast]
    rw [hj] at hjlen ⊢
    have hfi : (rmSchema f s).fields = s.fields.eraseIdx (key.length + j) := by rw [hfields, hie]
    have hdrop : ∀ ctx rows out, groupByRows ctx s.fields aggs aggExprs key rows = some out →
        groupByRows ctx (rmSchema f s).fields (aggs.eraseIdx j) (aggExprs.eraseIdx j) key rows =
          some (out.map (eraseKey f)) := fun ctx rows out ho => by
      rw [hfi]
      exact groupByRows_dropAgg hnds hif ho
    -- the input does not have `f`: its schema is the one of `src'`
    rw [← rmSchema_id hfsrc (s := src.schema), ← ih.schema] at hes htot
    refine RmOK.un hg ih ⟨?_, ?_, ?_, ?_⟩ fun ctx rows hb hn => ?_
    · intro e he
      rcases List.mem_append.mp he with he | he
      · exact hes e (List.mem_append_left _ (List.mem_of_mem_eraseIdx he))
      · exact hes e (List.mem_append_right _ he)
    · rw [List.length_eraseIdx, List.length_eraseIdx, hl1]
    · rw [hfi, List.length_eraseIdx_of_lt hilt, List.length_eraseIdx_of_lt hjlen, hl2]
      exact Nat.add_sub_assoc (Nat.lt_of_le_of_lt (Nat.zero_le j) hjlen) _
    · intro ctx rows hb
      obtain ⟨out, ho⟩ := Option.isSome_iff_exists.mp (htot ctx rows hb)
      rw [hdrop ctx rows out ho]
      rfl
    · simp only [unRows, map_eraseKey_id (fun r hr => by rw [hn r hr]; exact hfsrc)]
      cases trig == "eos" with
      | false => rfl
      | true =>
        obtain ⟨out, ho⟩ := Option.isSome_iff_exists.mp
          (htot ctx rows (fun r hr => binds_cons (by rw [ih.schema, rmSchema_id hfsrc]; exact hn r hr) hb))
        rw [if_pos rfl, if_pos rfl, hdrop ctx rows out ho, ho]
        exact checked_erase hfields fun _ h => Option.some.inj h ▸ groupByRows_names ho
  · cases hk

/-- a group-by that does not declare `f` does not notice that its input has lost it -/
theorem RmOK.groupBy_pass {db : Db} {f : String} {outer : List String} {s : Schema}
    {aggs : List String} {aggExprs key : List PExpr} {kti : Int} {trig : String}
    {src src' : Plan} (hg : Good db (.un s (.groupBy aggs aggExprs key kti trig) src) outer)
    (ih : RmOK db f outer src src') (hm : f ∉ s.fields) (hfes : f ∉ varsUsedL (aggExprs ++ key)) :
    RmOK db f outer (.un s (.groupBy aggs aggExprs key kti trig) src)
      (.un (rmSchema f s) (.groupBy aggs aggExprs key kti trig) src') := by
  obtain ⟨hnds, hgsrc, hes, hl1, hl2, htot⟩ := id hg
  obtain ⟨hfa, hfk⟩ := not_mem_varsUsedL_append hfes
  have hsf : src'.schema.fields = eraseField f src.fields := ih.fields hgsrc.nodup
  refine RmOK.un hg ih ?_ fun ctx rows hb hn => ?_
  · rw [rmSchema_id hm, UnGood, hsf]
    refine ⟨exprsOK_erase hes hfes, hl1, hl2, fun ctx rows hb => ?_⟩
    -- records that also carry `f` (the group-by does not read it) meet the totality hypothesis
    have := htot ctx (rows.map (· ++ [(f, Value.null)])) fun r hr => by
      obtain ⟨r0, hr0, rfl⟩ := List.mem_map.mp hr
      exact binds_append_erase Value.null (hb r0 hr0)
    simpa only [groupByRows, keyInputs_trailing_unused hfk hfa] using this
  · simp only [unRows, rmSchema_id hm]
    cases trig == "eos" with
    | false => rfl
    | true =>
      simp only [↓reduceIte, groupByRows, keyInputs_erase hfk hfa]
      exact (checked_eraseKey_id hm).symm

theorem RmOK.tvf {db : Db} {f : String} {outer : List String} {s : Schema} {name tname : String}
    {args : List (String × TArg)} {src src' : Plan}
    (hg : Good db (.un s (.tvf name args tname) src) outer) (ih : RmOK db f outer src src') (hfs : f ∉ s.fields) :
    RmOK db f outer (.un s (.tvf name args tname) src) (.un (rmSchema f s) (.tvf name args tname) src') := by
  obtain ⟨hnds, _, hug⟩ := id hg
  by_cases hname : name = "max_diff_watermark"
  · have hsrcf : s.fields = src.fields := hug hname
    exact RmOK.un_untouched hg ih hfs (hsrcf ▸ hfs)
  · -- any other table valued function is not modelled: both nodes fail
    rw [rmSchema_id hfs]
    refine ⟨⟨hnds, ih.good, fun h => absurd h hname⟩, (rmSchema_id hfs).symm, fun ctx hb => ?_⟩
    have hne : (name == "max_diff_watermark") = false := by simpa using hname
    simp only [denote, unRows, hne, Bool.false_eq_true, if_false, ih.sim ctx hb]
    cases denote db src ctx <;> rfl

theorem RmOK.sjoin {db : Db} {f : String} {outer : List String} {s : Schema} {lk rk : List PExpr} {l l' r r' : Plan}
    (hg : Good db (.bin s (.sjoin lk rk) l r) outer)
    (ihl : RmOK db f outer l l') (ihr : RmOK db f outer r r') (hfl : f ∉ varsUsedL lk) (hfr : f ∉ varsUsedL rk) :
    RmOK db f outer (.bin s (.sjoin lk rk) l r) (.bin (rmSchema f s) (.sjoin lk rk) l' r') := by
  obtain ⟨hnds, hgl, hgr, hs2, hlk, hrk, hlen⟩ := id hg
  have hfields := rmSchema_fields (f := f) hnds
  have hgnew : Good db (.bin (rmSchema f s) (.sjoin lk rk) l' r') outer := by
    refine ⟨by rw [hfields]; exact nodup_eraseField hnds, ihl.good, ihr.good, ?_⟩
    rw [ihl.fields hgl.nodup, ihr.fields hgr.nodup]
    exact ⟨by rw [hfields, hs2, eraseField_append], exprsOK_erase hlk hfl, exprsOK_erase hrk hfr, hlen⟩
  refine ⟨hgnew, rfl, fun ctx hb => ?_⟩
  rw [denote_sjoin hgnew hb, denote_sjoin hg hb, ihl.sim ctx hb, ihr.sim ctx hb]
  cases denote db l ctx with
  | none => rfl
  | some ls =>
    cases denote db r ctx with
    | none => rfl
    | some rs =>
      simp only [Option.map_some, Option.bind_some]
      congr 1
      exact nlJoin_map (eraseKey_append f) (keyMatch_erase hfl hfr ctx) ls rs

/-- a lookup join whose source side does not have `f` (`Removable`): the source is simulated as it is, the joined side
    under the records of the source -/
theorem RmOK.ljoin {db : Db} {f : String} {outer : List String} {s : Schema} {l l' r r' : Plan}
    (hg : Good db (.bin s .ljoin l r) outer) (hl : StepOK db outer l l')
    (ihr : RmOK db f (l.fields ++ outer) r r') (hfl : f ∉ l.fields) :
    RmOK db f outer (.bin s .ljoin l r) (.bin (rmSchema f s) .ljoin l' r') := by
  obtain ⟨hnds, hgl, hgr, ⟨hs2, hdisj⟩, htot⟩ := id hg
  have hlf : l'.fields = l.fields := congrArg Schema.fields hl.schema
  have hfields := rmSchema_fields (f := f) hnds
  have hgnew : Good db (.bin (rmSchema f s) .ljoin l' r') outer := by
    refine ⟨by rw [hfields]; exact nodup_eraseField hnds, hl.good, ?_⟩
    rw [hlf, ihr.fields hgr.nodup]
    refine ⟨ihr.good, ⟨by rw [hfields, hs2, eraseField_append, eraseField_id hfl],
      fun x hx hm => hdisj x hx (mem_eraseField.mp hm).1⟩, fun ctx hb => ?_⟩
    rw [ihr.sim ctx hb]
    obtain ⟨rows, hd⟩ := Option.isSome_iff_exists.mp (htot ctx hb)
    rw [hd]
    rfl
  refine ⟨hgnew, rfl, fun ctx hb => ?_⟩
  rw [denote_ljoin hgnew hb, denote_ljoin hg hb, hl.sim ctx hb, Option.map_map]
  cases hdl : denote db l ctx with
  | none => rfl
  | some ls =>
    have hnl := denote_names hdl
    simp only [Option.map_some, Function.comp, depJoin, List.map_flatMap]
    congr 1
    apply flatMap_congr_mem
    intro x hx
    rw [ihr.sim _ (binds_cons (hnl x hx) hb)]
    have hx' : f ∉ Row.names x := by rw [hnl x hx]; exact hfl
    cases denote db r (x :: ctx) with
    | none => rfl
    | some rows =>
      simp only [Option.map_some, Option.getD_some, List.map_map]
      apply List.map_congr_left
      intro j _
      simp only [Function.comp, eraseKey_append, eraseKey_id hx']

theorem RmOK.ojoin {db : Db} {f : String} {outer : List String} {s : Schema}
    {il ir : Bool} {lk rk : List PExpr} {l l' r r' : Plan}
    (hg : Good db (.bin s (.ojoin il ir lk rk) l r) outer) (ihl : RmOK db f outer l l') (ihr : RmOK db f outer r r')
    (hfl : f ∉ varsUsedL lk) (hfr : f ∉ varsUsedL rk) :
    RmOK db f outer (.bin s (.ojoin il ir lk rk) l r) (.bin (rmSchema f s) (.ojoin il ir lk rk) l' r') := by
  obtain ⟨hnds, hgl, hgr, hs2, hlk, hrk⟩ := id hg
  have hlf := ihl.fields hgl.nodup
  have hrf := ihr.fields hgr.nodup
  have hfields := rmSchema_fields (f := f) hnds
  refine ⟨?_, rfl, fun ctx hb => ?_⟩
  · refine ⟨by rw [hfields]; exact nodup_eraseField hnds, ihl.good, ihr.good, ?_⟩
    rw [hlf, hrf]
    exact ⟨by rw [hfields, hs2, eraseField_append], exprsOK_erase hlk hfl, exprsOK_erase hrk hfr⟩
  · simp only [denote, binRows, ihl.sim ctx hb, ihr.sim ctx hb, hlf, hrf]
    cases hdl : denote db l ctx with
    | none => rfl
    | some ls =>
      cases hdr : denote db r ctx with
      | none => rfl
      | some rs =>
        simp only [Option.map_some]
        rw [outerJoinRows_erase hfl hfr]
        apply checked_erase hfields
        intro out ho
        rw [hs2]
        exact outerJoinRows_names (denote_names hdl) (denote_names hdr) ho

/-- `usedBelow`, `Removable` and `rmPlan` are taken apart once per kind of node; the node's own argument is the
    `RmOK.…` lemma of its name -/
theorem rm_sim (db : Db) (f : String) : ∀ (p : Plan) (outer : List String) (p' : Plan),
    Good db p outer → usedBelow f p = false → Removable f p → rmPlan f p = some p' → RmOK db f outer p p' := by
  intro p
  induction p with
  | leaf s k =>
    intro outer p' hg hu hr h
    obtain rfl := Option.some.inj h
    cases k with
    | ds name alias pol preds mapping =>
      simp only [usedBelow, usedAtNode, nodeExprs, Bool.or_eq_false_iff] at hu
      exact RmOK.ds hg (not_mem_varsUsedL_of_not_uses hu.1)
    | mem n =>
      rw [rmSchema_id hr]
      exact RmOK.of_step (StepOK.refl hg) hr
    | tvf name args =>
      rw [rmSchema_id hr]
      exact RmOK.of_step (StepOK.refl hg) hr
  | un s k src ih =>
    intro outer p' hg hu hr h
    rw [rmPlan_un] at h
    obtain ⟨src', hsrc', h⟩ := Option.bind_eq_some_iff.mp h
    obtain ⟨k', hk, rfl⟩ := Option.map_eq_some_iff.mp h
    simp only [usedBelow, usedAtNode, Bool.or_eq_false_iff] at hu
    obtain ⟨husrc, huex, hukind⟩ := hu
    have IH := ih outer src' hg.2.1 husrc hr.1 hsrc'
    cases k with
    | filter e =>
      obtain rfl := Option.some.inj hk
      exact RmOK.filter hg IH (not_uses_mem huex (List.mem_singleton.mpr rfl))
    | unnest g =>
      obtain rfl := Option.some.inj hk
      exact RmOK.unnest hg IH fun e => by simp [e] at hukind
    | map es => exact RmOK.map hg IH (not_mem_varsUsedL_of_not_uses huex) hk
    | groupBy aggs aggExprs key kti trig =>
      by_cases hm : f ∈ s.fields
      · exact RmOK.groupBy_agg hg IH hm (hr.2 hm).1 (hr.2 hm).2 hk
      · rw [rmKind_of_not_mem hm] at hk
        obtain rfl := Option.some.inj hk
        exact RmOK.groupBy_pass hg IH hm (not_mem_varsUsedL_of_not_uses huex)
    | distinct =>
      obtain rfl := Option.some.inj hk
      -- a DISTINCT over `f` counts as a use
      have hfs : f ∉ s.fields := fun hm => List.any_eq_false.mp hukind f hm (beq_self_eq_true f)
      have hsrcf : s.fields = src.fields := hg.2.2
      exact RmOK.un_untouched hg IH hfs (hsrcf ▸ hfs)
    | ost keys mults limit =>
      obtain rfl := Option.some.inj hk
      have hsrcf : s.fields = src.fields := hg.2.2.1
      exact RmOK.un_untouched hg IH hr.2 (hsrcf ▸ hr.2)
    | tvf name args tname =>
      obtain rfl := Option.some.inj hk
      exact RmOK.tvf hg IH hr.2
  | bin s k l r ihl ihr =>
    intro outer p' hg hu hr h
    rw [rmPlan_bin] at h
    obtain ⟨l', hl', h⟩ := Option.bind_eq_some_iff.mp h
    obtain ⟨r', hr', rfl⟩ := Option.map_eq_some_iff.mp h
    simp only [usedBelow, usedAtNode, Bool.or_eq_false_iff] at hu
    obtain ⟨⟨hul, hur⟩, huex, _⟩ := hu
    obtain ⟨hrl, hrr, hrk⟩ := hr
    cases k with
    | sjoin lk rk =>
      obtain ⟨hfl, hfr⟩ := not_mem_varsUsedL_append (not_mem_varsUsedL_of_not_uses huex)
      exact RmOK.sjoin hg (ihl outer l' hg.2.1 hul hrl hl') (ihr outer r' hg.2.2.1 hur hrr hr') hfl hfr
    | ljoin =>
      exact RmOK.ljoin hg ((ihl outer l' hg.2.1 hul hrl hl').toStep hrk)
        (ihr (l.fields ++ outer) r' hg.2.2.1 hur hrr hr') hrk
    | ojoin il ir lk rk =>
      obtain ⟨hfl, hfr⟩ := not_mem_varsUsedL_append (not_mem_varsUsedL_of_not_uses huex)
      exact RmOK.ojoin hg (ihl outer l' hg.2.1 hul hrl hl') (ihr outer r' hg.2.2.1 hur hrr hr') hfl hfr

end Octo.Plan
