import Octo.Lemmas.PlanLift
/-!
  The optional filter node the rules build (`filterIf`), the frame shared by the rules that push a filter into the
  node below it (`filter_push_ok`), and the soundness of the local rewrites of `MergeFilters` and
  `PushDownFilterPredicatesIntoStreamJoinBranch`.
-/
namespace Octo.Plan
open Octo

theorem mergeFilters_local (db : Db) : LocalOK db mergeFiltersLocal := by
  intro outer q q' c hg h
  unfold mergeFiltersLocal at h
  split at h
  · rename_i s e s2 e2 src
    obtain ⟨rfl, _⟩ := Prod.mk.inj (Option.some.inj h)
    obtain ⟨hnd, hg2, rfl, he⟩ := hg
    obtain ⟨_, hsrc, rfl, he2⟩ := id hg2
    have hand : ExprOK (src.schema.fields ++ outer) (.nary .and (splitByAnd e ++ splitByAnd e2)) :=
      exprOK_and fun c hc => (List.mem_append.mp hc).elim (exprOK_conjunct he) (exprOK_conjunct he2)
    have hgout : Good db (.un src.schema (.filter (.nary .and (splitByAnd e ++ splitByAnd e2))) src) outer :=
      ⟨hnd, hsrc, rfl, hand⟩
    refine ⟨⟨hgout, rfl, fun ctx hb => ?_⟩,
      ((NoHarderToPrune.dropFilter _ e _).trans (NoHarderToPrune.dropFilter _ e2 src)).trans
        (NoHarderToPrune.addFilter _ _ src)⟩
    rw [denote_filter hgout hb, denote_filter ⟨hnd, hg2, rfl, he⟩ hb, denote_filter hg2 hb, Option.map_map]
    congr 1
    funext rows
    rw [Function.comp, List.filter_filter]
    apply List.filter_congr
    intro r _
    rw [keep_and, List.all_append, ← keep_split, ← keep_split, Bool.and_comm]
  · exact unchanged_ok hg h

theorem mergeFilters_ok (db : Db) : RuleOK db mergeFilters := (rule_of_local (mergeFilters_local db)).ruleOK

/-- `if len(cs) > 0 { Filter(e, p) } else { p }`, where `e` stands for the conjunction of `cs` -/
def filterIf (e : PExpr) (cs : List PExpr) (p : Plan) : Plan :=
  if cs.length > 0 then .un p.schema (.filter e) p else p

/-- `if len(cs) > 0 { Filter(And(cs), p) } else { p }` -/
abbrev optFilter (cs : List PExpr) (p : Plan) : Plan := filterIf (.nary .and cs) cs p

theorem filterIf_schema (e : PExpr) (cs : List PExpr) (p : Plan) : (filterIf e cs p).schema = p.schema := by
  unfold filterIf
  split <;> rfl

theorem filterIf_ok {db : Db} {outer : List String} {e : PExpr} {cs : List PExpr} {p : Plan}
    (hg : Good db p outer) (he : ExprOK (p.fields ++ outer) e)
    (hk : ∀ ctx r, keep ctx e r = cs.all fun c => keep ctx c r) :
    Good db (filterIf e cs p) outer ∧ (filterIf e cs p).schema = p.schema ∧
      ∀ ctx, Binds outer ctx →
        denote db (filterIf e cs p) ctx = (denote db p ctx).map fun rows => rows.filter fun r => cs.all fun c => keep ctx c r := by
  unfold filterIf
  split
  · have hgf : Good db (.un p.schema (.filter e) p) outer := ⟨hg.nodup, hg, rfl, he⟩
    refine ⟨hgf, rfl, fun ctx hb => ?_⟩
    rw [denote_filter hgf hb]
    congr 1
    funext rows
    exact List.filter_congr fun r _ => hk ctx r
  · rename_i hlen
    obtain rfl : cs = [] := List.eq_nil_of_length_eq_zero (by omega)
    refine ⟨hg, rfl, fun ctx _ => ?_⟩
    cases denote db p ctx with
    | none => rfl
    | some rows => simp only [Option.map_some, List.all_nil, List.filter_eq_self.mpr (fun _ _ => rfl)]

theorem optFilter_ok {db : Db} {outer : List String} {cs : List PExpr} {p : Plan}
    (hg : Good db p outer) (hcs : ∀ c ∈ cs, ExprOK (p.fields ++ outer) c) :
    Good db (optFilter cs p) outer ∧ (optFilter cs p).schema = p.schema ∧
      ∀ ctx, Binds outer ctx →
        denote db (optFilter cs p) ctx = (denote db p ctx).map fun rows => rows.filter fun r => cs.all fun c => keep ctx c r :=
  filterIf_ok hg (exprOK_and hcs) fun ctx r => keep_and ctx cs r

theorem NoHarderToPrune.filterIf (e : PExpr) (cs : List PExpr) (p : Plan) : NoHarderToPrune p (filterIf e cs p) := by
  unfold Octo.Plan.filterIf
  split
  · exact NoHarderToPrune.addFilter _ _ p
  · exact NoHarderToPrune.refl p

theorem filterIf_fields_sub (e : PExpr) (cs : List PExpr) (p : Plan) : ∀ x ∈ (filterIf e cs p).fields, x ∈ p.fields :=
  fun _ h => by rwa [Plan.fields, filterIf_schema] at h

/-- the common frame of the rules that push a filter into the node below it: the node `N` becomes `N'`, the
    conjuncts `st` stay in a filter above; what is left to show is that `N'` under `st` computes what `N` under `e` does -/
theorem filter_push_ok {db : Db} {outer : List String} {s : Schema} {e : PExpr} {N N' : Plan} {st : List PExpr}
    (hg : Good db (.un s (.filter e) N) outer) (hN' : Good db N' outer) (hsch : N'.schema = N.schema) (hsub : NoHarderToPrune N N')
    (hst : ∀ c ∈ st, c ∈ splitByAnd e)
    (hsem : ∀ ctx, Binds outer ctx → (denote db N' ctx).map (List.filter fun r => st.all fun c => keep ctx c r) =
      (denote db N ctx).map (List.filter (keep ctx e))) :
    StepOK db outer (.un s (.filter e) N) (optFilter st N') ∧ NoHarderToPrune (.un s (.filter e) N) (optFilter st N') := by
  obtain ⟨_, _, rfl, he⟩ := id hg
  obtain ⟨h1, h2, h3⟩ := optFilter_ok (cs := st) hN' fun c hc => by
    rw [Plan.fields, hsch]
    exact exprOK_conjunct he (hst c hc)
  refine ⟨⟨h1, h2.trans hsch, fun ctx hb => ?_⟩, (NoHarderToPrune.dropFilter _ e N).trans (hsub.trans (NoHarderToPrune.filterIf _ st N'))⟩
  rw [h3 ctx hb, denote_filter hg hb]
  exact hsem ctx hb

/-- a conjunct that reads no field of the right record is decided on the left record -/
theorem eval_left_of_not_uses {ctx : Ctx} {c : PExpr} {l r : Row} {rf : List String}
    (hr : Row.names r = rf) (hu : usesVariablesFromSchema rf (varsUsed c) = false) :
    eval ((l ++ r) :: ctx) c = eval (l :: ctx) c :=
  eval_append_left l r ctx c fun x hx => hr ▸ not_mem_of_not_uses hu x hx

theorem eval_right_of_not_uses {ctx : Ctx} {c : PExpr} {l r : Row} {lf : List String}
    (hl : Row.names l = lf) (hu : usesVariablesFromSchema lf (varsUsed c) = false) :
    eval ((l ++ r) :: ctx) c = eval (r :: ctx) c :=
  eval_append_right l r ctx c fun x hx => hl ▸ not_mem_of_not_uses hu x hx

theorem keep_left_of_not_uses {ctx : Ctx} {c : PExpr} {l r : Row} {rf : List String}
    (hr : Row.names r = rf) (hu : usesVariablesFromSchema rf (varsUsed c) = false) :
    keep ctx c (l ++ r) = keep ctx c l :=
  congrArg isTrueV (eval_left_of_not_uses hr hu)

theorem keep_right_of_not_uses {ctx : Ctx} {c : PExpr} {l r : Row} {lf : List String}
    (hl : Row.names l = lf) (hu : usesVariablesFromSchema lf (varsUsed c) = false) :
    keep ctx c (l ++ r) = keep ctx c r :=
  congrArg isTrueV (eval_right_of_not_uses hl hu)

theorem scope_drop_right {lf rf outer : List String} {c : PExpr}
    (hc : ExprOK ((lf ++ rf) ++ outer) c) (hu : usesVariablesFromSchema rf (varsUsed c) = false) :
    ExprOK (lf ++ outer) c :=
  hc.mono fun x hx h => by
    simp only [List.mem_append] at h ⊢
    rcases h with (h | h) | h
    · exact Or.inl h
    · exact absurd h (not_mem_of_not_uses hu x hx)
    · exact Or.inr h

theorem scope_drop_left {lf rf outer : List String} {c : PExpr}
    (hc : ExprOK ((lf ++ rf) ++ outer) c) (hu : usesVariablesFromSchema lf (varsUsed c) = false) :
    ExprOK (rf ++ outer) c :=
  hc.mono fun x hx h => by
    simp only [List.mem_append] at h ⊢
    rcases h with (h | h) | h
    · exact absurd h (not_mem_of_not_uses hu x hx)
    · exact Or.inl h
    · exact Or.inr h

/-- the rule at a filter over a stream join, its `if len(…) > 0` filters written as `optFilter` -/
theorem pushIntoStreamJoinBranchLocal_eq (s s2 : Schema) (e : PExpr) (lk rk : List PExpr) (l r : Plan) :
    pushIntoStreamJoinBranchLocal (.un s (.filter e) (.bin s2 (.sjoin lk rk) l r)) =
      let usesL := fun c => usesVariablesFromSchema l.fields (varsUsed c)
      let usesR := fun c => usesVariablesFromSchema r.fields (varsUsed c)
      let st := (splitByAnd e).filter fun c => usesL c && usesR c
      if st.length == (splitByAnd e).length then some (.un s (.filter e) (.bin s2 (.sjoin lk rk) l r), false)
      else some (optFilter st (.bin s2 (.sjoin lk rk) (optFilter ((splitByAnd e).filter fun c => !usesR c) l)
        (optFilter ((splitByAnd e).filter fun c => !usesL c) r)), true) := rfl

theorem pushIntoStreamJoinBranch_local (db : Db) : LocalOK db pushIntoStreamJoinBranchLocal := by
  intro outer q q' c hg h
  unfold pushIntoStreamJoinBranchLocal at h
  split at h
  · rename_i s e s2 lk rk l r
    -- the split gave the parts of the node; read the arm again with its `if len(…) > 0` filters as `optFilter`
    -- (letting `filter_push_ok` find that by unfolding is slow to check)
    rw [← pushIntoStreamJoinBranchLocal.eq_1, pushIntoStreamJoinBranchLocal_eq] at h
    simp only at h
    split at h
    · exact unchanged_ok hg h
    · obtain ⟨rfl, _⟩ := Prod.mk.inj (Option.some.inj h)
      obtain rfl : s = s2 := hg.filter_schema
      obtain ⟨hnd, hgj, _, he⟩ := id hg
      obtain ⟨_, hgl, hgr, hs2, hlk, hrk, hlen⟩ := id hgj
      replace he : ExprOK ((l.fields ++ r.fields) ++ outer) e := by rw [← hs2]; exact he
      let usesL := fun c => usesVariablesFromSchema l.fields (varsUsed c)
      let usesR := fun c => usesVariablesFromSchema r.fields (varsUsed c)
      let fp := splitByAnd e
      let pL := fp.filter fun c => !usesR c
      let pR := fp.filter fun c => !usesL c
      let st := fp.filter fun c => usesL c && usesR c
      have hfp : ∀ c ∈ fp, ExprOK ((l.fields ++ r.fields) ++ outer) c := fun c hc => exprOK_conjunct he hc
      have hpL : ∀ c ∈ pL, ExprOK (l.fields ++ outer) c := by
        intro c hc
        obtain ⟨hc1, hc2⟩ := List.mem_filter.mp hc
        exact scope_drop_right (hfp c hc1) (by simpa using hc2)
      have hpR : ∀ c ∈ pR, ExprOK (r.fields ++ outer) c := by
        intro c hc
        obtain ⟨hc1, hc2⟩ := List.mem_filter.mp hc
        exact scope_drop_left (hfp c hc1) (by simpa using hc2)
      obtain ⟨hl1, hl2, hl3⟩ := optFilter_ok (cs := pL) hgl hpL
      obtain ⟨hr1, hr2, hr3⟩ := optFilter_ok (cs := pR) hgr hpR
      have hgout : Good db (.bin s (.sjoin lk rk) (optFilter pL l) (optFilter pR r)) outer := by
        refine ⟨hnd, hl1, hr1, ?_⟩
        rw [Plan.fields, Plan.fields, hl2, hr2]
        exact ⟨hs2, hlk, hrk, hlen⟩
      refine filter_push_ok hg hgout rfl
        (NoHarderToPrune.bin (NoHarderToPrune.filterIf _ pL l) (NoHarderToPrune.filterIf _ pR r) (filterIf_fields_sub _ pL l))
        (fun c hc => (List.mem_filter.mp hc).1) fun ctx hb => ?_
      rw [denote_sjoin hgout hb, hl3 ctx hb, hr3 ctx hb, denote_sjoin hgj hb]
      cases hdl : denote db l ctx with
      | none => rfl
      | some ls =>
        cases hdr : denote db r ctx with
        | none => rfl
        | some rs =>
          have hnl := denote_names hdl
          have hnr := denote_names hdr
          simp only [Option.map_some, Option.bind_some]
          congr 1
          symm
          refine nlJoin_move (PL := fun x => pL.all fun c => keep ctx c x) (PR := fun x => pR.all fun c => keep ctx c x)
            fun lrow hlrow rrow hrrow => ?_
          congr 1
          rw [keep_split]
          -- a cover, not a partition: a conjunct that reads neither input is pushed into both (as in the Go rule)
          rw [all_cover (fun c => keep ctx c (lrow ++ rrow)) (fun c => !usesR c) (fun c => !usesL c)
            (fun c => usesL c && usesR c) fp (by intro c _; cases usesL c <;> cases usesR c <;> rfl)]
          rw [all_filter_congr (K := fun c => keep ctx c (lrow ++ rrow)) (K' := fun c => keep ctx c lrow) (p := fun c => !usesR c) (l := fp)
            (fun c _ hc => keep_left_of_not_uses (hnr rrow hrrow) (by simpa using hc))]
          rw [all_filter_congr (K := fun c => keep ctx c (lrow ++ rrow)) (K' := fun c => keep ctx c rrow) (p := fun c => !usesL c) (l := fp)
            (fun c _ hc => keep_right_of_not_uses (hnl lrow hlrow) (by simpa using hc))]
  · exact unchanged_ok hg h

theorem pushIntoStreamJoinBranch_ok (db : Db) : RuleOK db pushDownFilterPredicatesIntoStreamJoinBranch :=
  (rule_of_local (pushIntoStreamJoinBranch_local db)).ruleOK

end Octo.Plan
