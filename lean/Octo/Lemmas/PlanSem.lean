import Octo.Lemmas.PlanEval
import Octo.Lemmas.NLJoin
/-!
  Node-level lemmas for `Octo.Plan.denote`: the well-formedness predicate `Good` the soundness theorems assume, what a
  well-formed node computes (the check of the declared names passes), and when one plan may stand where another stood
  (`StepOK`).
-/
namespace Octo.Plan
open Octo

@[simp] theorem schema_leaf (s : Schema) (k : Leaf) : (Plan.leaf s k).schema = s := rfl
@[simp] theorem schema_un (s : Schema) (k : Un) (src : Plan) : (Plan.un s k src).schema = s := rfl
@[simp] theorem schema_bin (s : Schema) (k : Bin) (l r : Plan) : (Plan.bin s k l r).schema = s := rfl
@[simp] theorem fields_leaf (s : Schema) (k : Leaf) : (Plan.leaf s k).fields = s.fields := rfl
@[simp] theorem fields_un (s : Schema) (k : Un) (src : Plan) : (Plan.un s k src).fields = s.fields := rfl
@[simp] theorem fields_bin (s : Schema) (k : Bin) (l r : Plan) : (Plan.bin s k l r).fields = s.fields := rfl

theorem checkNames_eq_some {f : List String} {rows out : List Row} :
    checkNames f rows = some out ↔ out = rows ∧ ∀ r ∈ rows, Row.names r = f := by
  unfold checkNames
  by_cases hc : (rows.all fun r => r.names == f) = true
  · rw [if_pos hc, Option.some.injEq, eq_comm]
    exact (and_iff_left (by simpa using hc)).symm
  · rw [if_neg hc]
    exact ⟨fun h => (nomatch h), fun h => absurd (by simpa using h.2) hc⟩

theorem checked_eq_some {s : Schema} {o : Option (List Row)} {out : List Row} :
    checked s o = some out ↔ o = some out ∧ ∀ r ∈ out, Row.names r = s.fields := by
  cases o with
  | none => exact ⟨fun h => (nomatch h), fun h => (nomatch h.1)⟩
  | some rows =>
    rw [checked, checkNames_eq_some, Option.some.injEq, eq_comm]
    exact and_congr_right fun h => by rw [h]

theorem checked_pass {s : Schema} {rows : List Row} (h : ∀ r ∈ rows, Row.names r = s.fields) :
    checked s (some rows) = some rows :=
  checked_eq_some.mpr ⟨rfl, h⟩

theorem tableRow_cons (mapping : List (String × String)) (tr : Row) (u : String) (us : List String) :
    tableRow mapping tr (u :: us) =
      (mapping.lookup u).bind fun col => (lookupRow col tr).bind fun v => (tableRow mapping tr us).map ((u, v) :: ·) := by
  rw [tableRow]
  cases mapping.lookup u with
  | none => rfl
  | some col =>
    dsimp only [Option.bind_some]
    cases lookupRow col tr <;> cases tableRow mapping tr us <;> rfl

theorem tableRow_names {mapping : List (String × String)} {tr : Row} : ∀ {fields : List String} {r : Row},
    tableRow mapping tr fields = some r → Row.names r = fields
  | [], _, h => by
    obtain rfl := Option.some.inj h
    rfl
  | u :: us, _, h => by
    rw [tableRow_cons] at h
    obtain ⟨col, _, h⟩ := Option.bind_eq_some_iff.mp h
    obtain ⟨v, _, h⟩ := Option.bind_eq_some_iff.mp h
    obtain ⟨rest, hr, rfl⟩ := Option.map_eq_some_iff.mp h
    exact congrArg (u :: ·) (tableRow_names hr)

theorem tableRows_eq (mapping : List (String × String)) (fields : List String) : ∀ (trs : List Row),
    tableRows mapping fields trs = trs.mapM fun tr => tableRow mapping tr fields
  | [] => rfl
  | tr :: trs => by
    rw [tableRows, List.mapM_cons, tableRows_eq mapping fields trs]
    cases tableRow mapping tr fields <;> cases trs.mapM (fun tr => tableRow mapping tr fields) <;> rfl

theorem tableRows_names {mapping : List (String × String)} {fields : List String} {trs rows : List Row}
    (h : tableRows mapping fields trs = some rows) : ∀ r ∈ rows, Row.names r = fields := by
  intro r hr
  rw [tableRows_eq] at h
  obtain ⟨_, _, ht⟩ := List.mapM_mem h hr
  exact tableRow_names ht

theorem denote_names {db : Db} : ∀ {p : Plan} {ctx : Ctx} {rows : List Row},
    denote db p ctx = some rows → ∀ r ∈ rows, Row.names r = p.fields := by
  intro p ctx rows h
  cases p with
  | leaf s k =>
    simp only [denote] at h
    exact (checked_eq_some.mp h).2
  | un s k src =>
    simp only [denote] at h
    split at h
    · exact (checked_eq_some.mp h).2
    · cases h
  | bin s k l r =>
    cases k with
    | _ =>
      simp only [denote] at h
      split at h
      · exact (checked_eq_some.mp h).2
      · cases h

def keep (ctx : Ctx) (p : PExpr) (r : Row) : Bool := isTrueV (eval (r :: ctx) p)

theorem filterRows_eq {ctx : Ctx} {p : PExpr} : ∀ {rows : List Row},
    (∀ r ∈ rows, (eval (r :: ctx) p).isSome = true) → filterRows ctx p rows = some (rows.filter (keep ctx p))
  | [], _ => rfl
  | r :: rs, h => by
    obtain ⟨v, hv⟩ := Option.isSome_iff_exists.mp (h r List.mem_cons_self)
    rw [filterRows, hv, filterRows_eq fun x hx => h x (List.mem_cons_of_mem _ hx), List.filter_cons, keep, hv]
    cases v with
    | bool b => cases b <;> rfl
    | _ => rfl

theorem filterRows_none {ctx : Ctx} {p : PExpr} : ∀ {rows : List Row},
    (∃ r ∈ rows, eval (r :: ctx) p = none) → filterRows ctx p rows = none
  | [], h => by simp at h
  | r :: rs, ⟨x, hx, he⟩ => by
    rw [filterRows]
    rcases List.mem_cons.mp hx with rfl | hx
    · rw [he]
    · rw [filterRows_none ⟨x, hx, he⟩]
      cases eval (r :: ctx) p <;> rfl

structure ExprOK (scope : List String) (e : PExpr) : Prop where
  inScope : ∀ x ∈ varsUsed e, x ∈ scope
  safe : HSafe e

theorem ExprOK.mono {scope scope' : List String} {e : PExpr} (h : ExprOK scope e)
    (hs : ∀ x ∈ varsUsed e, x ∈ scope → x ∈ scope') : ExprOK scope' e :=
  ⟨fun x hx => hs x hx (h.inScope x hx), h.safe⟩

def ExprsOK (scope : List String) (es : List PExpr) : Prop := ∀ e ∈ es, ExprOK scope e

theorem exprOK_var {scope : List String} {x : String} {l : Bool} (h : x ∈ scope) : ExprOK scope (.var x l) :=
  ⟨fun y hy => by simp only [varsUsed, List.mem_singleton] at hy; subst hy; exact h, trivial⟩

theorem exprOK_const {scope : List String} {v : Value} : ExprOK scope (.const v) :=
  ⟨fun y hy => by simp [varsUsed] at hy, trivial⟩

theorem exprsOK_vars {scope xs : List String} (h : ∀ x ∈ xs, x ∈ scope) :
    ExprsOK scope (xs.map fun x => .var x true) := by
  intro e he
  obtain ⟨x, hx, rfl⟩ := List.mem_map.mp he
  exact exprOK_var (h x hx)

/-- a datasource: its pushed-down predicates are well-formed and every declared field can be read from the table -/
def LeafGood (db : Db) (outer : List String) (s : Schema) : Leaf → Prop
  | .ds name _ _ preds mapping =>
    ExprsOK (s.fields ++ outer) preds ∧ ∀ trows, db name = some trows → (tableRows mapping s.fields trows).isSome = true
  | .mem _ => True
  | .tvf _ _ => True

def UnGood (outer : List String) (s srcS : Schema) : Un → Prop
  | .filter e => s = srcS ∧ ExprOK (srcS.fields ++ outer) e
  | .distinct => s.fields = srcS.fields
  | .map es => ExprsOK (srcS.fields ++ outer) es ∧ es.length = s.fields.length
  | .groupBy aggs aggExprs key _ _ =>
    ExprsOK (srcS.fields ++ outer) (aggExprs ++ key) ∧ aggs.length = aggExprs.length ∧
      s.fields.length = key.length + aggs.length ∧
      -- the aggregates cannot fail (e.g. no `sum` over a column that may hold a String)
      ∀ (ctx : Ctx) (rows : List Row), (∀ r ∈ rows, Binds (srcS.fields ++ outer) (r :: ctx)) →
        (groupByRows ctx s.fields aggs aggExprs key rows).isSome = true
  | .unnest _ => s.fields = srcS.fields
  | .ost keys _ limit => s.fields = srcS.fields ∧ ExprsOK (srcS.fields ++ outer) keys ∧ ∀ e, limit = some e → ExprOK outer e
  | .tvf name _ _ => name = "max_diff_watermark" → s.fields = srcS.fields

def BinGood (outer : List String) (s : Schema) (lf rf : List String) : Bin → Prop
  | .sjoin lk rk => s.fields = lf ++ rf ∧ ExprsOK (lf ++ outer) lk ∧ ExprsOK (rf ++ outer) rk ∧ lk.length = rk.length
  | .ljoin => s.fields = lf ++ rf ∧ ∀ x ∈ lf, x ∉ rf
  | .ojoin _ _ lk rk => s.fields = lf ++ rf ∧ ExprsOK (lf ++ outer) lk ∧ ExprsOK (rf ++ outer) rk

/-- `WellScoped ∧ TotalExprs`: declared schemas of filters and joins agree with their inputs (what the planner
    builds), every expression refers only to fields of its input or of the enclosing lookup-join records (`outer`)
    and cannot fail; the right side of a lookup join cannot fail -/
def Good (db : Db) : Plan → List String → Prop
  | .leaf s k, outer => s.fields.Nodup ∧ LeafGood db outer s k
  | .un s k src, outer => s.fields.Nodup ∧ Good db src outer ∧ UnGood outer s src.schema k
  | .bin s .ljoin l r, outer =>
    s.fields.Nodup ∧ Good db l outer ∧ Good db r (l.fields ++ outer) ∧ BinGood outer s l.fields r.fields .ljoin ∧
      ∀ ctx, Binds (l.fields ++ outer) ctx → (denote db r ctx).isSome = true
  | .bin s (.sjoin lk rk) l r, outer =>
    s.fields.Nodup ∧ Good db l outer ∧ Good db r outer ∧ BinGood outer s l.fields r.fields (.sjoin lk rk)
  | .bin s (.ojoin il ir lk rk) l r, outer =>
    s.fields.Nodup ∧ Good db l outer ∧ Good db r outer ∧ BinGood outer s l.fields r.fields (.ojoin il ir lk rk)

theorem Good.nodup {db : Db} : ∀ {p : Plan} {outer : List String}, Good db p outer → p.fields.Nodup
  | .leaf _ _, _, h | .un _ _ _, _, h | .bin _ .ljoin _ _, _, h | .bin _ (.sjoin _ _) _ _, _, h
  | .bin _ (.ojoin _ _ _ _) _ _, _, h => h.1

theorem Good.filter_schema {db : Db} {outer : List String} {s : Schema} {e : PExpr} {p : Plan}
    (h : Good db (.un s (.filter e) p) outer) : s = p.schema :=
  h.2.2.1

theorem good_ds {db : Db} {outer : List String} {s : Schema} {name alias pol : String} {mapping : List (String × String)}
    {trows : List Row} (hnd : s.fields.Nodup) (hdb : db name = some trows)
    (ht : (tableRows mapping s.fields trows).isSome = true) : Good db (.leaf s (.ds name alias pol [] mapping)) outer :=
  ⟨hnd, And.intro (fun _ he => nomatch he) fun _ h => Option.some.inj (hdb.symm.trans h) ▸ ht⟩

/-! ### what the well-formed nodes compute: the check of the declared names always passes -/

theorem filterRows_good {fs outer : List String} {ctx : Ctx} {e : PExpr} {rows : List Row}
    (hrows : ∀ r ∈ rows, Row.names r = fs) (hb : Binds outer ctx) (he : ExprOK (fs ++ outer) e) :
    filterRows ctx e rows = some (rows.filter (keep ctx e)) :=
  filterRows_eq (fun r hr => eval_isSome he.safe he.inScope (binds_cons (hrows r hr) hb))

theorem names_of_filter {fs : List String} {rows : List Row} {p : Row → Bool}
    (hrows : ∀ r ∈ rows, Row.names r = fs) : ∀ r ∈ rows.filter p, Row.names r = fs :=
  fun r hr => hrows r (List.mem_filter.mp hr).1

theorem exprOK_and {scope : List String} {cs : List PExpr} (h : ∀ c ∈ cs, ExprOK scope c) :
    ExprOK scope (.nary .and cs) := by
  refine ⟨?_, hsafe_and (hsafeL_iff.mpr fun c hc => (h c hc).safe)⟩
  intro x hx
  simp only [varsUsed] at hx
  obtain ⟨c, hc, hxc⟩ := mem_varsUsedL.mp hx
  exact (h c hc).inScope x hxc

theorem ExprOK.arg {scope : List String} {k : NK} {args : List PExpr} {a : PExpr} (h : ExprOK scope (.nary k args))
    (ha : a ∈ args) : ExprOK scope a :=
  ⟨fun x hx => h.inScope x (mem_varsUsedL.mpr ⟨a, ha, hx⟩), hsafeL_iff.mp h.safe.2.2 a ha⟩

theorem exprOK_conjunct {scope : List String} {e c : PExpr} (he : ExprOK scope e) (hc : c ∈ splitByAnd e) :
    ExprOK scope c :=
  splitByAnd_forall (Q := ExprOK scope) (fun _ h _ ha => h.arg ha) he c hc

theorem keep_and (ctx : Ctx) (cs : List PExpr) (r : Row) :
    keep ctx (.nary .and cs) r = cs.all fun c => keep ctx c r := by
  rw [keep, isTrue_and, all_evalL]
  rfl

theorem keep_split (ctx : Ctx) (e : PExpr) (r : Row) :
    keep ctx e r = (splitByAnd e).all fun c => keep ctx c r := by
  rw [keep, isTrue_split, all_evalL]
  rfl

theorem denote_filter {db : Db} {outer : List String} {s : Schema} {e : PExpr} {p : Plan} {ctx : Ctx}
    (hg : Good db (.un s (.filter e) p) outer) (hb : Binds outer ctx) :
    denote db (.un s (.filter e) p) ctx = (denote db p ctx).map (List.filter (keep ctx e)) := by
  obtain ⟨_, _, rfl, he⟩ := hg
  simp only [denote, unRows]
  cases hd : denote db p ctx with
  | none => rfl
  | some rows =>
    have hn := denote_names hd
    simp only [Option.map_some]
    rw [filterRows_good hn hb he, checked_pass (names_of_filter hn)]

theorem evalArgs_isSome {scope : List String} {cx : Ctx} {es : List PExpr}
    (hes : ExprsOK scope es) (hb : Binds scope cx) : (evalArgs cx es).isSome = true := by
  unfold evalArgs
  apply sequence_isSome
  intro r hr
  obtain ⟨e, he, rfl⟩ := mem_evalL hr
  exact eval_isSome (hes e he).safe (hes e he).inScope hb

theorem keysOk_good {fs outer : List String} {ctx : Ctx} {ks : List PExpr} {rows : List Row}
    (hrows : ∀ r ∈ rows, Row.names r = fs) (hb : Binds outer ctx) (hk : ExprsOK (fs ++ outer) ks) :
    keysOk ctx ks rows = true := by
  simp only [keysOk, List.all_eq_true]
  intro r hr
  exact evalArgs_isSome hk (binds_cons (hrows r hr) hb)

theorem names_append {l r : Row} : Row.names (l ++ r) = Row.names l ++ Row.names r :=
  List.map_append

theorem names_of_join {lf rf : List String} {ls rs : List Row} {m : Row → Row → Bool}
    (hl : ∀ r ∈ ls, Row.names r = lf) (hr : ∀ r ∈ rs, Row.names r = rf) :
    ∀ x ∈ nlJoin m ls rs, Row.names x = lf ++ rf := by
  intro x hx
  obtain ⟨l, hl', r, hr', _, rfl⟩ := mem_nlJoin.mp hx
  rw [names_append, hl l hl', hr r hr']

theorem denote_sjoin {db : Db} {outer : List String} {s : Schema} {lk rk : List PExpr} {l r : Plan} {ctx : Ctx}
    (hg : Good db (.bin s (.sjoin lk rk) l r) outer) (hb : Binds outer ctx) :
    denote db (.bin s (.sjoin lk rk) l r) ctx =
      (denote db l ctx).bind fun ls => (denote db r ctx).map (nlJoin (keyMatch ctx lk rk) ls) := by
  obtain ⟨_, _, _, hs2, hlk, hrk, _⟩ := hg
  simp only [denote, binRows]
  cases hdl : denote db l ctx with
  | none => rfl
  | some ls =>
    cases hdr : denote db r ctx with
    | none => rfl
    | some rs =>
      have hnl := denote_names hdl
      have hnr := denote_names hdr
      simp only [Option.bind_some, Option.map_some]
      simp only [joinRows, keysOk_good hnl hb hlk, keysOk_good hnr hb hrk, Bool.and_self, if_true]
      exact checked_pass (by rw [hs2]; exact names_of_join hnl hnr)

theorem lookupJoinRows_congr {j1 j2 : Ctx → Option (List Row)} {ctx : Ctx} : ∀ {ls : List Row},
    (∀ l ∈ ls, j1 (l :: ctx) = j2 (l :: ctx)) → lookupJoinRows j1 ctx ls = lookupJoinRows j2 ctx ls
  | [], _ => by simp [lookupJoinRows]
  | l :: ls, h => by
    simp only [lookupJoinRows]
    rw [h l (by simp), lookupJoinRows_congr (ls := ls) (fun x hx => h x (by simp [hx]))]

theorem lookupJoinRows_some {j : Ctx → Option (List Row)} {ctx : Ctx} : ∀ {ls : List Row},
    (∀ l ∈ ls, (j (l :: ctx)).isSome = true) →
    lookupJoinRows j ctx ls = some (depJoin (fun l => (j (l :: ctx)).getD []) ls)
  | [], _ => rfl
  | l :: ls, h => by
    obtain ⟨js, hj⟩ := Option.isSome_iff_exists.mp (h l List.mem_cons_self)
    rw [lookupJoinRows, hj, lookupJoinRows_some fun x hx => h x (List.mem_cons_of_mem _ hx), depJoin, depJoin,
      List.flatMap_cons, hj]
    rfl

/-- a well-formed lookup join runs its right side once per left record, which that side sees as an outer record -/
theorem denote_ljoin {db : Db} {outer : List String} {s : Schema} {l r : Plan} {ctx : Ctx}
    (hg : Good db (.bin s .ljoin l r) outer) (hb : Binds outer ctx) :
    denote db (.bin s .ljoin l r) ctx =
      (denote db l ctx).map (depJoin fun a => (denote db r (a :: ctx)).getD []) := by
  obtain ⟨_, _, _, ⟨hs2, _⟩, htot⟩ := hg
  simp only [denote]
  cases hdl : denote db l ctx with
  | none => rfl
  | some ls =>
    have hnl := denote_names hdl
    have htotl : ∀ a ∈ ls, (denote db r (a :: ctx)).isSome = true := fun a ha => htot _ (binds_cons (hnl a ha) hb)
    simp only [Option.map_some]
    rw [lookupJoinRows_some htotl]
    apply checked_pass
    intro x hx
    obtain ⟨a, ha, j, hj, rfl⟩ := mem_depJoin.mp hx
    obtain ⟨rows, hd⟩ := Option.isSome_iff_exists.mp (htotl a ha)
    rw [hd] at hj
    rw [names_append, hnl a ha, denote_names hd j hj, hs2]

theorem denote_ds {db : Db} {outer : List String} {s : Schema} {name alias pol : String} {preds : List PExpr}
    {mapping : List (String × String)} {ctx : Ctx}
    (hg : Good db (.leaf s (.ds name alias pol preds mapping)) outer) (hb : Binds outer ctx) :
    denote db (.leaf s (.ds name alias pol preds mapping)) ctx =
      ((db name).bind (tableRows mapping s.fields)).map (List.filter fun r => preds.all fun c => keep ctx c r) := by
  obtain ⟨_, hpreds, _⟩ := hg
  simp only [denote, leafRows, dsRows]
  cases db name with
  | none => rfl
  | some trows =>
    simp only [Option.bind_some]
    cases ht : tableRows mapping s.fields trows with
    | none => rfl
    | some rows =>
      have hn := tableRows_names ht
      simp only [Option.map_some]
      cases preds with
      | nil => simp only [andAll, List.all_nil, List.filter_eq_self.mpr (fun _ _ => rfl), checked_pass hn]
      | cons p ps =>
        simp only [andAll]
        rw [filterRows_good hn hb (exprOK_and hpreds), checked_pass (names_of_filter hn)]
        congr 1
        exact List.filter_congr fun r _ => keep_and ctx _ r

/-- `q'` may stand where `q` stood, inside any plan whose enclosing lookup-join records bind `outer` -/
structure StepOK (db : Db) (outer : List String) (q q' : Plan) : Prop where
  good : Good db q' outer
  schema : q'.schema = q.schema
  sim : ∀ ctx, Binds outer ctx → denote db q' ctx = denote db q ctx

theorem StepOK.refl {db : Db} {outer : List String} {q : Plan} (h : Good db q outer) : StepOK db outer q q :=
  ⟨h, rfl, fun _ _ => rfl⟩

theorem StepOK.trans {db : Db} {outer : List String} {a b c : Plan}
    (h1 : StepOK db outer a b) (h2 : StepOK db outer b c) : StepOK db outer a c :=
  ⟨h2.good, h2.schema.trans h1.schema, fun ctx hb => (h2.sim ctx hb).trans (h1.sim ctx hb)⟩

theorem StepOK.fields_sub {db : Db} {outer : List String} {q q' : Plan} (h : StepOK db outer q q') :
    ∀ x ∈ q'.fields, x ∈ q.fields := by
  intro x hx
  rw [Plan.fields, h.schema] at hx
  exact hx

theorem StepOK.un {db : Db} {outer : List String} {s : Schema} {k : Un} {src src' : Plan}
    (hg : Good db (.un s k src) outer) (h : StepOK db outer src src') :
    StepOK db outer (.un s k src) (.un s k src') := by
  obtain ⟨hs1, hs2, hs3⟩ := h
  refine ⟨⟨hg.1, hs1, by rw [hs2]; exact hg.2.2⟩, rfl, fun ctx hb => ?_⟩
  simp only [denote, hs3 ctx hb, hs2]

end Octo.Plan
