import Octo.Model.PluginFlow
/-! Lemmas for C26: nothing is lost in the predicate bookkeeping between executor and plugin. -/
namespace Octo.Wire

/-- what both push-down wrappers do: hand `sent` to the implementation and append what they held back to its
    rejected list -/
theorem heldBack_perm (impl : PushImpl) (himpl : ∀ a b, ((impl a b).1 ++ (impl a b).2.1).Perm (a ++ b))
    {sent held newPreds : List Pred} (hs : (sent ++ held).Perm newPreds) (pushed : List Pred) :
    (((impl sent pushed).1 ++ held) ++ (impl sent pushed).2.1).Perm (newPreds ++ pushed) := by
  rw [List.perm_iff_count]
  intro a
  have h1 := (himpl sent pushed).count_eq a
  have h2 := hs.count_eq a
  simp only [List.count_append] at *
  omega

theorem serverPushDown_perm (impl : PushImpl)
    (himpl : ∀ a b, ((impl a b).1 ++ (impl a b).2.1).Perm (a ++ b)) (newPreds pushed : List Pred) :
    ((serverPushDown impl newPreds pushed).1 ++ (serverPushDown impl newPreds pushed).2.1).Perm (newPreds ++ pushed) :=
  heldBack_perm impl himpl (List.filter_append_perm (fun p : Pred => p.known) newPreds) pushed

end Octo.Wire
