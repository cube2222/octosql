import Octo.Lemmas.PluginsSpec
/-!
  The listing reads the visible paths (`Vis`) only; the registry file, which start-up reads beside them, is a
  hypothesis of its own in the `startup_eq_*` lemmas. Trees that agree on the visible paths and load the same registry start up
  identically (`startup_eq_of_agree`), and so does a tree that differs from a healthy one only by hidden paths and by
  new empty ancestors of one plugin directory (`startup_eq_of_extVis`).
-/
namespace Octo.Plugins
open Octo.Fs

/-- the paths the plugin listing looks at -/
def Vis (q : Path) : Prop :=
  q = pluginsDir ∨ (∃ r, q = pluginsDir ++ [r]) ∨ (∃ r d, q = pluginsDir ++ [r, d]) ∨
  (∃ r d x, isDot x = false ∧ q = pluginsDir ++ [r, d, x])

def AgreeVis (fs fs' : Fs) : Prop := ∀ q, Vis q → get fs q = get fs' q

theorem AgreeVis.symm {fs fs' : Fs} (h : AgreeVis fs fs') : AgreeVis fs' fs := fun q hq => (h q hq).symm

theorem AgreeVis.trans {a b c : Fs} (h1 : AgreeVis a b) (h2 : AgreeVis b c) : AgreeVis a c :=
  fun q hq => (h1 q hq).trans (h2 q hq)

theorem vis_plugins : Vis pluginsDir := Or.inl rfl
theorem vis_repo (r : FName) : Vis (pluginsDir ++ [r]) := Or.inr (Or.inl ⟨r, rfl⟩)
theorem vis_plugin (r d : FName) : Vis (pluginsDir ++ [r, d]) := Or.inr (Or.inr (Or.inl ⟨r, d, rfl⟩))
theorem vis_version (r d x : FName) (hx : isDot x = false) : Vis (pluginsDir ++ [r, d, x]) :=
  Or.inr (Or.inr (Or.inr ⟨r, d, x, hx, rfl⟩))
theorem vis_pluginDir (ref : Ref) : Vis (pluginDir ref) := vis_plugin _ _
theorem plugin_concat (r d x : FName) : pluginsDir ++ [r, d] ++ [x] = pluginsDir ++ [r, d, x] := List.append_assoc _ _ _
theorem pluginDir_concat (ref : Ref) (x : FName) :
    pluginDir ref ++ [x] = pluginsDir ++ [ref.repo, pluginDirName ref.name, x] := plugin_concat _ _ x
theorem vis_version' (ref : Ref) (x : FName) (hx : isDot x = false) : Vis (pluginDir ref ++ [x]) :=
  pluginDir_concat ref x ▸ vis_version _ _ _ hx

section
variable {V C : Type} (S : Sem V C)

theorem installed_of_agree {fs fs' : Fs} (h : AgreeVis fs fs') (ref : Ref) (v : V) :
    Installed S fs ref v → Installed S fs' ref v :=
  fun ⟨hP, hR, hD, x, hx, hs, hp⟩ => ⟨h _ vis_plugins ▸ hP, h _ (vis_repo _) ▸ hR, h _ (vis_pluginDir ref) ▸ hD,
    x, hx, h _ (vis_version' ref x hx) ▸ hs, hp⟩

theorem pluginOk_of_agree {fs fs' : Fs} (h : AgreeVis fs fs') (r d : FName) :
    PluginOk S fs (pluginsDir ++ [r, d]) → PluginOk S fs' (pluginsDir ++ [r, d]) := by
  rintro ⟨hD, hall⟩
  refine ⟨by rw [← h _ (vis_plugin _ _)]; exact hD, ?_⟩
  intro x hx hs
  have := plugin_concat r d x
  rw [this, ← h _ (vis_version _ _ _ hx), ← this] at hs
  exact hall x hx hs

theorem listOk_of_agree {fs fs' : Fs} (h : AgreeVis fs fs') : ListOk S fs → ListOk S fs' := by
  rintro (hnone | ⟨hP, hall⟩)
  · exact Or.inl (h _ vis_plugins ▸ hnone)
  · refine Or.inr ⟨h _ vis_plugins ▸ hP, fun r hr => ?_⟩
    obtain ⟨hR, hds⟩ := hall r ((h _ (vis_repo r)).symm ▸ hr)
    exact ⟨h _ (vis_repo r) ▸ hR, fun d hd => pluginOk_of_agree S h r d (hds d ((h _ (vis_plugin r d)).symm ▸ hd))⟩

theorem noUnprefixed_of_agree {fs fs' : Fs} (h : AgreeVis fs fs') : NoUnprefixed fs → NoUnprefixed fs' :=
  fun hnu r d hd => hnu r d ((h _ (vis_plugin r d)).symm ▸ hd)

theorem loadHandlers_congr {fs fs' : Fs} (h : get fs handlersFile = get fs' handlersFile) :
    loadHandlers S fs = loadHandlers S fs' := by simp only [loadHandlers, h]

theorem startup_eq_of_agree (L : OrderLaws S.gt) {fs fs' : Fs} (h : AgreeVis fs fs') (hnu : NoUnprefixed fs)
    (hok : ListOk S fs) (hH : loadHandlers S fs = loadHandlers S fs') (cfg : List (Db C)) :
    startup S fs cfg = startup S fs' cfg :=
  startup_congr S L hnu (noUnprefixed_of_agree h hnu) hok (listOk_of_agree S h hok)
    (fun ref v => ⟨installed_of_agree S h ref v, installed_of_agree S h.symm ref v⟩) hH cfg

end

/-- `fs` is `fs₀` on the visible paths, except that ancestors of the plugin directory `pluginDir ref₀` that did not
    exist may now exist as directories, and that version entries `x` of that directory with `E x` may have (re)appeared -/
def ExtVis (ref₀ : Ref) (E : FName → Prop) (fs₀ fs : Fs) : Prop :=
  ∀ q, Vis q → (∃ x, E x ∧ q = pluginDir ref₀ ++ [x] ∧ (get fs q).isSome = true) ∨ SameOrNewDir (pluginDir ref₀) fs₀ fs q

section
variable {V C : Type} (S : Sem V C)

/-- on the three directory levels there is no exception: an exception has four components -/
theorem extVis_of_length {ref₀ : Ref} {E : FName → Prop} {fs₀ fs : Fs} (h : ExtVis ref₀ E fs₀ fs) {q : Path} (hq : Vis q)
    (hl : q.length ≤ 3) : SameOrNewDir (pluginDir ref₀) fs₀ fs q := by
  rcases h q hq with ⟨x, _, he, _⟩ | h'
  · subst he; simp [pluginDir, pluginsDir] at hl
  · exact h'

theorem extVis_plugins {ref₀ : Ref} {E : FName → Prop} {fs₀ fs : Fs} (h : ExtVis ref₀ E fs₀ fs) :
    SameOrNewDir (pluginDir ref₀) fs₀ fs pluginsDir := extVis_of_length h vis_plugins (by decide)

theorem extVis_repo {ref₀ : Ref} {E : FName → Prop} {fs₀ fs : Fs} (h : ExtVis ref₀ E fs₀ fs) (r : FName) :
    SameOrNewDir (pluginDir ref₀) fs₀ fs (pluginsDir ++ [r]) := extVis_of_length h (vis_repo r) (Nat.le_succ 2)

theorem extVis_plugin {ref₀ : Ref} {E : FName → Prop} {fs₀ fs : Fs} (h : ExtVis ref₀ E fs₀ fs) (r d : FName) :
    SameOrNewDir (pluginDir ref₀) fs₀ fs (pluginsDir ++ [r, d]) := extVis_of_length h (vis_plugin r d) (Nat.le_refl 3)

theorem dirs_of_closed {fs : Fs} (hc : Closed fs) {r d : FName} (hs : (get fs (pluginsDir ++ [r, d])).isSome = true) :
    get fs pluginsDir = some .dir ∧ get fs (pluginsDir ++ [r]) = some .dir := by
  have hR : get fs (pluginsDir ++ [r]) = some .dir := hc (pluginsDir ++ [r]) d (by simp [pluginsDir]) (by simpa using hs)
  exact ⟨hc _ r (by simp [pluginsDir]) (by rw [hR]; rfl), hR⟩

theorem extVis_version {ref₀ : Ref} {E : FName → Prop} {fs₀ fs : Fs} (h : ExtVis ref₀ E fs₀ fs) (r d x : FName)
    (hx : isDot x = false) :
    (E x ∧ pluginsDir ++ [r, d] = pluginDir ref₀ ∧ (get fs (pluginsDir ++ [r, d, x])).isSome = true) ∨
      get fs (pluginsDir ++ [r, d, x]) = get fs₀ (pluginsDir ++ [r, d, x]) := by
  rcases h _ (vis_version r d x hx) with ⟨x', hE, he, hs⟩ | h' | ⟨hpre, _, _⟩
  · rw [← plugin_concat] at he
    obtain ⟨hD, hx'⟩ := List.append_inj' he rfl
    cases hx'; exact Or.inl ⟨hE, hD, hs⟩
  · exact Or.inr h'
  · have := isPre_len hpre; simp [pluginDir, pluginsDir] at this

theorem noUnprefixed_of_extVis {ref₀ : Ref} {E : FName → Prop} {fs₀ fs : Fs} (h : ExtVis ref₀ E fs₀ fs) :
    NoUnprefixed fs₀ → NoUnprefixed fs := by
  intro hnu r d hd
  rcases extVis_plugin h r d with h' | ⟨hpre, _, _⟩
  · rw [h'] at hd; exact hnu r d hd
  · have := isPre_eq_of_len hpre (by simp [pluginDir, pluginsDir])
    simp only [pluginDir, pluginsDir, List.cons_append, List.nil_append, List.cons.injEq, true_and] at this
    rw [this.2.1]
    simp [pluginDirName, stripPrefix?_append]

theorem installed_mono_of_extVis {ref₀ : Ref} {E : FName → Prop} {fs₀ fs : Fs} (h : ExtVis ref₀ E fs₀ fs)
    (ref : Ref) (v : V) : Installed S fs₀ ref v → Installed S fs ref v := by
  rintro ⟨hP, hR, hD, x, hx, hs, hp⟩
  refine ⟨(extVis_plugins h).dir hP, (extVis_repo h _).dir hR, (extVis_plugin h _ _).dir hD, x, hx, ?_, hp⟩
  rw [pluginDir_concat] at hs ⊢
  rcases extVis_version h _ _ x hx with ⟨_, _, hs'⟩ | h'
  · exact hs'
  · rw [h']; exact hs

theorem installed_iff_of_extVis {ref₀ : Ref} {fs₀ fs : Fs} (hc : Closed fs₀) (h : ExtVis ref₀ (fun _ => False) fs₀ fs)
    (ref : Ref) (v : V) : Installed S fs ref v ↔ Installed S fs₀ ref v := by
  refine ⟨?_, installed_mono_of_extVis S h ref v⟩
  rintro ⟨_, _, _, x, hx, hs, hp⟩
  have hs₀ : (get fs₀ (pluginDir ref ++ [x])).isSome = true := by
    rw [pluginDir_concat] at hs ⊢
    rcases extVis_version h _ _ x hx with ⟨hE, _⟩ | h'
    · exact hE.elim
    · rw [← h']; exact hs
  -- the entry existed before, so did the three directories above it
  have hD₀ : get fs₀ (pluginDir ref) = some .dir := hc _ x (by simp [pluginDir, pluginsDir]) hs₀
  obtain ⟨hP₀, hR₀⟩ := dirs_of_closed hc (r := ref.repo) (d := pluginDirName ref.name) (by rw [← pluginDir, hD₀]; rfl)
  exact ⟨hP₀, hR₀, hD₀, x, hx, hs₀, hp⟩

theorem listOk_of_extVis {ref₀ : Ref} {E : FName → Prop} {fs₀ fs : Fs} (hc : Closed fs₀) (h : ExtVis ref₀ E fs₀ fs)
    (hE : ∀ x, E x → (S.parse x).isSome = true) : ListOk S fs₀ → ListOk S fs := by
  intro hok
  have pluginOk : ∀ r d, (get fs (pluginsDir ++ [r, d])).isSome = true → PluginOk S fs (pluginsDir ++ [r, d]) := by
    intro r d hd
    -- a version entry is an exception, which parses, or was there before
    have ver : ∀ x, isDot x = false → (get fs (pluginsDir ++ [r, d] ++ [x])).isSome = true →
        (S.parse x).isSome = true ∨ (get fs₀ (pluginsDir ++ [r, d] ++ [x])).isSome = true := by
      intro x hx hs
      rw [plugin_concat] at hs ⊢
      rcases extVis_version h r d x hx with ⟨hEx, _⟩ | h''
      · exact Or.inl (hE x hEx)
      · rw [← h'']; exact Or.inr hs
    rcases extVis_plugin h r d with h' | ⟨_, hn, hdir⟩
    · -- the directory existed before
      rw [h'] at hd
      obtain ⟨hP₀, hR₀⟩ := dirs_of_closed hc hd
      obtain ⟨hD₀, hvs⟩ := (hok.repos S hP₀ r (by rw [hR₀]; rfl)).2 d hd
      exact ⟨by rw [h']; exact hD₀, fun x hx hs => (ver x hx hs).elim id (hvs x hx)⟩
    · -- the directory is new: nothing was in it before
      refine ⟨hdir, fun x hx hs => (ver x hx hs).elim id fun hs₀ => ?_⟩
      have := hc _ x (by simp [pluginsDir]) hs₀
      rw [hn] at this; cases this
  have repoOk : ∀ r, (get fs (pluginsDir ++ [r])).isSome = true → RepoOk S fs r := by
    intro r hr
    refine ⟨?_, fun d hd => pluginOk r d hd⟩
    rcases extVis_repo h r with h' | ⟨_, _, hdir⟩
    · rw [h'] at hr ⊢
      exact (hok.repos S (hc _ r (by simp [pluginsDir]) hr) r hr).1
    · exact hdir
  rcases extVis_plugins h with h' | ⟨_, _, hdir⟩
  · rcases hok with hnone | ⟨hP₀, _⟩
    · left; rw [h']; exact hnone
    · right; exact ⟨by rw [h']; exact hP₀, repoOk⟩
  · right; exact ⟨hdir, repoOk⟩

theorem startup_eq_of_extVis (L : OrderLaws S.gt) {fs₀ fs : Fs} {ref₀ : Ref} (hc : Closed fs₀)
    (h : ExtVis ref₀ (fun _ => False) fs₀ fs) (hnu : NoUnprefixed fs₀) (hok : ListOk S fs₀)
    (hH : get fs handlersFile = get fs₀ handlersFile) (cfg : List (Db C)) :
    startup S fs cfg = startup S fs₀ cfg :=
  startup_congr S L (noUnprefixed_of_extVis h hnu) hnu (listOk_of_extVis S hc h (fun _ hE => hE.elim) hok) hok
    (fun ref v => installed_iff_of_extVis S hc h ref v) (loadHandlers_congr S hH) cfg

end
end Octo.Plugins
