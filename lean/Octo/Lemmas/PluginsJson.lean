import Octo.Model.PluginsJson
/-!
  The canonical JSON codec of the extension registry round-trips: what `registerExtensions` writes is accepted by
  `decodeHandlers`. This discharges the hypothesis `JobOk.handlers` of C27 for the concrete codec the driver uses
  (the real `encoding/json` stays trusted), for names without characters that need escaping.
-/
namespace Octo.Plugins.Json
open Octo.Fs Octo.Plugins

/-- a string json.Marshal writes verbatim -/
def PlainStr (s : FName) : Prop := ∀ c ∈ s, plainChar c = true

theorem plainChar_spec {c : Char} (h : plainChar c = true) : c.toNat < 256 ∧ c ≠ '"' := by
  simp only [plainChar, Bool.and_eq_true, decide_eq_true_eq, bne_iff_ne, ne_eq] at h
  obtain ⟨⟨⟨⟨⟨⟨_, hlt⟩, hq⟩, _⟩, _⟩, _⟩, _⟩ := h
  exact ⟨by omega, hq⟩

theorem roundChar {c : Char} (h : c.toNat < 256) : Char.ofNat (UInt8.ofNat c.toNat).toNat = c := by
  simp [Nat.mod_eq_of_lt h]

theorem bytes_chars {cs : List Char} (h : ∀ c ∈ cs, c.toNat < 256) : bytesToChars (charsToBytes cs) = cs := by
  induction cs with
  | nil => rfl
  | cons c cs ih =>
    simp only [bytesToChars, charsToBytes, List.map_cons, List.map_map] at ih ⊢
    rw [roundChar (h c (by simp))]
    congr 1
    exact ih (fun d hd => h d (List.mem_cons_of_mem _ hd))

theorem takeStr_append {s : FName} (hs : PlainStr s) (r : List Char) : takeStr (s ++ '"' :: r) = some (s, r) := by
  induction s with
  | nil => simp [takeStr]
  | cons c cs ih =>
    have hc := hs c (by simp)
    have hne := (plainChar_spec hc).2
    simp only [List.cons_append, takeStr, hne, if_false, hc, if_true]
    rw [ih (fun d hd => hs d (List.mem_cons_of_mem _ hd))]

theorem parseStr_enc {s : FName} (hs : PlainStr s) (r : List Char) : parseStr (encStr s ++ r) = some (s, r) := by
  simp only [encStr, List.cons_append, parseStr, List.append_assoc]
  exact takeStr_append hs r

theorem takeStr_plain {cs : List Char} {s : FName} {r : List Char} (h : takeStr cs = some (s, r)) : PlainStr s := by
  induction cs generalizing s r with
  | nil => simp [takeStr] at h
  | cons c cs ih =>
    simp only [takeStr] at h
    split at h
    · cases h; exact fun _ hd => nomatch hd
    · split at h
      · next hp =>
        split at h
        · next s' r' ht => cases h; exact fun d hd => (List.mem_cons.1 hd).elim (fun e => e ▸ hp) (ih ht d)
        · cases h
      · cases h

theorem parseStr_plain {cs : List Char} {s : FName} {r : List Char} (h : parseStr cs = some (s, r)) : PlainStr s := by
  cases cs with
  | nil => cases h
  | cons c cs' =>
    simp only [parseStr] at h
    split at h
    · exact takeStr_plain h
    · cases h

def PlainMap (m : List (FName × FName)) : Prop := ∀ kv ∈ m, PlainStr kv.1 ∧ PlainStr kv.2

theorem plainMap_nil : PlainMap [] := fun _ h => nomatch h

theorem plainMap_cons {k v : FName} {m : List (FName × FName)} (hk : PlainStr k) (hv : PlainStr v) (hm : PlainMap m) :
    PlainMap ((k, v) :: m) :=
  fun x hx => (List.mem_cons.1 hx).elim (fun e => e ▸ ⟨hk, hv⟩) (hm x)

theorem PlainMap.tail {kv : FName × FName} {m : List (FName × FName)} (h : PlainMap (kv :: m)) : PlainMap m :=
  fun x hx => h x (List.mem_cons_of_mem _ hx)

theorem parsePairs_enc {m : List (FName × FName)} (hm : PlainMap m) (hne : m ≠ []) (fuel : Nat) (hf : m.length ≤ fuel) :
    parsePairs fuel (encPairs m ++ ['}']) = some m := by
  induction m generalizing fuel with
  | nil => exact absurd rfl hne
  | cons kv rest ih =>
    obtain ⟨k, v⟩ := kv
    obtain ⟨hk, hv⟩ := hm (k, v) (by simp)
    cases fuel with
    | zero => simp at hf
    | succ fuel =>
      cases rest with
      | nil => simp only [encPairs, parsePairs, List.append_assoc, List.cons_append, parseStr_enc hk, parseStr_enc hv]
      | cons kv' rest' =>
        simp only [encPairs, parsePairs, List.append_assoc, List.cons_append, parseStr_enc hk, parseStr_enc hv,
          ih hm.tail (by simp) fuel (by simp at hf ⊢; omega)]

theorem encStr_lt {s : FName} (hs : PlainStr s) : ∀ c ∈ encStr s, c.toNat < 256 := by
  simp only [encStr, List.forall_mem_cons, List.forall_mem_append]
  exact ⟨⟨by decide, fun c hc => (plainChar_spec (hs c hc)).1⟩, by decide, fun _ h => nomatch h⟩

theorem encPairs_lt {m : List (FName × FName)} (hm : PlainMap m) : ∀ c ∈ encPairs m, c.toNat < 256 := by
  induction m with
  | nil => exact fun _ h => nomatch h
  | cons kv rest ih =>
    obtain ⟨k, v⟩ := kv
    obtain ⟨hk, hv⟩ := hm (k, v) (by simp)
    have hrest := ih hm.tail
    cases rest with
    | nil =>
      simp only [encPairs, List.forall_mem_cons, List.forall_mem_append]
      exact ⟨encStr_lt hk, by decide, encStr_lt hv⟩
    | cons kv' rest' =>
      simp only [encPairs, List.forall_mem_cons, List.forall_mem_append]
      exact ⟨⟨encStr_lt hk, by decide, encStr_lt hv⟩, by decide, hrest⟩

/-- every pair contributes at least one character -/
theorem length_le_encPairs (m : List (FName × FName)) : m.length ≤ (encPairs m).length := by
  induction m with
  | nil => exact Nat.le_refl _
  | cons a as ih =>
    obtain ⟨k, v⟩ := a
    cases as with
    | nil => simp [encPairs, encStr]
    | cons b bs => simp only [encPairs, List.length_append, List.length_cons] at ih ⊢; omega

theorem decode_encode {m : List (FName × FName)} (hm : PlainMap m) : decodeHandlers (encodeHandlers m) = some m := by
  have hlt : ∀ c ∈ '{' :: encPairs m ++ ['}'], c.toNat < 256 := by
    simp only [List.forall_mem_cons, List.forall_mem_append]
    exact ⟨⟨by decide, encPairs_lt hm⟩, by decide, fun _ h => nomatch h⟩
  rw [decodeHandlers, encodeHandlers, bytes_chars hlt]
  cases m with
  | nil => rfl
  | cons kv rest =>
    have h := parsePairs_enc hm (List.cons_ne_nil _ _) ((encPairs (kv :: rest) ++ ['}']).length + 1)
      (by have := length_le_encPairs (kv :: rest); simp only [List.length_append] at *; omega)
    -- the document is not `{}`: after the brace comes the quote that opens the first key
    obtain ⟨k, v⟩ := kv
    cases rest <;> exact h

theorem putKey_plain {k v : FName} {m : List (FName × FName)} (hk : PlainStr k) (hv : PlainStr v) (hm : PlainMap m) :
    PlainMap (putKey k v m) := by
  induction m with
  | nil => exact plainMap_cons hk hv plainMap_nil
  | cons a as ih =>
    obtain ⟨k', v'⟩ := a
    simp only [putKey]
    split
    · exact plainMap_cons hk hv hm.tail
    · split
      · exact plainMap_cons hk hv hm
      · exact plainMap_cons (hm _ (.head _)).1 (hm _ (.head _)).2 (ih hm.tail)

theorem parsePairs_plain {fuel : Nat} {cs : List Char} {m : List (FName × FName)} (h : parsePairs fuel cs = some m) :
    PlainMap m := by
  induction fuel generalizing cs m with
  | zero => cases h
  | succ fuel ih =>
    simp only [parsePairs] at h
    split at h
    · cases h
    · next k _ hk =>
      split at h
      · split at h
        · cases h
        · next v _ hv =>
          split at h
          · cases h; exact plainMap_cons (parseStr_plain hk) (parseStr_plain hv) plainMap_nil
          · split at h
            · next rest h3 => cases h; exact plainMap_cons (parseStr_plain hk) (parseStr_plain hv) (ih h3)
            · cases h
          · cases h
      · cases h

theorem decodeHandlers_plain {bs : Bytes} {m : List (FName × FName)} (h : decodeHandlers bs = some m) : PlainMap m := by
  simp only [decodeHandlers] at h
  split at h
  · cases h; exact plainMap_nil
  · exact parsePairs_plain h
  · cases h

theorem registerExtensions_decodes {fs : Fs} {plugin : FName} {exts : List FName} {data : Bytes}
    (hp : PlainStr plugin) (he : ∀ e ∈ exts, PlainStr e) (h : registerExtensions fs plugin exts = some data) :
    (decodeHandlers data).isSome = true := by
  simp only [registerExtensions] at h
  have fold : ∀ (exts : List FName) (m : List (FName × FName)), (∀ e ∈ exts, PlainStr e) → PlainMap m →
      PlainMap (exts.foldl (fun m e => putKey e plugin m) m) := by
    intro exts
    induction exts with
    | nil => intro m _ hm; exact hm
    | cons e es ih =>
      intro m he hm
      exact ih _ (fun x hx => he x (List.mem_cons_of_mem _ hx)) (putKey_plain (he e (by simp)) hp hm)
  split at h
  · cases h
  · next m hm =>
    cases h
    have hplain : PlainMap m := by
      split at hm
      · cases hm; exact plainMap_nil
      · cases hm
      · exact decodeHandlers_plain hm
    rw [decode_encode (fold exts m he hplain)]
    rfl

end Octo.Plugins.Json
