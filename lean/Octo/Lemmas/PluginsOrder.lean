import Octo.Model.Plugins
/-!
  The pure parts of the plugin model. The one idea: on a list sorted descending, `find?` returns the greatest element
  that passes the test (`find?_desc_eq_some_iff`); resolution at start-up and the selection loop of `Install` are that.
-/
namespace Octo.Plugins
open Octo.Fs

theorem stripPrefix?_append (p n : FName) : stripPrefix? p (p ++ n) = some n := by
  induction p with
  | nil => cases n <;> rfl
  | cons c cs ih => simp [stripPrefix?, ih]

theorem nameOfDir_pluginDirName (n : FName) : nameOfDir (pluginDirName n) = n := by
  rw [nameOfDir, trimPrefix, pluginDirName, stripPrefix?_append]

theorem stripPrefix?_eq_some {p s r : FName} (h : stripPrefix? p s = some r) : s = p ++ r := by
  induction p generalizing s with
  | nil => cases s <;> simp_all [stripPrefix?]
  | cons c cs ih =>
    cases s with
    | nil => simp [stripPrefix?] at h
    | cons d ds =>
      simp only [stripPrefix?] at h
      split at h
      · next hcd => subst hcd; simp [ih h]
      · cases h

theorem pluginDirName_nameOfDir {d : FName} (hd : stripPrefix? pluginPrefix d ≠ none) :
    pluginDirName (nameOfDir d) = d := by
  cases hs : stripPrefix? pluginPrefix d with
  | none => exact absurd hs hd
  | some r => rw [nameOfDir, trimPrefix, hs]; exact (stripPrefix?_eq_some hs).symm

theorem isDot_cons_dot (s : FName) : isDot ('.' :: s) = true := rfl

/-- what is assumed of `Version.GreaterThan` of the version library (Masterminds/semver, a parameter of the model):
    a strict total order on the versions that occur -/
structure OrderLaws {V : Type} (gt : V → V → Bool) : Prop where
  irrefl : ∀ a, gt a a = false
  trans : ∀ a b c, gt a b = true → gt b c = true → gt a c = true
  total : ∀ a b, gt a b = true ∨ a = b ∨ gt b a = true

section sort
variable {V : Type} (gt : V → V → Bool)

def Desc (l : List V) : Prop := l.Pairwise (fun a b => gt b a = false)

theorem perm_insertDesc (x : V) (l : List V) : (insertDesc gt x l).Perm (x :: l) := by
  induction l with
  | nil => exact .refl _
  | cons z zs ih =>
    simp only [insertDesc]
    split
    · exact ((List.Perm.cons z ih).trans (.swap x z zs))
    · exact .refl _

theorem perm_sortDesc (l : List V) : (sortDesc gt l).Perm l := by
  induction l with
  | nil => exact .refl _
  | cons z zs ih => exact (perm_insertDesc gt z _).trans (ih.cons z)

theorem mem_insertDesc {x y : V} {l : List V} : y ∈ insertDesc gt x l ↔ y = x ∨ y ∈ l :=
  (perm_insertDesc gt x l).mem_iff.trans List.mem_cons

theorem length_insertDesc (x : V) (l : List V) : (insertDesc gt x l).length = l.length + 1 :=
  (perm_insertDesc gt x l).length_eq

theorem mem_sortDesc {y : V} {l : List V} : y ∈ sortDesc gt l ↔ y ∈ l := (perm_sortDesc gt l).mem_iff

theorem length_sortDesc (l : List V) : (sortDesc gt l).length = l.length := (perm_sortDesc gt l).length_eq

variable {gt}

theorem OrderLaws.not_gt_trans (L : OrderLaws gt) {a b c : V} (h1 : gt b a = false) (h2 : gt c b = false) :
    gt c a = false := by
  refine Bool.eq_false_iff.2 fun hca => ?_
  rcases L.total b a with h | h | h
  · rw [h] at h1; cases h1
  · rw [h, hca] at h2; cases h2
  · rw [L.trans c a b hca h] at h2; cases h2

theorem OrderLaws.asymm (L : OrderLaws gt) {a b : V} (h : gt a b = true) : gt b a = false :=
  Bool.eq_false_iff.2 fun h' => by have := L.trans _ _ _ h h'; rw [L.irrefl] at this; cases this

theorem desc_insertDesc (L : OrderLaws gt) {x : V} {l : List V} (h : Desc gt l) : Desc gt (insertDesc gt x l) := by
  induction l with
  | nil => simp [insertDesc, Desc]
  | cons z zs ih =>
    rw [Desc, List.pairwise_cons] at h
    simp only [insertDesc]
    split
    · next hzx =>
      rw [Desc, List.pairwise_cons]
      exact ⟨fun w hw => ((mem_insertDesc gt).1 hw).elim (fun e => e ▸ L.asymm hzx) (h.1 w), ih h.2⟩
    · next hzx =>
      have hzx' : gt z x = false := by simpa using hzx
      rw [Desc, List.pairwise_cons]
      exact ⟨fun w hw => (List.mem_cons.1 hw).elim (fun e => e ▸ hzx') fun hw => L.not_gt_trans hzx' (h.1 w hw),
        List.pairwise_cons.2 h⟩

theorem desc_sortDesc (L : OrderLaws gt) (l : List V) : Desc gt (sortDesc gt l) := by
  induction l with
  | nil => simp [sortDesc, Desc]
  | cons z zs ih => exact desc_insertDesc L ih

def IsMaxSat (gt : V → V → Bool) (p : V → Bool) (l : List V) (v : V) : Prop :=
  v ∈ l ∧ p v = true ∧ ∀ w ∈ l, p w = true → gt w v = false

theorem find?_desc_isMaxSat (L : OrderLaws gt) {p : V → Bool} {l : List V} {v : V} (hd : Desc gt l)
    (h : l.find? p = some v) : IsMaxSat gt p l v := by
  induction l with
  | nil => cases h
  | cons z zs ih =>
    rw [Desc, List.pairwise_cons] at hd
    rw [List.find?_cons] at h
    split at h
    · next hz =>
      cases h
      exact ⟨.head _, hz, fun w hw _ => (List.mem_cons.1 hw).elim (fun e => e ▸ L.irrefl _) (hd.1 w)⟩
    · next hz =>
      obtain ⟨hm, hp, hmax⟩ := ih hd.2 h
      exact ⟨.tail _ hm, hp, fun w hw hpw =>
        (List.mem_cons.1 hw).elim (fun e => by rw [e, hz] at hpw; cases hpw) fun hw => hmax w hw hpw⟩

theorem IsMaxSat.unique (L : OrderLaws gt) {p : V → Bool} {l : List V} {v w : V}
    (hv : IsMaxSat gt p l v) (hw : IsMaxSat gt p l w) : v = w := by
  rcases L.total v w with h | h | h
  · have := hw.2.2 v hv.1 hv.2.1; simp [h] at this
  · exact h
  · have := hv.2.2 w hw.1 hw.2.1; simp [h] at this

theorem IsMaxSat.congr {p : V → Bool} {l l' : List V} {v : V} (h : ∀ w, w ∈ l ↔ w ∈ l') :
    IsMaxSat gt p l v ↔ IsMaxSat gt p l' v := by
  simp only [IsMaxSat, h]

theorem find?_desc_eq_some_iff (L : OrderLaws gt) {p : V → Bool} {l : List V} {v : V} (hd : Desc gt l) :
    l.find? p = some v ↔ IsMaxSat gt p l v := by
  refine ⟨find?_desc_isMaxSat L hd, fun hv => ?_⟩
  cases hf : l.find? p with
  | none => exact absurd hv.2.1 (List.find?_eq_none.1 hf v hv.1)
  | some w => rw [(find?_desc_isMaxSat L hd hf).unique L hv]

theorem find?_sortDesc_eq_some_iff (L : OrderLaws gt) {p : V → Bool} {l : List V} {v : V} :
    (sortDesc gt l).find? p = some v ↔ IsMaxSat gt p l v :=
  (find?_desc_eq_some_iff L (desc_sortDesc L l)).trans (IsMaxSat.congr fun _ => mem_sortDesc gt)

theorem find?_sortDesc_eq_none_iff {p : V → Bool} {l : List V} :
    (sortDesc gt l).find? p = none ↔ ∀ w ∈ l, p w = false := by
  simp only [List.find?_eq_none, mem_sortDesc, Bool.not_eq_true]

end sort

theorem mapE_cons_ok {α β ε : Type} {f : α → Except ε β} {x : α} {xs : List α} {ys : List β} :
    mapE f (x :: xs) = .ok ys ↔ ∃ y ys', f x = .ok y ∧ mapE f xs = .ok ys' ∧ ys = y :: ys' := by
  simp only [mapE]
  constructor
  · intro h
    split at h
    · cases h
    · next y hy =>
      split at h
      · cases h
      · next ys' hys => cases h; exact ⟨y, ys', hy, hys, rfl⟩
  · rintro ⟨y, ys', hy, hys, rfl⟩
    simp only [hy, hys]

theorem mapE_mem {α β ε : Type} {f : α → Except ε β} {l : List α} {ys : List β} (h : mapE f l = .ok ys) {y : β} :
    y ∈ ys ↔ ∃ x ∈ l, f x = .ok y := by
  induction l generalizing ys with
  | nil => simp only [mapE] at h; cases h; simp
  | cons x xs ih =>
    obtain ⟨y', ys', hy, hys, rfl⟩ := mapE_cons_ok.1 h
    simp [ih hys, or_and_right, exists_or, hy, eq_comm]

theorem mapE_isOk_iff {α β ε : Type} {f : α → Except ε β} {l : List α} :
    (∃ ys, mapE f l = .ok ys) ↔ ∀ x ∈ l, ∃ y, f x = .ok y := by
  induction l with
  | nil => simp [mapE]
  | cons x xs ih =>
    rw [List.forall_mem_cons, ← ih]
    constructor
    · rintro ⟨ys, h⟩
      obtain ⟨y, ys', hy, hys, rfl⟩ := mapE_cons_ok.1 h
      exact ⟨⟨y, hy⟩, ys', hys⟩
    · rintro ⟨⟨y, hy⟩, ys, hys⟩
      exact ⟨y :: ys, mapE_cons_ok.2 ⟨y, ys, hy, hys, rfl⟩⟩

theorem mapE_congr {α β ε : Type} {f g : α → Except ε β} {l : List α} (h : ∀ x ∈ l, f x = g x) :
    mapE f l = mapE g l := by
  induction l with
  | nil => rfl
  | cons x xs ih =>
    simp only [mapE]
    rw [h x (by simp), ih (fun z hz => h z (List.mem_cons_of_mem _ hz))]

theorem mapE_length {α β ε : Type} {f : α → Except ε β} {l : List α} {ys : List β} (h : mapE f l = .ok ys) :
    ys.length = l.length := by
  induction l generalizing ys with
  | nil => simp only [mapE] at h; cases h; rfl
  | cons x xs ih =>
    obtain ⟨y', ys', _, hys, rfl⟩ := mapE_cons_ok.1 h
    simp [ih hys]

end Octo.Plugins
