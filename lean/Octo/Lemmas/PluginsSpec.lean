import Octo.Lemmas.PluginsOrder
import Octo.Lemmas.FsLemmas
/-!
  What `listInstalled`, `resolveDb` and `startup` compute, said through `get` only: `listInstalled fs` succeeds iff
  `ListOk fs`; a database resolves to `v` iff `v` is the greatest version installed for its reference that passes its
  constraint (`MaxInstalled`); hence two listable trees whose plugin directories carry the prefix (`NoUnprefixed`), with
  the same `Installed` relation and the same outcome of loading the registry, start up identically (`startup_congr`).
-/
namespace Octo.Plugins
open Octo.Fs

section
variable {V C : Type} (S : Sem V C)

def Installed (fs : Fs) (ref : Ref) (v : V) : Prop :=
  get fs pluginsDir = some .dir ∧ get fs (pluginsDir ++ [ref.repo]) = some .dir ∧ get fs (pluginDir ref) = some .dir ∧
  ∃ x, isDot x = false ∧ (get fs (pluginDir ref ++ [x])).isSome = true ∧ S.parse x = some v

def MaxInstalled (fs : Fs) (ref : Ref) (p : V → Bool) (v : V) : Prop :=
  Installed S fs ref v ∧ p v = true ∧ ∀ w, Installed S fs ref w → p w = true → S.gt w v = false

/-- a plugin directory whose versions can be listed -/
def PluginOk (fs : Fs) (pd : Path) : Prop :=
  get fs pd = some .dir ∧ ∀ x, isDot x = false → (get fs (pd ++ [x])).isSome = true → (S.parse x).isSome = true

def RepoOk (fs : Fs) (r : FName) : Prop :=
  get fs (pluginsDir ++ [r]) = some .dir ∧
  ∀ d, (get fs (pluginsDir ++ [r, d])).isSome = true → PluginOk S fs (pluginsDir ++ [r, d])

/-- the condition under which ListInstalledPlugins returns without error -/
def ListOk (fs : Fs) : Prop :=
  get fs pluginsDir = none ∨
  (get fs pluginsDir = some .dir ∧ ∀ r, (get fs (pluginsDir ++ [r])).isSome = true → RepoOk S fs r)

/-- every directory on the plugin level is called `octosql-plugin-…` (all that Install ever creates) -/
def NoUnprefixed (fs : Fs) : Prop :=
  ∀ r d, (get fs (pluginsDir ++ [r, d])).isSome = true → stripPrefix? pluginPrefix d ≠ none

theorem ListOk.repos {fs : Fs} (h : ListOk S fs) (hP : get fs pluginsDir = some .dir) :
    ∀ r, (get fs (pluginsDir ++ [r])).isSome = true → RepoOk S fs r := by
  rcases h with hnone | ⟨_, hall⟩
  · rw [hnone] at hP; cases hP
  · exact hall

theorem parseE_ok_iff {x : FName} {v : V} : parseE S x = .ok v ↔ S.parse x = some v := by
  simp only [parseE]; split <;> simp_all

/-! Each level of the listing reads a directory and maps the next level over its entries (`readDir_then`). -/

theorem listVersions_ok_iff {fs : Fs} {pd : Path} {vs : List V} :
    listVersions S fs pd = .ok vs ↔ get fs pd = some .dir ∧
      ∃ l, mapE (parseE S) ((children fs pd).filter fun x => !isDot x) = .ok l ∧ vs = sortDesc S.gt l := by
  refine readDir_then.trans (and_congr_right fun _ => ?_)
  cases mapE (parseE S) _ <;> simp [eq_comm]

theorem listRepo_ok_iff {fs : Fs} {r : FName} {ms : List (Meta V)} :
    listRepo S fs r = .ok ms ↔ get fs (pluginsDir ++ [r]) = some .dir ∧
      mapE (listPlugin S fs r) (children fs (pluginsDir ++ [r])) = .ok ms :=
  readDir_then

theorem listInstalled_ok_iff {fs : Fs} {ms : List (Meta V)} :
    listInstalled S fs = .ok ms ↔ (get fs pluginsDir = none ∧ [] = ms) ∨
      (get fs pluginsDir = some .dir ∧ ∃ mss, mapE (listRepo S fs) (children fs pluginsDir) = .ok mss ∧ ms = mss.flatten) := by
  refine readDir_orEmpty_then.trans (or_congr_right (and_congr_right fun _ => ?_))
  cases mapE (listRepo S fs) _ <;> simp [eq_comm]

theorem listVersions_isOk_iff {fs : Fs} {pd : Path} :
    (∃ vs, listVersions S fs pd = .ok vs) ↔ PluginOk S fs pd := by
  calc _ ↔ get fs pd = some .dir ∧ ∃ l, mapE (parseE S) ((children fs pd).filter fun x => !isDot x) = .ok l :=
        ⟨fun ⟨_, h⟩ => have ⟨hd, l, hl, _⟩ := (listVersions_ok_iff S).1 h; ⟨hd, l, hl⟩,
          fun ⟨hd, l, hl⟩ => ⟨_, (listVersions_ok_iff S).2 ⟨hd, l, hl, rfl⟩⟩⟩
    _ ↔ _ := by
        simp only [PluginOk, mapE_isOk_iff, List.mem_filter, mem_children, parseE_ok_iff, Bool.not_eq_eq_eq_not,
          Bool.not_true, ← Option.isSome_iff_exists, and_imp]
        exact and_congr_right fun _ => ⟨fun h x hd hs => h x hs hd, fun h x hs hd => h x hd hs⟩

theorem listVersions_mem {fs : Fs} {pd : Path} {vs : List V} (h : listVersions S fs pd = .ok vs) :
    get fs pd = some .dir ∧ ∃ l, vs = sortDesc S.gt l ∧
      ∀ v, v ∈ l ↔ ∃ x, isDot x = false ∧ (get fs (pd ++ [x])).isSome = true ∧ S.parse x = some v := by
  obtain ⟨hdir, l, hm, rfl⟩ := (listVersions_ok_iff S).1 h
  refine ⟨hdir, l, rfl, fun v => ?_⟩
  rw [mapE_mem hm]
  simp only [List.mem_filter, mem_children, Bool.not_eq_eq_eq_not, Bool.not_true, parseE_ok_iff]
  exact ⟨fun ⟨x, ⟨hs, hd⟩, hp⟩ => ⟨x, hd, hs, hp⟩, fun ⟨x, hd, hs, hp⟩ => ⟨x, ⟨hs, hd⟩, hp⟩⟩

theorem listPlugin_ok_iff {fs : Fs} {r d : FName} {m : Meta V} :
    listPlugin S fs r d = .ok m ↔ m.ref = ⟨nameOfDir d, r⟩ ∧ listVersions S fs (pluginsDir ++ [r, d]) = .ok m.versions := by
  simp only [listPlugin]
  split
  · next e he => simp [he]
  · next vs hvs =>
    constructor
    · intro h; cases h; exact ⟨rfl, hvs⟩
    · rintro ⟨h1, h2⟩
      rw [hvs] at h2; cases h2
      obtain ⟨ref, versions⟩ := m
      simp only at h1
      subst h1; rfl

theorem listRepo_isOk_iff {fs : Fs} {r : FName} : (∃ ms, listRepo S fs r = .ok ms) ↔ RepoOk S fs r := by
  simp only [listRepo_ok_iff, exists_and_left, RepoOk, mapE_isOk_iff, mem_children, List.append_assoc, List.cons_append,
    List.nil_append]
  refine and_congr_right fun _ => forall_congr' fun d => imp_congr_right fun _ => ⟨fun ⟨m, hm⟩ => ?_, fun h => ?_⟩
  · exact (listVersions_isOk_iff S).1 ⟨_, ((listPlugin_ok_iff S).1 hm).2⟩
  · obtain ⟨vs, hvs⟩ := (listVersions_isOk_iff S).2 h
    exact ⟨⟨⟨nameOfDir d, r⟩, vs⟩, (listPlugin_ok_iff S).2 ⟨rfl, hvs⟩⟩

theorem listRepo_mem {fs : Fs} {r : FName} {ms : List (Meta V)} (h : listRepo S fs r = .ok ms) {m : Meta V} :
    m ∈ ms ↔ ∃ d, (get fs (pluginsDir ++ [r, d])).isSome = true ∧ listPlugin S fs r d = .ok m := by
  simp only [mapE_mem ((listRepo_ok_iff S).1 h).2, mem_children, List.append_assoc, List.cons_append, List.nil_append]

theorem listInstalled_isOk_iff {fs : Fs} : (∃ ms, listInstalled S fs = .ok ms) ↔ ListOk S fs := by
  -- read backwards: `RepoOk` of every entry says that `mapE (listRepo S fs)` over the entries succeeds
  simp only [listInstalled_ok_iff, ListOk, ← listRepo_isOk_iff S, ← mem_children, ← mapE_isOk_iff]
  exact ⟨fun ⟨_, h⟩ => h.imp (·.1) fun ⟨hd, mss, h, _⟩ => ⟨hd, mss, h⟩,
    fun h => h.elim (fun hn => ⟨_, Or.inl ⟨hn, rfl⟩⟩) fun ⟨hd, mss, h⟩ => ⟨_, Or.inr ⟨hd, mss, h, rfl⟩⟩⟩

theorem listInstalled_mem {fs : Fs} {ms : List (Meta V)} (h : listInstalled S fs = .ok ms) {m : Meta V} :
    m ∈ ms ↔ get fs pluginsDir = some .dir ∧
      ∃ r d, (get fs (pluginsDir ++ [r])).isSome = true ∧ (get fs (pluginsDir ++ [r, d])).isSome = true ∧
        listPlugin S fs r d = .ok m := by
  rcases (listInstalled_ok_iff S).1 h with ⟨hn, rfl⟩ | ⟨hdir, mss, hm, rfl⟩
  · simp [hn]
  · simp only [List.mem_flatten, hdir, true_and, mapE_mem hm, mem_children]
    constructor
    · rintro ⟨ms', ⟨r, hr, hlr⟩, hmem⟩
      obtain ⟨d, hd, hp⟩ := (listRepo_mem S hlr).1 hmem
      exact ⟨r, d, hr, hd, hp⟩
    · rintro ⟨r, d, hr, hd, hp⟩
      obtain ⟨ms', hms'⟩ := (mapE_isOk_iff.1 ⟨_, hm⟩) r (mem_children.2 hr)
      exact ⟨ms', ⟨r, hr, hms'⟩, (listRepo_mem S hms').2 ⟨d, hd, hp⟩⟩

theorem versions_of_mem {fs : Fs} {ms : List (Meta V)} (h : listInstalled S fs = .ok ms) (hnu : NoUnprefixed fs)
    {m : Meta V} (hm : m ∈ ms) : ∃ l, m.versions = sortDesc S.gt l ∧ ∀ v, v ∈ l ↔ Installed S fs m.ref v := by
  obtain ⟨hP, r, d, hr, hd, hlp⟩ := (listInstalled_mem S h).1 hm
  obtain ⟨href, hlv⟩ := (listPlugin_ok_iff S).1 hlp
  obtain ⟨hD, l, hvs, hl⟩ := listVersions_mem S hlv
  have hR := (((listInstalled_isOk_iff S).1 ⟨ms, h⟩).repos S hP r hr).1
  have hpd : pluginDir m.ref = pluginsDir ++ [r, d] := by rw [href, pluginDir, pluginDirName_nameOfDir (hnu r d hd)]
  have hrepo : m.ref.repo = r := by rw [href]
  exact ⟨l, hvs, fun v => by simp only [Installed, hpd, hrepo, hP, hR, hD, true_and, hl]⟩

theorem find?_versions_iff (L : OrderLaws S.gt) {fs : Fs} {ms : List (Meta V)} (h : listInstalled S fs = .ok ms)
    (hnu : NoUnprefixed fs) {m : Meta V} (hm : m ∈ ms) (p : V → Bool) (v : V) :
    m.versions.find? p = some v ↔ MaxInstalled S fs m.ref p v := by
  obtain ⟨l, hvs, hl⟩ := versions_of_mem S h hnu hm
  rw [hvs, find?_sortDesc_eq_some_iff L]
  simp only [IsMaxSat, MaxInstalled, hl]

theorem find?_versions_none_iff {fs : Fs} {ms : List (Meta V)} (h : listInstalled S fs = .ok ms)
    (hnu : NoUnprefixed fs) {m : Meta V} (hm : m ∈ ms) (p : V → Bool) :
    m.versions.find? p = none ↔ ∀ w, Installed S fs m.ref w → p w = false := by
  obtain ⟨l, hvs, hl⟩ := versions_of_mem S h hnu hm
  rw [hvs, find?_sortDesc_eq_none_iff]
  simp only [hl]

theorem listed_of_dir {fs : Fs} {ms : List (Meta V)} (h : listInstalled S fs = .ok ms) (r n : FName)
    (hP : (get fs pluginsDir).isSome = true) (hR : (get fs (pluginsDir ++ [r])).isSome = true)
    (hD : (get fs (pluginDir ⟨n, r⟩)).isSome = true) :
    ∃ vs, listVersions S fs (pluginDir ⟨n, r⟩) = .ok vs ∧ (⟨⟨n, r⟩, vs⟩ : Meta V) ∈ ms := by
  rcases (listInstalled_isOk_iff S).1 ⟨ms, h⟩ with hnone | ⟨hPd, hall⟩
  · rw [hnone] at hP; cases hP
  · obtain ⟨vs, hvs⟩ := (listVersions_isOk_iff S).2 ((hall r hR).2 _ hD)
    exact ⟨vs, hvs, (listInstalled_mem S h).2 ⟨hPd, r, _, hR, hD,
      (listPlugin_ok_iff S).2 ⟨by rw [nameOfDir_pluginDirName], hvs⟩⟩⟩

/-- the `dbLoop` of RunE looks for the first version passing the constraint in the sorted list of the versions
    installed for the database's plugin -/
theorem resolveDb_eq {fs : Fs} {ms : List (Meta V)} (h : listInstalled S fs = .ok ms) (hnu : NoUnprefixed fs)
    (db : Db C) : ∃ l, resolveDb S ms db = (sortDesc S.gt l).find? (S.check (db.con S)) ∧
      ∀ v, v ∈ l ↔ Installed S fs db.type v := by
  simp only [resolveDb]
  cases hf : ms.find? (fun m => decide (m.ref = db.type)) with
  | none =>
    -- no listed plugin has the reference: then nothing is installed for it, or `listed_of_dir` would list its directory
    refine ⟨[], rfl, fun v => ⟨fun hv => (nomatch hv), fun hv => ?_⟩⟩
    obtain ⟨hP, hR, hD, _⟩ := hv
    obtain ⟨vs, _, hm⟩ := listed_of_dir S h db.type.repo db.type.name (by rw [hP]; rfl) (by rw [hR]; rfl) (by rw [hD]; rfl)
    simpa using List.find?_eq_none.1 hf _ hm
  | some m =>
    have href : m.ref = db.type := by simpa using List.find?_some hf
    obtain ⟨l, hvs, hl⟩ := versions_of_mem S h hnu (List.mem_of_find?_eq_some hf)
    exact ⟨l, congrArg _ hvs, by rwa [href] at hl⟩

theorem resolveDb_eq_some_iff (L : OrderLaws S.gt) {fs : Fs} {ms : List (Meta V)} (h : listInstalled S fs = .ok ms)
    (hnu : NoUnprefixed fs) (db : Db C) (v : V) :
    resolveDb S ms db = some v ↔ MaxInstalled S fs db.type (S.check (db.con S)) v := by
  obtain ⟨l, he, hl⟩ := resolveDb_eq S h hnu db
  rw [he, find?_sortDesc_eq_some_iff L]
  simp only [IsMaxSat, MaxInstalled, hl]

theorem resolveDb_eq_none_iff {fs : Fs} {ms : List (Meta V)} (h : listInstalled S fs = .ok ms)
    (hnu : NoUnprefixed fs) (db : Db C) :
    resolveDb S ms db = none ↔ ∀ w, Installed S fs db.type w → S.check (db.con S) w = false := by
  obtain ⟨l, he, hl⟩ := resolveDb_eq S h hnu db
  rw [he, find?_sortDesc_eq_none_iff]
  simp only [hl]

theorem startup_ok_iff {fs : Fs} {cfg : List (Db C)} {res : List (Db C × V)} :
    startup S fs cfg = .ok res ↔
      ∃ ms, listInstalled S fs = .ok ms ∧ mapE (resolveE S ms) cfg = .ok res ∧ loadHandlers S fs = .ok () := by
  simp only [startup]
  cases h1 : listInstalled S fs with
  | error e => simp
  | ok ms =>
    simp only [Except.ok.injEq, exists_eq_left']
    cases h2 : mapE (resolveE S ms) cfg with
    | error e => simp
    | ok res' =>
      cases h3 : loadHandlers S fs with
      | error e => simp
      | ok u => cases u; simp

theorem MaxInstalled.congr {fs fs' : Fs} (hI : ∀ ref v, Installed S fs ref v ↔ Installed S fs' ref v)
    (ref : Ref) (p : V → Bool) (v : V) : MaxInstalled S fs ref p v ↔ MaxInstalled S fs' ref p v := by
  simp only [MaxInstalled, hI]

theorem startup_congr (L : OrderLaws S.gt) {fs fs' : Fs} (hnu : NoUnprefixed fs) (hnu' : NoUnprefixed fs')
    (hok : ListOk S fs) (hok' : ListOk S fs') (hI : ∀ ref v, Installed S fs ref v ↔ Installed S fs' ref v)
    (hH : loadHandlers S fs = loadHandlers S fs') (cfg : List (Db C)) :
    startup S fs cfg = startup S fs' cfg := by
  obtain ⟨ms, hms⟩ := (listInstalled_isOk_iff S).2 hok
  obtain ⟨ms', hms'⟩ := (listInstalled_isOk_iff S).2 hok'
  have hres : ∀ db, resolveDb S ms db = resolveDb S ms' db := by
    intro db
    apply Option.ext
    intro v
    rw [resolveDb_eq_some_iff S L hms hnu, resolveDb_eq_some_iff S L hms' hnu', MaxInstalled.congr S hI]
  have hmap : mapE (resolveE S ms) cfg = mapE (resolveE S ms') cfg := by
    apply mapE_congr
    intro db _
    simp only [resolveE, hres]
  simp only [startup, hms, hms', hmap, hH]

theorem startup_isOk_mono {fs fs' : Fs} (hnu : NoUnprefixed fs) (hnu' : NoUnprefixed fs')
    (hok' : ListOk S fs') (hI : ∀ ref v, Installed S fs ref v → Installed S fs' ref v)
    (hH : loadHandlers S fs' = .ok ()) {cfg : List (Db C)} {res : List (Db C × V)}
    (h : startup S fs cfg = .ok res) : ∃ res', startup S fs' cfg = .ok res' := by
  obtain ⟨ms, hms, hmap, _⟩ := (startup_ok_iff S).1 h
  obtain ⟨ms', hms'⟩ := (listInstalled_isOk_iff S).2 hok'
  -- contraposition: if nothing installed in `fs'` passes, nothing installed in `fs` does (no order law is needed)
  have hnone : ∀ db, resolveDb S ms' db = none → resolveDb S ms db = none := fun db h' =>
    (resolveDb_eq_none_iff S hms hnu db).2 fun w hw => (resolveDb_eq_none_iff S hms' hnu' db).1 h' w (hI _ _ hw)
  obtain ⟨res', hres'⟩ : ∃ res', mapE (resolveE S ms') cfg = .ok res' := mapE_isOk_iff.2 fun db hdb => by
    obtain ⟨e, he⟩ := mapE_isOk_iff.1 ⟨_, hmap⟩ db hdb
    simp only [resolveE] at he ⊢
    cases hr' : resolveDb S ms' db with
    | none => rw [hnone db hr'] at he; cases he
    | some v' => exact ⟨_, rfl⟩
  exact ⟨res', (startup_ok_iff S).2 ⟨ms', hms', hres', hH⟩⟩

end
end Octo.Plugins
