import Octo.Model.Regex
/-!
  Regular-expression lemmas: the derivative matcher `Re.accepts` decides the textbook language
  semantics `Re.Lang`, and the consequences used for LIKE.
-/
namespace Octo.Rx
open Octo.Utf8
namespace Re

/-- the language of a regular expression (textbook definition) -/
inductive Lang : Re → List Rune → Prop
  | eps : Lang .eps []
  | sym {k : Cls} {c : Rune} : k.test c = true → Lang (.sym k) [c]
  | cat {a b : Re} {s t : List Rune} : Lang a s → Lang b t → Lang (.cat a b) (s ++ t)
  | altL {a b : Re} {s : List Rune} : Lang a s → Lang (.alt a b) s
  | altR {a b : Re} {s : List Rune} : Lang b s → Lang (.alt a b) s
  | starNil {a : Re} : Lang (.star a) []
  | starApp {a : Re} {s t : List Rune} : Lang a s → Lang (.star a) t → Lang (.star a) (s ++ t)

theorem lang_empty {x : List Rune} : Lang .empty x ↔ False := ⟨nofun, nofun⟩

theorem lang_eps {x : List Rune} : Lang .eps x ↔ x = [] :=
  ⟨fun h => by cases h; rfl, fun h => h ▸ .eps⟩

theorem lang_sym {k : Cls} {x : List Rune} : Lang (.sym k) x ↔ ∃ c, x = [c] ∧ k.test c = true :=
  ⟨fun h => by cases h with | sym hc => exact ⟨_, rfl, hc⟩, fun ⟨_, e, hc⟩ => e ▸ .sym hc⟩

theorem lang_cat {a b : Re} {x : List Rune} :
    Lang (.cat a b) x ↔ ∃ s t, x = s ++ t ∧ Lang a s ∧ Lang b t :=
  ⟨fun h => by cases h with | cat h1 h2 => exact ⟨_, _, rfl, h1, h2⟩, fun ⟨_, _, e, h1, h2⟩ => e ▸ .cat h1 h2⟩

theorem lang_alt {a b : Re} {x : List Rune} : Lang (.alt a b) x ↔ Lang a x ∨ Lang b x :=
  ⟨fun h => by cases h with | altL h => exact .inl h | altR h => exact .inr h,
   fun h => h.elim .altL .altR⟩

theorem nullable_iff (r : Re) : nullable r = true ↔ Lang r [] := by
  induction r with
  | empty => simp [nullable, lang_empty]
  | eps => simp [nullable, lang_eps]
  | sym k => simp [nullable, lang_sym]
  | cat a b iha ihb =>
    simp only [nullable, Bool.and_eq_true, iha, ihb, lang_cat]
    constructor
    · rintro ⟨h1, h2⟩; exact ⟨[], [], rfl, h1, h2⟩
    · rintro ⟨s, t, e, h1, h2⟩
      obtain ⟨rfl, rfl⟩ := List.append_eq_nil_iff.1 e.symm
      exact ⟨h1, h2⟩
  | alt a b iha ihb => simp [nullable, lang_alt, iha, ihb]
  | star a _ => simp [nullable]; exact .starNil

theorem lang_cat_cons {a b : Re} {c : Rune} {s : List Rune} :
    Lang (.cat a b) (c :: s) ↔
      (∃ s1 t, s = s1 ++ t ∧ Lang a (c :: s1) ∧ Lang b t) ∨ (Lang a [] ∧ Lang b (c :: s)) := by
  rw [lang_cat]
  constructor
  · rintro ⟨s1, t, hx, h1, h2⟩
    rcases List.cons_eq_append_iff.1 hx with ⟨rfl, rfl⟩ | ⟨s1', rfl, rfl⟩
    · exact .inr ⟨h1, h2⟩
    · exact .inl ⟨s1', t, rfl, h1, h2⟩
  · rintro (⟨s1, t, rfl, h1, h2⟩ | ⟨h1, h2⟩)
    · exact ⟨_, _, rfl, h1, h2⟩
    · exact ⟨[], _, rfl, h1, h2⟩

/-- a non-empty word of `star a` starts with a non-empty word of `a` (in the shape induction on `Lang r x` needs) -/
theorem star_cons_inv {r : Re} {x : List Rune} (h : Lang r x) :
    ∀ a, r = .star a → ∀ c s, x = c :: s → ∃ s1 t, s = s1 ++ t ∧ Lang a (c :: s1) ∧ Lang (.star a) t := by
  induction h with
  | eps | sym _ | cat _ _ _ _ | altL _ _ | altR _ _ => intro a e; cases e
  | starNil => intro a _ c s e; cases e
  | @starApp a0 s0 t0 h1 h2 _ ih2 =>
    intro a e c s hx
    cases e
    rcases List.cons_eq_append_iff.1 hx.symm with ⟨rfl, rfl⟩ | ⟨s0', rfl, rfl⟩
    · exact ih2 a0 rfl c s rfl
    · exact ⟨s0', t0, rfl, h1, h2⟩

theorem deriv_iff (c : Rune) (r : Re) : ∀ s, Lang (deriv c r) s ↔ Lang r (c :: s) := by
  induction r with
  | empty => intro s; simp [deriv, lang_empty]
  | eps => intro s; simp [deriv, lang_empty, lang_eps]
  | sym k =>
    intro s
    rw [lang_sym, deriv]
    constructor
    · intro h
      split at h
      · rw [lang_eps.1 h]; exact ⟨c, rfl, ‹_›⟩
      · exact (lang_empty.1 h).elim
    · rintro ⟨d, hd, ht⟩
      cases hd
      rw [if_pos ht]; exact .eps
  | cat a b iha ihb =>
    intro s
    have left : Lang (.cat (deriv c a) b) s ↔ ∃ s1 t, s = s1 ++ t ∧ Lang a (c :: s1) ∧ Lang b t := by
      simp only [lang_cat, iha]
    simp only [deriv, lang_cat_cons, ← nullable_iff]
    split
    · rename_i hn; simp only [lang_alt, left, ihb, hn, true_and]
    · rename_i hn; simp only [left, hn, Bool.false_eq_true, false_and, or_false]
  | alt a b iha ihb => intro s; simp only [deriv, lang_alt, iha, ihb]
  | star a iha =>
    intro s
    simp only [deriv, lang_cat, iha]
    constructor
    · rintro ⟨s1, t, rfl, h1, h2⟩
      exact Lang.starApp (s := c :: s1) h1 h2
    · intro h
      exact star_cons_inv h a rfl c s rfl

theorem accepts_iff (r : Re) (s : List Rune) : accepts r s = true ↔ Lang r s := by
  induction s generalizing r with
  | nil => simp only [accepts]; exact nullable_iff r
  | cons c s ih => simp only [accepts]; rw [ih]; exact deriv_iff c r s

theorem lang_anyStar (s : List Rune) : Lang anyStar s := by
  induction s with
  | nil => exact .starNil
  | cons c s ih => exact Lang.starApp (s := [c]) (.sym (by simp [Cls.test])) ih

theorem lang_cat_anyStar (r : Re) (s : List Rune) :
    Lang (.cat anyStar r) s ↔ ∃ s1 s2, s = s1 ++ s2 ∧ Lang r s2 := by
  simp [lang_cat, lang_anyStar]

/-- an anchored side is empty, an unanchored side is any text -/
theorem lang_side (anchored : Bool) (s : List Rune) :
    Lang (if anchored then .eps else anyStar) s ↔ (anchored = true → s = []) := by
  cases anchored
  · simp [lang_anyStar]
  · simp [lang_eps]

end Re

/-- `MatchString` for one alternative: some piece of the text is in the language of the body; an anchored side
    leaves nothing outside the piece -/
theorem Branch.search_iff (b : Branch) (s : List Rune) :
    b.search s = true ↔
      ∃ s1 m s2, s = s1 ++ m ++ s2 ∧ (b.bos = true → s1 = []) ∧ Re.Lang b.body m ∧ (b.eos = true → s2 = []) := by
  simp only [Branch.search, Re.accepts_iff, Re.lang_cat, Re.lang_side]
  constructor
  · rintro ⟨s1, t, rfl, h1, m, s2, rfl, hm, h2⟩
    exact ⟨s1, m, s2, (List.append_assoc ..).symm, h1, hm, h2⟩
  · rintro ⟨s1, m, s2, rfl, h1, hm, h2⟩
    exact ⟨s1, m ++ s2, List.append_assoc .., h1, m, s2, rfl, hm, h2⟩

end Octo.Rx
