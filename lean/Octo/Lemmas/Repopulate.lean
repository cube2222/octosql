import Octo.Model.Repopulate
/-!
  Lemmas for C26: the descriptor loop of `RepopulatePhysicalExpressionFunctions` against the typechecker's choice.

  `pairwiseOk ds` is the (decidable) condition on the descriptors of one function under which the signature that
  survives JSON, together with the argument types, identifies the descriptor again:
    * every descriptor matches its own signature;
    * two descriptors match each other's signature only if both have a `TypeFn`, both have the same `Strict` flag and
      their `TypeFn`s exclude one another syntactically (they demand different TypeIDs of the same argument).
  It is checked by `decide` over the regenerated table in `Octo.Props.C26`.
-/
namespace Octo.Wire
open Octo

/-- the `types[k].TypeID != a` guards of a `TypeFn` -/
def tidConds : List TfCond → List (Nat × Nat)
  | [] => []
  | .typeIdNe k a :: cs => (k, a) :: tidConds cs
  | _ :: cs => tidConds cs

/-- the two guard lists demand different TypeIDs of one argument -/
def exclusive (c1 c2 : List TfCond) : Bool :=
  (tidConds c1).any fun p => (tidConds c2).any fun q => p.1 == q.1 && p.2 != q.2

def tfExclusive (x d : FnDesc) : Bool :=
  match x.typeFn, d.typeFn with
  | some cx, some cd => exclusive cx cd && x.strict == d.strict
  | _, _ => false

def compat (x d : FnDesc) : Bool := (!sigMatch x d.sig && !sigMatch d x.sig) || tfExclusive x d

def pairwiseOk : List FnDesc → Bool
  | [] => true
  | d :: ds => sigMatch d d.sig && ds.all (compat d) && pairwiseOk ds

/-- only the descriptors before `d` matter (the loop takes the first hit), and `pairwiseOk` compares each of them with `d` -/
theorem pairwiseOk_split : ∀ (pre : List FnDesc) (d : FnDesc) (post : List FnDesc), pairwiseOk (pre ++ d :: post) = true →
    sigMatch d d.sig = true ∧ ∀ x ∈ pre, compat x d = true
  | [], d, post, h => by
    simp only [List.nil_append, pairwiseOk, Bool.and_eq_true] at h
    obtain ⟨⟨hself, -⟩, -⟩ := h
    exact ⟨hself, nofun⟩
  | p :: pre, d, post, h => by
    simp only [List.cons_append, pairwiseOk, Bool.and_eq_true, List.all_eq_true] at h
    obtain ⟨⟨-, hrow⟩, hrest⟩ := h
    have ih := pairwiseOk_split pre d post hrest
    refine ⟨ih.1, fun x hx => ?_⟩
    rcases List.mem_cons.mp hx with rfl | hx
    · exact hrow d (by simp)
    · exact ih.2 x hx

theorem tidConds_of_accept : ∀ (cs : List TfCond) (ts : List Ty), tfAccept cs ts = some true →
    ∀ p ∈ tidConds cs, (ts[p.1]?).map Ty.id = some p.2
  | [], _, _, _, hp => nomatch hp
  | c :: cs, ts, h, p, hp => by
    simp only [tfAccept] at h
    split at h
    · cases h
    · cases h
    · rename_i hc
      have ih := tidConds_of_accept cs ts h p
      cases c with
      | typeIdNe k a =>
        rcases List.mem_cons.mp hp with rfl | hp
        · simp only [tfCond] at hc
          split at hc
          · rename_i t ht
            simp only [Option.some.injEq, bne_eq_false_iff_eq] at hc
            simp [ht, hc]
          · cases hc
        · exact ih hp
      | lenNe _ | notEquals _ _ => exact ih hp

theorem exclusive_not_both (c1 c2 : List TfCond) (ts : List Ty) (hx : exclusive c1 c2 = true)
    (h1 : tfAccept c1 ts = some true) (h2 : tfAccept c2 ts = some true) : False := by
  simp only [exclusive, List.any_eq_true, Bool.and_eq_true, beq_iff_eq, bne_iff_ne, ne_eq] at hx
  obtain ⟨p, hp, q, hq, hk, hab⟩ := hx
  -- both guards on argument `p.1` let the types pass: its TypeID is `p.2` and `q.2`
  have e1 := tidConds_of_accept c1 ts h1 p hp
  have e2 := tidConds_of_accept c2 ts h2 q hq
  rw [hk, e2] at e1
  exact hab (Option.some.inj e1).symm

/-- the loop passes over `x` -/
def skippable (r : Sig) (argTys : List Ty) (x : FnDesc) : Prop :=
  sigMatch x r = false ∨ ∃ c, x.typeFn = some c ∧ tfAccept c (viewArgs x.strict argTys) = some false

theorem repopulateFrom_skip (r : Sig) (argTys : List Ty) (k : Nat) (x : FnDesc) (rest : List FnDesc)
    (h : skippable r argTys x) :
    repopulateFrom r argTys k (x :: rest) = repopulateFrom r argTys (k + 1) rest := by
  rcases h with h | ⟨c, hc, ha⟩
  · simp [repopulateFrom, h]
  · -- whether or not the signature matches: a match runs the `TypeFn`, which says no
    by_cases hs : sigMatch x r = true
    · simp [repopulateFrom, hs, hc, ha]
    · simp [repopulateFrom, hs]

theorem repopulateFrom_none (r : Sig) (argTys : List Ty) : ∀ (ds : List FnDesc) (k : Nat),
    (∀ x ∈ ds, skippable r argTys x) → repopulateFrom r argTys k ds = .notFound
  | [], _, _ => rfl
  | p :: ds, k, hp => by
    rw [repopulateFrom_skip r argTys k p _ (hp p List.mem_cons_self)]
    exact repopulateFrom_none r argTys ds (k + 1) fun x hx => hp x (List.mem_cons_of_mem _ hx)

theorem exactFit_typeFn (x : FnDesc) (c : List TfCond) (argTys : List Ty) (h : x.typeFn = some c) :
    exactFit x argTys = tfAccept c (viewArgs x.strict argTys) := by
  simp [exactFit, h]

theorem repopulateFrom_hit (r : Sig) (argTys : List Ty) (d : FnDesc) (post : List FnDesc) (hs : sigMatch d r = true)
    (hd : d.typeFn = none ∨ exactFit d argTys = some true) : ∀ (pre : List FnDesc) (k : Nat),
    (∀ x ∈ pre, skippable r argTys x) → repopulateFrom r argTys k (pre ++ d :: post) = .found (pre.length + k)
  | [], k, _ => by
    cases hc : d.typeFn with
    | none => simp [repopulateFrom, hs, hc]
    | some c =>
      have ha : tfAccept c (viewArgs d.strict argTys) = some true :=
        exactFit_typeFn d c argTys hc ▸ hd.resolve_left (by simp [hc])
      simp [repopulateFrom, hs, hc, ha]
  | p :: pre, k, hp => by
    rw [List.cons_append, repopulateFrom_skip r argTys k p _ (hp p List.mem_cons_self),
      repopulateFrom_hit r argTys d post hs hd pre (k + 1) fun x hx => hp x (List.mem_cons_of_mem _ hx),
      List.length_cons, Nat.add_assoc, Nat.add_comm 1 k]

theorem exactPassFrom_found (argTys : List Ty) : ∀ (ds : List FnDesc) (k : Nat) (acc : Option Nat) (i : Nat),
    exactPassFrom argTys k ds acc = .found i →
    acc = some i ∨ ∃ pre d post, ds = pre ++ d :: post ∧ i = pre.length + k ∧ exactFit d argTys = some true ∧
      ∀ x ∈ pre, exactFit x argTys ≠ none
  | [], k, acc, i, h => by
    cases acc with
    | none => simp [exactPassFrom] at h
    | some j =>
      simp only [exactPassFrom, Pick.found.injEq] at h
      exact .inl (congrArg some h)
  | d :: ds, k, acc, i, h => by
    simp only [exactPassFrom] at h
    -- one step: `d` does not panic, and the loop goes on with the old accumulator or, if `d` fits, with `k`
    obtain ⟨acc', h', hacc, hd⟩ : ∃ acc', exactPassFrom argTys (k + 1) ds acc' = .found i ∧
        (acc' = acc ∨ acc' = some k ∧ exactFit d argTys = some true) ∧ exactFit d argTys ≠ none := by
      split at h
      · cases h
      · rename_i hf; exact ⟨_, h, .inr ⟨rfl, hf⟩, by simp [hf]⟩
      · rename_i hf; exact ⟨_, h, .inl rfl, by simp [hf]⟩
    rcases exactPassFrom_found argTys ds (k + 1) acc' i h' with hk | ⟨pre, d', post, e, hi, hd', hpre⟩
    · rcases hacc with rfl | ⟨rfl, hf⟩
      · exact .inl hk
      · exact .inr ⟨[], d, ds, rfl, by simp at hk ⊢; omega, hf, by simp⟩
    · exact .inr ⟨d :: pre, d', post, by rw [e]; rfl, by rw [List.length_cons]; omega, hd',
        fun x hx => (List.mem_cons.mp hx).elim (fun e => e ▸ hd) (hpre x)⟩

theorem maybePassFrom_found (argTys : List Ty) : ∀ (ds : List FnDesc) (k i : Nat),
    maybePassFrom argTys k ds = .found i →
    ∃ pre d post, ds = pre ++ d :: post ∧ i = pre.length + k ∧ d.typeFn = none
  | [], _, _, h => nomatch h
  | d :: ds, k, i, h => by
    simp only [maybePassFrom] at h
    split at h
    · rename_i hd
      split at h
      · cases h
      · cases h
        simp only [Bool.and_eq_true, Option.isNone_iff_eq_none] at hd
        exact ⟨[], d, ds, rfl, (Nat.zero_add k).symm, hd.1.1⟩
    · obtain ⟨pre, d', post, e, hi, hn⟩ := maybePassFrom_found argTys ds (k + 1) i h
      exact ⟨d :: pre, d', post, by rw [e]; rfl, by rw [List.length_cons]; omega, hn⟩

/-- a descriptor without `TypeFn` is identified by its signature alone; one with a `TypeFn` that accepts the argument
    types shares its signature only with `TypeFn` descriptors whose guards exclude its own -/
theorem skippable_of_compat (x d : FnDesc) (argTys : List Ty) (hc : compat x d = true)
    (hd : d.typeFn = none ∨ exactFit d argTys = some true ∧ exactFit x argTys ≠ none) : skippable d.sig argTys x := by
  by_cases hs : sigMatch x d.sig = true
  · -- the signatures match: both are TypeFn descriptors with exclusive guards
    simp only [compat, hs, Bool.not_true, Bool.false_and, Bool.false_or, tfExclusive] at hc
    split at hc
    · rename_i cx cd hxf hdf
      simp only [Bool.and_eq_true, beq_iff_eq] at hc
      obtain ⟨hdt, hx⟩ := hd.resolve_left (by simp [hdf])
      rw [exactFit_typeFn x cx argTys hxf] at hx
      rw [exactFit_typeFn d cd argTys hdf] at hdt
      refine .inr ⟨cx, hxf, ?_⟩
      cases hfx : tfAccept cx (viewArgs x.strict argTys) with
      | none => exact absurd hfx hx
      | some b =>
        cases b
        · rfl
        · exact (exclusive_not_both cx cd _ hc.1 hfx (hc.2 ▸ hdt)).elim
    · cases hc
  · exact .inl (by simpa using hs)

theorem transportPick_split (pre : List FnDesc) (d : FnDesc) (post : List FnDesc) (hok : pairwiseOk (pre ++ d :: post) = true)
    (argTys : List Ty) (hd : d.typeFn = none ∨ exactFit d argTys = some true ∧ ∀ x ∈ pre, exactFit x argTys ≠ none) :
    transportPick (pre ++ d :: post) argTys pre.length = .found pre.length := by
  obtain ⟨hself, hcomp⟩ := pairwiseOk_split pre d post hok
  have hmid : (pre ++ d :: post)[pre.length]? = some d := by simp
  simp only [transportPick, hmid, repopulate]
  exact repopulateFrom_hit d.sig argTys d post hself (hd.imp_right And.left) pre 0 fun x hx =>
    skippable_of_compat x d argTys (hcomp x hx) (hd.imp_right fun h => ⟨h.1, h.2 x hx⟩)

/-- whichever pass of the typechecker attached descriptor `i`, JSON + Repopulate give the call descriptor `i`:
    never another function, never a panic, never a rejection -/
theorem transport_found (ds : List FnDesc) (hok : pairwiseOk ds = true) (argTys : List Ty) (i : Nat)
    (h : typecheckPick ds argTys = .found i) : transportPick ds argTys i = .found i := by
  unfold typecheckPick at h
  split at h
  · -- the second pass chose: the chosen descriptor has no `TypeFn`
    obtain ⟨pre, d, post, rfl, rfl, hn⟩ := maybePassFrom_found argTys ds 0 i h
    exact transportPick_split pre d post hok argTys (.inl hn)
  · -- the first pass chose the last fitting descriptor, and no `TypeFn` before it panicked
    rcases exactPassFrom_found argTys ds 0 none i h with hacc | ⟨pre, d, post, rfl, rfl, hd, hpre⟩
    · cases hacc
    · exact transportPick_split pre d post hok argTys (.inr ⟨hd, hpre⟩)

theorem table_pairwise {table : List FnEntry} (hok : table.all (fun e => pairwiseOk e.descs) = true)
    (name : List Nat) (ds : List FnDesc) (h : lookupFn table name = some ds) :
    pairwiseOk ds = true := by
  simp only [lookupFn, Option.map_eq_some_iff] at h
  obtain ⟨e, he, rfl⟩ := h
  exact List.all_eq_true.mp hok e (List.mem_of_find?_eq_some he)

theorem stripFns_ty : ∀ e, (stripFns e).ty = e.ty
  | .leaf _ | .node _ _ | .call _ _ _ _ _ => rfl

theorem tysOf_stripFnsL : ∀ es, tysOf (stripFnsL es) = tysOf es
  | [] => rfl
  | e :: es => by simp [stripFnsL, tysOf, stripFns_ty e, tysOf_stripFnsL es]

mutual
theorem typechecked_of_exactTyped (table : List FnEntry) : ∀ e, exactTyped table e → typechecked table e
  | .leaf _, _ => trivial
  | .node _ args, h => typecheckedL_of_exactTypedL table args h
  | .call _ _ _ _ args, ⟨hargs, ds, i, d, hl, hex, hrest⟩ =>
    ⟨typecheckedL_of_exactTypedL table args hargs, ds, i, d, hl, by rw [typecheckPick, hex], hrest⟩
theorem typecheckedL_of_exactTypedL (table : List FnEntry) : ∀ es, exactTypedL table es → typecheckedL table es
  | [], _ => trivial
  | e :: es, h => ⟨typechecked_of_exactTyped table e h.1, typecheckedL_of_exactTypedL table es h.2⟩
end

mutual
/-- a predicate as the typechecker produced it comes out of JSON + Repopulate as it went in, and is accepted -/
theorem repopTree_typechecked {table : List FnEntry} (hok : table.all (fun e => pairwiseOk e.descs) = true) :
    ∀ e, typechecked table e → repopTree table (stripFns e) = some (e, true)
  | .leaf _, _ => rfl
  | .node t args, h => by
    simp only [typechecked] at h
    simp [stripFns, repopTree, repopTreeL_typechecked hok args h]
  | .call t name sig fn args, h => by
    simp only [typechecked] at h
    obtain ⟨hargs, ds, i, d, hl, htc, hd, hsig, hfn⟩ := h
    have ih := repopTreeL_typechecked hok args hargs
    have ht := transport_found ds (table_pairwise hok name ds hl) (tysOf args) i htc
    simp only [transportPick, hd] at ht
    subst hsig hfn
    simp [stripFns, repopTree, ih, hl, ht]
theorem repopTreeL_typechecked {table : List FnEntry} (hok : table.all (fun e => pairwiseOk e.descs) = true) :
    ∀ es, typecheckedL table es → repopTreeL table (stripFnsL es) = some (es, true)
  | [], _ => rfl
  | e :: es, h => by
    simp only [typecheckedL] at h
    simp [stripFnsL, repopTreeL, repopTree_typechecked hok e h.1, repopTreeL_typechecked hok es h.2]
end

theorem repopTreeL_exact (hok : Gen.WireFunctions.table.all (fun e => pairwiseOk e.descs) = true) :
    ∀ es, exactTypedL Gen.WireFunctions.table es → repopTreeL Gen.WireFunctions.table (stripFnsL es) = some (es, true) :=
  fun es h => repopTreeL_typechecked hok es (typecheckedL_of_exactTypedL _ es h)

theorem repopTreeL_safe (hok : Gen.WireFunctions.table.all (fun e => pairwiseOk e.descs) = true) :
    ∀ es, typecheckedL Gen.WireFunctions.table es →
      ∃ es' ok, repopTreeL Gen.WireFunctions.table (stripFnsL es) = some (es', ok) ∧ (ok = true → es' = es) :=
  fun es h => ⟨es, true, repopTreeL_typechecked hok es h, fun _ => rfl⟩

end Octo.Wire
