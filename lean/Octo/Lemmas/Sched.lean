/-! Schedules of a transition system given by a partial step function. The JSON pipeline and the join protocol each
have their own `State`, `Action`, `step` and `run`; what is proved here is proved for both through `IsRun`. -/
namespace Octo.Sched

variable {σ α : Type} {step : σ → α → Option σ} {run : σ → List α → Option σ}

structure IsRun (step : σ → α → Option σ) (run : σ → List α → Option σ) : Prop where
  nil : ∀ s, run s [] = some s
  cons : ∀ s a as, run s (a :: as) = (step s a).bind (fun s' => run s' as)

namespace IsRun

theorem cons_some (R : IsRun step run) {s t : σ} {a : α} {as : List α} (h : run s (a :: as) = some t) :
    ∃ s', step s a = some s' ∧ run s' as = some t :=
  Option.bind_eq_some_iff.mp (R.cons s a as ▸ h)

theorem append (R : IsRun step run) {s : σ} {as bs : List α} :
    run s (as ++ bs) = (run s as).bind (fun t => run t bs) := by
  induction as generalizing s with
  | nil => rw [R.nil]; rfl
  | cons a as ih =>
    rw [List.cons_append, R.cons, R.cons]
    cases step s a with
    | none => rfl
    | some s' => exact ih

theorem length_le (R : IsRun step run) {I : σ → Prop} {m : σ → Nat} (hinv : ∀ s a s', I s → step s a = some s' → I s')
    (hdec : ∀ s a s', I s → step s a = some s' → m s' < m s)
    {s t : σ} {sched : List α} (h0 : I s) (hr : run s sched = some t) : sched.length + m t ≤ m s := by
  induction sched generalizing s with
  | nil => rw [R.nil] at hr; cases hr; exact Nat.le_of_eq (Nat.zero_add _)
  | cons a as ih =>
    obtain ⟨s', h1, h2⟩ := R.cons_some hr
    have := ih (hinv s a s' h0 h1) h2
    have := hdec s a s' h0 h1
    rw [List.length_cons]; omega

theorem invariant (R : IsRun step run) {I : σ → Prop} (hstep : ∀ s a s', I s → step s a = some s' → I s')
    {s t : σ} {sched : List α} (h0 : I s) (hr : run s sched = some t) : I t := by
  induction sched generalizing s with
  | nil => rw [R.nil] at hr; cases hr; exact h0
  | cons a as ih => obtain ⟨s', h1, h2⟩ := R.cons_some hr; exact ih (hstep s a s' h0 h1) h2

end IsRun
end Octo.Sched
