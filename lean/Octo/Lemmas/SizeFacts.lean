import Octo.Model.Ty
/-! The size measures of `Value` and `Ty`: positive, and a part is smaller than the whole. Every recursion over
    nested values or types (comparison, typing, coalescing, reported types) is justified by these. -/
namespace Octo

theorem Value.size_pos (a : Value) : 0 < a.size := by cases a <;> simp [Value.size] <;> omega

theorem Value.size_le_sizeList {x : Value} {xs : List Value} (h : x ∈ xs) : x.size ≤ Value.sizeList xs := by
  induction xs with
  | nil => cases h
  | cons y ys ih =>
    simp only [Value.sizeList]
    cases h with
    | head => exact Nat.le_add_right _ _
    | tail _ h => exact Nat.le_trans (ih h) (Nat.le_add_left _ _)

/-- the parts of a list, struct or tuple value (all of size `1 + sizeList xs`) are smaller -/
theorem Value.size_lt_of_mem {x : Value} {xs : List Value} (h : x ∈ xs) : x.size < 1 + Value.sizeList xs :=
  Nat.lt_of_le_of_lt (Value.size_le_sizeList h) (Nat.lt_add_of_pos_left Nat.one_pos)

theorem Value.size_induction {P : Value → Prop} (h : ∀ v, (∀ x, x.size < v.size → P x) → P v) (v : Value) : P v :=
  (measure Value.size).wf.induction v h

namespace Ty

theorem size_pos (t : Ty) : 0 < t.size := by
  cases t <;> first | exact Nat.one_pos | exact Nat.add_pos_left Nat.one_pos _

theorem size_le_sizeList {a : Ty} {ts : List Ty} (h : a ∈ ts) : a.size ≤ sizeList ts := by
  induction ts with
  | nil => cases h
  | cons t ts ih =>
    simp only [sizeList]
    cases h with
    | head => exact Nat.le_add_right _ _
    | tail _ h => exact Nat.le_trans (ih h) (Nat.le_add_left _ _)

theorem size_lt_of_mem {a : Ty} {ts : List Ty} (h : a ∈ ts) : a.size < 1 + sizeList ts :=
  Nat.lt_of_le_of_lt (size_le_sizeList h) (Nat.lt_add_of_pos_left Nat.one_pos)

theorem size_lt_list (e : Ty) : e.size < (Ty.list e).size := Nat.lt_add_of_pos_left Nat.one_pos
theorem size_lt_of_mem_struct (ns : List Name) {a : Ty} {ts : List Ty} (h : a ∈ ts) : a.size < (Ty.struct ns ts).size :=
  size_lt_of_mem h
theorem size_lt_of_mem_tuple {a : Ty} {ts : List Ty} (h : a ∈ ts) : a.size < (Ty.tuple ts).size := size_lt_of_mem h
theorem size_lt_of_mem_union {a : Ty} {ts : List Ty} (h : a ∈ ts) : a.size < (Ty.union ts).size := size_lt_of_mem h

theorem size_induction {P : Ty → Prop} (h : ∀ t, (∀ s, s.size < t.size → P s) → P t) (t : Ty) : P t :=
  (measure Ty.size).wf.induction t h

end Ty
end Octo
