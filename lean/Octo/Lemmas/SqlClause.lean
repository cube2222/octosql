import Octo.Lemmas.SqlExpr
/-!
# Round trip of the select list, of the clauses after FROM and of WITH lists (C30)
-/
namespace Octo.SqlSyn

/-- the place of a token among what may follow the table references: the clauses WHERE 1 … LIMIT 6, then `)` 7;
    0 for every other token -/
def clauseRank : Tok → Nat
  | .kw .WHERE => 1 | .kw .GROUP => 2 | .kw .HAVING => 3 | .kw .TRIGGER => 4 | .kw .ORDER => 5 | .kw .LIMIT => 6
  | .kw .RPAREN => 7
  | _ => 0

/-- the input ends here, or goes on with a clause of rank ≥ `i` or with `)` -/
def endsAt (i : Nat) : List Tok → Bool
  | [] => true
  | t :: _ => decide (i ≤ clauseRank t)

theorem endsAt_mono {i j : Nat} (h : i ≤ j) {rest : List Tok} (hf : endsAt j rest = true) : endsAt i rest = true := by
  cases rest with
  | nil => rfl
  | cons t ts => simp [endsAt] at *; omega

theorem endsAt_append {i : Nat} (k : Kw) (hk : i ≤ clauseRank (.kw k)) {pre tl : List Tok}
    (hpre : pre = [] ∨ ∃ ts, pre = Tok.kw k :: ts) (h : endsAt (i + 1) tl = true) : endsAt i (pre ++ tl) = true := by
  rcases hpre with rfl | ⟨ts, rfl⟩
  · exact endsAt_mono (Nat.le_succ i) h
  · simpa [endsAt] using hk

theorem endsAt_of_followS {rest : List Tok} (h : followS rest = true) : endsAt 7 rest = true := by
  cases rest with
  | nil => rfl
  | cons t ts => simp [followS] at h; subst h; rfl

theorem endsAt_headIs {i : Nat} {rest : List Tok} (h : endsAt i rest = true) {k : Kw} (hk : clauseRank (.kw k) < i) :
    headIs k rest = false := by
  cases rest with
  | nil => rfl
  | cons t ts =>
    simp [endsAt] at h
    simp [headIs]
    intro ht; subst ht; omega

/-- what holds of the tokens after an element of a list clause: they stop every expression and table reference, and
    start with no keyword outside the clause keywords and the comma -/
structure ListRest (rest : List Tok) : Prop where
  follow1 : follow 1 rest = true
  followT : followT rest = true
  headIs : ∀ k, clauseRank (.kw k) = 0 → k ≠ .COMMA → headIs k rest = false

theorem listRest_props {i : Nat} (hi : 1 ≤ i) {rest : List Tok}
    (h : endsAt i rest = true ∨ ∃ ts, rest = Tok.kw .COMMA :: ts) : ListRest rest := by
  rcases h with h | ⟨ts, rfl⟩
  · refine ⟨?_, ?_, fun k hk _ => endsAt_headIs h (by omega)⟩ <;>
    · cases rest with
      | nil => rfl
      | cons t ts =>
        have ht : 1 ≤ clauseRank t := by simp [endsAt] at h; omega
        -- arm by arm, as `cmpOpOf` in `condRest_stop`
        unfold clauseRank at ht
        split at ht <;> first | rfl | exact absurd ht (by decide)
  · exact ⟨rfl, rfl, fun k _ hk => by simpa [headIs] using Ne.symm hk⟩

section list
variable {α : Type} (item : P α) (pr : α → List Tok)

theorem sepBy1_clause {i : Nat} (hi : 1 ≤ i) (x : α) (xs : List α)
    (hall : ∀ y ∈ x :: xs, ∀ rest, (endsAt i rest = true ∨ ∃ ts, rest = Tok.kw .COMMA :: ts) →
      item (pr y ++ rest) = some (y, rest))
    (tl : List Tok) (hf : endsAt i tl = true) :
    sepBy1 item (pr x ++ (ListFmt.items [Tok.kw .COMMA] (xs.map pr) ++ tl)) = some (x :: xs, tl) :=
  sepBy1_rt item pr (fun r => endsAt i r = true)
    (fun t ts h hc => by
      have := endsAt_headIs h (k := .COMMA) hi
      simp [headIs, hc] at this)
    x xs hall tl hf
end list

theorem okOrders_mem {es : List Expr} (h : okOrders es = true) : ∀ x ∈ es, okOrder x = true :=
  (forall_mem_of_and_rec rfl (fun _ _ => rfl) _).1 h
theorem okTrigs_mem {es : List Expr} (h : okTrigs es = true) : ∀ x ∈ es, okTrig x = true :=
  (forall_mem_of_and_rec rfl (fun _ _ => rfl) _).1 h

theorem printWhereK_pre (k : Kw) (w : Option Expr) : printWhereK k w = [] ∨ ∃ ts, printWhereK k w = Tok.kw k :: ts := by
  cases w <;> simp [printWhereK]
theorem run_pre (f : ListFmt) {t : Tok} {tl : List Tok} (hfirst : f.first = t :: tl) (hlast : f.last = [])
    (xs : List (List Tok)) : f.run xs = [] ∨ ∃ ts, f.run xs = t :: ts := by
  cases xs <;> simp [ListFmt.run, hfirst, hlast]
theorem printLimit_pre (lo lc : Option Expr) : printLimit lo lc = [] ∨ ∃ ts, printLimit lo lc = Tok.kw .LIMIT :: ts := by
  cases lc <;> simp [printLimit]

theorem okCtes_mem {cs : List Sel} (h : okCtes cs = true) : ∀ x ∈ cs, okCte x = true :=
  (forall_mem_of_and_rec rfl (fun _ _ => rfl) _).1 h
theorem depthSs_mem {cs : List Sel} {d : Nat} (h : depthSs cs ≤ d) : ∀ x ∈ cs, depthS x ≤ d :=
  max_mem (fun _ _ => rfl) h

section level
variable {prev : Parsers} {d : Nat} (hp : PrevOK prev d)
include hp

theorem whereOpt_rt (k : Kw) (w : Option Expr) (hok : okOE w = true) (hd : depthOE w ≤ d) {i : Nat}
    (hk : clauseRank (.kw k) < i) (tl : List Tok) (hf : endsAt i tl = true) :
    parseWhereOpt prev k (printWhereK k w ++ tl) = some (w, tl) := by
  cases w with
  | none => simp [printWhereK, parseWhereOpt, endsAt_headIs hf hk]
  | some e =>
    simp [okOE] at hok
    simp [depthOE] at hd
    simp [printWhereK, parseWhereOpt, headIs_cons,
      rt1 hp e hok.1 hok.2 hd tl (listRest_props (by omega) (Or.inl hf)).follow1]

theorem groupBy_rt (g : List Expr) (hok : okEs g = true) (hd : depthEs g ≤ d) {i : Nat} (hi : 2 < i) (tl : List Tok)
    (hf : endsAt i tl = true) : parseGroupByOpt prev (Gen.list_GroupBy.run (printEs g) ++ tl) = some (g, tl) := by
  cases g with
  | nil => simp [printEs, run_GroupBy_nil, parseGroupByOpt, endsAt_headIs hf (k := .GROUP) hi]
  | cons x xs =>
    have := sepBy1_clause (parseExpr prev) printE (i := i) (by omega) x xs
      (fun e he r hr => rt1 hp e (okEs_mem hok e he).1 (okEs_mem hok e he).2 (depthEs_mem hd e he) r
        (listRest_props (by omega) hr).follow1) tl hf
    simpa [printEs_eq_map, run_GroupBy_cons, parseGroupByOpt, headIs_cons] using this

theorem trigger_rt (t : Expr) (hok : okTrig t = true) (hd : depthE t ≤ d) (rest : List Tok)
    (hf : follow 1 rest = true) : parseTrigger prev (printE t ++ rest) = some (t, rest) := by
  cases t with
  | trigWm => simp [printE_trigWm, parseTrigger]
  | trigEos => simp [printE_trigEos, parseTrigger]
  | trigCount e =>
    simp [okTrig] at hok
    simp [depthE] at hd
    simp [printE_trigCount, parseTrigger, rt1 hp e hok.1 hok.2 hd rest hf]
  | trigDelay e =>
    simp [okTrig] at hok
    simp [depthE] at hd
    simp [printE_trigDelay, parseTrigger, rt1 hp e hok.1 hok.2 hd rest hf]
  | _ => simp [okTrig] at hok

theorem triggers_rt (g : List Expr) (hok : okTrigs g = true) (hd : depthEs g ≤ d) {i : Nat} (hi : 4 < i)
    (tl : List Tok) (hf : endsAt i tl = true) :
    parseTriggerOpt prev (Gen.list_Triggers.run (printEs g) ++ tl) = some (g, tl) := by
  cases g with
  | nil => simp [printEs, run_Triggers_nil, parseTriggerOpt, endsAt_headIs hf (k := .TRIGGER) hi]
  | cons x xs =>
    have := sepBy1_clause (parseTrigger prev) printE (i := i) (by omega) x xs
      (fun e he r hr => trigger_rt hp e (okTrigs_mem hok e he) (depthEs_mem hd e he) r (listRest_props (by omega) hr).follow1)
      tl hf
    simpa [printEs_eq_map, run_Triggers_cons, parseTriggerOpt, headIs_cons] using this

theorem order_rt (o : Expr) (hok : okOrder o = true) (hd : depthE o ≤ d) (rest : List Tok)
    (hf : follow 1 rest = true) (hasc : headIs .ASC rest = false) (hdesc : headIs .DESC rest = false) :
    parseOrder prev (printE o ++ rest) = some (o, rest) := by
  cases o with
  | order e desc =>
    simp [okOrder] at hok
    simp [depthE] at hd
    cases desc with
    | true =>
      have := rt1 hp e hok.1 hok.2 hd (Tok.kw .DESC :: rest) rfl
      simp [printE_order_desc, parseOrder, this, headIs_cons]
    | false =>
      rcases printE_order_asc e with h | h
      · have := rt1 hp e hok.1 hok.2 hd (Tok.kw .ASC :: rest) rfl
        simp [h, parseOrder, this, headIs_cons]
      · have := rt1 hp e hok.1 hok.2 hd rest hf
        simp [h, parseOrder, this, hasc, hdesc]
  | _ => simp [okOrder] at hok

theorem orderBy_rt (g : List Expr) (hok : okOrders g = true) (hd : depthEs g ≤ d) {i : Nat} (hi : 5 < i)
    (tl : List Tok) (hf : endsAt i tl = true) :
    parseOrderByOpt prev (Gen.list_OrderBy.run (printEs g) ++ tl) = some (g, tl) := by
  cases g with
  | nil => simp [printEs, run_OrderBy_nil, parseOrderByOpt, endsAt_headIs hf (k := .ORDER) hi]
  | cons x xs =>
    have := sepBy1_clause (parseOrder prev) printE (i := i) (by omega) x xs
      (fun e he r hr =>
        have hh := listRest_props (i := i) (by omega) hr
        order_rt hp e (okOrders_mem hok e he) (depthEs_mem hd e he) r hh.follow1 (hh.headIs .ASC rfl (by decide))
          (hh.headIs .DESC rfl (by decide))) tl hf
    simpa [printEs_eq_map, run_OrderBy_cons, parseOrderByOpt, headIs_cons] using this

theorem limit_rt (lo lc : Option Expr) (hlo : okOE lo = true) (hlc : okOE lc = true)
    (hboth : lo = none ∨ lc.isSome = true)
    -- `hd`: the LIMIT component of `depthS`, as `select_rt` has it
    (hd : (if lc.isSome then max (depthOE lo) (depthOE lc) else 0) ≤ d) (rest : List Tok)
    (hf : endsAt 7 rest = true) :
    parseLimitOpt prev (printLimit lo lc ++ rest) = some ((lo, lc), rest) := by
  have hh := listRest_props (i := 7) (by decide) (Or.inl hf)
  cases lc with
  | none =>
    obtain rfl : lo = none := hboth.resolve_right (by simp)
    simp [printLimit, parseLimitOpt, endsAt_headIs hf (k := .LIMIT) (by decide)]
  | some c =>
    simp [okOE] at hlc
    simp [depthOE, Nat.max_le] at hd
    have hc := rt1 hp c hlc.1 hlc.2 hd.2 rest hh.follow1
    cases lo with
    | none =>
      simp [printLimit, parseLimitOpt, headIs_cons, hc, endsAt_headIs hf (k := .COMMA) (by decide),
        hh.headIs .OFFSET rfl (by decide)]
    | some o =>
      simp [okOE] at hlo
      have ho := rt1 hp o hlo.1 hlo.2 hd.1 (Tok.kw .COMMA :: (printE c ++ rest)) rfl
      simp [printLimit, parseLimitOpt, headIs_cons, ho, hc]

theorem items_rt (x : Expr) (xs : List Expr) (hok : okItems (x :: xs) = true) (hd : depthEs (x :: xs) ≤ d)
    (tl : List Tok) :
    sepBy1 (parseItemWith (parseExpr prev))
      (printE x ++ (ListFmt.items [Tok.kw .COMMA] (printEs xs) ++ Tok.kw .FROM :: tl)) =
      some (x :: xs, Tok.kw .FROM :: tl) := by
  rw [printEs_eq_map]
  exact sepBy1_before (parseItemWith (parseExpr prev)) printE (Tok.kw .FROM) (by simp) x xs
    (fun e he r hr =>
      item_rt (parseExpr prev) d (rt1 hp) parseExpr_star1_none parseExpr_star2_none e (okItems_mem hok e he)
        (depthEs_mem hd e he) r (by obtain ⟨ts, rfl | rfl⟩ := hr <;> rfl)) tl

theorem cte_rt (c : Sel) (hok : okCte c = true) (hd : depthS c ≤ d) (rest : List Tok) :
    parseCte prev (printS c ++ rest) = some (c, rest) ∧ startsSelect (printS c ++ rest) = false := by
  cases c with
  | cte name s =>
    simp [okCte, and_assoc] at hok
    obtain ⟨hname, hoks, hstmt⟩ := hok
    simp [depthS] at hd
    have hb := subqueryBody_rt hp s hoks hstmt hd rest
    simp [printS_cte, printId_ne hname, parseCte, aliasOf, hb, startsSelect]
  | _ => simp [okCte] at hok

theorem cteTail_rt : ∀ cs : List Sel, (∀ c ∈ cs, okCte c = true ∧ depthS c ≤ d) → ∀ tl, startsSelect tl = true →
    ∀ m, cs.length ≤ m →
      cteTail prev (m + 1) (ListFmt.items [Tok.kw .COMMA] (cs.map printS) ++ tl) = some (cs, tl) := by
  intro cs
  induction cs with
  | nil =>
    intro _ tl htl m _
    cases tl with
    | nil => simp [startsSelect] at htl
    | cons t ts =>
      have : t ≠ Tok.kw .COMMA := by
        intro h; subst h; simp [startsSelect] at htl
      simp [cteTail, ListFmt.items, this]
  | cons c cs ih =>
    intro hall tl htl m hm
    obtain ⟨m', rfl⟩ : ∃ m', m = m' + 1 := ⟨m - 1, by simp at hm; omega⟩
    have hc := hall c (by simp)
    obtain ⟨h1, h2⟩ := cte_rt hp c hc.1 hc.2 (ListFmt.items [Tok.kw .COMMA] (cs.map printS) ++ tl)
    have h3 := ih (fun y hy => hall y (by simp [hy])) tl htl m' (by simp at hm; omega)
    simp [cteTail, items_cons, h1, h2, h3]

end level

end Octo.SqlSyn
