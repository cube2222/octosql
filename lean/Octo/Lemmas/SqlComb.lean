import Octo.Model.SqlOk
/-!
# Generic lemmas about the parser combinators (C30)

Left-recursive rules are parsed as "first operand, then a fuelled loop" (`binLevel`, the postfix, IS and join loops):
`leftRec_rt`.  Follow sets (`tokLevel`, `follow`): what a parser of precedence level `k` needs to know about the token
after its input.
-/
namespace Octo.SqlSyn

/-- the tightest precedence level at which a token continues an expression (0: it never does) -/
def tokLevel : Tok → Nat
  | .kw .OR => 1 | .kw .AND => 2 | .kw .IS => 4
  | .kw .EQ => 5 | .kw .LT => 5 | .kw .GT => 5 | .kw .LE => 5 | .kw .GE => 5 | .kw .NE => 5 | .kw .NULL_SAFE_EQUAL => 5
  | .kw .IN => 5 | .kw .NOT => 5 | .kw .LIKE => 5 | .kw .REGEXP => 5
  | .kw .PIPE => 6 | .kw .AMP => 7 | .kw .SHIFT_LEFT => 8 | .kw .SHIFT_RIGHT => 8 | .kw .PLUS => 9 | .kw .MINUS => 9
  | .kw .STAR => 10 | .kw .SLASH => 10 | .kw .DIV => 10 | .kw .PERCENT => 10 | .kw .MOD => 10 | .kw .CARET => 11
  | .kw .JSON_EXTRACT_OP => 13 | .kw .LIST_ARG => 13 | .kw .LBRACK => 13
  | .kw .LPAREN => 14 | .kw .DOT => 14
  | _ => 0

/-- the next token (if any) does not continue an expression parsed at level `k` -/
def follow (k : Nat) : List Tok → Bool
  | [] => true
  | t :: _ => decide (tokLevel t < k)

theorem follow_cons {k : Nat} {t : Tok} {ts : List Tok} : follow k (t :: ts) = true ↔ tokLevel t < k := by
  simp [follow]

theorem follow_mono {k k' : Nat} (h : k ≤ k') {rest : List Tok} (hf : follow k rest = true) : follow k' rest = true := by
  cases rest with
  | nil => rfl
  | cons t ts => exact follow_cons.2 (Nat.lt_of_lt_of_le (follow_cons.1 hf) h)

section leftRec
variable {α : Type} (first : P α) (loop : Nat → α → List Tok → Option (α × List Tok)) (pr : α → List Tok)
  (Q F : α → List Tok → Prop)

/-- A left-recursive rule `x ::= y | x suffix` is parsed by `first` (for `y`) followed by a fuelled loop that folds one
    suffix after the other into the accumulator.  Suppose every `e` under the follow condition `Q e rest` either is read
    by `first` itself, or prints as some `l` and a non-empty suffix that one turn of the loop folds into `e`.
    Then running the loop on what `first` makes of `pr e ++ rest`, with `j` more units of fuel, is running it on `e`.
    (Induction on the number of printed tokens: `l` prints fewer.) -/
theorem leftRec_chain
    (hdec : ∀ e rest, Q e rest → first (pr e ++ rest) = some (e, rest) ∨
      ∃ l suf, pr e = pr l ++ suf ∧ suf ≠ [] ∧ Q l (suf ++ rest) ∧
        ∀ m, loop (m + 1) l (suf ++ rest) = loop m e rest) :
    ∀ n e, (pr e).length < n → ∀ rest, Q e rest →
      ∃ a r, first (pr e ++ rest) = some (a, r) ∧ ∃ j, j ≤ (pr e).length ∧ ∀ m, loop (m + j) a r = loop m e rest
  | 0, _, h, _, _ => absurd h (Nat.not_lt_zero _)
  | n + 1, e, hsz, rest, hq => by
    rcases hdec e rest hq with h | ⟨l, suf, hpr, hne, hql, hstep⟩
    · exact ⟨e, rest, h, 0, Nat.zero_le _, fun _ => rfl⟩
    · have : 0 < suf.length := List.length_pos_iff.2 hne
      rw [hpr, List.length_append] at hsz
      obtain ⟨a, r, hfirst, j, hj, hrun⟩ := leftRec_chain hdec n l (by omega) (suf ++ rest) hql
      refine ⟨a, r, ?_, j + 1, ?_, fun m => ?_⟩
      · rw [hpr, List.append_assoc, hfirst]
      · rw [hpr, List.length_append]; omega
      · rw [show m + (j + 1) = m + 1 + j by omega, hrun, hstep]

/-- … so with the input length as fuel the rule reads `e` back, provided the loop stops in front of `rest` -/
theorem leftRec_rt
    (hdec : ∀ e rest, Q e rest → first (pr e ++ rest) = some (e, rest) ∨
      ∃ l suf, pr e = pr l ++ suf ∧ suf ≠ [] ∧ Q l (suf ++ rest) ∧
        ∀ m, loop (m + 1) l (suf ++ rest) = loop m e rest)
    (hstop : ∀ m e rest, F e rest → loop (m + 1) e rest = some (e, rest))
    (e : α) (rest : List Tok) (hq : Q e rest) (hf : F e rest) :
    ∃ a r, first (pr e ++ rest) = some (a, r) ∧ loop ((pr e ++ rest).length + 1) a r = some (e, rest) := by
  obtain ⟨a, r, hfirst, j, hj, hrun⟩ := leftRec_chain first loop pr Q hdec _ e (Nat.lt_succ_self _) rest hq
  have hlen : (pr e ++ rest).length + 1 = ((pr e ++ rest).length - j) + 1 + j := by
    rw [List.length_append]; omega
  exact ⟨a, r, hfirst, by rw [hlen, hrun]; exact hstop _ e rest hf⟩
end leftRec

theorem items_cons (sep : List Tok) (x : List Tok) (xs : List (List Tok)) :
    ListFmt.items sep (x :: xs) = sep ++ x ++ ListFmt.items sep xs := rfl

theorem items_length (xs : List (List Tok)) : xs.length ≤ (ListFmt.items [Tok.kw .COMMA] xs).length := by
  induction xs with
  | nil => simp [ListFmt.items]
  | cons x xs ih => simp [ListFmt.items]; omega

section sep
variable {α : Type} (item : P α) (pr : α → List Tok) (F : List Tok → Prop)

theorem items_rest (xs : List α) (rest : List Tok) (hf : F rest) :
    F (ListFmt.items [Tok.kw .COMMA] (xs.map pr) ++ rest) ∨
      ∃ ts, ListFmt.items [Tok.kw .COMMA] (xs.map pr) ++ rest = Tok.kw .COMMA :: ts := by
  cases xs with
  | nil => exact Or.inl hf
  | cons y ys => exact Or.inr ⟨_, rfl⟩

theorem sepTail_rt (hF : ∀ t ts, F (t :: ts) → t ≠ Tok.kw .COMMA) :
    ∀ xs : List α,
      (∀ x ∈ xs, ∀ rest, (F rest ∨ ∃ ts, rest = Tok.kw .COMMA :: ts) → item (pr x ++ rest) = some (x, rest)) →
      ∀ rest, F rest → ∀ m, xs.length ≤ m →
        sepTail item (m + 1) (ListFmt.items [Tok.kw .COMMA] (xs.map pr) ++ rest) = some (xs, rest) := by
  intro xs
  induction xs with
  | nil =>
    intro _ rest hf m _
    cases rest with
    | nil => simp [sepTail, ListFmt.items]
    | cons t ts => simp [sepTail, ListFmt.items, hF t ts hf]
  | cons x xs ih =>
    intro hall rest hf m hm
    obtain ⟨m', rfl⟩ : ∃ m', m = m' + 1 := ⟨m - 1, by simp at hm; omega⟩
    have h1 := hall x (by simp) _ (items_rest pr F xs rest hf)
    have h2 := ih (fun y hy => hall y (by simp [hy])) rest hf m' (by simp at hm; omega)
    simp [sepTail, items_cons, h1, h2]

theorem sepBy1_rt (hF : ∀ t ts, F (t :: ts) → t ≠ Tok.kw .COMMA) (x : α) (xs : List α)
    (hall : ∀ y ∈ x :: xs, ∀ rest, (F rest ∨ ∃ ts, rest = Tok.kw .COMMA :: ts) → item (pr y ++ rest) = some (y, rest))
    (rest : List Tok) (hf : F rest) :
    sepBy1 item (pr x ++ (ListFmt.items [Tok.kw .COMMA] (xs.map pr) ++ rest)) = some (x :: xs, rest) := by
  have h1 := hall x (by simp) _ (items_rest pr F xs rest hf)
  have hlen : xs.length ≤ (pr x ++ (ListFmt.items [Tok.kw .COMMA] (xs.map pr) ++ rest)).length := by
    have := items_length (xs.map pr)
    simp only [List.length_append, List.length_map] at *
    omega
  have h2 := sepTail_rt item pr F hF xs (fun y hy => hall y (by simp [hy])) rest hf _ hlen
  unfold sepBy1
  rw [h1]
  simp only []
  rw [h2]

theorem sepBy1_before (c : Tok) (hc : c ≠ Tok.kw .COMMA) (x : α) (xs : List α)
    (hall : ∀ y ∈ x :: xs, ∀ rest, (∃ ts, rest = c :: ts ∨ rest = Tok.kw .COMMA :: ts) → item (pr y ++ rest) = some (y, rest))
    (tl : List Tok) :
    sepBy1 item (pr x ++ (ListFmt.items [Tok.kw .COMMA] (xs.map pr) ++ c :: tl)) = some (x :: xs, c :: tl) :=
  sepBy1_rt item pr (fun r => ∃ ts, r = c :: ts) (fun t ts ⟨_, h⟩ => by cases h; exact hc) x xs
    (fun y hy rest hr => hall y hy rest (hr.elim (fun ⟨ts, h⟩ => ⟨ts, Or.inl h⟩) (fun ⟨ts, h⟩ => ⟨ts, Or.inr h⟩)))
    (c :: tl) ⟨tl, rfl⟩

end sep

end Octo.SqlSyn
