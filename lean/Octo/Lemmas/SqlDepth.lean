import Octo.Lemmas.SqlPrintTbl
import Octo.Lemmas.SqlPrintSel
/-!
# The nesting depth of a tree is at most the number of tokens it prints to (C30)

Needed to discharge the fuel of `parseStmt` (which is the length of its input).  No well-formedness is needed here.
-/
namespace Octo.SqlSyn
open Gen

def totalLen : List (List Tok) → Nat
  | [] => 0
  | x :: xs => x.length + totalLen xs

theorem items_totalLen (sep : List Tok) (xs : List (List Tok)) : totalLen xs ≤ (ListFmt.items sep xs).length := by
  induction xs with
  | nil => simp [totalLen]
  | cons x xs ih => simp [totalLen, ListFmt.items] <;> try omega

theorem run_totalLen (f : ListFmt) (xs : List (List Tok)) : totalLen xs ≤ (f.run xs).length := by
  cases xs with
  | nil => simp [totalLen]
  | cons x xs =>
    have := items_totalLen f.sep xs
    simp [ListFmt.run, totalLen] <;> try omega

/-! shapes that hold without well-formedness (only lengths matter) -/
theorem len_order (e : Expr) (desc : Bool) : (printE e).length ≤ (printE (.order e desc)).length := by
  cases desc with
  | true => simp [printE_order_desc]
  | false => rcases printE_order_asc e with h | h <;> simp [h]
theorem len_join (l : Tbl) (strat : Strategy) (kind : JoinKind) (r : Tbl) (on : Option Expr) (us : List String) :
    (printT l).length + (joinToks strat kind).length + (printT r).length +
      (match on with
       | some e => (printE e).length + 1
       | none => 0) ≤ (printT (.join l strat kind r on us)).length := by
  cases on <;> simp [printT_join, printJoinCond] <;> omega
theorem len_joinToks (strat : Strategy) (kind : JoinKind) : 1 ≤ (joinToks strat kind).length := by
  cases kind <;> simp [joinToks, JoinKind.toks, c_JoinStr, c_LeftJoinStr, c_RightJoinStr, c_OuterJoinStr, c_NaturalJoinStr,
    c_NaturalLeftJoinStr, c_NaturalRightJoinStr] <;> omega
theorem len_whereK (k : Kw) (w : Option Expr) :
    (match w with
     | some e => (printE e).length
     | none => 0) ≤ (printWhereK k w).length := by
  cases w <;> simp [printWhereK]
theorem len_limit (lo lc : Option Expr) :
    (match lc with
     | none => 0
     | some c => (match lo with
       | some e => (printE e).length
       | none => 0) + (printE c).length) ≤ (printLimit lo lc).length := by
  cases lo <;> cases lc <;> simp [printLimit] <;> omega

-- By structural recursion over the mutually defined trees; a list is bounded by the summed lengths of its
-- elements (`totalLen`), which every list template keeps (`run_totalLen`).
mutual
theorem depthE_le_len : ∀ e : Expr, depthE e ≤ (printE e).length
  | .and l r => by have := depthE_le_len l; have := depthE_le_len r; simp [depthE, printE_and]; omega
  | .or l r => by have := depthE_le_len l; have := depthE_le_len r; simp [depthE, printE_or]; omega
  | .not e => by have := depthE_le_len e; simp [depthE, printE_not]; omega
  | .paren e => by have := depthE_le_len e; simp [depthE, printE_paren]; omega
  | .cmp op l r => by have := depthE_le_len l; have := depthE_le_len r; simp [depthE, printE_cmp]; omega
  | .is op e => by have := depthE_le_len e; simp [depthE, printE_is]; omega
  | .exists_ s => by have := depthS_le_len s; simp [depthE, printE_exists]; omega
  | .val _ _ _ => by simp [depthE]
  | .null => by simp [depthE]
  | .bool _ => by simp [depthE]
  | .col _ _ _ => by simp [depthE]
  | .tuple es => by
    have := depthEs_le es; have := run_totalLen list_Exprs (printEs es); simp [depthE, printE_tuple]; omega
  | .subq s => by have := depthS_le_len s; simp [depthE, printE_subq]; omega
  | .bin op l r => by have := depthE_le_len l; have := depthE_le_len r; simp [depthE, printE_bin]; omega
  | .index l i => by have := depthE_le_len l; have := depthE_le_len i; simp [depthE, printE_index]; omega
  | .un op e => by have := depthE_le_len e; simp [depthE, printE_un]; omega
  | .interval e u => by have := depthE_le_len e; simp [depthE, printE_interval]; omega
  | .func q nm dst args => by
    have := depthEs_le args; have := run_totalLen list_SelectExprs (printEs args)
    simp [depthE, printE_func]; omega
  | .convert e t => by have := depthE_le_len e; simp [depthE, printE_convert]; omega
  | .field e nm => by have := depthE_le_len e; simp [depthE, printE_field]; omega
  | .star _ _ => by simp [depthE]
  | .aliased e a => by have := depthE_le_len e; simp [depthE, printE_aliased]; omega
  | .explode e => by have := depthE_le_len e; simp [depthE, printE_explode]; omega
  | .trigCount e => by have := depthE_le_len e; simp [depthE, printE_trigCount]; omega
  | .trigWm => by simp [depthE]
  | .trigEos => by simp [depthE]
  | .trigDelay e => by have := depthE_le_len e; simp [depthE, printE_trigDelay]; omega
  | .order e dsc => by have := depthE_le_len e; have := len_order e dsc; simp [depthE]; omega
theorem depthEs_le : ∀ es : List Expr, depthEs es ≤ totalLen (printEs es)
  | [] => by simp [depthEs]
  | e :: es => by have := depthE_le_len e; have := depthEs_le es; simp [depthEs, printEs, totalLen]; omega
theorem depthOE_le : ∀ w : Option Expr, depthOE w ≤
    (match w with
     | some e => (printE e).length
     | none => 0)
  | none => Nat.le_refl 0
  | some e => depthE_le_len e
theorem depthT_le_len : ∀ t : Tbl, depthT t ≤ (printT t).length
  | .table _ _ _ => by simp [depthT]
  | .sub s a => by have := depthS_le_len s; simp [depthT, printT_sub]; omega
  | .paren ts => by
    have := depthTs_le ts; have := run_totalLen list_TableExprs (printTs ts); simp [depthT, printT_paren]; omega
  | .join l strat kind r on us => by
    have hl := depthT_le_len l; have hr := depthT_le_len r
    have hj := len_join l strat kind r on us; have := len_joinToks strat kind
    have hon : depthOE on ≤ (printT (.join l strat kind r on us)).length := by
      have := depthOE_le on
      cases on with
      | none => simp [depthOE]
      | some e => simp only at hj this; omega
    have hr' : (if kind.isOuter then depthT r + 1 else depthT r) ≤ (printT (.join l strat kind r on us)).length := by
      split <;> omega
    simp only [depthT, Nat.max_le]
    exact ⟨by omega, hr', hon⟩
  | .tvf nm args a => by
    have := depthTs_le args
    have := run_totalLen list_TableValuedFunctionArguments (printTs args)
    simp [depthT, printT_tvf]; omega
  | .argE nm e => by have := depthE_le_len e; simp [depthT, printT_argE]; omega
  | .argT nm t => by have := depthT_le_len t; simp [depthT, printT_argT]; omega
  | .argD _ _ _ _ => by simp [depthT]
theorem depthTs_le : ∀ ts : List Tbl, depthTs ts ≤ totalLen (printTs ts)
  | [] => by simp [depthTs]
  | t :: ts => by have := depthT_le_len t; have := depthTs_le ts; simp [depthTs, printTs, totalLen]; omega
theorem depthS_le_len : ∀ s : Sel, depthS s ≤ (printS s).length
  | .select dst exprs from_ where_ groupBy having trig orderBy limOff limCnt => by
    have e1 := Nat.le_trans (depthEs_le exprs) (run_totalLen list_SelectExprs _)
    have e2 := Nat.le_trans (depthTs_le from_) (run_totalLen list_TableExprs _)
    have e3 := Nat.le_trans (depthOE_le where_) (len_whereK .WHERE where_)
    have e4 := Nat.le_trans (depthEs_le groupBy) (run_totalLen list_GroupBy _)
    have e5 := Nat.le_trans (depthOE_le having) (len_whereK .HAVING having)
    have e6 := Nat.le_trans (depthEs_le trig) (run_totalLen list_Triggers _)
    have e7 := Nat.le_trans (depthEs_le orderBy) (run_totalLen list_OrderBy _)
    have e8 : (if limCnt.isSome = true then max (depthOE limOff) (depthOE limCnt) else 0) ≤
        (printLimit limOff limCnt).length := by
      have h8 := len_limit limOff limCnt
      have ho := depthOE_le limOff
      have hc := depthOE_le limCnt
      cases limCnt with
      | none => simp
      | some c => cases limOff <;> simp only [Option.isSome_some, if_true, Nat.max_le, depthOE] at h8 ho hc ⊢ <;> omega
    simp only [depthS, printS_select, List.length_cons, List.length_append, Nat.max_le]
    omega
  | .with_ ctes s => by
    have := depthSs_le ctes; have := run_totalLen list_CommonTableExpressions (printSs ctes)
    have := depthS_le_len s
    simp [depthS, printS_with]; omega
  | .cte nm s => by have := depthS_le_len s; simp [depthS, printS_cte]; omega
theorem depthSs_le : ∀ ss : List Sel, depthSs ss ≤ totalLen (printSs ss)
  | [] => by simp [depthSs]
  | s :: ss => by have := depthS_le_len s; have := depthSs_le ss; simp [depthSs, printSs, totalLen]; omega
end

end Octo.SqlSyn
