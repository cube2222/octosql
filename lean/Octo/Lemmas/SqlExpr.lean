import Octo.Lemmas.SqlPrint
import Octo.Lemmas.SqlPrintSel
import Octo.Lemmas.SqlParseFacts
import Octo.Lemmas.ListFacts
/-!
# Round trip of expressions, one precedence level at a time (C30)
-/
namespace Octo.SqlSyn

/-- what may come after a select statement: the end of the input, or the `)` that closes a subquery -/
def followS : List Tok → Bool
  | [] => true
  | t :: _ => t == Tok.kw .RPAREN

/-- the tokens that may come after a table reference: `)` and `,` (it stands in a parenthesised list, a `TABLE( )`
    argument or the FROM list), the keywords of the clauses after FROM, and ON / USING (it is the right operand of a join) -/
def stopT : Tok → Bool
  | .kw .RPAREN => true | .kw .COMMA => true | .kw .WHERE => true | .kw .GROUP => true | .kw .HAVING => true
  | .kw .TRIGGER => true | .kw .ORDER => true | .kw .LIMIT => true | .kw .ON => true | .kw .USING => true
  | _ => false
def followT : List Tok → Bool
  | [] => true
  | t :: _ => stopT t

/-- what the level theorems assume about the parsers of the previous nesting level -/
structure PrevOK (prev : Parsers) (d : Nat) : Prop where
  expr : ∀ e, okE e = true → 1 ≤ e.lvl → depthE e < d → ∀ rest, follow 1 rest = true →
    prev.expr (printE e ++ rest) = some (e, rest)
  val : ∀ e, okE e = true → 6 ≤ e.lvl → depthE e < d → ∀ rest, follow 6 rest = true →
    prev.val (printE e ++ rest) = some (e, rest)
  sel : ∀ s, okS s = true → s.isStmt = true → depthS s < d → ∀ rest, followS rest = true →
    prev.sel (printS s ++ rest) = some (s, rest)
  tbl : ∀ t, okT t = true → depthT t < d → ∀ rest, followT rest = true →
    (t.isOpenInnerJoin = true → headIs .ON rest = false ∧ headIs .USING rest = false) →
    prev.tbl (printT t ++ rest) = some (t, rest)
  star1 : ∀ t rest, identOf t ≠ none → prev.expr (t :: Tok.kw .DOT :: Tok.kw .STAR :: rest) = none
  star2 : ∀ t1 t2 rest, identOf t1 ≠ none → identOf t2 ≠ none →
    prev.expr (t1 :: Tok.kw .DOT :: t2 :: Tok.kw .DOT :: Tok.kw .STAR :: rest) = none

/-- the parser `p` reads a printed expression of level ≥ `k` and nesting depth ≤ `d` back and stops in front of `rest`
    (`PrevOK.expr` and `PrevOK.val` are this for the previous nesting level, with `<` in place of `≤`) -/
def Reads (d : Nat) (p : P Expr) (k : Nat) : Prop :=
  ∀ e, okE e = true → k ≤ e.lvl → depthE e ≤ d → ∀ rest, follow k rest = true → p (printE e ++ rest) = some (e, rest)

/-- the tokens a printed expression can start with -/
def startsExpr : Tok → Bool
  | .kw .NOT | .kw .EXISTS | .kw .MINUS | .kw .PLUS | .kw .BANG | .kw .TILDE
  | .kw .LPAREN | .kw .NULL | .kw .TRUE | .kw .FALSE | .kw .INTERVAL | .kw .CONVERT
  | .id _ | .nrkw _ | .str _ | .int _ | .float _ | .hexnum _ | .hex _ | .bit _ => true
  | _ => false

theorem rawOK_cases {s : String} (h : rawOK s = true) : rawWord s = [Tok.id s] ∨ rawWord s = [Tok.nrkw s] := by
  simp [rawOK] at h; exact h

theorem rawWord_ident {s : String} (h : rawOK s = true) :
    ∃ t, rawWord s = [t] ∧ identOf t = some s ∧ tokLevel t = 0 := by
  rcases rawOK_cases h with h | h <;> exact ⟨_, h, rfl, rfl⟩

theorem convTyClose_rt (t : ConvTy) (h : okConvTy t = true) (rest : List Tok) :
    parseConvTyClose (printConvTy t ++ Tok.kw .RPAREN :: rest) = some (t, rest) := by
  cases t with
  | simple n =>
    obtain ⟨tk, hw, hi, _⟩ := rawWord_ident (s := n) (by simpa [okConvTy] using h)
    rw [printConvTy_simple, hw]
    cases tk <;> simp [identOf] at hi <;> subst hi <;> simp [parseConvTyClose, parseConvTy]
  | list => simp [printConvTy_list, parseConvTyClose, parseConvTy]
  | object => simp [printConvTy_object, parseConvTyClose, parseConvTy]

/-- the three printed forms of a (table or column) name with optional qualifiers -/
theorem qual_cases {q2 q1 : String} (h : q2 = "" ∨ q1 ≠ "") :
    (q2 = "" ∧ q1 = "") ∨ (q2 = "" ∧ q1 ≠ "") ∨ (q2 ≠ "" ∧ q1 ≠ "") := by
  by_cases h2 : q2 = "" <;> by_cases h1 : q1 = "" <;> simp_all

theorem head_of_left {l : Expr} (h : ∃ t ts, printE l = t :: ts ∧ startsExpr t = true) (suf : List Tok) :
    ∃ t ts, printE l ++ suf = t :: ts ∧ startsExpr t = true := by
  obtain ⟨t, ts, h1, h2⟩ := h
  exact ⟨t, ts ++ suf, by rw [h1]; rfl, h2⟩

theorem print_head : ∀ e : Expr, okE e = true → ∃ t ts, printE e = t :: ts ∧ startsExpr t = true
  | .and l r, hok => by
    simp [okE, and_assoc] at hok
    rw [printE_and]
    exact head_of_left (print_head l hok.1) _
  | .or l r, hok => by
    simp [okE, and_assoc] at hok
    rw [printE_or]
    exact head_of_left (print_head l hok.1) _
  | .not e, _ => ⟨_, _, printE_not e, rfl⟩
  | .paren e, _ => ⟨_, _, printE_paren e, rfl⟩
  | .cmp op l r, hok => by
    simp [okE, and_assoc] at hok
    rw [printE_cmp]
    exact head_of_left (print_head l hok.1) _
  | .is op e, hok => by
    simp [okE] at hok
    rw [printE_is]
    exact head_of_left (print_head e hok.1) _
  | .exists_ s, _ => ⟨_, _, printE_exists s, rfl⟩
  | .val ty neg s, hok => by
    cases ty <;> cases neg <;> simp [okE] at hok <;> exact ⟨_, _, rfl, rfl⟩
  | .null, _ => ⟨_, _, printE_null, rfl⟩
  | .bool b, _ => ⟨_, _, printE_bool b, by cases b <;> rfl⟩
  | .col q2 q1 name, hok => by
    simp [okE] at hok
    rcases qual_cases hok.2 with ⟨rfl, rfl⟩ | ⟨rfl, h1⟩ | ⟨h2, h1⟩
    · exact ⟨_, _, (printE_col ..).trans (printColName_1 name hok.1), rfl⟩
    · exact ⟨_, _, (printE_col ..).trans (printColName_2 q1 name h1 hok.1), rfl⟩
    · exact ⟨_, _, (printE_col ..).trans (printColName_3 q2 q1 name h2 h1 hok.1), rfl⟩
  | .tuple es, _ => ⟨_, _, printE_tuple es, rfl⟩
  | .subq s, _ => ⟨_, _, printE_subq s, rfl⟩
  | .bin op l r, hok => by
    simp [okE, and_assoc] at hok
    rw [printE_bin]
    exact head_of_left (print_head l hok.1) _
  | .index l i, hok => by
    simp [okE, and_assoc] at hok
    rw [printE_index]
    exact head_of_left (print_head l hok.1) _
  | .un op e, _ => ⟨_, _, printE_un op e, by cases op <;> rfl⟩
  | .interval e unit, _ => ⟨_, _, printE_interval e unit, rfl⟩
  | .func qual name distinct args, hok => by
    simp [okE, and_assoc] at hok
    obtain ⟨hraw, hqd, _⟩ := hok
    by_cases hq : qual = ""
    · subst hq
      rcases rawOK_cases hraw with h | h <;> exact ⟨_, _, by rw [printE_func, h]; rfl, rfl⟩
    · have hd : distinct = false := by simpa [hq] using hqd
      subst hd
      exact ⟨_, _, by rw [printE_func, if_neg hq, printId_ne hq]; rfl, rfl⟩
  | .convert e t, _ => ⟨_, _, printE_convert e t, rfl⟩
  | .field e name, hok => by
    simp [okE, and_assoc] at hok
    rw [printE_field]
    exact head_of_left (print_head e hok.1) _
  | .star _ _, hok | .aliased _ _, hok | .explode _, hok | .trigCount _, hok | .trigWm, hok | .trigEos, hok
  | .trigDelay _, hok | .order _ _, hok => by simp [okE] at hok

theorem headIs_false_printE {e : Expr} (hok : okE e = true) {k : Kw} (hk : startsExpr (.kw k) = false)
    (tl : List Tok) : headIs k (printE e ++ tl) = false := by
  obtain ⟨t, ts, h, hs⟩ := print_head e hok
  rw [h]
  simp only [List.cons_append, headIs, beq_eq_false_iff_ne]
  intro ht; subst ht; rw [hk] at hs; cases hs

theorem not_startsSelect_printE {e : Expr} (hok : okE e = true) (tl : List Tok) :
    startsSelect (printE e ++ tl) = false := by
  obtain ⟨t, ts, h, hs⟩ := print_head e hok
  rw [h]
  simp only [List.cons_append, startsSelect, Bool.or_eq_false_iff, beq_eq_false_iff_ne]
  constructor <;> (intro ht; subst ht; cases hs)

/-- `okE` holds of expression nodes only: select expressions, triggers and order items have level 0 -/
theorem lvl_pos_of_okE (e : Expr) (h : okE e = true) : 1 ≤ e.lvl := by
  cases e with
  | val ty neg s => cases neg <;> simp [Expr.lvl]
  | bin op l r => cases op <;> simp [Expr.lvl, BinOp.lvl]
  | star | aliased | explode | trigCount | trigWm | trigEos | trigDelay | order => simp [okE] at h
  | _ => simp [Expr.lvl]

theorem okEs_mem {es : List Expr} (h : okEs es = true) : ∀ x ∈ es, okE x = true ∧ 1 ≤ x.lvl := fun x hx => by
  simpa using (forall_mem_of_and_rec (p := fun e => okE e && decide (1 ≤ e.lvl)) rfl (fun _ _ => rfl) es).1 h x hx

theorem depthEs_mem {es : List Expr} {d : Nat} (h : depthEs es ≤ d) : ∀ x ∈ es, depthE x ≤ d :=
  max_mem (fun _ _ => rfl) h

theorem depthEs_mem_lt {es : List Expr} {d : Nat} (h : depthEs es < d) : ∀ x ∈ es, depthE x < d :=
  fun x hx => Nat.lt_of_le_of_lt (depthEs_mem (Nat.le_refl _) x hx) h

theorem okItems_mem {es : List Expr} (h : okItems es = true) : ∀ x ∈ es, okItem x = true :=
  (forall_mem_of_and_rec rfl (fun _ _ => rfl) _).1 h

theorem headIs_false_item {it : Expr} (hok : okItem it = true) {k : Kw} (hk : startsExpr (.kw k) = false) (hs : k ≠ .STAR)
    (tl : List Tok) : headIs k (printE it ++ tl) = false := by
  cases it with
  | star q2 q1 =>
    simp [okItem] at hok
    rcases qual_cases hok with ⟨rfl, rfl⟩ | ⟨rfl, h1⟩ | ⟨h2, h1⟩
    · simpa [printE_star_0, headIs] using Ne.symm hs
    · simp [printE_star_1 q1 h1, headIs]
    · simp [printE_star_2 q2 q1 h2 h1, headIs]
  | aliased e a =>
    simp [okItem] at hok
    rw [printE_aliased, List.append_assoc]; exact headIs_false_printE hok.1 hk _
  | explode e =>
    simp [okItem] at hok
    rw [printE_explode, List.append_assoc]; exact headIs_false_printE hok.1 hk _
  | _ => simp [okItem] at hok

theorem item_rt (expr : P Expr) (D : Nat) (hE : Reads D expr 1)
    (hs1 : ∀ t rest, identOf t ≠ none → expr (t :: Tok.kw .DOT :: Tok.kw .STAR :: rest) = none)
    (hs2 : ∀ t1 t2 rest, identOf t1 ≠ none → identOf t2 ≠ none →
      expr (t1 :: Tok.kw .DOT :: t2 :: Tok.kw .DOT :: Tok.kw .STAR :: rest) = none)
    (it : Expr) (hok : okItem it = true) (hd : depthE it ≤ D) (rest : List Tok) (hf : followItem rest = true) :
    parseItemWith expr (printE it ++ rest) = some (it, rest) := by
  cases it with
  | star q2 q1 =>
    simp [okItem] at hok
    rcases qual_cases hok with ⟨rfl, rfl⟩ | ⟨rfl, h1⟩ | ⟨h2, h1⟩
    · simp [printE_star_0, parseItemWith, headIs_cons]
    · simp [printE_star_1 q1 h1, parseItemWith, headIs_cons, hs1 (Tok.id q1) rest nofun,
        parseStarForm, identOf]
    · simp [printE_star_2 q2 q1 h2 h1, parseItemWith, headIs_cons,
        hs2 (Tok.id q2) (Tok.id q1) rest nofun nofun, parseStarForm, identOf]
  | aliased e a =>
    simp [okItem] at hok
    simp [depthE] at hd
    have hnotstar : ∀ tl, headIs .STAR (printE e ++ tl) = false := headIs_false_printE hok.1 rfl
    by_cases ha : a = ""
    · subst ha
      obtain ⟨hf1, hal, hex⟩ := followItem_props hf
      simp [printE_aliased, printAliasOpt, parseItemWith, hnotstar, hE e hok.1 hok.2 hd rest hf1, hex, hal]
    · have h1 := hE e hok.1 hok.2 hd (Tok.kw .AS :: Tok.id a :: rest) rfl
      simp [printE_aliased, printAliasOpt, ha, parseItemWith, hnotstar, h1, headIs_cons, parseAliasOpt, aliasOf]
  | explode e =>
    simp [okItem] at hok
    simp [depthE] at hd
    have hnotstar : ∀ tl, headIs .STAR (printE e ++ tl) = false :=
      headIs_false_printE hok.1 rfl
    have h1 := hE e hok.1 (by omega) hd (Tok.kw .JSON_EXPLODE_OP :: rest) rfl
    simp [printE_explode, parseItemWith, hnotstar, h1, headIs_cons, isValue_of_lvl hok.2]
  | _ => simp [okItem] at hok

section level
variable {prev : Parsers} {d : Nat}

/-- `e` prints as `l` and a non-empty suffix `suf` which one turn of `loop`, in front of `rest`, folds into `e`; `l` may
    stand at level `k` within nesting depth `d`, and the suffix starts with a token that does not continue level `k + 1` -/
structure LeftStep (d k : Nat) (loop : Nat → Expr → List Tok → Option (Expr × List Tok)) (e : Expr) (rest : List Tok)
    (l : Expr) (suf : List Tok) : Prop where
  print : printE e = printE l ++ suf
  nonempty : suf ≠ []
  ok : okE l = true
  lvl : k ≤ l.lvl
  depth : depthE l ≤ d
  followSuf : follow (k + 1) (suf ++ rest) = true
  step : ∀ m, loop (m + 1) l (suf ++ rest) = loop m e rest

/-- One level `k` of a left-recursive rule over the next tighter level: `p` runs `next` and then a fuelled `loop`.
    An `e` of level `k` has a `LeftStep`; the loop stops in front of a token that does not continue level `k`. -/
theorem rtLeft (k : Nat) (p next : P Expr) (loop : Nat → Expr → List Tok → Option (Expr × List Tok))
    (hrun : ∀ ts, p ts = match next ts with
      | none => none
      | some (a, r) => loop (ts.length + 1) a r)
    (hnext : Reads d next (k + 1))
    (hstop : ∀ m acc rest, follow k rest = true → loop (m + 1) acc rest = some (acc, rest))
    (hdec : ∀ e, okE e = true → e.lvl = k → depthE e ≤ d → ∀ rest, follow (k + 1) rest = true →
      ∃ l suf, LeftStep d k loop e rest l suf) :
    Reads d p k := by
  intro e hok hl hd rest hf
  obtain ⟨a, r, h1, h2⟩ := leftRec_rt next loop printE
    (fun e rest => okE e = true ∧ k ≤ e.lvl ∧ depthE e ≤ d ∧ follow (k + 1) rest = true)
    (fun _ rest => follow k rest = true)
    (fun e rest ⟨hok, hl, hd, hf⟩ => by
      by_cases hk : k + 1 ≤ e.lvl
      · exact Or.inl (hnext e hok hk hd rest hf)
      · obtain ⟨l, suf, h⟩ := hdec e hok (by omega) hd rest hf
        exact Or.inr ⟨l, suf, h.print, h.nonempty, ⟨h.ok, h.lvl, h.depth, h.followSuf⟩, h.step⟩)
    hstop e rest ⟨hok, hl, hd, follow_mono (Nat.le_succ k) hf⟩ hf
  rw [hrun, h1]; exact h2

/-- One level `k` of prefix operators over the next tighter level.  `p` reads whatever `next` reads, and an `e` of level `k`
    prints as one token in front of an `e'` of level ≥ `k` which `p`, having read it, turns into `e`.
    (Induction on the number of printed tokens.) -/
theorem rtPrefix (k : Nat) (p next : P Expr) (hup : ∀ {ts x}, next ts = some x → p ts = some x)
    (hnext : Reads d next (k + 1))
    (hdec : ∀ e, okE e = true → e.lvl = k → depthE e ≤ d → ∃ t e', okE e' = true ∧ k ≤ e'.lvl ∧ depthE e' ≤ d ∧
      printE e = t :: printE e' ∧
      ∀ rest, p (printE e' ++ rest) = some (e', rest) → p (t :: (printE e' ++ rest)) = some (e, rest)) :
    Reads d p k := by
  have : ∀ n e, (printE e).length < n → okE e = true → k ≤ e.lvl → depthE e ≤ d → ∀ rest, follow k rest = true →
      p (printE e ++ rest) = some (e, rest) := by
    intro n
    induction n with
    | zero => intro e h; exact absurd h (Nat.not_lt_zero _)
    | succ n ih =>
      intro e hsz hok hl hd rest hf
      by_cases hk : k + 1 ≤ e.lvl
      · exact hup (hnext e hok hk hd rest (follow_mono (Nat.le_succ k) hf))
      · obtain ⟨t, e', hok', hl', hd', hpr, hstep⟩ := hdec e hok (by omega) hd
        rw [hpr, List.length_cons] at hsz
        rw [hpr]
        exact hstep rest (ih e' (by omega) hok' hl' hd' rest hf)
  exact fun e => this _ e (Nat.lt_succ_self _)

theorem tokLevel_binTok (op : BinOp) : tokLevel op.tok = op.lvl := by cases op <;> rfl

/-- one level `k` of left-associative operators `R` (printed as `tokOf op`, built by `mk op`) over the next tighter level -/
theorem rtBinLevel {Op : Type} (k : Nat) (next : P Expr) (opOf : Tok → Option Op) (mk : Op → Expr → Expr → Expr)
    (tokOf : Op → Tok) (R : Op → Prop)
    (hop : ∀ op, R op → opOf (tokOf op) = some op ∧ tokLevel (tokOf op) = k)
    (hstop : ∀ t, tokLevel t < k → opOf t = none)
    (hnext : Reads d next (k + 1))
    (hdec : ∀ e, okE e = true → e.lvl = k → ∃ op l r, R op ∧ e = mk op l r ∧ okE l = true ∧ okE r = true ∧ k ≤ l.lvl ∧
      k + 1 ≤ r.lvl ∧ depthE e = max (depthE l) (depthE r) ∧ printE e = printE l ++ tokOf op :: printE r) :
    Reads d (binLevel next opOf mk) k :=
  rtLeft k (binLevel next opOf mk) next (binLoop next opOf mk) (fun _ => rfl) hnext
    (fun m acc rest hf =>
      binLoop_stop next opOf mk m acc rest (fun t ts h => hstop t (by subst h; simpa [follow] using hf)))
    (by
      intro e hok hlk hd rest hf
      obtain ⟨op, l, r, hR, rfl, hokl, hokr, hll, hlr, hde, hpe⟩ := hdec e hok hlk
      rw [hde, Nat.max_le] at hd
      exact ⟨l, tokOf op :: printE r,
        { print := hpe, nonempty := List.cons_ne_nil _ _, ok := hokl, lvl := hll, depth := hd.1
          followSuf := follow_cons.2 (by rw [(hop op hR).2]; exact Nat.lt_succ_self k)
          step := fun m => by simp [binLoop, (hop op hR).1, hnext r hokr hlr hd.2 rest hf] }⟩)

theorem rtBin (k : Nat) (hk6 : 6 ≤ k) (hk11 : k ≤ 11) (next : P Expr) (ops : Tok → Option BinOp)
    (hops1 : ∀ op : BinOp, op.lvl = k → ops op.tok = some op) (hops2 : ∀ t, tokLevel t < k → ops t = none)
    (hnext : Reads d next (k + 1)) : Reads d (binLevel next ops Expr.bin) k :=
  rtBinLevel k next ops Expr.bin BinOp.tok (fun op => op.lvl = k)
    (fun op h => ⟨hops1 op h, (tokLevel_binTok op).trans h⟩) hops2 hnext
    (by
      intro e hok hlk
      cases e with
      | bin op l r =>
        simp [okE, and_assoc] at hok
        obtain ⟨hokl, hokr, hll, hlr⟩ := hok
        simp [Expr.lvl] at hlk
        exact ⟨op, l, r, hlk, rfl, hokl, hokr, by omega, by omega, rfl, printE_bin op l r⟩
      -- the other nodes have a level outside 6 … 11 (`hk6`, `hk11`)
      | val ty neg s => cases neg <;> simp [Expr.lvl] at hlk <;> omega
      | _ => simp [Expr.lvl] at hlk <;> omega)

variable (hp : PrevOK prev d)
include hp

theorem exprListClose_rt (x : Expr) (xs : List Expr) (hok : okEs (x :: xs) = true) (hd : depthEs (x :: xs) < d)
    (rest : List Tok) :
    parseExprListClose prev (printE x ++ (ListFmt.items [Tok.kw .COMMA] (printEs xs) ++ Tok.kw .RPAREN :: rest)) =
      some (x :: xs, rest) := by
  have h := sepBy1_before prev.expr printE (Tok.kw .RPAREN) (by simp) x xs
    (fun e he r hr => hp.expr e (okEs_mem hok e he).1 (okEs_mem hok e he).2 (depthEs_mem_lt hd e he) r
      (by obtain ⟨ts, rfl | rfl⟩ := hr <;> rfl)) rest
  unfold parseExprListClose
  rw [printEs_eq_map, h]
  simp

theorem subqueryBody_rt (s : Sel) (hok : okS s = true) (hs : s.isStmt = true) (hd : depthS s < d) (rest : List Tok) :
    parseSubqueryBody prev (printS s ++ Tok.kw .RPAREN :: rest) = some (s, rest) := by
  unfold parseSubqueryBody
  rw [hp.sel s hok hs hd _ (by simp [followS])]
  simp

theorem depthEs_cons_le {x : Expr} {xs : List Expr} {D : Nat} (h : depthEs (x :: xs) ≤ D) :
    ∀ y ∈ x :: xs, depthE y ≤ D := depthEs_mem h

theorem argsClose_rt (x : Expr) (xs : List Expr) (hok : okItems (x :: xs) = true) (hd : depthEs (x :: xs) < d)
    (rest : List Tok) :
    parseArgsClose prev (printE x ++ (ListFmt.items [Tok.kw .COMMA] (printEs xs) ++ Tok.kw .RPAREN :: rest)) =
      some (x :: xs, rest) := by
  have h := sepBy1_before (parseItemWith prev.expr) printE (Tok.kw .RPAREN) (by simp) x xs
    (fun e he r hr =>
      -- at `D := depthE e`, so that the `<` of `PrevOK.expr` feeds the `≤` of `Reads`
      item_rt prev.expr (depthE e)
        (fun e' hok' hlvl' hdep' => hp.expr e' hok' hlvl' (Nat.lt_of_le_of_lt hdep' (depthEs_mem_lt hd e he)))
        hp.star1 hp.star2 e (okItems_mem hok e he) (Nat.le_refl _) r (by obtain ⟨ts, rfl | rfl⟩ := hr <;> rfl)) rest
  unfold parseArgsClose
  rw [printEs_eq_map, h]
  simp

theorem callRest_rt (qual name : String) (distinct allow : Bool) (args : List Expr)
    (hok : okItems args = true) (hd : depthEs args < d) (hdist : distinct = true → allow = true ∧ args ≠ [])
    (rest : List Tok) :
    parseCallRest prev qual name allow
      ((if distinct then [Tok.kw .DISTINCT] else []) ++ (Gen.list_SelectExprs.run (printEs args) ++ Tok.kw .RPAREN :: rest)) =
      some (.func qual name distinct args, rest) := by
  cases args with
  | nil =>
    cases distinct with
    | true => exact absurd rfl (hdist rfl).2
    | false => simp [printEs, run_SelectExprs_nil, parseCallRest, headIs_cons]
  | cons x xs =>
    have hx := okItems_mem hok x (by simp)
    have hargs := argsClose_rt hp x xs hok hd rest
    cases distinct with
    | true =>
      have := (hdist rfl).1
      subst this
      simp [printEs, run_SelectExprs_cons, parseCallRest, headIs_cons, hargs]
    | false =>
      simp [printEs, run_SelectExprs_cons, parseCallRest, hargs, headIs_false_item hx (k := .RPAREN) rfl (by decide),
        headIs_false_item hx (k := .DISTINCT) rfl (by decide)]

theorem rt14 : Reads d (parseAtom prev) 14 := by
  intro e hok hl hd rest hf
  cases e with
  | val ty neg s =>
    cases neg with
    | true => simp [Expr.lvl] at hl
    | false => cases ty <;> rfl
  | null => rw [printE_null]; rfl
  | bool b => cases b <;> simp [printE_bool, parseAtom]
  | col q2 q1 name =>
    simp [okE] at hok
    have hlp := headIs_false_of_follow hf (k := .LPAREN) (by decide)
    have hdot := headIs_false_of_follow hf (k := .DOT) (by decide)
    rcases qual_cases hok.2 with ⟨rfl, rfl⟩ | ⟨rfl, h1⟩ | ⟨h2, h1⟩
    · simp [printE_col, printColName_1 name hok.1, parseAtom, parseIdentRest, hlp, hdot]
    · simp [printE_col, printColName_2 q1 name h1 hok.1, parseAtom, parseIdentRest, headIs_cons, identOf, hlp, hdot]
    · simp [printE_col, printColName_3 q2 q1 name h2 h1 hok.1, parseAtom, parseIdentRest, headIs_cons, identOf]
  | paren e =>
    simp [okE] at hok
    simp [depthE] at hd
    have hss := not_startsSelect_printE hok.1 (Tok.kw .RPAREN :: rest)
    have h := exprListClose_rt hp e [] (by simp [okEs, hok.1, hok.2]) (by simp [depthEs]; omega) rest
    simp [printEs, ListFmt.items] at h
    simp [printE_paren, parseAtom, parseParenRest, hss, h]
  | tuple es =>
    simp [okE] at hok
    simp [depthE] at hd
    -- `hok` says that the tuple has two elements at least, which refutes the patterns `[]` and `[x]` left out
    match es, hok with
    | x :: y :: zs, hok =>
      have hx := okEs_mem hok.1 x (by simp)
      have hss := not_startsSelect_printE hx.1
      have h := exprListClose_rt hp x (y :: zs) hok.1 hd rest
      simp [printE_tuple, printEs, run_Exprs_cons, parseAtom, parseParenRest, hss] at h ⊢
      simp [h]
  | subq s =>
    simp [okE] at hok
    simp [depthE] at hd
    simp [printE_subq, parseAtom, parseParenRest, startsSelect_printS s hok.2,
      subqueryBody_rt hp s hok.1 hok.2 hd rest]
  | interval e unit =>
    simp [okE, and_assoc] at hok
    obtain ⟨hoke, hle, hraw⟩ := hok
    simp [depthE] at hd
    obtain ⟨tu, hu, hiu, hlu⟩ := rawWord_ident hraw
    have h := hp.val e hoke hle hd (tu :: rest) (follow_of_level0 hlu 6 (by decide))
    simp [printE_interval, hu, parseAtom, parseIntervalRest, h, hiu]
  | func qual name distinct args =>
    simp [okE, and_assoc] at hok
    obtain ⟨hraw, hqd, hda, hargs⟩ := hok
    simp [depthE] at hd
    obtain ⟨tn, hn, hin, _⟩ := rawWord_ident hraw
    by_cases hq : qual = ""
    · subst hq
      have hdist : distinct = true → (true = true ∧ args ≠ []) := fun h => ⟨rfl, hda.resolve_left (by simp [h])⟩
      have hc := callRest_rt hp "" name distinct true args hargs hd hdist rest
      simp [printE_func, hn, parseAtom_ident hin, parseIdentRest, headIs_cons, hc]
    · have hdf : distinct = false := by simpa [hq] using hqd
      subst hdf
      have hc := callRest_rt hp qual name false false args hargs hd (by simp) rest
      simp at hc
      simp [printE_func, hq, printId_ne hq, hn, parseAtom, parseIdentRest, headIs_cons, hin, hc]
  | convert e t =>
    simp [okE, and_assoc] at hok
    obtain ⟨hoke, hle, hty⟩ := hok
    simp [depthE] at hd
    have h := hp.expr e hoke hle hd (Tok.kw .COMMA :: (printConvTy t ++ Tok.kw .RPAREN :: rest))
      rfl
    simp [printE_convert, parseAtom, headIs_cons, parseConvertRest, h, convTyClose_rt t hty]
  | bin op _ _ => cases op <;> simp [Expr.lvl, BinOp.lvl] at hl
  | _ => simp [Expr.lvl] at hl

theorem rt13 : Reads d (parsePostfix prev) 13 :=
  rtLeft 13 (parsePostfix prev) (parseAtom prev) (postfixLoop prev) (fun _ => rfl) (rt14 hp) postfixLoop_stop (by
    intro e hok h13 hd rest hf
    cases e with
    | field e' name =>
      simp [okE, and_assoc] at hok
      obtain ⟨hoke, hle, hname⟩ := hok
      simp [depthE] at hd
      exact ⟨e', [Tok.kw .JSON_EXTRACT_OP, Tok.id name],
        { print := by rw [printE_field, printId_ne hname], nonempty := by simp, ok := hoke, lvl := hle, depth := hd
          followSuf := rfl, step := fun m => by simp [postfixLoop, identOf] }⟩
    | index l i =>
      simp [okE, and_assoc] at hok
      obtain ⟨hokl, hoki, hll, hli⟩ := hok
      simp [depthE] at hd
      have hv := hp.val i hoki hli (by omega) (Tok.kw .RBRACK :: rest) rfl
      exact ⟨l, Tok.kw .LBRACK :: (printE i ++ [Tok.kw .RBRACK]),
        { print := printE_index l i, nonempty := by simp, ok := hokl, lvl := hll, depth := by omega
          followSuf := rfl, step := fun m => by simp [postfixLoop, hv] }⟩
    | val ty neg s => cases neg <;> cases h13
    | bin op _ _ => cases op <;> cases h13
    | _ => cases h13)

/-- a negative integer literal reads as `-` in front of the positive one, which `mkNeg` folds back -/
theorem rt12 : Reads d (parseUnary prev) 12 :=
  rtPrefix 12 (parseUnary prev) (parsePostfix prev) parseUnary_of_postfix (rt13 hp) (by
    intro e hok h12 hd
    cases e with
    | un op e' =>
      simp [okE, and_assoc] at hok
      obtain ⟨hoke, hle, hnoint⟩ := hok
      simp [depthE] at hd
      refine ⟨op.tok, e', hoke, hle, hd, printE_un op e', fun rest hr => ?_⟩
      cases op with
      | minus => simp [UnOp.tok, parseUnary, hr, mkNeg_mkPos_of_not_int (e := e') (by simpa using hnoint)]
      | plus => simp [UnOp.tok, parseUnary, hr, mkNeg_mkPos_of_not_int (e := e') (by simpa using hnoint)]
      | bang => simp [UnOp.tok, parseUnary, hr]
      | tilde => simp [UnOp.tok, parseUnary, hr]
    | val ty neg s =>
      cases neg with
      | false => cases h12
      | true =>
        simp [okE] at hok
        subst hok
        exact ⟨Tok.kw .MINUS, .val .int false s, rfl, by simp [Expr.lvl], Nat.zero_le d, rfl, fun rest hr => by
          simp [parseUnary, hr, mkNeg]⟩
    | bin op _ _ => cases op <;> cases h12
    | _ => cases h12)

-- The operator table of each level is taken apart arm by arm (as `cmpOpOf` in `condRest_stop`).
theorem rt11 : Reads d (parseL11 prev) 11 :=
  rtBin 11 (by decide) (by decide) (parseUnary prev) opsL11
    (by intro op h; cases op <;> simp [BinOp.lvl] at h <;> rfl)
    (by intro t h; unfold opsL11; split <;> first | rfl | exact absurd h (by decide))
    (rt12 hp)

theorem rt10 : Reads d (parseL10 prev) 10 :=
  rtBin 10 (by decide) (by decide) (parseL11 prev) opsL10
    (by intro op h; cases op <;> simp [BinOp.lvl] at h <;> rfl)
    (by intro t h; unfold opsL10; split <;> first | rfl | exact absurd h (by decide)) (rt11 hp)

theorem rt9 : Reads d (parseL9 prev) 9 :=
  rtBin 9 (by decide) (by decide) (parseL10 prev) opsL9
    (by intro op h; cases op <;> simp [BinOp.lvl] at h <;> rfl)
    (by intro t h; unfold opsL9; split <;> first | rfl | exact absurd h (by decide)) (rt10 hp)

theorem rt8 : Reads d (parseL8 prev) 8 :=
  rtBin 8 (by decide) (by decide) (parseL9 prev) opsL8
    (by intro op h; cases op <;> simp [BinOp.lvl] at h <;> rfl)
    (by intro t h; unfold opsL8; split <;> first | rfl | exact absurd h (by decide)) (rt9 hp)

theorem rt7 : Reads d (parseL7 prev) 7 :=
  rtBin 7 (by decide) (by decide) (parseL8 prev) opsL7
    (by intro op h; cases op <;> simp [BinOp.lvl] at h <;> rfl)
    (by intro t h; unfold opsL7; split <;> first | rfl | exact absurd h (by decide)) (rt8 hp)

theorem rt6 : Reads d (parseVal prev) 6 :=
  rtBin 6 (by decide) (by decide) (parseL7 prev) opsL6
    (by intro op h; cases op <;> simp [BinOp.lvl] at h <;> rfl)
    (by intro t h; unfold opsL6; split <;> first | rfl | exact absurd h (by decide)) (rt7 hp)

theorem colTuple_rt (r : Expr) (hok : okInRhs r = true) (hd : depthE r ≤ d) (rest : List Tok) :
    parseColTuple prev (printE r ++ rest) = some (r, rest) := by
  cases r with
  | tuple es =>
    simp [okInRhs] at hok
    simp [depthE] at hd
    match es, hok with
    | x :: xs, hok =>
      have hx := okEs_mem hok.1 x (by simp)
      have hss := not_startsSelect_printE hx.1
      have h := exprListClose_rt hp x xs hok.1 hd rest
      simp [printE_tuple, printEs, run_Exprs_cons, parseColTuple, headIs_cons, hss] at h ⊢
      simp [h]
  | subq s =>
    simp [okInRhs] at hok
    simp [depthE] at hd
    simp [printE_subq, parseColTuple, headIs_cons, startsSelect_printS s hok.2,
      subqueryBody_rt hp s hok.1 hok.2 hd rest]
  | _ => simp [okInRhs] at hok

theorem rt5 : Reads d (parseCond prev) 5 := by
  intro e hok hl hd rest hf
  have hf6 : follow 6 rest = true := follow_mono (by omega) hf
  by_cases h6 : 6 ≤ e.lvl
  · rw [parseCond_of_val (rt6 hp e hok h6 hd rest hf6)]; exact condRest_stop e rest hf
  · have h5 : e.lvl = 5 := by omega
    cases e with
    | exists_ s =>
      simp [okE] at hok
      simp [depthE] at hd
      simp [printE_exists, parseCond, headIs_cons, startsSelect_printS s hok.2,
        subqueryBody_rt hp s hok.1 hok.2 hd rest]
    | cmp op l r =>
      simp [okE, and_assoc] at hok
      obtain ⟨hokl, hll, hokr⟩ := hok
      simp [depthE] at hd
      have hr : (if op.isIn then parseColTuple prev (printE r ++ rest) else parseVal prev (printE r ++ rest)) =
          some (r, rest) := by
        cases hin : op.isIn <;> simp [hin] at hokr ⊢
        · exact rt6 hp r hokr.1 hokr.2 (by omega) rest hf6
        · exact colTuple_rt hp r hokr (by omega) rest
      rw [printE_cmp, List.append_assoc, List.append_assoc,
        parseCond_of_val (rt6 hp l hokl hll (by omega) _ (follow6_cmpToks op _)), condRest_op]
      simp [parseCmpRhs, hr]
    | val ty neg s => cases neg <;> cases h5
    | bin op _ _ => cases op <;> cases h5
    | _ => cases h5

theorem rt4 : Reads d (parseIs prev) 4 :=
  rtLeft 4 (parseIs prev) (parseCond prev) isLoop (fun _ => rfl) (rt5 hp) isLoop_stop (by
    intro e hok h4 hd rest hf
    cases e with
    | is op e' =>
      simp [okE] at hok
      simp [depthE] at hd
      obtain ⟨tl, htoks, hsuf⟩ := isSuffix_rt op rest
      exact ⟨e', op.toks,
        { print := printE_is op e', nonempty := by simp [htoks], ok := hok.1, lvl := hok.2, depth := hd
          followSuf := by rw [htoks]; rfl, step := fun m => by simp [htoks, isLoop, hsuf] }⟩
    | val ty neg s => cases neg <;> cases h4
    | bin op _ _ => cases op <;> cases h4
    | _ => cases h4)

theorem rt3 : Reads d (parseNot prev) 3 :=
  rtPrefix 3 (parseNot prev) (parseIs prev) parseNot_of_is (rt4 hp) (by
    intro e hok h3 hd
    cases e with
    | not e' =>
      simp [okE] at hok
      simp [depthE] at hd
      exact ⟨Tok.kw .NOT, e', hok.1, hok.2, hd, printE_not e', fun rest hr => by simp [parseNot, hr]⟩
    | val ty neg s => cases neg <;> cases h3
    | bin op _ _ => cases op <;> cases h3
    | _ => cases h3)

theorem rt2 : Reads d (parseAnd prev) 2 :=
  rtBinLevel 2 (parseNot prev) andOpOf (fun _ l r => Expr.and l r) (fun _ => Tok.kw .AND) (fun _ => True)
    (fun _ _ => ⟨rfl, rfl⟩) (by intro t h; unfold andOpOf; split <;> first | rfl | exact absurd h (by decide))
    (rt3 hp)
    (by
      intro e hok hlk
      cases e with
      | and l r =>
        simp [okE, and_assoc] at hok
        obtain ⟨hokl, hokr, hll, hlr⟩ := hok
        exact ⟨(), l, r, trivial, rfl, hokl, hokr, hll, hlr, rfl, printE_and l r⟩
      | val ty neg s => cases neg <;> cases hlk
      | bin op _ _ => cases op <;> cases hlk
      | _ => cases hlk)

theorem rt1 : Reads d (parseExpr prev) 1 :=
  rtBinLevel 1 (parseAnd prev) orOpOf (fun _ l r => Expr.or l r) (fun _ => Tok.kw .OR) (fun _ => True)
    (fun _ _ => ⟨rfl, rfl⟩) (by intro t h; unfold orOpOf; split <;> first | rfl | exact absurd h (by decide)) (rt2 hp)
    (by
      intro e hok hlk
      cases e with
      | or l r =>
        simp [okE, and_assoc] at hok
        obtain ⟨hokl, hokr, hll, hlr⟩ := hok
        exact ⟨(), l, r, trivial, rfl, hokl, hokr, hll, hlr, rfl, printE_or l r⟩
      | val ty neg s => cases neg <;> cases hlk
      | bin op _ _ => cases op <;> cases hlk
      | _ => cases hlk)

end level

end Octo.SqlSyn
