import Octo.Lemmas.SqlJoinRel
import Octo.Lemmas.JoinNet
/-!
  Relations as retraction-free changelogs (`asRecs`), the generic operators of `JoinNet` on them (`glookup`: the
  dependent join without a match predicate), and: the relational reading of a plan does not distinguish equivalent variable
  contexts (`planBag_ctx_congr`) — needed because a LookupJoin re-runs its joined side under the *records* of its
  source, and two records that compare equal need not be identical (`0.0` / `-0.0`).
-/
namespace Octo.SqlJoin
open Octo Octo.Sql Octo.Join

theorem evalAll_congr (es : List SExpr) {r r' : List Value} (h : cmpList r r' = 0) :
    optRowEq (evalAll r es) (evalAll r' es) := by
  induction es with
  | nil => simp [evalAll, optRowEq, cmpList, cmpListWith]
  | cons e es ih =>
    have he := eval_congr e h
    simp only [evalAll]
    cases ea : eval r e <;> cases ea' : eval r' e <;> simp only [ea, ea', optEq] at he ⊢
    · cases evalAll r es <;> cases evalAll r' es <;> trivial
    · cases eb : evalAll r es <;> cases eb' : evalAll r' es <;> simp only [eb, eb', optRowEq] at ih ⊢ <;> try trivial
      exact cmpList_cons_iff.mpr ⟨he, ih⟩

def asRecs (B : List VRow) : List Rec := B.map mkRec

theorem asRecs_append (A B : List VRow) : asRecs (A ++ B) = asRecs A ++ asRecs B := by simp [asRecs]

theorem rowOp_asRecs (h : VRow → Option VRow) (B : List VRow) : rowOp h (asRecs B) = asRecs (B.filterMap h) := by
  simp only [rowOp, asRecs, List.filterMap_map, List.map_filterMap]
  rfl

def filterH (p : SExpr) (ctx : VRow) : VRow → Option VRow := fun v => if isTrue (ctx ++ v) p then some v else none

theorem filterH_congr (p : SExpr) {ctx ctx' : VRow} (hc : cmpList ctx ctx' = 0) : OpCongr (filterH p ctx) (filterH p ctx') := by
  intro a b hab
  simp only [filterH, isTrue_congr p (cmpList_append_eq hc hab)]
  split
  · exact hab
  · trivial

theorem evalAll_opCongr (es : List SExpr) {ctx ctx' : VRow} (hc : cmpList ctx ctx' = 0) :
    OpCongr (fun v => evalAll (ctx ++ v) es) (fun v => evalAll (ctx' ++ v) es) :=
  fun _ _ hab => evalAll_congr es (cmpList_append_eq hc hab)

theorem filter_isTrue_eq_filterMap (p : SExpr) (ctx : VRow) (B : List VRow) :
    (B.filter fun r => isTrue (ctx ++ r) p) = B.filterMap (filterH p ctx) :=
  (congrFun List.filterMap_eq_filter B).symm

theorem pairRec_mkRec (a b : VRow) : pairRec (mkRec a) (mkRec b) = mkRec (a ++ b) := rfl

theorem gjoin_asRecs (m : VRow → VRow → Bool) (BL BR : List VRow) :
    gjoin m (asRecs BL) (asRecs BR) = asRecs (relInner m BL BR) := by
  simp only [gjoin, gdep, relInner, asRecs, List.flatMap_map, List.map_flatMap, List.filter_map, List.map_map]
  rfl

theorem gpartL_asRecs_count (m : VRow → VRow → Bool) (a : VRow) (BR : List VRow) :
    gpartL m a (asRecs BR) = (BR.countP fun b => m a b : Nat) := by
  unfold gpartL asRecs
  induction BR with
  | nil => rfl
  | cons b BR ih =>
    rw [List.map_cons, wsum_cons, ih, List.countP_cons]
    show (if m a b then 1 else 0) + _ = _
    cases m a b <;> simp <;> omega

theorem gpartL_asRecs (m : VRow → VRow → Bool) (a : VRow) (BR : List VRow) :
    (gpartL m a (asRecs BR) == 0) = !(BR.any fun b => m a b) := by
  rw [gpartL_asRecs_count, Bool.eq_iff_iff]
  simp [List.countP_eq_zero]

theorem gpad_asRecs (m : VRow → VRow → Bool) (pad : VRow → VRow) (X Y : List VRow) :
    gpad m pad (asRecs X) (asRecs Y) = asRecs ((X.filter fun a => !(Y.any fun b => m a b)).map pad) := by
  unfold gpad asRecs
  rw [List.map_map]
  exact filter_map_congr (fun a _ => gpartL_asRecs m a Y) (fun _ _ => rfl)

theorem gouter_asRecs (m : VRow → VRow → Bool) (oL oR : Bool) (nL nR : Nat) (BL BR : List VRow) :
    gouter m oL oR nL nR (asRecs BL) (asRecs BR) = asRecs (relOuter m oL oR nL nR BL BR) := by
  unfold gouter relOuter
  rw [asRecs_append, asRecs_append, gjoin_asRecs]
  congr 1
  · congr 1
    cases oL
    · rfl
    -- the ascription unfolds `relPadL`: its `nullRow nR` and the `nulls nR` of `gouter` are both `List.replicate nR .null`
    · exact (gpad_asRecs m _ BL BR : _ = asRecs (relPadL m nR BL BR))
  · cases oR
    · rfl
    · exact (gpad_asRecs _ _ BR BL : _ = asRecs (relPadR m nL BL BR))

theorem keyMatch_congr (kl kr : List SExpr) {ctx ctx' : VRow} (hc : cmpList ctx ctx' = 0) {a a' b b' : VRow}
    (ha : cmpList a a' = 0) (hb : cmpList b b' = 0) : keyMatch kl kr ctx a b = keyMatch kl kr ctx' a' b' := by
  unfold keyMatch
  have h1 := evalAll_congr kl (cmpList_append_eq hc ha)
  have h2 := evalAll_congr kr (cmpList_append_eq hc hb)
  cases e1 : evalAll (ctx ++ a) kl <;> cases e1' : evalAll (ctx' ++ a') kl <;> simp only [e1, e1', optRowEq] at h1 ⊢
  cases e2 : evalAll (ctx ++ b) kr <;> cases e2' : evalAll (ctx' ++ b') kr <;> simp only [e2, e2', optRowEq] at h2 ⊢
  rw [hasNull_congr h1, rowEq_congr_left (rowEq_iff.mpr h1), rowEq_congr_right (rowEq_iff.mpr h2)]

theorem keyMatch_ctx (kl kr : List SExpr) {ctx ctx' : VRow} (hc : cmpList ctx ctx' = 0) :
    keyMatch kl kr ctx = keyMatch kl kr ctx' := by
  funext a b; exact keyMatch_congr kl kr hc (cmpList_refl a) (cmpList_refl b)

theorem keyMatch_mcongr (kl kr : List SExpr) (ctx : VRow) : MCongr (keyMatch kl kr ctx) :=
  fun _ _ _ _ ha hb => keyMatch_congr kl kr (cmpList_refl ctx) ha hb

def lookPair (l r : Rec) : Rec := { vals := l.vals ++ r.vals, retr := l.retr != r.retr, et := l.et }

theorem lookPair_like : PairLike lookPair := fun _ _ => ⟨rfl, rfl⟩

def matchAll : VRow → VRow → Bool := fun _ _ => true

theorem matchAll_mcongr : MCongr matchAll := fun _ _ _ _ _ _ => rfl

theorem filter_matchAll (a : VRow) (X : List Rec) : (X.filter fun r => matchAll a r.vals) = X :=
  List.filter_eq_self.mpr fun _ _ => rfl

/-- `LookupJoin.Run` when every run of the joined side succeeds -/
def glookup (J : VRow → List Rec) (L : List Rec) : List Rec := gdep matchAll lookPair J L

theorem glookup_eq (J : VRow → List Rec) (L : List Rec) :
    glookup J L = L.flatMap fun l => (J l.vals).map (lookPair l) :=
  flatMap_congr_mem fun l _ => by rw [filter_matchAll]

theorem glookup_netEq {J J' : VRow → List Rec} {L L' : List Rec} (hJ : ∀ l ∈ L, NetEq (J l.vals) (J' l.vals))
    (hJ' : ∀ a a', cmpList a a' = 0 → NetEq (J' a) (J' a')) (hL : NetEq L L') : NetEq (glookup J L) (glookup J' L') :=
  (gdep_inner lookPair_like matchAll_mcongr hJ).trans (gdep_outer lookPair_like matchAll_mcongr hJ' hL)

theorem glookup_asRecs (J : VRow → List VRow) (BL : List VRow) :
    glookup (fun a => asRecs (J a)) (asRecs BL) = asRecs (relDep J BL) := by
  rw [glookup_eq]
  unfold relDep asRecs
  rw [List.flatMap_map, List.map_flatMap]
  apply flatMap_congr_mem
  intro a _
  rw [List.map_map, List.map_map]
  rfl

theorem planBag_ctx_congr (db : Db) : ∀ (p : Plan) {ctx ctx' : VRow}, cmpList ctx ctx' = 0 →
    NetEq (asRecs (planBag db p ctx)) (asRecs (planBag db p ctx')) := by
  intro p
  induction p with
  | scan i => intro ctx ctx' _; exact NetEq.refl _
  | filter q s ih =>
    intro ctx ctx' hc
    simp only [planBag, filter_isTrue_eq_filterMap, ← rowOp_asRecs]
    exact rowOp_netEq (filterH_congr q hc) (ih hc)
  | map es s ih =>
    intro ctx ctx' hc
    simp only [planBag, ← rowOp_asRecs]
    exact rowOp_netEq (evalAll_opCongr es hc) (ih hc)
  | streamJoin kl kr l r ihl ihr =>
    intro ctx ctx' hc
    simp only [planBag, ← gjoin_asRecs, keyMatch_ctx kl kr hc]
    exact gjoin_netEq (keyMatch_mcongr kl kr ctx') (ihl hc) (ihr hc)
  | outerJoin isL isR kl kr l r ihl ihr =>
    intro ctx ctx' hc
    simp only [planBag, ← gouter_asRecs, keyMatch_ctx kl kr hc]
    exact gouter_netEq (keyMatch_mcongr kl kr ctx') isL isR _ _ (ihl hc) (ihr hc)
  | lookupJoin s j ihs ihj =>
    intro ctx ctx' hc
    simp only [planBag, ← glookup_asRecs]
    refine glookup_netEq ?_ ?_ (ihs hc)
    · intro l _
      exact ihj (cmpList_append_eq hc (cmpList_refl _))
    · intro a a' ha
      exact ihj (cmpList_append_eq (cmpList_refl ctx') ha)

end Octo.SqlJoin
