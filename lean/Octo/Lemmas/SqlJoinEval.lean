import Octo.Lemmas.Comparator
import Octo.Spec.JoinSem
/-!
  Expressions in the join proofs (C02). Rows are identified by `Compare = 0`, so `eval` must not tell equivalent rows
  apart (`eval_congr`); a conjunction is TRUE iff all its parts are only for predicates (`predOK`, `isTrue_splitAnd`).
-/
namespace Octo.SqlJoin
open Octo Octo.Sql Octo.Join

theorem cmp_refl (a : Value) : cmp a a = 0 := Octo.cmp_refl a
theorem cmp_antisymm (a b : Value) : cmp a b = - cmp b a := Octo.cmp_antisymm a b
theorem cmp_trans (a b c : Value) : cmp a b ≤ 0 → cmp b c ≤ 0 → cmp a c ≤ 0 := Octo.cmp_trans a b c

def asInt : Value → Option Int
  | .int i => some i
  | _ => none

/-- all that `and`, `or`, `not` and `isTrue` look at in a value -/
def tv : Value → Nat
  | .null => 0
  | .bool false => 1
  | .bool true => 2
  | _ => 3

theorem tv_congr {x y : Value} (h : cmp x y = 0) : tv x = tv y := by
  cases Value.cmpEq_of_zero h <;> rfl

theorem asInt_congr {x y : Value} (h : cmp x y = 0) : asInt x = asInt y := by
  cases Value.cmpEq_of_zero h <;> rfl

theorem tv_false : tv (.bool false) = 1 := rfl
theorem tv_true : tv (.bool true) = 2 := rfl
theorem tv_null : tv .null = 0 := rfl

theorem tv_eq_one (v : Value) : tv v = 1 ↔ v = .bool false := by
  cases v with
  | bool b => cases b <;> simp [tv]
  | _ => simp [tv]

theorem tv_eq_two (v : Value) : tv v = 2 ↔ v = .bool true := by
  cases v with
  | bool b => cases b <;> simp [tv]
  | _ => simp [tv]

theorem isNullV_eq_tv (v : Value) : isNullV v = (tv v == 0) := by
  cases v with
  | bool b => cases b <;> rfl
  | _ => rfl

theorem isNullV_congr {x y : Value} (h : cmp x y = 0) : isNullV x = isNullV y := by
  cases Value.cmpEq_of_zero h <;> rfl

theorem isNullV_iff (v : Value) : isNullV v = true ↔ v = .null := by
  cases v <;> simp [isNullV]

theorem applyBin_ints {op : BinOp} (h : op = .add ∨ op = .sub ∨ op = .mul) (x y : Value) :
    applyBin op x y = (asInt x).bind fun a => (asInt y).bind fun b => applyBin op (.int a) (.int b) := by
  rcases h with rfl | rfl | rfl <;> cases x <;> first | rfl | (cases y <;> rfl)

def optEq : Option Value → Option Value → Prop
  | none, none => True
  | some x, some y => cmp x y = 0
  | _, _ => False

theorem optEq_refl (o : Option Value) : optEq o o := by
  cases o with
  | none => trivial
  | some v => exact cmp_refl v

theorem applyBin_congr (op : BinOp) {x x' y y' : Value} (hx : cmp x x' = 0) (hy : cmp y y' = 0) :
    optEq (applyBin op x y) (applyBin op x' y') := by
  have hrx := cmpWith_zero_rank x x' hx
  have hry := cmpWith_zero_rank y y' hy
  have hc := cmp_congr hx hy
  cases op with
  | add | sub | mul =>
    rw [applyBin_ints (by simp), applyBin_ints (by simp), asInt_congr hx, asInt_congr hy]; exact optEq_refl _
  | eq | ne => simp only [applyBin, hc]; exact cmp_refl _
  | lt | le | gt | ge => simp only [applyBin, hc, hrx, hry]; split <;> first | exact cmp_refl _ | trivial

theorem eval_bin_eq (row : List Value) (op : BinOp) (a b : SExpr) : eval row (.bin op a b) =
    (eval row a).bind fun va => (eval row b).bind fun vb =>
      if isNullV va || isNullV vb then some .null else applyBin op va vb := by
  simp only [eval]
  cases eval row a <;> cases eval row b <;> rfl

theorem eval_and_eq (row : List Value) (a b : SExpr) : eval row (.and a b) =
    (eval row a).bind fun va =>
      if tv va = 1 then some (.bool false)
      else (eval row b).bind fun vb =>
          if tv vb = 1 then some (.bool false)
          else if tv va = 0 || tv vb = 0 then some .null else some (.bool true) := by
  simp only [eval]
  split
  · rename_i h; rw [h]; rfl
  · rename_i h; rw [h]; rfl
  · rename_i va h1 h
    rw [h, Option.bind_some, if_neg fun e => h1 ((tv_eq_one va).mp e)]
    split
    · rename_i h; rw [h]; rfl
    · rename_i h; rw [h]; rfl
    · rename_i vb h2 h
      rw [h, Option.bind_some, if_neg fun e => h2 ((tv_eq_one vb).mp e), isNullV_eq_tv, isNullV_eq_tv]
      rfl

theorem eval_or_eq (row : List Value) (a b : SExpr) : eval row (.or a b) =
    (eval row a).bind fun va =>
      if tv va = 2 then some (.bool true)
      else (eval row b).bind fun vb =>
          if tv vb = 2 then some (.bool true)
          else if tv va = 0 || tv vb = 0 then some .null else some (.bool false) := by
  simp only [eval]
  split
  · rename_i h; rw [h]; rfl
  · rename_i h; rw [h]; rfl
  · rename_i va h1 h
    rw [h, Option.bind_some, if_neg fun e => h1 ((tv_eq_two va).mp e)]
    split
    · rename_i h; rw [h]; rfl
    · rename_i h; rw [h]; rfl
    · rename_i vb h2 h
      rw [h, Option.bind_some, if_neg fun e => h2 ((tv_eq_two vb).mp e), isNullV_eq_tv, isNullV_eq_tv]
      rfl

theorem eval_not_eq (row : List Value) (a : SExpr) : eval row (.not a) =
    (eval row a).bind fun va => if tv va = 0 then some .null else if tv va = 1 then some (.bool true)
                 else if tv va = 2 then some (.bool false) else none := by
  simp only [eval]
  cases ha : eval row a with
  | none => rfl
  | some va =>
    cases va with
    | bool x => cases x <;> rfl
    | _ => rfl

theorem optEq_bind {o o' : Option Value} {f f' : Value → Option Value} (h : optEq o o')
    (hf : ∀ x y, cmp x y = 0 → optEq (f x) (f' y)) : optEq (o.bind f) (o'.bind f') := by
  cases o <;> cases o' <;> simp only [optEq] at h
  · trivial
  · exact hf _ _ h

theorem optEq_map {o o' : Option Value} {f : Value → Value} (h : optEq o o')
    (hf : ∀ x y, cmp x y = 0 → cmp (f x) (f y) = 0) : optEq (o.map f) (o'.map f) := by
  cases o <;> cases o' <;> simp only [optEq] at h
  · trivial
  · exact hf _ _ h

theorem getElem?_congr {r r' : List Value} (h : cmpList r r' = 0) (i : Nat) : optEq r[i]? r'[i]? := by
  rcases cmpList_getElem? h i with ⟨h1, h2⟩ | ⟨u, v, h1, h2, huv⟩ <;> rw [h1, h2]
  · trivial
  · exact huv

theorem eval_congr (e : SExpr) : ∀ {r r' : List Value}, cmpList r r' = 0 → optEq (eval r e) (eval r' e) := by
  induction e with
  | col i => intro r r' h; exact getElem?_congr h i
  | lit v => intro r r' _; exact cmp_refl v
  | bin op a b iha ihb =>
    intro r r' h
    rw [eval_bin_eq, eval_bin_eq]
    refine optEq_bind (iha h) (fun x x' hx => optEq_bind (ihb h) (fun y y' hy => ?_))
    rw [isNullV_congr hx, isNullV_congr hy]
    split
    · exact cmp_refl _
    · exact applyBin_congr op hx hy
  | and a b iha ihb | or a b iha ihb =>
    intro r r' h
    simp only [eval_and_eq, eval_or_eq]
    refine optEq_bind (iha h) (fun x x' hx => ?_)
    rw [tv_congr hx]
    split
    · exact cmp_refl _
    · refine optEq_bind (ihb h) (fun y y' hy => ?_)
      rw [tv_congr hy]
      exact optEq_refl _
  | not a iha =>
    intro r r' h
    rw [eval_not_eq, eval_not_eq]
    refine optEq_bind (iha h) (fun x x' hx => ?_)
    rw [tv_congr hx]
    exact optEq_refl _
  | isNull a iha | isNotNull a iha =>
    intro r r' h
    exact optEq_map (iha h) fun x y hxy => by rw [isNullV_congr hxy]; exact cmp_refl _

theorem isTrue_eq_tv (row : List Value) (e : SExpr) :
    isTrue row e = match eval row e with | none => false | some v => tv v == 2 := by
  unfold isTrue
  cases eval row e with
  | none => rfl
  | some v =>
    cases v with
    | bool b => cases b <;> rfl
    | _ => rfl

theorem isTrue_congr (e : SExpr) {r r' : List Value} (h : cmpList r r' = 0) : isTrue r e = isTrue r' e := by
  have := eval_congr e h
  rw [isTrue_eq_tv, isTrue_eq_tv]
  cases ea : eval r e <;> cases ea' : eval r' e <;> simp only [ea, ea', optEq] at this <;> try trivial
  simp only [tv_congr this]

theorem eval_shiftE_of (c w : Nat) (r r' : List Value) (e : SExpr) :
    (∀ i ∈ colsOf e, r[i]? = r'[if c + w ≤ i then i - w else i]?) → eval r e = eval r' (shiftE c w e) := by
  induction e with
  | col i => intro h; exact h i (by simp [colsOf])
  | lit v => intro _; rfl
  | bin _ a b iha ihb | and a b iha ihb | or a b iha ihb =>
    intro h
    simp only [colsOf, List.mem_append] at h
    simp only [eval, shiftE, iha (fun i hi => h i (Or.inl hi)), ihb (fun i hi => h i (Or.inr hi))]
  | not a iha | isNull a iha | isNotNull a iha => intro h; simp only [eval, shiftE, iha h]

theorem shiftE_zero (c : Nat) (e : SExpr) : shiftE c 0 e = e := by
  induction e <;> simp [shiftE, *]

theorem eval_of_cols (r r' : List Value) (e : SExpr) (h : ∀ i ∈ colsOf e, r[i]? = r'[i]?) : eval r e = eval r' e := by
  have := eval_shiftE_of 0 0 r r' e (by simpa using h)
  rwa [shiftE_zero] at this

theorem eval_append_of_lt (row x : List Value) (e : SExpr) :
    (∀ i ∈ colsOf e, i < row.length) → eval (row ++ x) e = eval row e := by
  intro h
  apply eval_of_cols
  intro i hi
  exact List.getElem?_append_left (h i hi)

theorem usesRange_false {lo hi : Nat} {e : SExpr} (h : usesRange lo hi e = false) :
    ∀ i ∈ colsOf e, i < lo ∨ hi ≤ i := by
  intro i hi'
  unfold usesRange at h
  rw [List.any_eq_false] at h
  have := h i hi'
  simp only [Bool.and_eq_true, decide_eq_true_eq, not_and, Nat.not_lt] at this
  omega

/-- the expression can only evaluate to NULL or a Boolean (what `TypecheckExpression` demands of a predicate) -/
def predOK : SExpr → Bool
  | .and a b => predOK a && predOK b
  | .col _ => false
  | .lit (.bool _) => true
  | .lit .null => true
  | .lit _ => false
  | .bin .add _ _ => false
  | .bin .sub _ _ => false
  | .bin .mul _ _ => false
  | .bin _ _ _ => true
  | .or _ _ => true
  | .not _ => true
  | .isNull _ => true
  | .isNotNull _ => true

/-- an optional value that is NULL or a Boolean when present -/
def Boolish (o : Option Value) : Prop := ∀ v, o = some v → tv v = 0 ∨ tv v = 1 ∨ tv v = 2

theorem boolish_none : Boolish none := fun _ h => by cases h
theorem boolish_null : Boolish (some .null) := fun v h => by cases h; exact Or.inl rfl
theorem boolish_bool (b : Bool) : Boolish (some (.bool b)) := fun v h => by
  cases h
  cases b
  · exact Or.inr (Or.inl rfl)
  · exact Or.inr (Or.inr rfl)
theorem boolish_bind {o : Option Value} {f : Value → Option Value} (hf : ∀ x, Boolish (f x)) : Boolish (o.bind f) := by
  cases o with
  | none => exact boolish_none
  | some x => exact hf x
theorem boolish_ite {c : Prop} [Decidable c] {a b : Option Value} (ha : Boolish a) (hb : Boolish b) :
    Boolish (if c then a else b) := by
  split <;> assumption

theorem applyBin_boolish {op : BinOp} (hop : ¬ (op = .add ∨ op = .sub ∨ op = .mul)) (x y : Value) :
    Boolish (applyBin op x y) := by
  cases op with
  | add | sub | mul => exact absurd (by simp) hop
  | eq | ne => simp only [applyBin]; exact boolish_bool _
  | lt | le | gt | ge => simp only [applyBin]; exact boolish_ite (boolish_bool _) boolish_none

theorem boolish_of_predOK (row : List Value) : ∀ (e : SExpr), predOK e = true → Boolish (eval row e) := by
  intro e
  cases e with
  | col i => intro h; simp [predOK] at h
  | lit w =>
    intro h
    cases w with
    | bool b => exact boolish_bool b
    | null => exact boolish_null
    | _ => simp [predOK] at h
  | bin op a b =>
    intro h
    have hop : ¬ (op = .add ∨ op = .sub ∨ op = .mul) := by cases op <;> simp [predOK] at h <;> simp
    rw [eval_bin_eq]
    exact boolish_bind fun x => boolish_bind fun y => boolish_ite boolish_null (applyBin_boolish hop x y)
  | and a b | or a b =>
    intro _
    simp only [eval_and_eq, eval_or_eq]
    exact boolish_bind fun x => boolish_ite (boolish_bool _)
      (boolish_bind fun y => boolish_ite (boolish_bool _) (boolish_ite boolish_null (boolish_bool _)))
  | not a =>
    intro _
    rw [eval_not_eq]
    exact boolish_bind fun x => boolish_ite boolish_null
      (boolish_ite (boolish_bool _) (boolish_ite (boolish_bool _) boolish_none))
  | isNull a | isNotNull a =>
    intro _
    simp only [eval]
    cases eval row a with
    | none => exact boolish_none
    | some v => exact boolish_bool _

theorem isTrue_and (row : List Value) (a b : SExpr) (ha : predOK a = true) (hb : predOK b = true) :
    isTrue row (.and a b) = (isTrue row a && isTrue row b) := by
  rw [isTrue_eq_tv, isTrue_eq_tv, isTrue_eq_tv, eval_and_eq]
  cases ea : eval row a with
  | none => rfl
  | some va =>
    have c1 := boolish_of_predOK row a ha va ea
    cases eb : eval row b with
    | none =>
      simp only [Option.bind_some, Option.bind_none]
      generalize tv va = m at c1 ⊢
      rcases c1 with rfl | rfl | rfl <;> rfl
    | some vb =>
      have c2 := boolish_of_predOK row b hb vb eb
      simp only [Option.bind_some]
      generalize tv va = m at c1 ⊢
      generalize tv vb = n at c2 ⊢
      rcases c1 with rfl | rfl | rfl <;> rcases c2 with rfl | rfl | rfl <;> rfl

theorem isTrue_lit_true (row : List Value) : isTrue row (.lit (.bool true)) = true := rfl

theorem predOK_iff_parts (e : SExpr) : predOK e = true ↔ ∀ c ∈ splitAnd e, predOK c = true := by
  induction e with
  | and a b iha ihb => simp only [predOK, Bool.and_eq_true, splitAnd, List.mem_append, or_imp, forall_and, iha, ihb]
  | _ => simp only [splitAnd, List.mem_singleton, forall_eq]

theorem isTrue_splitAnd (row : List Value) : ∀ (e : SExpr), predOK e = true →
    isTrue row e = (splitAnd e).all (isTrue row) := by
  intro e
  induction e with
  | and a b iha ihb =>
    intro h
    simp only [predOK, Bool.and_eq_true] at h
    rw [isTrue_and row a b h.1 h.2, iha h.1, ihb h.2, splitAnd, List.all_append]
  | _ => intro _; simp [splitAnd]

theorem conj_cons2 (e e' : SExpr) (es : List SExpr) : conj (e :: e' :: es) = .and e (conj (e' :: es)) := rfl

theorem predOK_conj : ∀ (es : List SExpr), (∀ e ∈ es, predOK e = true) → predOK (conj es) = true
  | [], _ => rfl
  | [e], h => h e (by simp)
  | e :: e' :: es, h => by
    simp only [conj_cons2, predOK, Bool.and_eq_true]
    exact ⟨h e (by simp), predOK_conj (e' :: es) (fun x hx => h x (by simp [hx]))⟩

theorem isTrue_conj (row : List Value) : ∀ (es : List SExpr), (∀ e ∈ es, predOK e = true) →
    isTrue row (conj es) = es.all (isTrue row)
  | [], _ => rfl
  | [e], _ => by simp [conj]
  | e :: e' :: es, h => by
    have h1 := h e (by simp)
    have h2 : ∀ x ∈ e' :: es, predOK x = true := fun x hx => h x (by simp [hx])
    rw [conj_cons2, isTrue_and row e _ h1 (predOK_conj _ h2), isTrue_conj row (e' :: es) h2]
    simp [List.all_cons]

theorem predOK_shiftE (c w : Nat) : ∀ (e : SExpr), predOK (shiftE c w e) = predOK e := by
  intro e
  induction e with
  | and a b iha ihb => simp only [shiftE, predOK, iha, ihb]
  | bin op a b _ _ => cases op <;> rfl
  | _ => rfl

end Octo.SqlJoin
