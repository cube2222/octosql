import Octo.Lemmas.SqlJoinCtx
import Octo.Props.C02Nodes
import Octo.Lemmas.JoinNoRetr
/-!
  Execution against the relational reading (C02): whatever interleavings the scheduler picks at the join nodes,
  if a plan runs without error then the changelog it produces consolidates to `planBag` of the plan
  (`denote_sound`), and if the plan carries the `NoRetractions` flag the changelog holds no retraction (`denote_nr`).
-/
namespace Octo.SqlJoin
open Octo Octo.Sql Octo.Join

def ValidSched (sch : Sched) : Prop := ∀ a b : List Ev, Merge a b (sch a b)

theorem leftFirst_valid : ValidSched leftFirst := by
  intro a b
  unfold leftFirst
  induction a with
  | nil => exact merge_right_nil b
  | cons x a ih => exact Merge.left ih

theorem rightFirst_valid : ValidSched rightFirst := by
  intro a b
  unfold rightFirst
  induction b with
  | nil => simpa using merge_left_nil a
  | cons x b ih => exact Merge.right ih

theorem alternate_valid : ValidSched alternate := by
  intro a
  induction a with
  | nil => intro b; simp only [alternate]; exact merge_right_nil b
  | cons x a ih =>
    intro b
    cases b with
    | nil => simp only [alternate]; exact merge_left_nil _
    | cons y b => simp only [alternate]; exact Merge.right (Merge.left (ih b))

/-- `sqlMatch` as a predicate on rows -/
def rowMatch (keysL keysR : List Nat) (a b : VRow) : Bool :=
  match Join.keyOf keysL a, Join.keyOf keysR b with
  | some x, some y => !hasNull x && Octo.rowEq x y
  | _, _ => false

/-- the right outer side is the left one with the predicate flipped; `joinRecs` is `gjoin (rowMatch …)` by unfolding -/
theorem outerRecs_gouter (cfg : Cfg) (L R : List Rec) :
    outerRecs cfg L R = gouter (rowMatch cfg.keysL cfg.keysR) cfg.outerL cfg.outerR cfg.nL cfg.nR L R := by
  unfold outerRecs gouter padLeftRecs padRightRecs gpad
  simp only [partnersL_eq, partnersR_eq]
  rfl

theorem filterRecs_eq (p : SExpr) (ctx : VRow) (rs : List Rec) : ∀ out : List Rec, filterRecs p ctx rs = some out →
    out = rowOp (filterH p ctx) rs := by
  induction rs with
  | nil => intro out h; cases h; rfl
  | cons r rs ih =>
    intro out h
    simp only [filterRecs] at h
    split at h
    · cases h
    · rename_i v he
      split at h
      · cases h
      · rename_i out' hr
        cases h
        rw [ih out' hr]
        unfold rowOp filterH
        rw [List.filterMap_cons, isTrue_eq_tv, he]
        split
        · rfl
        · rename_i hv
          have : (tv v == 2) = false := by
            rw [beq_eq_false_iff_ne]; exact fun e => hv ((tv_eq_two v).mp e)
          simp only [this, Bool.false_eq_true, ↓reduceIte, Option.map_none]

theorem mapRecs_eq (es : List SExpr) (ctx : VRow) (rs : List Rec) : ∀ out : List Rec, mapRecs es ctx rs = some out →
    out = rowOp (fun v => evalAll (ctx ++ v) es) rs := by
  induction rs with
  | nil => intro out h; cases h; rfl
  | cons r rs ih =>
    intro out h
    simp only [mapRecs] at h
    split at h
    · rename_i v out' he hr
      cases h
      rw [ih out' hr]
      unfold rowOp
      rw [List.filterMap_cons]
      simp only [he]
      rfl
    · cases h

/-- `augment` on one record -/
def augRec (keys : List SExpr) (ctx : VRow) (l : Rec) : Rec :=
  { l with vals := l.vals ++ (evalAll (ctx ++ l.vals) keys).getD [] }

structure KeyedRec (keys : List SExpr) (ctx : VRow) (n : Nat) (l : Rec) (x : VRow) : Prop where
  width : l.vals.length = n
  key : evalAll (ctx ++ l.vals) keys = some x

def Keyed (keys : List SExpr) (ctx : VRow) (n : Nat) (L : List Rec) : Prop := ∀ l ∈ L, ∃ x, KeyedRec keys ctx n l x

theorem augment_eq (keys : List SExpr) (ctx : VRow) {n : Nat} (L : List Rec) : ∀ L' : List Rec, (∀ l ∈ L, l.vals.length = n) →
    augment keys ctx L = some L' → L' = L.map (augRec keys ctx) ∧ Keyed keys ctx n L := by
  induction L with
  | nil => intro L' _ h; cases h; exact ⟨rfl, fun _ hl => (by cases hl)⟩
  | cons l L ih =>
    intro L' hw h
    simp only [augment] at h
    split at h
    · rename_i x out' he hr
      cases h
      obtain ⟨e, hall⟩ := ih out' (fun l' hl' => hw l' (List.mem_cons_of_mem _ hl')) hr
      refine ⟨by rw [e, List.map_cons, augRec, he]; rfl, fun l' hl' => ?_⟩
      rcases List.mem_cons.mp hl' with rfl | hl'
      · exact ⟨x, hw _ List.mem_cons_self, he⟩
      · exact hall l' hl'
    · cases h

theorem augRec_vals {keys : List SExpr} {ctx : VRow} {n : Nat} {l : Rec} {x : VRow} (h : KeyedRec keys ctx n l x) :
    (augRec keys ctx l).vals = l.vals ++ x := by
  unfold augRec; rw [h.key]; rfl

theorem keyOf_keyIdx (x v : VRow) {k : Nat} (hk : x.length = k) : Join.keyOf (keyIdx v.length k) (v ++ x) = some x := by
  subst hk
  induction x generalizing v with
  | nil => rfl
  | cons a x ih =>
    replace ih := ih (v ++ [a])
    rw [List.append_assoc, List.singleton_append] at ih
    have e : keyIdx v.length (a :: x).length = v.length :: keyIdx (v ++ [a]).length x.length := by
      simp only [keyIdx, List.length_cons, List.range_succ_eq_map, List.map_cons, List.map_map, List.length_append,
        List.length_nil, Nat.add_zero, Nat.zero_add]
      congr 1
      exact List.map_congr_left fun i _ => by simp only [Function.comp]; omega
    rw [e, Join.keyOf, ih, List.getElem?_append_right (Nat.le_refl _), Nat.sub_self]
    rfl

theorem strip_append {a x b y : VRow} {nL k nR : Nat} (ha : a.length = nL) (hx : x.length = k) (hb : b.length = nR) :
    strip nL k nR ((a ++ x) ++ (b ++ y)) = a ++ b := by
  unfold strip
  rw [List.drop_left' (by rw [List.length_append, ha, hx]), List.take_left' hb, List.append_assoc, List.take_left' ha]

theorem nulls_length (n : Nat) : (nulls n).length = n := List.length_replicate

theorem nulls_add (a b : Nat) : nulls (a + b) = nulls a ++ nulls b := List.replicate_append_replicate.symm

def stripRec (nL k nR : Nat) (r : Rec) : Rec := { r with vals := strip nL k nR r.vals }

section pairs
variable {kl kr : List SExpr} {ctx : VRow} {nL nR : Nat} (hk : kl.length = kr.length)

include hk in
theorem rowMatch_aug {L R : List Rec} (hL : Keyed kl ctx nL L) (hR : Keyed kr ctx nR R) : ∀ l ∈ L, ∀ r ∈ R,
    rowMatch (keyIdx nL kl.length) (keyIdx nR kl.length) (augRec kl ctx l).vals (augRec kr ctx r).vals =
      keyMatch kl kr ctx l.vals r.vals := by
  intro l hl r hr
  obtain ⟨x, hx⟩ := hL l hl
  obtain ⟨y, hy⟩ := hR r hr
  unfold rowMatch keyMatch
  rw [augRec_vals hx, augRec_vals hy, hx.key, hy.key, ← hx.width, ← hy.width,
    keyOf_keyIdx x l.vals (evalAll_length _ kl x hx.key),
    keyOf_keyIdx y r.vals (by rw [evalAll_length _ kr y hy.key, hk])]

theorem strip_pairRec {L R : List Rec} (hL : Keyed kl ctx nL L) (hR : Keyed kr ctx nR R) : ∀ l ∈ L, ∀ r ∈ R,
    stripRec nL kl.length nR (pairRec (augRec kl ctx l) (augRec kr ctx r)) = pairRec l r := by
  intro l hl r hr
  obtain ⟨x, hx⟩ := hL l hl
  obtain ⟨y, hy⟩ := hR r hr
  unfold stripRec pairRec
  simp only [augRec_vals hx, augRec_vals hy, strip_append hx.width (evalAll_length _ kl x hx.key) hy.width]
  rfl

include hk in
theorem gouter_aug (isL isR : Bool) {L R : List Rec} (hL : Keyed kl ctx nL L) (hR : Keyed kr ctx nR R) :
    (gouter (rowMatch (keyIdx nL kl.length) (keyIdx nR kl.length)) isL isR (nL + kl.length) (nR + kl.length)
      (L.map (augRec kl ctx)) (R.map (augRec kr ctx))).map (stripRec nL kl.length nR) =
      gouter (keyMatch kl kr ctx) isL isR nL nR L R := by
  have hm := rowMatch_aug hk hL hR
  have hp := strip_pairRec hL hR
  unfold gouter
  rw [List.map_append, List.map_append, gjoin_map hm hp]
  congr 2
  · cases isL
    · rfl
    · rw [if_pos rfl, if_pos rfl]
      refine gpad_map hm (fun _ => rfl) fun l hl => ?_
      obtain ⟨x, hx⟩ := hL l hl
      -- the node pads with `nulls (nR + k)`; `nulls_add` splits it so that `strip` drops exactly the `k` key columns
      simp only [stripRec, augRec_vals hx, nulls_add, strip_append hx.width (evalAll_length _ kl x hx.key) (nulls_length nR)]
      rfl
  · cases isR
    · rfl
    · rw [if_pos rfl, if_pos rfl]
      refine gpad_map (fun r hr l hl => hm l hl r hr) (fun _ => rfl) fun r hr => ?_
      obtain ⟨y, hy⟩ := hR r hr
      simp only [stripRec, augRec_vals hy, nulls_add, strip_append (nulls_length nL) (nulls_length kl.length) hy.width]
      rfl

end pairs

theorem strip_netEq (nL k nR : Nat) {X Y : List Rec} (h : NetEq X Y) :
    NetEq (X.map (stripRec nL k nR)) (Y.map (stripRec nL k nR)) := by
  have e : ∀ Z : List Rec, Z.map (stripRec nL k nR) = rowOp (fun v => some (strip nL k nR v)) Z :=
    fun Z => (congrFun List.filterMap_eq_map Z).symm
  rw [e, e]
  refine rowOp_netEq (fun a b hab => ?_) h
  exact cmpList_append_eq (cmpList_take_drop hab nL).1 (cmpList_take_drop (cmpList_take_drop hab (nL + k)).2 nR).1

theorem widthsOK_iff (n : Nat) (L : List Rec) : widthsOK n L = true ↔ ∀ l ∈ L, l.vals.length = n := by
  unfold widthsOK
  simp [List.all_eq_true]

theorem joinNode_run {sch : Sched} (hs : ValidSched sch) {cfg : Cfg} {nL k nR : Nat} {L' R' out : List Rec}
    (h : joinNode sch cfg nL k nR L' R' = some out) :
    ∃ σ o, Interleave (dataMsgs L') (dataMsgs R') σ ∧ run cfg σ = .ok o ∧ out = (recs o).map (stripRec nL k nR) := by
  unfold joinNode at h
  split at h
  · rename_i o ho
    cases h
    exact ⟨_, o, hs _ _, ho, rfl⟩
  · cases h

theorem joinNode_inner {sch : Sched} (hs : ValidSched sch) {kl kr : List SExpr} {ctx : VRow} {nL nR : Nat}
    (hk : kl.length = kr.length) {L R out : List Rec} (hL : Keyed kl ctx nL L) (hR : Keyed kr ctx nR R)
    (hrun : joinNode sch (cfgInner (keyIdx nL kl.length) (keyIdx nR kl.length)) nL kl.length nR
      (L.map (augRec kl ctx)) (R.map (augRec kr ctx)) = some out) :
    NetEq out (gjoin (keyMatch kl kr ctx) L R) := by
  obtain ⟨σ, o, hI, ho, rfl⟩ := joinNode_run hs hrun
  have hnode := Octo.C02.streamJoin_is_sql_join (keyIdx nL kl.length) (keyIdx nR kl.length) hI ho
  rw [recs_dataMsgs, recs_dataMsgs] at hnode
  rw [← gouter_inner (keyMatch kl kr ctx) nL nR, ← gouter_aug hk false false hL hR, gouter_inner]
  -- by unfolding, `joinRecs cfg L R` is `gjoin (rowMatch cfg.keysL cfg.keysR) L R` and `C19.SameNet` is `NetEq`
  exact strip_netEq _ _ _ hnode

theorem joinNode_outer {sch : Sched} (hs : ValidSched sch) {kl kr : List SExpr} {ctx : VRow} {nL nR : Nat} (isL isR : Bool)
    (hk : kl.length = kr.length) {L R out : List Rec} (hL : Keyed kl ctx nL L) (hR : Keyed kr ctx nR R)
    (hrun : joinNode sch (cfgOuter isL isR (nL + kl.length) (nR + kl.length) (keyIdx nL kl.length) (keyIdx nR kl.length))
      nL kl.length nR (L.map (augRec kl ctx)) (R.map (augRec kr ctx)) = some out) :
    NetEq out (gouter (keyMatch kl kr ctx) isL isR nL nR L R) := by
  obtain ⟨σ, o, hI, ho, rfl⟩ := joinNode_run hs hrun
  have wid : ∀ {keys : List SExpr} {n : Nat} {X : List Rec}, Keyed keys ctx n X →
      ∀ x ∈ X.map (augRec keys ctx), x.vals.length = n + keys.length := by
    intro keys n X hX x hx
    obtain ⟨l, hl, rfl⟩ := List.mem_map.mp hx
    obtain ⟨y, hy⟩ := hX l hl
    rw [augRec_vals hy, List.length_append, hy.width, evalAll_length _ keys y hy.key]
  have hnode := Octo.C02.outerJoin_is_sql_outer_join isL isR (nL + kl.length) (nR + kl.length)
    (keyIdx nL kl.length) (keyIdx nR kl.length)
    (by rw [recs_dataMsgs]; exact wid hL) (by rw [recs_dataMsgs, hk]; exact wid hR) hI ho
  rw [recs_dataMsgs, recs_dataMsgs, outerRecs_gouter] at hnode
  rw [← gouter_aug hk isL isR hL hR]
  exact strip_netEq nL kl.length nR hnode

theorem lookupRecs_eq (f : VRow → Option (List Rec)) (L : List Rec) : ∀ out : List Rec, lookupRecs f L = some out →
    (∀ l ∈ L, ∃ R, f l.vals = some R) ∧ out = glookup (fun a => (f a).getD []) L := by
  induction L with
  | nil => intro out h; cases h; exact ⟨fun l hl => (by cases hl), rfl⟩
  | cons l L ih =>
    intro out h
    simp only [lookupRecs] at h
    split at h
    · rename_i R rest hf hr
      cases h
      obtain ⟨hall, e⟩ := ih rest hr
      constructor
      · intro x hx
        rcases List.mem_cons.mp hx with rfl | hx
        · exact ⟨R, hf⟩
        · exact hall x hx
      · rw [e]
        rw [glookup_eq, glookup_eq, List.flatMap_cons]
        simp only [hf, Option.getD_some]
        rfl
    · cases h

/-- a successful run of a plan, node by node: what each node was given and what it made of it -/
theorem denote_ind (sch : Sched) (db : Db) {P : Plan → VRow → List Rec → Prop}
    (scan : ∀ i ctx, P (.scan i) ctx ((tableRows db i).map mkRec))
    (filter : ∀ q s ctx rs out, P s ctx rs → filterRecs q ctx rs = some out → P (.filter q s) ctx out)
    (map : ∀ es s ctx rs out, P s ctx rs → mapRecs es ctx rs = some out → P (.map es s) ctx out)
    (streamJoin : ∀ kl kr l r ctx L R out, P l ctx L → P r ctx R →
      Keyed kl ctx (l.width db) L → Keyed kr ctx (r.width db) R →
      joinNode sch (cfgInner (keyIdx (l.width db) kl.length) (keyIdx (r.width db) kl.length))
        (l.width db) kl.length (r.width db) (L.map (augRec kl ctx)) (R.map (augRec kr ctx)) = some out →
      P (.streamJoin kl kr l r) ctx out)
    (outerJoin : ∀ isL isR kl kr l r ctx L R out, P l ctx L → P r ctx R →
      Keyed kl ctx (l.width db) L → Keyed kr ctx (r.width db) R →
      joinNode sch (cfgOuter isL isR (l.width db + kl.length) (r.width db + kl.length)
        (keyIdx (l.width db) kl.length) (keyIdx (r.width db) kl.length))
        (l.width db) kl.length (r.width db) (L.map (augRec kl ctx)) (R.map (augRec kr ctx)) = some out →
      P (.outerJoin isL isR kl kr l r) ctx out)
    (lookupJoin : ∀ s j ctx L, P s ctx L →
      (∀ l ∈ L, ∃ R, denote sch db j (ctx ++ l.vals) = some R ∧ P j (ctx ++ l.vals) R) →
      P (.lookupJoin s j) ctx (glookup (fun a => (denote sch db j (ctx ++ a)).getD []) L)) :
    ∀ (p : Plan) (ctx : VRow) (out : List Rec), denote sch db p ctx = some out → P p ctx out := by
  intro p
  induction p with
  | scan i => intro ctx out h; cases h; exact scan i ctx
  | filter q s ih =>
    intro ctx out h
    simp only [denote] at h
    split at h
    · rename_i rs hsd; exact filter q s ctx rs out (ih ctx rs hsd) h
    · cases h
  | map es s ih =>
    intro ctx out h
    simp only [denote] at h
    split at h
    · rename_i rs hsd; exact map es s ctx rs out (ih ctx rs hsd) h
    · cases h
  | streamJoin kl kr l r ihl ihr | outerJoin isL isR kl kr l r ihl ihr =>
    intro ctx out h
    simp only [denote] at h
    split at h
    · rename_i L R hl hr
      split at h
      · rename_i hw
        simp only [Bool.and_eq_true, widthsOK_iff] at hw
        split at h
        · rename_i L' R' haL haR
          obtain ⟨rfl, hL⟩ := augment_eq kl ctx L L' hw.1 haL
          obtain ⟨rfl, hR⟩ := augment_eq kr ctx R R' hw.2 haR
          first
          | exact streamJoin kl kr l r ctx L R out (ihl ctx L hl) (ihr ctx R hr) hL hR h
          | exact outerJoin isL isR kl kr l r ctx L R out (ihl ctx L hl) (ihr ctx R hr) hL hR h
        · cases h
      · cases h
    · cases h
  | lookupJoin s j ihs ihj =>
    intro ctx out h
    simp only [denote] at h
    split at h
    · rename_i L hsd
      obtain ⟨hall, rfl⟩ := lookupRecs_eq _ L out h
      refine lookupJoin s j ctx L (ihs ctx L hsd) fun l hl => ?_
      obtain ⟨R, hR⟩ := hall l hl
      exact ⟨R, hR, ihj _ R hR⟩
    · cases h

theorem denote_sound {db : Db} {sch : Sched} (hs : ValidSched sch) :
    ∀ (p : Plan) (ctx : VRow) (out : List Rec), p.ok = true → denote sch db p ctx = some out →
      NetEq out (asRecs (planBag db p ctx)) := by
  intro p ctx out hok h
  revert hok
  refine denote_ind sch db (P := fun p ctx out => p.ok = true → NetEq out (asRecs (planBag db p ctx)))
    (scan := fun _ _ _ => NetEq.refl _) (filter := ?filter) (map := ?map) (streamJoin := ?streamJoin) (outerJoin := ?outerJoin)
    (lookupJoin := ?lookupJoin) p ctx out h
  case filter =>
    intro q s ctx rs out ih h hok
    simp only [Plan.ok, Bool.and_eq_true] at hok
    rw [filterRecs_eq q ctx rs out h]
    simp only [planBag, filter_isTrue_eq_filterMap, ← rowOp_asRecs]
    exact rowOp_netEq (filterH_congr q (cmpList_refl ctx)) (ih hok.2)
  case map =>
    intro es s ctx rs out ih h hok
    rw [mapRecs_eq es ctx rs out h]
    simp only [planBag, ← rowOp_asRecs]
    exact rowOp_netEq (evalAll_opCongr es (cmpList_refl ctx)) (ih hok)
  case streamJoin =>
    intro kl kr l r ctx L R out ihl ihr hL hR h hok
    simp only [Plan.ok, Bool.and_eq_true, beq_iff_eq] at hok
    simp only [planBag, ← gjoin_asRecs]
    -- every join case: the node against the generic join of its actual inputs, then the generic join is a congruence for
    -- net equality in its inputs
    exact NetEq.trans (joinNode_inner hs hok.1.1 hL hR h)
      (gjoin_netEq (keyMatch_mcongr kl kr ctx) (ihl hok.1.2) (ihr hok.2))
  case outerJoin =>
    intro isL isR kl kr l r ctx L R out ihl ihr hL hR h hok
    simp only [Plan.ok, Bool.and_eq_true, beq_iff_eq] at hok
    simp only [planBag, ← gouter_asRecs]
    exact NetEq.trans (joinNode_outer hs isL isR hok.1.1 hL hR h)
      (gouter_netEq (keyMatch_mcongr kl kr ctx) isL isR _ _ (ihl hok.1.2) (ihr hok.2))
  case lookupJoin =>
    intro s j ctx L ihs hall hok
    simp only [Plan.ok, Bool.and_eq_true] at hok
    simp only [planBag, ← glookup_asRecs]
    refine glookup_netEq ?_ ?_ (ihs hok.1)
    · intro l hl
      obtain ⟨R, hR, ih⟩ := hall l hl
      rw [hR]
      exact ih hok.2
    · intro a a' ha
      -- the joined side is re-run under the records of the source, which are only equivalent to the rows of `planBag`
      exact planBag_ctx_congr db j (cmpList_append_eq (cmpList_refl ctx) ha)

theorem rowOp_nr (h : VRow → Option VRow) {A : List Rec} (hA : NR A) : NR (rowOp h A) := by
  intro r hr
  unfold rowOp at hr
  obtain ⟨a, ha, hm⟩ := List.mem_filterMap.mp hr
  obtain ⟨v, _, rfl⟩ := Option.map_eq_some_iff.mp hm
  exact hA a ha

theorem nr_map {f : Rec → Rec} (hf : ∀ r, (f r).retr = r.retr) {A : List Rec} (hA : NR A) : NR (A.map f) := by
  intro r hr
  obtain ⟨a, ha, rfl⟩ := List.mem_map.mp hr
  rw [hf]; exact hA a ha

theorem glookup_nr {J : VRow → List Rec} {L : List Rec} (hL : NR L) (hJ : ∀ l ∈ L, NR (J l.vals)) : NR (glookup J L) := by
  intro x hx
  rw [glookup_eq] at hx
  simp only [List.mem_flatMap, List.mem_map] at hx
  obtain ⟨l, hl, r, hr, rfl⟩ := hx
  simp [lookPair, hL l hl, hJ l hl r hr]

theorem evsOf_data_mem {left : Bool} {X : List Rec} {e : Ev} {r : Rec} (he : e ∈ evsOf left (dataMsgs X))
    (hm : e.msg = some (.data r)) : r ∈ X := by
  unfold evsOf dataMsgs at he
  simp only [List.map_map, List.mem_append, List.mem_map, Function.comp_apply, List.mem_singleton] at he
  rcases he with ⟨x, hx, rfl⟩ | rfl
  · simp only [Option.some.injEq, Msg.data.injEq] at hm
    subst hm; exact hx
  · simp at hm

theorem joinNode_nr {sch : Sched} (hs : ValidSched sch) {cfg : Cfg} (hL : cfg.outerL = false) (hR : cfg.outerR = false)
    {nL k nR : Nat} {L' R' out : List Rec} (hl : NR L') (hr : NR R') (h : joinNode sch cfg nL k nR L' R' = some out) : NR out := by
  obtain ⟨σ, o, hI, ho, rfl⟩ := joinNode_run hs h
  refine nr_map (f := stripRec nL k nR) (fun _ => rfl) (run_nr hL hR ?_ ho)
  intro e he r hm
  rcases merge_mem hI e he with h1 | h1
  · exact hl r (evsOf_data_mem h1 hm)
  · exact hr r (evsOf_data_mem h1 hm)

theorem augRec_nr (keys : List SExpr) (ctx : VRow) {L : List Rec} (hL : NR L) : NR (L.map (augRec keys ctx)) :=
  nr_map (f := augRec keys ctx) (fun _ => rfl) hL

theorem denote_nr {db : Db} {sch : Sched} (hs : ValidSched sch) :
    ∀ (p : Plan) (ctx : VRow) (out : List Rec), p.noRetr = true → denote sch db p ctx = some out → NR out := by
  intro p ctx out hn h
  revert hn
  refine denote_ind sch db (P := fun p _ out => p.noRetr = true → NR out) (scan := ?scan) (filter := ?filter) (map := ?map)
    (streamJoin := ?streamJoin) (outerJoin := ?outerJoin) (lookupJoin := ?lookupJoin) p ctx out h
  case scan =>
    intro i ctx _ r hr
    obtain ⟨v, _, rfl⟩ := List.mem_map.mp hr
    rfl
  case filter =>
    intro q s ctx rs out ih h hn
    rw [filterRecs_eq q ctx rs out h]
    exact rowOp_nr _ (ih hn)
  case map =>
    intro es s ctx rs out ih h hn
    rw [mapRecs_eq es ctx rs out h]
    exact rowOp_nr _ (ih hn)
  case streamJoin =>
    intro kl kr l r ctx L R out ihl ihr _ _ h hn
    simp only [Plan.noRetr, Bool.and_eq_true] at hn
    exact joinNode_nr hs rfl rfl (augRec_nr kl ctx (ihl hn.1)) (augRec_nr kr ctx (ihr hn.2)) h
  case outerJoin =>
    intro isL isR kl kr l r ctx L R out ihl ihr _ _ h hn
    simp only [Plan.noRetr, Bool.and_eq_true, Bool.not_eq_true'] at hn
    obtain ⟨⟨⟨hnl, hnr⟩, rfl⟩, rfl⟩ := hn
    exact joinNode_nr hs rfl rfl (augRec_nr kl ctx (ihl hnl)) (augRec_nr kr ctx (ihr hnr)) h
  case lookupJoin =>
    intro s j ctx L ihs hall hn
    simp only [Plan.noRetr, Bool.and_eq_true] at hn
    refine glookup_nr (ihs hn.1) fun l hl => ?_
    obtain ⟨R, hR, ih⟩ := hall l hl
    rw [hR]
    exact ih hn.2

end Octo.SqlJoin
