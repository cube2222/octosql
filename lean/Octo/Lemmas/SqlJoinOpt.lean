import Octo.Lemmas.SqlJoinRel
/-!
  The optimizer rules that move predicates (C02): every rule, applied bottom-up anywhere in a plan, and any
  number of rounds of all of them, leave the relational reading `planBag` of the plan unchanged — as the same
  list of rows.  (`optimize_planBag`)
-/
namespace Octo.SqlJoin
open Octo Octo.Sql Octo.Join

theorem planBag_wrapFilter (db : Db) (ps : List SExpr) (hps : ∀ e ∈ ps, predOK e = true) (p : Plan) (ctx : VRow) :
    planBag db (wrapFilter ps p) ctx = (planBag db p ctx).filter fun r => ps.all (isTrue (ctx ++ r)) := by
  unfold wrapFilter
  cases ps with
  | nil => exact (List.filter_eq_self.mpr fun _ _ => rfl).symm
  | cons e es =>
    simp only [List.isEmpty_cons, Bool.false_eq_true, ↓reduceIte, planBag]
    exact List.filter_congr fun r _ => isTrue_conj (ctx ++ r) (e :: es) hps

theorem wrapFilter_width (db : Db) (ps : List SExpr) (p : Plan) : (wrapFilter ps p).width db = p.width db := by
  unfold wrapFilter; split <;> rfl

theorem wrapFilter_noRetr (ps : List SExpr) (p : Plan) : (wrapFilter ps p).noRetr = p.noRetr := by
  unfold wrapFilter; split <;> rfl

theorem wrapFilter_ok (ps : List SExpr) (hps : ∀ e ∈ ps, predOK e = true) (p : Plan) (hp : p.ok = true) :
    (wrapFilter ps p).ok = true := by
  unfold wrapFilter
  split
  · exact hp
  · simp [Plan.ok, predOK_conj ps hps, hp]

theorem predOK_of_mem_parts {p : SExpr} {g : SExpr → Bool} (hp : predOK p = true) :
    ∀ e ∈ (splitAnd p).filter g, predOK e = true :=
  fun e he => (predOK_iff_parts p).mp hp e (List.mem_filter.mp he).1

structure RuleOK (db : Db) (f : Db → Nat → Plan → Plan) : Prop where
  shape : ∀ c p, (f db c p).width db = p.width db ∧ (f db c p).noRetr = p.noRetr
  ok : ∀ c p, p.ok = true → (f db c p).ok = true
  bag : ∀ c p ctx, p.ok = true → ctx.length = c → planBag db (f db c p) ctx = planBag db p ctx

theorem RuleOK.of {db : Db} {f : Db → Nat → Plan → Plan}
    (H : ∀ c p, f db c p = p ∨ (((f db c p).width db = p.width db ∧ (f db c p).noRetr = p.noRetr) ∧
      (p.ok = true → (f db c p).ok = true ∧
        ∀ ctx : VRow, ctx.length = c → planBag db (f db c p) ctx = planBag db p ctx))) : RuleOK db f where
  shape c p := (H c p).elim (fun e => by rw [e]; exact ⟨rfl, rfl⟩) (·.1)
  ok c p h := (H c p).elim (fun e => by rw [e]; exact h) fun H' => (H'.2 h).1
  bag c p ctx h hc := (H c p).elim (fun e => by rw [e]) fun H' => (H'.2 h).2 ctx hc

theorem predOK_merge_parts {p q : SExpr} (hp : predOK p = true) (hq : predOK q = true) :
    ∀ e ∈ splitAnd p ++ splitAnd q, predOK e = true := fun e he =>
  (List.mem_append.mp he).elim ((predOK_iff_parts p).mp hp e) ((predOK_iff_parts q).mp hq e)

theorem ruleOK_merge (db : Db) : RuleOK db ruleMerge := RuleOK.of fun c p => by
  unfold ruleMerge
  split
  · rename_i p q s
    refine Or.inr ⟨⟨rfl, rfl⟩, fun h => ?_⟩
    simp only [Plan.ok, Bool.and_eq_true] at h ⊢
    obtain ⟨hp, hq, hs⟩ := h
    refine ⟨⟨predOK_conj _ (predOK_merge_parts hp hq), hs⟩, fun ctx _ => ?_⟩
    simp only [planBag, List.filter_filter]
    apply List.filter_congr
    intro r _
    rw [isTrue_conj _ _ (predOK_merge_parts hp hq), List.all_append, ← isTrue_splitAnd _ p hp, ← isTrue_splitAnd _ q hq]
  · exact Or.inl rfl

theorem ruleOK_lookup {db : Db} (hdb : DbOK db) : RuleOK db ruleLookup := RuleOK.of fun c p => by
  unfold ruleLookup
  split
  · rename_i p s j
    refine Or.inr ⟨by simp only [Plan.width, Plan.noRetr, wrapFilter_width, wrapFilter_noRetr, and_self], fun h => ?_⟩
    simp only [Plan.ok, Bool.and_eq_true] at h ⊢
    obtain ⟨hp, hs, hj⟩ := h
    refine ⟨⟨wrapFilter_ok _ (predOK_of_mem_parts hp) s hs, wrapFilter_ok _ (predOK_of_mem_parts hp) j hj⟩, fun ctx hc => ?_⟩
    simp only [planBag, planBag_wrapFilter db _ (predOK_of_mem_parts hp), relDep_eq_depJoin]
    refine (depJoin_move ?_).symm
    intro a ha b hb
    rw [isTrue_splitAnd _ p hp, all_partition _ (usesRange (c + s.width db) (c + s.width db + j.width db)), Bool.and_comm,
      ← List.append_assoc]
    congr 1
    exact all_filter_congr fun e _ hu =>
      isTrue_leftOnly hc (planBag_width hdb s ctx a ha) (planBag_width hdb j (ctx ++ a) b hb) ((Bool.not_eq_true' _).mp hu)
  · exact Or.inl rfl

theorem predOK_branch_parts {c wl : Nat} {p : SExpr} {g : SExpr → Bool} (hp : predOK p = true) :
    ∀ e ∈ ((splitAnd p).filter g).map (shiftE c wl), predOK e = true := by
  intro e he
  obtain ⟨e', he', rfl⟩ := List.mem_map.mp he
  rw [predOK_shiftE]
  exact predOK_of_mem_parts hp e' he'

theorem ruleOK_branch {db : Db} (hdb : DbOK db) : RuleOK db ruleBranch := RuleOK.of fun c p => by
  unfold ruleBranch
  split
  · rename_i p kl kr l r
    simp only
    split
    · exact Or.inl rfl
    · refine Or.inr ⟨by simp only [Plan.width, Plan.noRetr, wrapFilter_width, wrapFilter_noRetr, and_self], fun h => ?_⟩
      simp only [Plan.ok, Bool.and_eq_true] at h
      obtain ⟨hp, ⟨hk, hl⟩, hr⟩ := h
      refine ⟨?_, fun ctx hc => ?_⟩
      · apply wrapFilter_ok _ (predOK_of_mem_parts hp)
        simp only [Plan.ok, Bool.and_eq_true]
        exact ⟨⟨hk, wrapFilter_ok _ (predOK_of_mem_parts hp) l hl⟩, wrapFilter_ok _ (predOK_branch_parts hp) r hr⟩
      · simp only [planBag, planBag_wrapFilter db _ (predOK_of_mem_parts hp), planBag_wrapFilter db _ (predOK_branch_parts hp),
          relInner_eq_nlJoin]
        refine (nlJoin_move (m' := keyMatch kl kr ctx) ?_).symm
        intro a ha b hb
        have hwa := planBag_width hdb l ctx a ha
        have hwb := planBag_width hdb r ctx b hb
        -- the three classes overlap (a conjunct that uses neither input goes to both branches), so the parts are
        -- covered, not partitioned as in `ruleOK_lookup`
        have hcov : ∀ e ∈ splitAnd p,
            (!usesRange (c + l.width db) (c + l.width db + r.width db) e || !usesRange c (c + l.width db) e ||
              (usesRange c (c + l.width db) e && usesRange (c + l.width db) (c + l.width db + r.width db) e)) = true := by
          intro e _
          cases usesRange c (c + l.width db) e <;> cases usesRange (c + l.width db) (c + l.width db + r.width db) e <;> rfl
        rw [isTrue_splitAnd _ p hp, all_cover _ _ _ _ _ hcov, List.all_map, ← List.append_assoc]
        congr 3
        · exact all_filter_congr fun e _ hu => isTrue_leftOnly hc hwa hwb ((Bool.not_eq_true' _).mp hu)
        · exact all_filter_congr fun e _ hu => isTrue_rightOnly hc hwa ((Bool.not_eq_true' _).mp hu)
  · exact Or.inl rfl

theorem ruleOK_key {db : Db} (hdb : DbOK db) : RuleOK db ruleKey := RuleOK.of fun c p => by
  unfold ruleKey
  split
  · rename_i p kl kr l r
    simp only
    split
    · exact Or.inl rfl
    · refine Or.inr ⟨by simp only [Plan.width, Plan.noRetr, wrapFilter_width, wrapFilter_noRetr, and_self], fun h => ?_⟩
      simp only [Plan.ok, Bool.and_eq_true, beq_iff_eq] at h
      obtain ⟨hp, ⟨hk, hl⟩, hr⟩ := h
      refine ⟨?_, fun ctx hc => ?_⟩
      · apply wrapFilter_ok _ (fun e he => (predOK_iff_parts p).mp hp e (keyParts_sub _ e he))
        simp only [Plan.ok, Bool.and_eq_true, beq_iff_eq, List.length_append]
        exact ⟨⟨by rw [hk, keyParts_length], hl⟩, hr⟩
      · rw [planBag_wrapFilter db _ (fun e he => (predOK_iff_parts p).mp hp e (keyParts_sub _ e he))]
        simp only [planBag, relInner_eq_nlJoin, filter_nlJoin]
        apply nlJoin_congr
        intro a ha b hb
        rw [isTrue_splitAnd _ p hp, ← List.append_assoc,
          keyParts_match hc (planBag_width hdb l ctx a ha) (planBag_width hdb r ctx b hb) (splitAnd p),
          keyMatch_append _ _ _ _ hk, Bool.and_assoc, Bool.and_comm (List.all _ _)]
  · exact Or.inl rfl

theorem RuleOK.node {db : Db} {f : Db → Nat → Plan → Plan} (hf : RuleOK db f) {c : Nat} {p p' : Plan} (ok' : p'.ok = true)
    (bag' : ∀ ctx : VRow, ctx.length = c → planBag db p' ctx = planBag db p ctx) :
    (f db c p').ok = true ∧ ∀ ctx : VRow, ctx.length = c → planBag db (f db c p') ctx = planBag db p ctx :=
  ⟨hf.ok c _ ok', fun ctx hc => (hf.bag c _ ctx ok' hc).trans (bag' ctx hc)⟩

/-- at every node the rule meets a well-formed plan whose children have kept width and flag and already compute what they
    computed before -/
theorem RuleOK.transform {db : Db} (hdb : DbOK db) {f : Db → Nat → Plan → Plan} (hf : RuleOK db f) :
    RuleOK db (fun db c p => transform db f c p) := by
  refine RuleOK.of fun c p => Or.inr ?_
  induction p generalizing c with
  | scan i => exact ⟨hf.shape c _, fun h => ⟨hf.ok c _ h, fun ctx hc => hf.bag c _ ctx h hc⟩⟩
  | filter q s ih =>
    obtain ⟨sh, ih⟩ := ih c
    refine ⟨by simp only [SqlJoin.transform, hf.shape, Plan.width, Plan.noRetr, sh, and_self], fun h => ?_⟩
    simp only [Plan.ok, Bool.and_eq_true] at h
    obtain ⟨oks, bags⟩ := ih h.2
    exact hf.node (by simp only [Plan.ok, Bool.and_eq_true]; exact ⟨h.1, oks⟩)
      fun ctx hc => by simp only [planBag, bags ctx hc]
  | map es s ih =>
    obtain ⟨sh, ih⟩ := ih c
    refine ⟨by simp only [SqlJoin.transform, hf.shape, Plan.width, Plan.noRetr, sh, and_self], fun h => ?_⟩
    obtain ⟨oks, bags⟩ := ih h
    exact hf.node oks fun ctx hc => by simp only [planBag, bags ctx hc]
  | streamJoin kl kr l r ihl ihr | outerJoin _ _ kl kr l r ihl ihr =>
    obtain ⟨shl, ihl⟩ := ihl c
    obtain ⟨shr, ihr⟩ := ihr c
    refine ⟨by simp only [SqlJoin.transform, hf.shape, Plan.width, Plan.noRetr, shl, shr, and_self], fun h => ?_⟩
    simp only [Plan.ok, Bool.and_eq_true] at h
    obtain ⟨okl, bagl⟩ := ihl h.1.2
    obtain ⟨okr, bagr⟩ := ihr h.2
    exact hf.node (by simp only [Plan.ok, Bool.and_eq_true]; exact ⟨⟨h.1.1, okl⟩, okr⟩)
      fun ctx hc => by simp only [planBag, bagl ctx hc, bagr ctx hc, shl, shr]
  | lookupJoin s j ihs ihj =>
    obtain ⟨shs, ihs⟩ := ihs c
    obtain ⟨shj, ihj⟩ := ihj (c + s.width db)
    refine ⟨by simp only [SqlJoin.transform, hf.shape, Plan.width, Plan.noRetr, shs, shj, and_self], fun h => ?_⟩
    simp only [Plan.ok, Bool.and_eq_true] at h
    obtain ⟨oks, bags⟩ := ihs h.1
    obtain ⟨okj, bagj⟩ := ihj h.2
    refine hf.node (by simp only [Plan.ok, Bool.and_eq_true]; exact ⟨oks, okj⟩) fun ctx hc => ?_
    simp only [planBag, bags ctx hc, relDep_eq_depJoin]
    exact depJoin_congr fun a ha => bagj (ctx ++ a) (by rw [List.length_append, hc, planBag_width hdb s ctx a ha])

theorem RuleOK.comp {db : Db} {f g : Db → Nat → Plan → Plan} (hf : RuleOK db f) (hg : RuleOK db g) :
    RuleOK db (fun db c p => g db c (f db c p)) :=
  ⟨fun c p => ⟨(hg.shape c _).1.trans (hf.shape c p).1, (hg.shape c _).2.trans (hf.shape c p).2⟩,
    fun c p h => hg.ok c _ (hf.ok c p h), fun c p ctx h hc => (hg.bag c _ ctx (hf.ok c p h) hc).trans (hf.bag c p ctx h hc)⟩

theorem ruleOK_optPass {db : Db} (hdb : DbOK db) : RuleOK db (fun db c p =>
    transform db ruleMerge c (transform db ruleKey c (transform db ruleBranch c (transform db ruleLookup c p)))) :=
  ((((ruleOK_lookup hdb).transform hdb).comp ((ruleOK_branch hdb).transform hdb)).comp ((ruleOK_key hdb).transform hdb)).comp
    ((ruleOK_merge db).transform hdb)

theorem RuleOK.iter {db : Db} {f : Db → Nat → Plan → Plan} (hf : RuleOK db f) :
    ∀ n : Nat, RuleOK db (fun db c p => iter (f db c) n p)
  | 0 => ⟨fun _ _ => ⟨rfl, rfl⟩, fun _ _ h => h, fun _ _ _ _ _ => rfl⟩
  | n + 1 => hf.comp (hf.iter n)

/-! `optimize db p` is the function of `ruleOK_optPass`, iterated `p.size + 4` times at context width 0, by unfolding -/

/-- the flag the sinks consult is the flag of the plan that is run. The flag does not depend on the tables: `hdb` is there
    because `shape` travels in `RuleOK` together with `bag`, which needs it -/
theorem optimize_noRetr {db : Db} (hdb : DbOK db) (p : Plan) : (optimize db p).noRetr = p.noRetr :=
  (((ruleOK_optPass hdb).iter _).shape 0 p).2

theorem optimize_planBag {db : Db} (hdb : DbOK db) (p : Plan) (h : p.ok = true) :
    planBag db (optimize db p) [] = planBag db p [] := ((ruleOK_optPass hdb).iter _).bag 0 p [] h rfl

theorem optimize_ok {db : Db} (hdb : DbOK db) (p : Plan) (h : p.ok = true) : (optimize db p).ok = true :=
  ((ruleOK_optPass hdb).iter _).ok 0 p h

end Octo.SqlJoin
