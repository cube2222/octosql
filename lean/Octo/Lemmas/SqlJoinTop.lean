import Octo.Lemmas.SqlJoinExec
import Octo.Lemmas.SqlJoinOpt
import Octo.Lemmas.NetCount
/-!
  Putting the pieces together (C02): the sinks' count tree turns a changelog into its consolidated content
  (`consolidate_count`, `sink_count`), and planner ∘ optimizer ∘ execution ∘ sink = SQL join semantics (`runQuery_sound`).
-/
namespace Octo.SqlJoin
open Octo Octo.Sql Octo.Join

def JQuery.ok (q : JQuery) : Bool :=
  q.frm.ok && (match q.whr with | some w => predOK w | none => true)

theorem planQ_sound {db : Db} (hdb : DbOK db) (q : JQuery) (p : Plan) (hq : q.ok = true) (h : planQ db q = some p) :
    p.ok = true ∧ planBag db p [] = joinSem q db := by
  obtain ⟨frm, whr, proj⟩ := q
  simp only [JQuery.ok, Bool.and_eq_true] at hq
  obtain ⟨p0, hp, rfl⟩ := Option.map_eq_some_iff.mp h
  have ok0 := planOf_ok db frm 0 p0 hp hq.1
  unfold joinSem
  rw [← planOf_sound hdb frm 0 p0 [] hp rfl]
  -- WHERE and the SELECT list are a Filter and a Map over the empty variable context
  cases whr with
  | none => cases proj <;> exact ⟨ok0, rfl⟩
  | some w => cases proj <;> exact ⟨by simp only [Plan.ok, Bool.and_eq_true]; exact ⟨hq.2, ok0⟩, rfl⟩

theorem plainJoin_ok (k : JKind) (a b : Nat) {on : SExpr} (hon : predOK on = true) :
    (⟨.join k (.tbl a) (.tbl b) on, none, none⟩ : JQuery).ok = true := by
  simp [JQuery.ok, From.ok, hon]

theorem countRow_cons_cast (row x : VRow) (xs : List VRow) :
    (countRow row (x :: xs) : Int) = (if Octo.rowEq x row then 1 else 0) + countRow row xs := by
  -- `countRow` compares with `Sql.rowEq row x`, `net` with `Octo.rowEq x row`: the model has the same function twice,
  -- used with the arguments the other way round (hence every `rowEq` of these files says which one it is)
  have e : Sql.rowEq row x = Octo.rowEq x row := by rw [Octo.rowEq_comm x row]; rfl
  simp only [countRow, e]
  push_cast
  split <;> rfl

theorem net_asRecs (B : List VRow) (row : VRow) : net (asRecs B) row = (countRow row B : Int) :=
  net_map_add B row

theorem countRow_append_single (row v : VRow) (acc : List VRow) :
    (countRow row (acc ++ [v]) : Int) = countRow row acc + (if Octo.rowEq v row then 1 else 0) := by
  rw [countRow_append, Int.natCast_add, countRow_cons_cast]
  exact congrArg _ (Int.add_zero _)

theorem removeFirst_count (x : VRow) (acc : List VRow) : ∀ acc' : List VRow, removeFirst x acc = some acc' →
    ∀ row, (countRow row acc : Int) = countRow row acc' + (if Octo.rowEq x row then 1 else 0) := by
  induction acc with
  | nil => intro _ h; cases h
  | cons y ys ih =>
    intro acc' h row
    simp only [removeFirst] at h
    rw [countRow_cons_cast]
    by_cases hxy : Octo.rowEq x y = true
    · simp only [hxy, ↓reduceIte, Option.some.injEq] at h
      rw [← h, rowEq_congr_left hxy row]
      omega
    · simp only [hxy, Bool.false_eq_true, ↓reduceIte] at h
      obtain ⟨rest, hr, rfl⟩ := Option.map_eq_some_iff.mp h
      rw [countRow_cons_cast, ih rest hr row]
      omega

theorem consolidate_count (rs : List Rec) : ∀ (acc out : List VRow), consolidate acc rs = some out →
    ∀ row, (countRow row out : Int) = countRow row acc + net rs row := by
  induction rs with
  | nil =>
    intro acc out h row
    cases h
    simp [net]
  | cons r rs ih =>
    intro acc out h row
    simp only [consolidate] at h
    rw [net_cons, weight_sgn, sgn_eq]
    by_cases hretr : r.retr = true
    · simp only [hretr, ↓reduceIte] at h ⊢
      split at h
      · cases h
      · rename_i acc' hrm
        rw [ih acc' out h row, removeFirst_count r.vals acc acc' hrm row]
        split <;> omega
    · simp only [hretr, Bool.false_eq_true, ↓reduceIte] at h ⊢
      rw [ih (acc ++ [r.vals]) out h row, countRow_append_single]
      split <;> omega

/-- what a sink holds is the consolidated content of the changelog it was given: the csv/json printers write a
    plan's records as they arrive exactly when its schema says `NoRetractions`, and then there is nothing to consolidate -/
theorem sink_count {m : SinkMode} {nr : Bool} {rs : List Rec} {rows : List VRow} (hnr : nr = true → NR rs)
    (h : sink m nr rs = some rows) : ∀ row, (countRow row rows : Int) = net rs row := by
  have viaTree : consolidate [] rs = some rows → ∀ row, (countRow row rows : Int) = net rs row := fun hc row => by
    have := consolidate_count rs [] rows hc row
    simpa [countRow] using this
  unfold sink at h
  cases m with
  | eager =>
    simp only at h
    split at h
    · rename_i hn
      cases h
      exact fun row => (net_eq_countRow rs (hnr hn) row).symm
    · exact viaTree h
  | _ => exact viaTree h

/-- running any well-formed plan and handing the changelog to a sink that may trust the plan's flag -/
theorem denote_sink_sound {db : Db} {sch : Sched} (hs : ValidSched sch) {m : SinkMode} {nr : Bool} {p : Plan} (hok : p.ok = true)
    (hnr : nr = true → p.noRetr = true) {rs : List Rec} {rows : List VRow} (hd : denote sch db p [] = some rs)
    (h : sink m nr rs = some rows) (row : VRow) : countRow row rows = countRow row (planBag db p []) := by
  have hc := sink_count (fun hn => denote_nr hs p [] rs (hnr hn) hd) h row
  rw [denote_sound hs p [] rs hok hd row, net_asRecs] at hc
  exact_mod_cast hc

theorem runQueryMode_sound {db : Db} (hdb : DbOK db) {sch : Sched} (hs : ValidSched sch) (m : SinkMode) (opt : Bool) (q : JQuery)
    (hq : q.ok = true) (rows : List VRow) (h : runQueryMode m sch opt q db = some rows) :
    ∀ row, countRow row rows = countRow row (joinSem q db) := by
  unfold runQueryMode at h
  split at h
  · cases h
  · rename_i p hp
    obtain ⟨pok, pbag⟩ := planQ_sound hdb q p hq hp
    split at h
    · cases h
    · rename_i rs hd
      intro row
      rw [← pbag]
      -- the sink consults the flag of the planner's plan; the optimizer keeps flag, well-formedness and relation
      cases opt
      · exact denote_sink_sound hs pok id hd h row
      · rw [← optimize_planBag hdb p pok]
        exact denote_sink_sound hs (optimize_ok hdb p pok) (fun hn => (optimize_noRetr hdb p).trans hn) hd h row

/-- `runQuery` is `runQueryMode .table`, by unfolding -/
theorem runQuery_sound {db : Db} (hdb : DbOK db) {sch : Sched} (hs : ValidSched sch) (opt : Bool) (q : JQuery)
    (hq : q.ok = true) (rows : List VRow) (h : runQuery sch opt q db = some rows) :
    ∀ row, countRow row rows = countRow row (joinSem q db) :=
  runQueryMode_sound hdb hs .table opt q hq rows h

end Octo.SqlJoin
