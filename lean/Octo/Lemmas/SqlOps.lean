import Octo.Lemmas.Comparator
import Octo.Spec.SqlSem
/-! The batch operators of `Octo.Model.Sql` against `Spec.SqlSem`: rows are compared by `rowEq`, an equivalence, and
    bags of rows by `countRow`. -/
namespace Octo.Sql
open Octo

theorem rowEq_eqv : Equivalence fun a b : Row => rowEq a b = true := cmpList_cmpOn.eqv_beq

theorem countRow_eq_countP (r : Row) (l : List Row) : countRow r l = l.countP (rowEq r) := by
  induction l with
  | nil => rfl
  | cons x xs ih => rw [countRow, ih, List.countP_cons, Nat.add_comm]

theorem countRow_append (r : Row) (a b : List Row) : countRow r (a ++ b) = countRow r a + countRow r b := by
  simp only [countRow_eq_countP, List.countP_append]

theorem countRow_replicate (r x : Row) (n : Nat) :
    countRow r (List.replicate n x) = if rowEq r x then n else 0 := by
  rw [countRow_eq_countP, List.countP_replicate]

theorem countRow_le_length (r : Row) (l : List Row) : countRow r l ≤ l.length :=
  countRow_eq_countP r l ▸ List.countP_le_length

theorem countRow_congr {a b : Row} (h : rowEq a b = true) (l : List Row) : countRow a l = countRow b l := by
  rw [countRow_eq_countP, countRow_eq_countP, funext (rowEq_eqv.beq_congr_left h)]

theorem any_rowEq_iff_count (r : Row) (l : List Row) : l.any (rowEq r) = decide (countRow r l > 0) := by
  rw [countRow_eq_countP, Bool.eq_iff_iff, List.any_eq_true, decide_eq_true_iff]
  exact List.countP_pos_iff.symm

theorem distinctGo_count (seen rows : List Row) (r : Row) :
    countRow r (distinctGo seen rows) =
      if seen.any (rowEq r) then 0 else if countRow r rows > 0 then 1 else 0 := by
  induction rows generalizing seen with
  | nil => simp [distinctGo, countRow]
  | cons x xs ih =>
    rw [distinctGo]
    cases hrx : rowEq r x
    · -- `x` is outside the class of `r`: kept or not, it counts for nothing
      have hs : (x :: seen).any (rowEq r) = seen.any (rowEq r) := by rw [List.any_cons, hrx, Bool.false_or]
      split <;> simp only [countRow, hrx, ih, hs, Bool.false_eq_true, if_false, Nat.zero_add]
    · -- `x` is in the class of `r`: it is kept iff the class was not seen, and then it is the only one kept
      have hs : seen.any (rowEq r) = seen.any (rowEq x) := congrArg seen.any (funext (rowEq_eqv.beq_congr_left hrx))
      cases hx : seen.any (rowEq x)
      · simp [countRow, hrx, ih, hs, hx]
      · simp only [if_true, ih, hs, hx]

theorem distinctOp_isDistinct (rows : List Row) : IsDistinctOf (distinctOp rows) rows := by
  intro r
  simp [distinctOp, distinctGo_count]

theorem evalAll_length (row : Row) (es : List SExpr) (vs : Row) (h : evalAll row es = some vs) :
    vs.length = es.length := by
  fun_induction evalAll row es generalizing vs with
  | case1 => cases h; rfl
  | case2 e es v ws hws _ ih => cases h; rw [List.length_cons, List.length_cons, ih ws hws]
  | case3 => cases h

/-! ### filter and map agree with their naive specifications whenever they do not fail -/

theorem filterOp_spec (p : SExpr) (rows out : List Row) (h : filterOp p rows = some out) :
    out = specFilter (some p) rows := by
  fun_induction filterOp p rows generalizing out with
  | case1 => cases h; rfl
  | case2 => cases h
  | case3 => cases h
  | case4 r rs v hv o ho ih =>
    cases h
    rw [ih o ho, specFilter, specFilter, List.filter_cons, hv]
    -- node and specification both test `v` against TRUE
    split <;> simp_all

theorem mapOp_spec (es : List SExpr) (rows out : List Row) (h : mapOp es rows = some out) :
    out = specMap (some es) rows := by
  fun_induction mapOp es rows generalizing out with
  | case1 => cases h; rfl
  | case2 r rs v o ho hv ih => cases h; rw [ih o ho, specMap, specMap, List.filterMap_cons, hv]
  | case3 => cases h

theorem whereStep_spec {w : Option SExpr} {rows out : List Row} (h : whereStep w rows = some out) :
    out = specFilter w rows := by
  cases w with
  | none => cases h; rfl
  | some p => exact filterOp_spec p rows out h

theorem projStep_spec {es : Option (List SExpr)} {rows out : List Row} (h : projStep es rows = some out) :
    out = specMap es rows := by
  cases es with
  | none => cases h; rfl
  | some es => exact mapOp_spec es rows out h

end Octo.Sql
