import Octo.Lemmas.SqlTree
/-! `buildTree` invariants: the tree built from the rows, emitted, is the first rows of a key-sorted rearrangement of them
    (`emit_buildTree_spec`). -/
namespace Octo.Sql
open Octo

theorem mults_ok (order : List (SExpr × Bool)) : Ops.Dirs (mults order) :=
  List.forall_mem_map.mpr fun k _ => by split <;> simp

/- The model's `ostOp` / `printerOp` write out the two maps that the specification names `mults` and `keyExprs`;
   these fold them. -/
theorem mults_eq (order : List (SExpr × Bool)) :
    (order.map fun k => if k.2 then (-1 : Int) else 1) = mults order := rfl
theorem keyExprs_eq (order : List (SExpr × Bool)) : order.map (·.1) = keyExprs order := rfl

/-- what `buildTree` maintains about the unpruned tree -/
structure TreeInv (order : List (SExpr × Bool)) (t : List Item) (done : List Row) : Prop where
  sorted : ItemsSorted (mults order) t
  items : ∀ it ∈ t, KeyLen order.length it ∧ it.count ≥ 1 ∧ evalAll it.vals (keyExprs order) = some it.key
  bag : ∀ r, countRow r (flatten t) = countRow r done
  len : (flatten t).length = done.length

theorem treeInv_nil (order : List (SExpr × Bool)) : TreeInv order [] [] :=
  ⟨trivial, by simp, by simp [flatten], by simp [flatten]⟩

theorem treeInv_insert (order : List (SExpr × Bool)) (t : List Item) (done : List Row) (r : Row) (k : List Value)
    (hk : evalAll r (keyExprs order) = some k) (h : TreeInv order t done) :
    TreeInv order (insertItem (mults order) ⟨k, r, 1⟩ t) (done ++ [r]) := by
  have hlen : KeyLen order.length (⟨k, r, 1⟩ : Item) := by
    simp only [KeyLen]; rw [evalAll_length r _ k hk, keyExprs, List.length_map]
  refine ⟨?_, ?_, ?_, ?_⟩
  · exact insertItem_sorted (mults order) (mults_ok order) order.length _ t hlen (fun y hy => (h.items y hy).1) h.sorted
  · intro it hit
    rcases mem_insertItem _ _ _ _ hit with h1 | h1 | ⟨y, hy, _, h1⟩
    · exact h.items it h1
    · subst h1; exact ⟨hlen, by simp, hk⟩
    · subst h1
      have := h.items y hy
      exact ⟨this.1, by simp, this.2.2⟩
  · intro q
    rw [flatten_count_insert, h.bag q, countRow_append]
    simp [countRow]
  · rw [flatten_length_insert, h.len]; simp

theorem buildTree_full_inv (order : List (SExpr × Bool)) (rows : List Row) (t : List Item) (done : List Row) (t' : List Item)
    (h : TreeInv order t done)
    (hb : buildTree (mults order) none (keyExprs order) t rows = some t') : TreeInv order t' (done ++ rows) := by
  fun_induction buildTree (mults order) none (keyExprs order) t rows generalizing done with
  | case1 => cases hb; rwa [List.append_nil]
  | case2 => cases hb
  | case3 t r rs k hk ih =>
    rw [List.append_cons]
    exact ih _ (treeInv_insert order t done r k hk h) hb

theorem buildTree_full_exists (m : List Int) (keys : List SExpr) (rows : List Row) (t : List Item)
    (hk : ∀ r ∈ rows, (evalAll r keys).isSome) :
    ∃ t', buildTree m none keys t rows = some t' := by
  fun_induction buildTree m none keys t rows with
  | case1 t => exact ⟨t, rfl⟩
  | case2 t r rs he => have := (List.forall_mem_cons.mp hk).1; rw [he] at this; cases this
  | case3 t r rs k he ih => exact ih (List.forall_mem_cons.mp hk).2

theorem buildTree_pruned (m : List Int) (keys : List SExpr) (n : Nat) (rows : List Row) (t : List Item) (tp : List Item)
    (hb : buildTree m (some n) keys (t.take n) rows = some tp) :
    ∃ tf, buildTree m none keys t rows = some tf ∧ tp = tf.take n := by
  fun_induction buildTree m none keys t rows with
  | case1 t => cases hb; exact ⟨t, rfl, rfl⟩
  | case2 t r rs hk => rw [buildTree, hk] at hb; cases hb
  | case3 t r rs k hk ih =>
    have hl : (insertItem m ⟨k, r, 1⟩ (t.take n)).length ≤ n + 1 := by
      have := insertItem_length_le m ⟨k, r, 1⟩ (t.take n)
      have := List.length_take_le n t
      omega
    simp only [buildTree, hk] at hb
    rw [prune_eq_take n _ hl, insert_take] at hb
    exact ih hb

theorem emit_buildTree_spec (order : List (SExpr × Bool)) (limit : Option Nat) (rows : List Row) (t : List Item)
    (hb : buildTree (mults order) limit (keyExprs order) [] rows = some t) :
    ∃ full, SameBag full rows ∧ full.length = rows.length ∧ SortedBy order full ∧
      emit limit t = applyLimit limit full := by
  cases limit with
  | none =>
    have inv := buildTree_full_inv order rows [] [] t (treeInv_nil order) hb
    exact ⟨flatten t, fun r => by simpa using inv.bag r, by simpa using inv.len,
      flatten_sorted order t inv.sorted (fun i h => (inv.items i h).2.2), rfl⟩
  | some n =>
    obtain ⟨tf, hf, rfl⟩ := buildTree_pruned (mults order) (keyExprs order) n rows [] t (by simpa using hb)
    have inv := buildTree_full_inv order rows [] [] tf (treeInv_nil order) hf
    exact ⟨flatten tf, fun r => by simpa using inv.bag r, by simpa using inv.len,
      flatten_sorted order tf inv.sorted (fun i h => (inv.items i h).2.2),
      flatten_take_take tf (fun i h => (inv.items i h).2.1) n⟩

end Octo.Sql
