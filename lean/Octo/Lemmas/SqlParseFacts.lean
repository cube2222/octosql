import Octo.Lemmas.SqlComb
/-!
# The expression parser on arbitrary token lists (C30)

What holds of the parser whatever tree the tokens were printed from: where each loop stops (in front of a token that
does not continue its level), which level reads whatever the next tighter level reads (the next level fails on the
tokens of the prefix alternative), and where the expression parser gives up (`t.*`).
-/
namespace Octo.SqlSyn

variable {prev : Parsers}

theorem headIs_cons (k : Kw) (t : Tok) (ts : List Tok) : headIs k (t :: ts) = (t == Tok.kw k) := rfl
theorem headIs_nil (k : Kw) : headIs k [] = false := rfl

theorem ne_kw_of_tokLevel_lt {t : Tok} {n : Nat} (h : tokLevel t < n) {k : Kw} (hk : n ≤ tokLevel (.kw k)) :
    t ≠ Tok.kw k := by
  rintro rfl; omega

theorem headIs_false_of_follow {k : Kw} {n : Nat} {rest : List Tok} (hf : follow n rest = true)
    (hk : n ≤ tokLevel (Tok.kw k)) : headIs k rest = false := by
  cases rest with
  | nil => exact headIs_nil k
  | cons t ts => simpa [headIs] using ne_kw_of_tokLevel_lt (follow_cons.1 hf) hk

theorem follow_of_level0 {t : Tok} {ts : List Tok} (h : tokLevel t = 0) (n : Nat) (hn : 1 ≤ n) :
    follow n (t :: ts) = true :=
  follow_cons.2 (by omega)

def followItem : List Tok → Bool
  | [] => true
  | t :: _ => t == Tok.kw .COMMA || t == Tok.kw .FROM || t == Tok.kw .RPAREN

theorem followItem_props {rest : List Tok} (h : followItem rest = true) :
    follow 1 rest = true ∧ parseAliasOpt rest = some ("", rest) ∧ headIs .JSON_EXPLODE_OP rest = false := by
  cases rest with
  | nil => exact ⟨rfl, rfl, rfl⟩
  | cons t ts =>
    simp [followItem] at h
    rcases h with (h | h) | h <;> subst h <;> exact ⟨rfl, rfl, rfl⟩

theorem isValue_of_lvl {e : Expr} (h : 6 ≤ e.lvl) : e.isValue = true := by
  cases e <;> try rfl
  all_goals simp [Expr.lvl] at h

theorem parseAtom_ident {t : Tok} {a : String} (h : identOf t = some a) (rest : List Tok) :
    parseAtom prev (t :: rest) = parseIdentRest prev a rest := by
  cases t <;> simp [identOf] at h <;> subst h <;> rfl

theorem postfixLoop_stop (m : Nat) (acc : Expr) (rest : List Tok) (hf : follow 13 rest = true) :
    postfixLoop prev (m + 1) acc rest = some (acc, rest) := by
  cases rest with
  | nil => simp [postfixLoop]
  | cons t ts =>
    have hf := follow_cons.1 hf
    simp [postfixLoop, ne_kw_of_tokLevel_lt hf (k := .JSON_EXTRACT_OP) (by decide),
      ne_kw_of_tokLevel_lt hf (k := .LIST_ARG) (by decide), ne_kw_of_tokLevel_lt hf (k := .LBRACK) (by decide)]

/-- `parsePostfix` fails on the prefix operators, so `parseUnary` reads whatever `parsePostfix` reads -/
theorem parseUnary_of_postfix {ts : List Tok} {x : Expr × List Tok} (h : parsePostfix prev ts = some x) :
    parseUnary prev ts = some x := by
  cases ts with
  | nil => cases h
  | cons t ts =>
    have h1 : t ≠ Tok.kw .MINUS := by rintro rfl; cases h
    have h2 : t ≠ Tok.kw .PLUS := by rintro rfl; cases h
    have h3 : t ≠ Tok.kw .BANG := by rintro rfl; cases h
    have h4 : t ≠ Tok.kw .TILDE := by rintro rfl; cases h
    simp [parseUnary, h1, h2, h3, h4, h]

theorem mkNeg_mkPos_of_not_int {e : Expr} (h : e.isIntLit = false) :
    mkNeg e = .un .minus e ∧ mkPos e = .un .plus e := by
  cases e with
  | val ty neg s => cases ty <;> simp [Expr.isIntLit] at h <;> simp [mkNeg, mkPos]
  | _ => simp [mkNeg, mkPos]

theorem binLoop_stop {Op : Type} (next : P Expr) (opOf : Tok → Option Op) (mk : Op → Expr → Expr → Expr) (m : Nat)
    (acc : Expr) (rest : List Tok) (h : ∀ t ts, rest = t :: ts → opOf t = none) :
    binLoop next opOf mk (m + 1) acc rest = some (acc, rest) := by
  cases rest with
  | nil => simp [binLoop]
  | cons t ts => simp [binLoop, h t ts rfl]

theorem condRest_stop (l : Expr) (rest : List Tok) (hf : follow 5 rest = true) :
    parseCondRest prev l rest = some (l, rest) := by
  cases rest with
  | nil => simp [parseCondRest]
  | cons t ts =>
    have hf := follow_cons.1 hf
    have h5 : cmpOpOf t = none := by
      -- The table is taken apart arm by arm: the arm of no operator is `none` by computation, in a keyword arm the
      -- level of the keyword contradicts `hf`.  (Simplifying `tokLevel t` at a variable `t` is slow: its catch-all
      -- equation carries one side condition per keyword.)
      unfold cmpOpOf; split <;> first | rfl | exact absurd hf (by decide)
    simp [parseCondRest, h5, ne_kw_of_tokLevel_lt hf (k := .IN) (by decide), ne_kw_of_tokLevel_lt hf (k := .LIKE) (by decide),
      ne_kw_of_tokLevel_lt hf (k := .REGEXP) (by decide), ne_kw_of_tokLevel_lt hf (k := .NOT) (by decide)]

theorem condRest_op (op : CmpOp) (l : Expr) (rest : List Tok) :
    parseCondRest prev l (op.toks ++ rest) = parseCmpRhs prev op l rest := by
  cases op <;> rfl

theorem follow6_cmpToks (op : CmpOp) (rest : List Tok) : follow 6 (op.toks ++ rest) = true := by
  cases op <;> rfl

/-- `parseVal` fails on EXISTS, so `parseCond` goes on from whatever `parseVal` reads -/
theorem parseCond_of_val {ts rest : List Tok} {l : Expr} (h : parseVal prev ts = some (l, rest)) :
    parseCond prev ts = parseCondRest prev l rest := by
  have : headIs .EXISTS ts = false := by
    cases ts with
    | nil => rfl
    | cons t ts => simp only [headIs, beq_eq_false_iff_ne]; rintro rfl; cases h
  simp [parseCond, this, h]

theorem isLoop_stop (m : Nat) (acc : Expr) (rest : List Tok) (hf : follow 4 rest = true) :
    isLoop (m + 1) acc rest = some (acc, rest) := by
  cases rest with
  | nil => simp [isLoop]
  | cons t ts =>
    have hf := follow_cons.1 hf
    simp [isLoop, ne_kw_of_tokLevel_lt hf (k := .IS) (by decide)]

theorem isSuffix_rt (op : IsOp) (rest : List Tok) :
    ∃ tl, op.toks = Tok.kw .IS :: tl ∧ parseIsSuffix (tl ++ rest) = some (op, rest) := by
  cases op
  · exact ⟨[Tok.kw .NULL], rfl, rfl⟩
  · exact ⟨[Tok.kw .NOT, Tok.kw .NULL], rfl, rfl⟩
  · exact ⟨[Tok.kw .TRUE], rfl, rfl⟩
  · exact ⟨[Tok.kw .NOT, Tok.kw .TRUE], rfl, rfl⟩
  · exact ⟨[Tok.kw .FALSE], rfl, rfl⟩
  · exact ⟨[Tok.kw .NOT, Tok.kw .FALSE], rfl, rfl⟩

/-- `parseIs` fails on NOT, so `parseNot` reads whatever `parseIs` reads -/
theorem parseNot_of_is {ts : List Tok} {x : Expr × List Tok} (h : parseIs prev ts = some x) :
    parseNot prev ts = some x := by
  cases ts with
  | nil => cases h
  | cons t ts =>
    have h1 : t ≠ Tok.kw .NOT := by rintro rfl; cases h
    simp [parseNot, h1, h]

theorem parseExpr_ident_none {t : Tok} {a : String} (ha : identOf t = some a) {ts : List Tok}
    (hr : parseIdentRest prev a ts = none) : parseExpr prev (t :: ts) = none := by
  have hatom := (parseAtom_ident (prev := prev) ha ts).trans hr
  cases t <;> simp [identOf] at ha <;>
    simp [parseExpr, parseAnd, parseNot, parseIs, parseCond, parseVal, parseL7, parseL8, parseL9, parseL10, parseL11,
      binLevel, parseUnary, parsePostfix, hatom, headIs_cons]

theorem parseExpr_star1_none (t : Tok) (rest : List Tok) (h : identOf t ≠ none) :
    parseExpr prev (t :: Tok.kw .DOT :: Tok.kw .STAR :: rest) = none := by
  obtain ⟨a, ha⟩ := Option.ne_none_iff_exists'.1 h
  exact parseExpr_ident_none ha (by simp [parseIdentRest, headIs_cons, identOf])

theorem parseExpr_star2_none (t1 t2 : Tok) (rest : List Tok) (h1 : identOf t1 ≠ none) (h2 : identOf t2 ≠ none) :
    parseExpr prev (t1 :: Tok.kw .DOT :: t2 :: Tok.kw .DOT :: Tok.kw .STAR :: rest) = none := by
  obtain ⟨a1, ha1⟩ := Option.ne_none_iff_exists'.1 h1
  obtain ⟨a2, ha2⟩ := Option.ne_none_iff_exists'.1 h2
  exact parseExpr_ident_none ha1 (by simp [parseIdentRest, headIs_cons, ha2, show identOf (Tok.kw .STAR) = none from rfl])

end Octo.SqlSyn
