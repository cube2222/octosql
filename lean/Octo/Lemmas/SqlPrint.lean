import Octo.Model.SqlOk
/-!
# The printer in explicit form: lists, names and expressions (C30)

For every node: what `printE/printT/printS` produces once the generated template (`Octo.SqlSyn.Gen.fmt_*`) has been
interpreted.  Each lemma is proved by evaluating the interpreter on the template **as extracted from the current
ast.go** — a changed format string makes the corresponding lemma (and the round-trip theorem built on it) fail.
-/
namespace Octo.SqlSyn
open Gen

attribute [local simp] Fmt.run runSteps runPieces evalConds lookup ListFmt.run

theorem run_Exprs_nil : list_Exprs.run [] = [] := by simp [list_Exprs]
theorem run_Exprs_cons (x : List Tok) (xs) : list_Exprs.run (x :: xs) = x ++ ListFmt.items [Tok.kw .COMMA] xs := by
  simp [list_Exprs]
theorem run_SelectExprs_nil : list_SelectExprs.run [] = [] := by simp [list_SelectExprs]
theorem run_SelectExprs_cons (x : List Tok) (xs) :
    list_SelectExprs.run (x :: xs) = x ++ ListFmt.items [Tok.kw .COMMA] xs := by simp [list_SelectExprs]
theorem run_TableExprs_cons (x : List Tok) (xs) :
    list_TableExprs.run (x :: xs) = x ++ ListFmt.items [Tok.kw .COMMA] xs := by simp [list_TableExprs]
theorem run_TvfArgs_nil : list_TableValuedFunctionArguments.run [] = [] := by simp [list_TableValuedFunctionArguments]
theorem run_TvfArgs_cons (x : List Tok) (xs) :
    list_TableValuedFunctionArguments.run (x :: xs) = x ++ ListFmt.items [Tok.kw .COMMA] xs := by
  simp [list_TableValuedFunctionArguments]
theorem run_Ctes_cons (x : List Tok) (xs) :
    list_CommonTableExpressions.run (x :: xs) = x ++ ListFmt.items [Tok.kw .COMMA] xs := by
  simp [list_CommonTableExpressions]
theorem run_GroupBy_nil : list_GroupBy.run [] = [] := by simp [list_GroupBy]
theorem run_GroupBy_cons (x : List Tok) (xs) :
    list_GroupBy.run (x :: xs) = Tok.kw .GROUP :: Tok.kw .BY :: (x ++ ListFmt.items [Tok.kw .COMMA] xs) := by
  simp [list_GroupBy]
theorem run_OrderBy_nil : list_OrderBy.run [] = [] := by simp [list_OrderBy]
theorem run_OrderBy_cons (x : List Tok) (xs) :
    list_OrderBy.run (x :: xs) = Tok.kw .ORDER :: Tok.kw .BY :: (x ++ ListFmt.items [Tok.kw .COMMA] xs) := by
  simp [list_OrderBy]
theorem run_Triggers_nil : list_Triggers.run [] = [] := by simp [list_Triggers]
theorem run_Triggers_cons (x : List Tok) (xs) :
    list_Triggers.run (x :: xs) = Tok.kw .TRIGGER :: (x ++ ListFmt.items [Tok.kw .COMMA] xs) := by
  simp [list_Triggers]
theorem run_Columns_cons (x : List Tok) (xs) :
    list_Columns.run (x :: xs) = Tok.kw .LPAREN :: (x ++ (ListFmt.items [Tok.kw .COMMA] xs ++ [Tok.kw .RPAREN])) := by
  simp [list_Columns]

theorem printEs_eq_map (es : List Expr) : printEs es = es.map printE := by
  induction es with
  | nil => simp [printEs]
  | cons e es ih => simp [printEs, ih]
theorem printTs_eq_map (ts : List Tbl) : printTs ts = ts.map printT := by
  induction ts with
  | nil => simp [printTs]
  | cons e es ih => simp [printTs, ih]
theorem printSs_eq_map (ss : List Sel) : printSs ss = ss.map printS := by
  induction ss with
  | nil => simp [printSs]
  | cons e es ih => simp [printSs, ih]

def BinOp.tok : BinOp → Tok
  | .bitOr => .kw .PIPE | .bitAnd => .kw .AMP | .shl => .kw .SHIFT_LEFT | .shr => .kw .SHIFT_RIGHT
  | .plus => .kw .PLUS | .minus => .kw .MINUS | .mult => .kw .STAR | .div => .kw .SLASH
  | .intDiv => .kw .DIV | .mod => .kw .PERCENT | .bitXor => .kw .CARET
theorem BinOp.toks_eq (op : BinOp) : op.toks = [op.tok] := by cases op <;> rfl

def UnOp.tok : UnOp → Tok
  | .plus => .kw .PLUS | .minus => .kw .MINUS | .tilde => .kw .TILDE | .bang => .kw .BANG
theorem UnOp.toks_eq (op : UnOp) : op.toks = [op.tok] := by cases op <;> rfl

theorem printE_and (l r : Expr) : printE (.and l r) = printE l ++ Tok.kw .AND :: printE r := by
  simp [printE, fmt_AndExpr]
theorem printE_or (l r : Expr) : printE (.or l r) = printE l ++ Tok.kw .OR :: printE r := by
  simp [printE, fmt_OrExpr]
theorem printE_not (e : Expr) : printE (.not e) = Tok.kw .NOT :: printE e := by
  simp [printE, fmt_NotExpr]
theorem printE_paren (e : Expr) : printE (.paren e) = Tok.kw .LPAREN :: (printE e ++ [Tok.kw .RPAREN]) := by
  simp [printE, fmt_ParenExpr]
theorem printE_cmp (op : CmpOp) (l r : Expr) : printE (.cmp op l r) = printE l ++ (op.toks ++ printE r) := by
  simp [printE, fmt_ComparisonExpr]
theorem printE_is (op : IsOp) (e : Expr) : printE (.is op e) = printE e ++ op.toks := by
  simp [printE, fmt_IsExpr]
theorem printE_exists (s : Sel) :
    printE (.exists_ s) = Tok.kw .EXISTS :: Tok.kw .LPAREN :: (printS s ++ [Tok.kw .RPAREN]) := by
  simp [printE, fmt_ExistsExpr, fmt_Subquery]
theorem printE_val (ty : ValTy) (neg : Bool) (s : String) : printE (.val ty neg s) = printVal ty neg s := rfl
theorem printE_null : printE .null = [Tok.kw .NULL] := rfl
theorem printE_bool (b : Bool) : printE (.bool b) = [if b then Tok.kw .TRUE else Tok.kw .FALSE] := by
  cases b <;> simp [printE, fmt_BoolVal]
theorem printE_tuple (es : List Expr) :
    printE (.tuple es) = Tok.kw .LPAREN :: (list_Exprs.run (printEs es) ++ [Tok.kw .RPAREN]) := by
  simp [printE, fmt_ValTuple]
theorem printE_subq (s : Sel) : printE (.subq s) = Tok.kw .LPAREN :: (printS s ++ [Tok.kw .RPAREN]) := by
  simp [printE, fmt_Subquery]
theorem printE_bin (op : BinOp) (l r : Expr) : printE (.bin op l r) = printE l ++ op.tok :: printE r := by
  simp [printE, fmt_BinaryExpr, BinOp.toks_eq]
theorem printE_index (l i : Expr) :
    printE (.index l i) = printE l ++ Tok.kw .LBRACK :: (printE i ++ [Tok.kw .RBRACK]) := by
  simp [printE, fmt_BinaryExpr]
theorem printE_un (op : UnOp) (e : Expr) : printE (.un op e) = op.tok :: printE e := by
  cases h : e.isUnary <;> simp [printE, fmt_UnaryExpr, UnOp.toks_eq, h]
theorem printE_interval (e : Expr) (unit : String) :
    printE (.interval e unit) = Tok.kw .INTERVAL :: (printE e ++ rawWord unit) := by
  simp [printE, fmt_IntervalExpr]
theorem printE_func (qual name : String) (distinct : Bool) (args : List Expr) :
    printE (.func qual name distinct args) =
      (if qual = "" then [] else printId qual ++ [Tok.kw .DOT]) ++ (rawWord name ++ Tok.kw .LPAREN ::
        ((if distinct then [Tok.kw .DISTINCT] else []) ++ (list_SelectExprs.run (printEs args) ++ [Tok.kw .RPAREN]))) := by
  cases distinct <;> by_cases h : qual = "" <;> simp [printE, fmt_FuncExpr, h]
theorem printConvTy_simple (n : String) : printConvTy (.simple n) = rawWord n := by
  simp [printConvTy, fmt_ConvertTypeSimple]
theorem printConvTy_list : printConvTy .list = [Tok.kw .LIST_TYPE] := rfl
theorem printConvTy_object : printConvTy .object = [Tok.kw .OBJECT_TYPE] := rfl
theorem printE_convert (e : Expr) (t : ConvTy) :
    printE (.convert e t) =
      Tok.kw .CONVERT :: Tok.kw .LPAREN :: (printE e ++ Tok.kw .COMMA :: (printConvTy t ++ [Tok.kw .RPAREN])) := by
  simp [printE, fmt_ConvertExpr]
theorem printE_field (e : Expr) (name : String) :
    printE (.field e name) = printE e ++ Tok.kw .JSON_EXTRACT_OP :: printId name := by
  simp [printE, fmt_ObjectFieldAccess]

theorem printId_ne {s : String} (h : s ≠ "") : printId s = [Tok.id s] := by simp [printId, h]
theorem printTableName_1 (n : String) (h : n ≠ "") : printTableName "" n = [Tok.id n] := by
  simp [printTableName, fmt_TableName, printId, h]
theorem printTableName_2 (q n : String) (hq : q ≠ "") (h : n ≠ "") :
    printTableName q n = [Tok.id q, Tok.kw .DOT, Tok.id n] := by
  simp [printTableName, fmt_TableName, printId, h, hq]

theorem printColName_1 (name : String) (h : name ≠ "") : printColName "" "" name = [Tok.id name] := by
  simp [printColName, fmt_ColName, printId, h]
theorem printColName_2 (q1 name : String) (h1 : q1 ≠ "") (h : name ≠ "") :
    printColName "" q1 name = [Tok.id q1, Tok.kw .DOT, Tok.id name] := by
  simp [printColName, fmt_ColName, printId, h, h1, printTableName_1]
theorem printColName_3 (q2 q1 name : String) (h2 : q2 ≠ "") (h1 : q1 ≠ "") (h : name ≠ "") :
    printColName q2 q1 name = [Tok.id q2, Tok.kw .DOT, Tok.id q1, Tok.kw .DOT, Tok.id name] := by
  simp [printColName, fmt_ColName, printId, h, h1, printTableName_2 q2 q1 h2 h1]

theorem printE_col (q2 q1 name : String) : printE (.col q2 q1 name) = printColName q2 q1 name := rfl

theorem printE_star_0 : printE (.star "" "") = [Tok.kw .STAR] := by simp [printE, fmt_StarExpr]
theorem printE_star_1 (q1 : String) (h1 : q1 ≠ "") : printE (.star "" q1) = [Tok.id q1, Tok.kw .DOT, Tok.kw .STAR] := by
  simp [printE, fmt_StarExpr, h1, printTableName_1]
theorem printE_star_2 (q2 q1 : String) (h2 : q2 ≠ "") (h1 : q1 ≠ "") :
    printE (.star q2 q1) = [Tok.id q2, Tok.kw .DOT, Tok.id q1, Tok.kw .DOT, Tok.kw .STAR] := by
  simp [printE, fmt_StarExpr, h1, printTableName_2 q2 q1 h2 h1]
def printAliasOpt (a : String) : List Tok := if a = "" then [] else [Tok.kw .AS, Tok.id a]
theorem printE_aliased (e : Expr) (a : String) : printE (.aliased e a) = printE e ++ printAliasOpt a := by
  by_cases h : a = "" <;> simp [printE, fmt_AliasedExpr, printAliasOpt, printId, h]
theorem printE_explode (e : Expr) : printE (.explode e) = printE e ++ [Tok.kw .JSON_EXPLODE_OP] := by
  simp [printE, fmt_ObjectExplode]
theorem printE_trigCount (e : Expr) : printE (.trigCount e) = Tok.kw .COUNTING :: printE e := by
  simp [printE, fmt_CountingTrigger]
theorem printE_trigWm : printE .trigWm = [Tok.kw .ON, Tok.kw .WATERMARK] := rfl
theorem printE_trigEos : printE .trigEos = [Tok.kw .ON, Tok.kw .END, Tok.kw .OF, Tok.kw .STREAM] := rfl
theorem printE_trigDelay (e : Expr) : printE (.trigDelay e) = Tok.kw .AFTER :: Tok.kw .DELAY :: printE e := by
  simp [printE, fmt_DelayTrigger]
theorem printE_order_desc (e : Expr) : printE (.order e true) = printE e ++ [Tok.kw .DESC] := by
  simp [printE, fmt_Order, c_DescScr]
/-- ascending: `e asc`, or just `e` for `null` / `rand()` -/
theorem printE_order_asc (e : Expr) :
    printE (.order e false) = printE e ++ [Tok.kw .ASC] ∨ printE (.order e false) = printE e := by
  cases h1 : e.isNullVal
  · cases h2 : e.isFunc <;> cases h3 : e.isRandFunc <;> simp [printE, fmt_Order, c_AscScr, h1, h2, h3]
  · simp [printE, fmt_Order, h1]

end Octo.SqlSyn
