import Octo.Model.SqlOk
/-!
# The printer in explicit form: select statements (C30)

What `printS` produces for every node, by evaluating the interpreter on the generated template (see `SqlPrint`).
-/
namespace Octo.SqlSyn
open Gen

attribute [local simp] Fmt.run runSteps runPieces evalConds lookup ListFmt.run

def printWhereK (k : Kw) : Option Expr → List Tok
  | none => []
  | some e => Tok.kw k :: printE e
def printLimit (off cnt : Option Expr) : List Tok :=
  match cnt with
  | none => []
  | some c => Tok.kw .LIMIT :: ((match off with
      | none => []
      | some o => printE o ++ [Tok.kw .COMMA]) ++ printE c)

theorem run_Where (k : Kw) (w : Option Expr) :
    Fmt.run fmt_Where [("node.Type", [Tok.kw k]), ("node.Expr", optToks (printOE w))]
      [("node == nil || node.Expr == nil", w.isNone)] = printWhereK k w := by
  cases w <;> simp [fmt_Where, printWhereK, printOE, optToks]
theorem run_Limit (lo lc : Option Expr) :
    Fmt.run fmt_Limit [("node.Offset", optToks (printOE lo)), ("node.Rowcount", optToks (printOE lc))]
      [("node == nil", lc.isNone), ("node.Offset != nil", lo.isSome)] = printLimit lo lc := by
  cases lo <;> cases lc <;> simp [fmt_Limit, printLimit, printOE, optToks]

theorem printS_select (distinct : Bool) (exprs : List Expr) (from_ : List Tbl) (where_ : Option Expr)
    (groupBy : List Expr) (having : Option Expr) (trig orderBy : List Expr) (limOff limCnt : Option Expr) :
    printS (.select distinct exprs from_ where_ groupBy having trig orderBy limOff limCnt) =
      Tok.kw .SELECT :: ((if distinct then [Tok.kw .DISTINCT] else []) ++ (list_SelectExprs.run (printEs exprs) ++
        Tok.kw .FROM :: (list_TableExprs.run (printTs from_) ++ (printWhereK .WHERE where_ ++
          (list_GroupBy.run (printEs groupBy) ++ (printWhereK .HAVING having ++ (list_Triggers.run (printEs trig) ++
            (list_OrderBy.run (printEs orderBy) ++ printLimit limOff limCnt)))))))) := by
  rw [printS, c_WhereStr, c_HavingStr, run_Where, run_Where, run_Limit]
  simp [fmt_Select, c_DistinctStr]

theorem printS_with (ctes : List Sel) (s : Sel) :
    printS (.with_ ctes s) = Tok.kw .WITH :: (list_CommonTableExpressions.run (printSs ctes) ++ printS s) := by
  simp [printS, fmt_With]

theorem printS_cte (name : String) (s : Sel) :
    printS (.cte name s) = printId name ++ Tok.kw .AS :: Tok.kw .LPAREN :: (printS s ++ [Tok.kw .RPAREN]) := by
  simp [printS, fmt_CommonTableExpression]

theorem startsSelect_printS (s : Sel) (hs : s.isStmt = true) (rest : List Tok) :
    startsSelect (printS s ++ rest) = true := by
  cases s with
  | select => rw [printS_select]; rfl
  | with_ ctes s => rw [printS_with]; rfl
  | cte => cases hs

end Octo.SqlSyn
