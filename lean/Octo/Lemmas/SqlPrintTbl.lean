import Octo.Lemmas.SqlPrint
/-!
# The printer in explicit form: table expressions (C30)

What `printT` produces for every node, by evaluating the interpreter on the generated template (see `SqlPrint`).
-/
namespace Octo.SqlSyn
open Gen

attribute [local simp] Fmt.run runSteps runPieces evalConds lookup ListFmt.run

theorem printT_table (q name as_ : String) :
    printT (.table q name as_) = printTableName q name ++ printAliasOpt as_ := by
  by_cases h : as_ = "" <;> simp [printT, fmt_AliasedTableExpr, printAliasOpt, printId, h]
theorem printT_sub (s : Sel) (as_ : String) :
    printT (.sub s as_) = Tok.kw .LPAREN :: (printS s ++ Tok.kw .RPAREN :: printAliasOpt as_) := by
  by_cases h : as_ = "" <;> simp [printT, fmt_AliasedTableExpr, fmt_Subquery, printAliasOpt, printId, h]
theorem printT_paren (ts : List Tbl) :
    printT (.paren ts) = Tok.kw .LPAREN :: (list_TableExprs.run (printTs ts) ++ [Tok.kw .RPAREN]) := by
  simp [printT, fmt_ParenTableExpr]

def joinToks (strat : Strategy) (kind : JoinKind) : List Tok :=
  (if strat.isLookupOrStream then strat.toks else []) ++ kind.toks
def printJoinCond (on : Option Expr) (us : List String) : List Tok :=
  (match on with
   | some e => Tok.kw .ON :: printE e
   | none => []) ++ (if us.isEmpty then [] else Tok.kw .USING :: list_Columns.run (us.map printId))

theorem run_JoinCondition (on : Option Expr) (us : List String) :
    Fmt.run fmt_JoinCondition [("node.On", optToks (printOE on)), ("node.Using", list_Columns.run (us.map printId))]
      [("node.On != nil", on.isSome), ("node.Using != nil", !us.isEmpty)] = printJoinCond on us := by
  cases on <;> cases hu : us.isEmpty <;> simp [fmt_JoinCondition, printJoinCond, printOE, optToks, hu]
theorem printT_join (l : Tbl) (strat : Strategy) (kind : JoinKind) (r : Tbl) (on : Option Expr) (us : List String) :
    printT (.join l strat kind r on us) = printT l ++ (joinToks strat kind ++ (printT r ++ printJoinCond on us)) := by
  rw [printT, run_JoinCondition]
  cases h : strat.isLookupOrStream <;> simp [fmt_JoinTableExpr, joinToks, h]
theorem printT_tvf (name : String) (args : List Tbl) (as_ : String) :
    printT (.tvf name args as_) = printId name ++ Tok.kw .LPAREN ::
      (list_TableValuedFunctionArguments.run (printTs args) ++ Tok.kw .RPAREN :: Tok.kw .AS :: printId as_) := by
  simp [printT, fmt_TableValuedFunction]
theorem printT_argE (name : String) (e : Expr) :
    printT (.argE name e) = printId name ++ Tok.kw .RIGHTARROW :: printE e := by
  simp [printT, fmt_TableValuedFunctionArgument, fmt_ExprTableValuedFunctionArgumentValue]
theorem printT_argT (name : String) (t : Tbl) :
    printT (.argT name t) = printId name ++ Tok.kw .RIGHTARROW :: Tok.kw .TABLE :: Tok.kw .LPAREN ::
      (printT t ++ [Tok.kw .RPAREN]) := by
  simp [printT, fmt_TableValuedFunctionArgument, fmt_TableDescriptorTableValuedFunctionArgumentValue]
theorem printT_argD (name q2 q1 c : String) :
    printT (.argD name q2 q1 c) = printId name ++ Tok.kw .RIGHTARROW :: Tok.kw .DESCRIPTOR :: Tok.kw .LPAREN ::
      (printColName q2 q1 c ++ [Tok.kw .RPAREN]) := by
  simp [printT, fmt_TableValuedFunctionArgument, fmt_FieldDescriptorTableValuedFunctionArgumentValue]

end Octo.SqlSyn
