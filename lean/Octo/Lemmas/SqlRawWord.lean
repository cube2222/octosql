import Octo.Model.SqlOk
/-!
# Names printed unquoted: what the tokenizer makes of the sample names (C30)

`rawWord` looks a name up in the generated keyword table (`Octo.SqlSyn.Gen.keywords`); the examples of C30 need it on a
few concrete names.
-/
namespace Octo.SqlSyn

/-- Keyword lookup compares strings.  The kernel decides `k = s` on string literals far faster than it computes
    `k.toList`, and every lookup walks most of the 329 keys of `Gen.keywords`. -/
theorem lookupChars_eq_lookup {α : Type} (cs : List Char) (l : List (String × α)) :
    lookupChars cs l = l.lookup (String.ofList cs) := by
  induction l with
  | nil => rfl
  | cons kv l ih =>
    rw [lookupChars, ih, List.lookup_cons]
    by_cases e : kv.1 = String.ofList cs
    · simp [e]
    · have : ¬ kv.1.toList = cs := fun h => e (String.toList_injective (by rw [h, String.toList_ofList]))
      simp [this, beq_eq_false_iff_ne.mpr (Ne.symm e)]
/-- The names the examples of C30 print raw, in one evaluation (the kernel remembers the converted keys only within
    one declaration). -/
theorem rawWord_samples :
    rawWord "select" = [Tok.kw .SELECT] ∧ rawOK "count" = true ∧ rawOK "time" = true ∧ rawOK "Time" = false ∧
      rawOK "a b" = false ∧ rawOK "f" = true ∧ rawOK "int" = true ∧ rawOK "second" = true := by
  simp only [rawOK, rawWord, lookupChars_eq_lookup]
  decide +kernel

end Octo.SqlSyn
