import Octo.Lemmas.SqlTbl
import Octo.Lemmas.SqlClause
/-!
# Round trip of select statements, and the induction over the nesting depth (C30)
-/
namespace Octo.SqlSyn

theorem parseSelect_clauses {prev : Parsers} {distinct : Bool} {r0 r1 r2 r3 r4 r5 r6 r7 r8 : List Tok}
    {items : List Expr} {from_ : List Tbl} {where_ having limOff limCnt : Option Expr} {groupBy trig orderBy : List Expr}
    (hd : headIs .DISTINCT r0 = false)
    (h0 : sepBy1 (parseItemWith (parseExpr prev)) r0 = some (items, r1))
    (h1 : parseFromOpt prev r1 = some (from_, r2))
    (h2 : parseWhereOpt prev .WHERE r2 = some (where_, r3))
    (h3 : parseGroupByOpt prev r3 = some (groupBy, r4))
    (h4 : parseWhereOpt prev .HAVING r4 = some (having, r5))
    (h5 : parseTriggerOpt prev r5 = some (trig, r6))
    (h6 : parseOrderByOpt prev r6 = some (orderBy, r7))
    (h7 : parseLimitOpt prev r7 = some ((limOff, limCnt), r8)) :
    parseSelect prev (Tok.kw .SELECT :: ((if distinct then [Tok.kw .DISTINCT] else []) ++ r0)) =
      some (.select distinct items from_ where_ groupBy having trig orderBy limOff limCnt, r8) := by
  cases distinct <;> simp [parseSelect, headIs_cons, hd, h0, h1, h2, h3, h4, h5, h6, h7]

section level
variable {prev : Parsers} {d : Nat} (hp : PrevOK prev d)
include hp

theorem from_rt (x : Tbl) (xs : List Tbl) (hok : okTs (x :: xs) = true) (hd : depthTs (x :: xs) ≤ d) {i : Nat}
    (hi : 1 ≤ i) (tl : List Tok) (hf : endsAt i tl = true) :
    parseFromOpt prev (Tok.kw .FROM :: (Gen.list_TableExprs.run (printTs (x :: xs)) ++ tl)) = some (x :: xs, tl) := by
  have := sepBy1_clause (parseTableRef prev) printT hi x xs
    (fun t ht r hr =>
      have hh := listRest_props hi hr
      tblRef_rt hp t (okTs_mem hok t ht) (depthTs_mem hd t ht) r hh.followT
        (fun _ => ⟨hh.headIs .ON rfl (by decide), hh.headIs .USING rfl (by decide)⟩)) tl hf
  simpa [printTs_eq_map, run_TableExprs_cons, parseFromOpt, headIs_cons] using this

theorem select_rt (distinct : Bool) (exprs : List Expr) (from_ : List Tbl) (where_ : Option Expr)
    (groupBy : List Expr) (having : Option Expr) (trig orderBy : List Expr) (limOff limCnt : Option Expr)
    (hok : okS (.select distinct exprs from_ where_ groupBy having trig orderBy limOff limCnt) = true)
    (hd : depthS (.select distinct exprs from_ where_ groupBy having trig orderBy limOff limCnt) ≤ d)
    (rest : List Tok) (hf : followS rest = true) :
    parseSelect prev (printS (.select distinct exprs from_ where_ groupBy having trig orderBy limOff limCnt) ++ rest) =
      some (.select distinct exprs from_ where_ groupBy having trig orderBy limOff limCnt, rest) := by
  simp [okS, and_assoc] at hok
  simp only [depthS, Nat.max_le] at hd
  obtain ⟨dItems, dFrom, dWhere, dGroup, dHaving, dTrig, dOrder, dLimit⟩ := hd
  obtain ⟨hitems, hine, hfrom, hfne, hwhere, hgroup, hhaving, htrig, horder, hlo, hlc, hboth⟩ := hok
  match exprs, hitems, hine, dItems with
  | x :: xs, hitems, _, dItems =>
  match from_, hfrom, hfne, dFrom with
  | f :: fs, hfrom, _, dFrom =>
  -- `sK`: the tokens after the clause of rank K end at rank K + 1, because every later clause prints nothing or begins
  -- with its own keyword
  have s6 := endsAt_of_followS hf
  have s5 := endsAt_append .LIMIT (by decide) (printLimit_pre limOff limCnt) s6
  have s4 := endsAt_append .ORDER (by decide) (run_pre Gen.list_OrderBy rfl rfl (printEs orderBy)) s5
  have s3 := endsAt_append .TRIGGER (by decide) (run_pre Gen.list_Triggers rfl rfl (printEs trig)) s4
  have s2 := endsAt_append .HAVING (by decide) (printWhereK_pre .HAVING having) s3
  have s1 := endsAt_append .GROUP (by decide) (run_pre Gen.list_GroupBy rfl rfl (printEs groupBy)) s2
  have s0 := endsAt_append .WHERE (by decide) (printWhereK_pre .WHERE where_) s1
  have e_items := items_rt hp x xs hitems dItems
  have e_from := from_rt hp f fs hfrom dFrom (by decide) _ s0
  have e_where := whereOpt_rt hp .WHERE where_ hwhere dWhere (by decide) _ s1
  have e_group := groupBy_rt hp groupBy hgroup dGroup (by decide) _ s2
  have e_having := whereOpt_rt hp .HAVING having hhaving dHaving (by decide) _ s3
  have e_trig := triggers_rt hp trig htrig dTrig (by decide) _ s4
  have e_order := orderBy_rt hp orderBy horder dOrder (by decide) _ s5
  have e_limit := limit_rt hp limOff limCnt hlo hlc hboth dLimit rest s6
  have hdist : ∀ tl, headIs .DISTINCT (printE x ++ tl) = false :=
    headIs_false_item (okItems_mem hitems x (by simp)) rfl (by decide)
  rw [printS_select, printEs, run_SelectExprs_cons]
  simp only [List.append_assoc, List.cons_append]
  exact parseSelect_clauses (hdist _) (e_items _) e_from e_where e_group e_having e_trig e_order e_limit

theorem selStmt_rt (s : Sel) (hok : okS s = true) (hs : s.isStmt = true) (hd : depthS s ≤ d) (rest : List Tok)
    (hf : followS rest = true) : parseSelStmt prev (printS s ++ rest) = some (s, rest) := by
  cases s with
  | select distinct exprs from_ where_ groupBy having trig orderBy limOff limCnt =>
    have h := select_rt hp distinct exprs from_ where_ groupBy having trig orderBy limOff limCnt hok hd rest hf
    have hw : headIs .WITH (printS (.select distinct exprs from_ where_ groupBy having trig orderBy limOff limCnt) ++ rest) =
        false := by
      simp [printS_select, headIs_cons]
    simp [parseSelStmt, hw, h]
  | with_ ctes s' =>
    simp [okS, and_assoc] at hok
    obtain ⟨hctes, hne, hoks, hstmt⟩ := hok
    simp only [depthS, Nat.max_le] at hd
    have hc := okCtes_mem hctes
    have hdc := depthSs_mem hd.1
    match ctes, hne, hc, hdc with
    | c :: cs, _, hc, hdc =>
      have hss := startsSelect_printS s' hstmt rest
      obtain ⟨h1, _⟩ := cte_rt hp c (hc c (by simp)) (hdc c (by simp))
        (ListFmt.items [Tok.kw .COMMA] (cs.map printS) ++ (printS s' ++ rest))
      have hlen : cs.length ≤ (Tok.kw .WITH :: (printS c ++ (ListFmt.items [Tok.kw .COMMA] (cs.map printS) ++
          (printS s' ++ rest)))).length := by
        have := items_length (cs.map printS)
        simp only [List.length_cons, List.length_append, List.length_map] at *
        omega
      have h2 := cteTail_rt hp cs (fun y hy => ⟨hc y (by simp [hy]), hdc y (by simp [hy])⟩) (printS s' ++ rest) hss _ hlen
      have h3 := hp.sel s' hoks hstmt hd.2 rest hf
      simp [printS_with, printSs, printSs_eq_map, run_Ctes_cons, parseSelStmt, headIs_cons, h1] at h2 ⊢
      simp [h2, h3]
  | cte _ _ => simp [Sel.isStmt] at hs

end level

/-- every nesting level of `parsers` round-trips everything of smaller nesting depth -/
theorem prevOK_all : ∀ n, PrevOK (parsers n) n := by
  intro n
  induction n with
  | zero =>
    exact {
      expr := fun _ _ _ h => absurd h (Nat.not_lt_zero _)
      val := fun _ _ _ h => absurd h (Nat.not_lt_zero _)
      sel := fun _ _ _ h => absurd h (Nat.not_lt_zero _)
      tbl := fun _ _ h => absurd h (Nat.not_lt_zero _)
      star1 := fun _ _ _ => rfl
      star2 := fun _ _ _ _ _ => rfl }
  | succ n ih =>
    exact {
      expr := fun e h1 h2 h3 rest hf => rt1 ih e h1 h2 (by omega) rest hf
      val := fun e h1 h2 h3 rest hf => rt6 ih e h1 h2 (by omega) rest hf
      sel := fun s h1 h2 h3 rest hf => selStmt_rt ih s h1 h2 (by omega) rest hf
      tbl := fun t h1 h3 rest hf ho => tblRef_rt ih t h1 (by omega) rest hf ho
      star1 := parseExpr_star1_none
      star2 := parseExpr_star2_none }

theorem roundtrip_fuel (s : Sel) (hok : okS s = true) (hs : s.isStmt = true) (n : Nat) (hn : depthS s < n) :
    parseStmtFuel n (printS s) = some s := by
  have h := (prevOK_all n).sel s hok hs hn [] rfl
  simp at h
  simp [parseStmtFuel, h]

/-- no level hypothesis: the level of `e` is at least 1 because `okE` holds of it -/
theorem roundtrip_expr (e : Expr) (hok : okE e = true) (n : Nat) (hn : depthE e < n) (rest : List Tok)
    (hf : follow 1 rest = true) : (parsers n).expr (printE e ++ rest) = some (e, rest) :=
  (prevOK_all n).expr e hok (lvl_pos_of_okE e hok) hn rest hf

end Octo.SqlSyn
