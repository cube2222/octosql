import Octo.Lemmas.SqlExpr
import Octo.Lemmas.SqlPrintTbl
/-!
# Round trip of table expressions (C30)
-/
namespace Octo.SqlSyn

/-- tokens that may follow a table factor: what may follow a table reference, or the start of a join -/
def followFactor : List Tok → Bool
  | [] => true
  | t :: _ => stopT t || isJoinStart t

theorem followFactor_of_followT {rest : List Tok} (h : followT rest = true) : followFactor rest = true := by
  cases rest with
  | nil => rfl
  | cons t ts => simp [followT] at h; simp [followFactor, h]

theorem afterFactor_tok {t : Tok} (h : stopT t = true ∨ isJoinStart t = true) :
    tokLevel t = 0 ∧ aliasOf t = none ∧ t ≠ Tok.kw .AS := by
  rcases h with h | h
  -- arm by arm, as `cmpOpOf` in `condRest_stop`
  · unfold stopT at h; split at h <;> first | exact ⟨rfl, rfl, by simp⟩ | cases h
  · unfold isJoinStart at h; split at h <;> first | exact ⟨rfl, rfl, by simp⟩ | cases h

theorem follow1_of_followFactor {rest : List Tok} (h : followFactor rest = true) : follow 1 rest = true := by
  cases rest with
  | nil => rfl
  | cons t ts =>
    simp [followFactor] at h
    exact follow_of_level0 (afterFactor_tok h).1 1 (Nat.le_refl 1)

theorem aliasOpt_none_factor {rest : List Tok} (h : followFactor rest = true) :
    parseAliasOpt rest = some ("", rest) := by
  cases rest with
  | nil => rfl
  | cons t ts =>
    simp [followFactor] at h
    obtain ⟨_, h1, h2⟩ := afterFactor_tok h
    simp [parseAliasOpt, h1, h2]

theorem okTs_mem {ts : List Tbl} (h : okTs ts = true) : ∀ x ∈ ts, okT x = true :=
  (forall_mem_of_and_rec rfl (fun _ _ => rfl) _).1 h
theorem okArgs_mem {ts : List Tbl} (h : okArgs ts = true) : ∀ x ∈ ts, okArg x = true :=
  (forall_mem_of_and_rec rfl (fun _ _ => rfl) _).1 h
theorem depthTs_mem {ts : List Tbl} {d : Nat} (h : depthTs ts ≤ d) : ∀ x ∈ ts, depthT x ≤ d :=
  max_mem (fun _ _ => rfl) h
theorem depthTs_mem_lt {ts : List Tbl} {d : Nat} (h : depthTs ts < d) : ∀ x ∈ ts, depthT x < d := by
  intro x hx
  have := depthTs_mem (Nat.le_refl (depthTs ts)) x hx
  omega

/-- `okT` on a join: the operands, the condition, and per family of join kinds (inner, natural, outer) what
    `parseJoinRest` relies on -/
structure OkJoin (l : Tbl) (strat : Strategy) (kind : JoinKind) (r : Tbl) (on : Option Expr) (us : List String) : Prop where
  left : okT l = true
  right : okT r = true
  cond : okOE on = true
  cols : nonEmptyAll us = true
  family : (kind = .join ∧ strat ≠ .none_ ∧ r.isFactor = true ∧ (on = none ∨ us = [])) ∨
    (kind.isInner = false ∧ kind.isOuter = false ∧ strat = .none_ ∧ r.isFactor = true ∧ on = none ∧ us = []) ∨
    (kind.isInner = false ∧ kind.isOuter = true ∧ strat = .none_ ∧ r.isOpenInnerJoin = false ∧
      ((on.isSome = true ∧ us = []) ∨ (on = none ∧ us ≠ [])))

theorem okT_join_cases {l : Tbl} {strat : Strategy} {kind : JoinKind} {r : Tbl} {on : Option Expr} {us : List String}
    (hok : okT (.join l strat kind r on us) = true) : OkJoin l strat kind r on us := by
  simp [okT, and_assoc] at hok
  obtain ⟨hl, hr, hon, hus, hk⟩ := hok
  refine ⟨hl, hr, hon, hus, ?_⟩
  cases kind <;> simp_all [JoinKind.isInner, JoinKind.isOuter]

theorem tbl_head : ∀ t : Tbl, okT t = true →
    ∃ tk ts, printT t = tk :: ts ∧ ((∃ s, tk = Tok.id s) ∨ tk = Tok.kw .LPAREN)
  | .table q name as_, hok => by
    simp [okT] at hok
    by_cases hq : q = ""
    · subst hq
      exact ⟨_, _, by rw [printT_table, printTableName_1 name hok]; rfl, Or.inl ⟨_, rfl⟩⟩
    · exact ⟨_, _, by rw [printT_table, printTableName_2 q name hq hok]; rfl, Or.inl ⟨_, rfl⟩⟩
  | .sub s as_, _ => ⟨_, _, printT_sub s as_, Or.inr rfl⟩
  | .paren ts, _ => ⟨_, _, printT_paren ts, Or.inr rfl⟩
  | .join l strat kind r on us, hok => by
    obtain ⟨tk, ts, h1, h2⟩ := tbl_head l (okT_join_cases hok).left
    exact ⟨tk, ts ++ (joinToks strat kind ++ (printT r ++ printJoinCond on us)), by simp [printT_join, h1], h2⟩
  | .tvf name args as_, hok => by
    simp [okT, and_assoc] at hok
    exact ⟨_, _, by rw [printT_tvf, printId_ne hok.1]; rfl, Or.inl ⟨_, rfl⟩⟩
  | .argE _ _, hok | .argT _ _, hok | .argD _ _ _ _, hok => by simp [okT] at hok

theorem not_startsSelect_printT (t : Tbl) (hok : okT t = true) (tl : List Tok) : startsSelect (printT t ++ tl) = false := by
  obtain ⟨tk, ts, h1, h2⟩ := tbl_head t hok
  rw [h1]
  rcases h2 with ⟨s, rfl⟩ | rfl <;> simp [startsSelect]

variable {prev : Parsers}

theorem aliasMust_rt (a : String) (rest : List Tok) :
    parseAliasMust (Tok.kw .AS :: Tok.id a :: rest) = some (a, rest) := rfl

theorem aliasOpt_rt (as_ : String) (rest : List Tok) (hf : followFactor rest = true) :
    parseAliasOpt (printAliasOpt as_ ++ rest) = some (as_, rest) ∧
      headIs .DOT (printAliasOpt as_ ++ rest) = false ∧ headIs .LPAREN (printAliasOpt as_ ++ rest) = false := by
  by_cases ha : as_ = ""
  · subst ha
    have hf1 := follow1_of_followFactor hf
    simpa [printAliasOpt] using
      ⟨aliasOpt_none_factor hf, headIs_false_of_follow hf1 (by decide), headIs_false_of_follow hf1 (by decide)⟩
  · simp [printAliasOpt, ha, parseAliasOpt, aliasOf, headIs_cons]

theorem map_printId {us : List String} (h : nonEmptyAll us = true) : us.map printId = us.map (fun c => [Tok.id c]) := by
  induction us with
  | nil => rfl
  | cons c cs ih =>
    simp [nonEmptyAll] at h
    simp [printId, h.1, ih h.2]

theorem colIdents_rt (c : String) (cs : List String) (rest : List Tok) :
    sepBy1 parseColIdent (Tok.id c :: (ListFmt.items [Tok.kw .COMMA] (cs.map (fun c => [Tok.id c])) ++
      Tok.kw .RPAREN :: rest)) = some (c :: cs, Tok.kw .RPAREN :: rest) :=
  sepBy1_before parseColIdent (fun c => [Tok.id c]) (Tok.kw .RPAREN) (by simp) c cs (fun _ _ _ _ => rfl) rest

theorem joinOp_rt (strat : Strategy) (kind : JoinKind)
    (hsk : (kind = .join ∧ strat ≠ .none_) ∨ (kind ≠ .join ∧ strat = .none_)) :
    ∃ t tl, joinToks strat kind = t :: tl ∧ isJoinStart t = true ∧
      ∀ rest, parseJoinOp (t :: (tl ++ rest)) = some (strat, kind, rest) := by
  rcases hsk with ⟨rfl, hs⟩ | ⟨hk, rfl⟩
  · cases strat with
    | none_ => exact absurd rfl hs
    | undefined => exact ⟨Tok.kw .JOIN, [], rfl, rfl, fun _ => rfl⟩
    | lookup => exact ⟨Tok.kw .LOOKUP, [Tok.kw .JOIN], rfl, rfl, fun _ => rfl⟩
    | stream => exact ⟨Tok.kw .STREAM, [Tok.kw .JOIN], rfl, rfl, fun _ => rfl⟩
  · cases kind with
    | join => exact absurd rfl hk
    | left => exact ⟨Tok.kw .LEFT, [Tok.kw .JOIN], rfl, rfl, fun _ => rfl⟩
    | right => exact ⟨Tok.kw .RIGHT, [Tok.kw .JOIN], rfl, rfl, fun _ => rfl⟩
    | outer => exact ⟨Tok.kw .OUTER, [Tok.kw .JOIN], rfl, rfl, fun _ => rfl⟩
    | natural => exact ⟨Tok.kw .NATURAL, [Tok.kw .JOIN], rfl, rfl, fun _ => rfl⟩
    | naturalLeft => exact ⟨Tok.kw .NATURAL, [Tok.kw .LEFT, Tok.kw .JOIN], rfl, rfl, fun _ => rfl⟩
    | naturalRight => exact ⟨Tok.kw .NATURAL, [Tok.kw .RIGHT, Tok.kw .JOIN], rfl, rfl, fun _ => rfl⟩

theorem joinLoop_stop (m : Nat) (acc : Tbl) (rest : List Tok) (hf : followT rest = true) :
    joinLoop prev (m + 1) acc rest = some (acc, rest) := by
  cases rest with
  | nil => simp [joinLoop]
  | cons t ts =>
    simp [followT] at hf
    have : isJoinStart t = false := by
      unfold stopT at hf; split at hf <;> first | rfl | cases hf
    simp [joinLoop, this]

theorem followFactor_printJoinCond (on : Option Expr) (us : List String) (rest : List Tok) (hf : followFactor rest = true) :
    followFactor (printJoinCond on us ++ rest) = true := by
  cases on with
  | some e => rfl
  | none =>
    cases us with
    | nil => simpa [printJoinCond] using hf
    | cons c cs => rfl

theorem okT_join_strat_kind {l : Tbl} {strat : Strategy} {kind : JoinKind} {r : Tbl} {on : Option Expr} {us : List String}
    (hok : okT (.join l strat kind r on us) = true) :
    (kind = .join ∧ strat ≠ .none_) ∨ (kind ≠ .join ∧ strat = .none_) := by
  rcases (okT_join_cases hok).family with ⟨hk, hs, _⟩ | ⟨hi, _, hs, _⟩ | ⟨hi, _, hs, _⟩
  · exact Or.inl ⟨hk, hs⟩
  · exact Or.inr ⟨by rintro rfl; simp [JoinKind.isInner] at hi, hs⟩
  · exact Or.inr ⟨by rintro rfl; simp [JoinKind.isInner] at hi, hs⟩

section level
variable {d : Nat} (hp : PrevOK prev d)
include hp

theorem tvfArg_rt (a : Tbl) (hok : okArg a = true) (hd : depthT a ≤ d) (rest : List Tok)
    (hf1 : follow 1 rest = true) : parseTvfArg prev (printT a ++ rest) = some (a, rest) := by
  cases a with
  | argE name e =>
    simp [okArg, and_assoc] at hok
    obtain ⟨hname, hoke, hle⟩ := hok
    simp [depthT] at hd
    have h1 : ∀ tl, headIs .TABLE (printE e ++ tl) = false := headIs_false_printE hoke rfl
    have h2 : ∀ tl, headIs .DESCRIPTOR (printE e ++ tl) = false := headIs_false_printE hoke rfl
    have h3 := hp.expr e hoke hle hd rest hf1
    simp [printT_argE, printId_ne hname, parseTvfArg, identOf, h1, h2, h3]
  | argT name t =>
    simp [okArg] at hok
    simp [depthT] at hd
    have h3 := hp.tbl t hok.2 hd (Tok.kw .RPAREN :: rest) rfl (by simp [headIs_cons])
    simp [printT_argT, printId_ne hok.1, parseTvfArg, identOf, headIs_cons, h3]
  | argD name q2 q1 c =>
    simp [okArg, and_assoc] at hok
    obtain ⟨hname, hc, hq⟩ := hok
    rcases qual_cases hq with ⟨rfl, rfl⟩ | ⟨rfl, h1⟩ | ⟨h2, h1⟩
    · simp [printT_argD, printId_ne hname, printColName_1 c hc, parseTvfArg, identOf, headIs_cons, parseColumnName]
    · simp [printT_argD, printId_ne hname, printColName_2 q1 c h1 hc, parseTvfArg, identOf, headIs_cons, parseColumnName]
    · simp [printT_argD, printId_ne hname, printColName_3 q2 q1 c h2 h1 hc, parseTvfArg, identOf, headIs_cons,
        parseColumnName]
  | _ => simp [okArg] at hok

theorem tblFactor_rt (t : Tbl) (hok : okT t = true) (hfac : t.isFactor = true) (hd : depthT t ≤ d) (rest : List Tok)
    (hf : followFactor rest = true) : parseTableFactor prev (printT t ++ rest) = some (t, rest) := by
  cases t with
  | table q name as_ =>
    simp [okT] at hok
    obtain ⟨ha, hdot, hlp⟩ := aliasOpt_rt as_ rest hf
    by_cases hq : q = ""
    · subst hq
      simp [printT_table, printTableName_1 name hok, parseTableFactor, parseTableNameRest, hlp, hdot, ha]
    · simp [printT_table, printTableName_2 q name hq hok, parseTableFactor, parseTableNameRest, headIs_cons, identOf, ha]
  | sub s as_ =>
    simp [okT, and_assoc] at hok
    obtain ⟨hoks, hstmt, has⟩ := hok
    simp [depthT] at hd
    have hb := subqueryBody_rt hp s hoks hstmt hd (Tok.kw .AS :: Tok.id as_ :: rest)
    simp [printT_sub, printAliasOpt, has, parseTableFactor, parseTableParenRest, startsSelect_printS s hstmt, hb,
      aliasMust_rt]
  | paren ts =>
    simp [okT] at hok
    simp [depthT] at hd
    match ts, hok with
    | x :: xs, hok =>
      have h := sepBy1_before prev.tbl printT (Tok.kw .RPAREN) (by simp) x xs
        (fun t ht r hr => by
          obtain ⟨ts, rfl | rfl⟩ := hr <;>
            exact hp.tbl t (okTs_mem hok.1 t ht) (depthTs_mem_lt hd t ht) _ rfl (fun _ => ⟨rfl, rfl⟩)) rest
      simp [printT_paren, printTs_eq_map, run_TableExprs_cons, parseTableFactor, parseTableParenRest,
        not_startsSelect_printT x (okTs_mem hok.1 x (by simp)), h]
  | tvf name args as_ =>
    simp [okT, and_assoc] at hok
    obtain ⟨hname, has, hargs⟩ := hok
    simp [depthT] at hd
    cases args with
    | nil =>
      simp [printT_tvf, printId_ne hname, printId_ne has, printTs, run_TvfArgs_nil, parseTableFactor, headIs_cons, parseTvfRest,
        aliasMust_rt]
    | cons x xs =>
      have h := sepBy1_before (parseTvfArg prev) printT (Tok.kw .RPAREN) (by simp) x xs
        (fun t ht r hr => tvfArg_rt hp t (okArgs_mem hargs t ht) (depthTs_mem hd t ht) r
          (by obtain ⟨ts, rfl | rfl⟩ := hr <;> rfl)) (Tok.kw .AS :: Tok.id as_ :: rest)
      have hnr : ∀ tl', headIs .RPAREN (printT x ++ tl') = false := by
        have := okArgs_mem hargs x (by simp)
        intro tl'
        cases x with
        | argE n e => simp [okArg, and_assoc] at this; simp [printT_argE, printId_ne this.1, headIs_cons]
        | argT n t => simp [okArg] at this; simp [printT_argT, printId_ne this.1, headIs_cons]
        | argD n q2 q1 c => simp [okArg, and_assoc] at this; simp [printT_argD, printId_ne this.1, headIs_cons]
        | _ => simp [okArg] at this
      simp [printT_tvf, printId_ne hname, printId_ne has, printTs_eq_map, run_TvfArgs_cons, parseTableFactor, headIs_cons,
        parseTvfRest, hnr, h, aliasMust_rt]
  | join _ _ _ _ _ _ => simp [Tbl.isFactor] at hfac
  | _ => simp [okT] at hok

theorem joinCond_rt (on : Option Expr) (us : List String) (hon : okOE on = true) (hus : nonEmptyAll us = true)
    (hone : on = none ∨ us = []) (hd : depthOE on ≤ d) (rest : List Tok) (hf : followFactor rest = true)
    (hopen : on = none → us = [] → headIs .ON rest = false ∧ headIs .USING rest = false) :
    parseJoinCondOpt prev (printJoinCond on us ++ rest) = some ((on, us), rest) := by
  cases on with
  | some e =>
    obtain rfl : us = [] := hone.resolve_left (by simp)
    simp [okOE] at hon
    simp [depthOE] at hd
    have h := rt1 hp e hon.1 hon.2 hd rest (follow1_of_followFactor hf)
    simp [printJoinCond, parseJoinCondOpt, headIs_cons, h]
  | none =>
    cases us with
    | nil =>
      have := hopen rfl rfl
      simp [printJoinCond, parseJoinCondOpt, this.1, this.2]
    | cons c cs =>
      have h := colIdents_rt c cs rest
      simp [printJoinCond, map_printId hus, run_Columns_cons, parseJoinCondOpt, headIs_cons, h]

theorem joinRest_rt (l : Tbl) (strat : Strategy) (kind : JoinKind) (r : Tbl) (on : Option Expr) (us : List String)
    (hok : okT (.join l strat kind r on us) = true) (hd : depthT (.join l strat kind r on us) ≤ d) (rest : List Tok)
    (hf : followFactor rest = true)
    (hopen : (Tbl.join l strat kind r on us).isOpenInnerJoin = true →
      headIs .ON rest = false ∧ headIs .USING rest = false) :
    parseJoinRest prev l strat kind (printT r ++ (printJoinCond on us ++ rest)) =
      some (.join l strat kind r on us, rest) := by
  obtain ⟨_, hr, hon, hus, hk⟩ := okT_join_cases hok
  simp only [depthT, Nat.max_le] at hd
  obtain ⟨_, hdr, hdon⟩ := hd
  have hfc := followFactor_printJoinCond on us rest hf
  unfold parseJoinRest
  rcases hk with ⟨rfl, _, hfac, hone⟩ | ⟨hi, ho, _, hfac, rfl, rfl⟩ | ⟨hi, ho, _, hopenr, hcond⟩
  · -- inner: a table factor, then the optional condition
    have h1 := tblFactor_rt hp r hr hfac hdr _ hfc
    have h2 := joinCond_rt hp on us hon hus hone hdon rest hf (fun h1 h2 => hopen (by rw [h1, h2]; rfl))
    simp [JoinKind.isInner, h1, h2]
  · -- natural: a table factor, no condition
    simp [hi, ho, printJoinCond, tblFactor_rt hp r hr hfac (by simpa [ho] using hdr) rest hf]
  · -- outer: a whole table reference (one nesting level deeper), then the mandatory condition
    have hfT : followT (printJoinCond on us ++ rest) = true := by
      rcases hcond with ⟨h, _⟩ | ⟨rfl, h⟩
      · obtain ⟨e, rfl⟩ := Option.isSome_iff_exists.1 h; rfl
      · cases us with
        | nil => exact absurd rfl h
        | cons c cs => rfl
    have hdr' : depthT r + 1 ≤ d := by simpa [ho] using hdr
    have h1 := hp.tbl r hr hdr' _ hfT (fun h => by simp [hopenr] at h)
    have h2 := joinCond_rt hp on us hon hus (hcond.symm.imp (·.1) (·.2)) hdon rest hf
      (fun h1 h2 => by rcases hcond with ⟨h, _⟩ | ⟨_, h⟩ <;> simp_all)
    have h3 : on = none → us ≠ [] := fun h => hcond.elim (fun h' => by simp [h] at h') (·.2)
    simpa [hi, ho, h1, h2] using h3

/-- `join_table` is left recursive -/
theorem tblRef_rt (t : Tbl) (hok : okT t = true) (hd : depthT t ≤ d) (rest : List Tok) (hf : followT rest = true)
    (hopen : t.isOpenInnerJoin = true → headIs .ON rest = false ∧ headIs .USING rest = false) :
    parseTableRef prev (printT t ++ rest) = some (t, rest) := by
  obtain ⟨a, r, h1, h2⟩ := leftRec_rt (parseTableFactor prev) (joinLoop prev) printT
    (fun t rest => okT t = true ∧ depthT t ≤ d ∧ followFactor rest = true ∧
      (t.isOpenInnerJoin = true → headIs .ON rest = false ∧ headIs .USING rest = false))
    (fun _ rest => followT rest = true)
    (fun t rest ⟨hok, hd, hf, hopen⟩ => by
      by_cases hfac : t.isFactor = true
      · exact Or.inl (tblFactor_rt hp t hok hfac hd rest hf)
      · right
        cases t with
        | join l strat kind r on us =>
          obtain ⟨t0, tl, hjt, hjs, hjo⟩ := joinOp_rt strat kind (okT_join_strat_kind hok)
          have hjr := joinRest_rt hp l strat kind r on us hok hd rest hf hopen
          have hokl := (okT_join_cases hok).left
          simp [depthT] at hd
          -- What follows the left operand `l` starts with a join keyword: a table factor may stand in front of it, and
          -- if `l` is an inner join without condition there is no ON / USING for it to capture.
          have hfl : followFactor (joinToks strat kind ++ (printT r ++ printJoinCond on us) ++ rest) = true := by
            simp [hjt, followFactor, hjs]
          have hnocond : headIs .ON (joinToks strat kind ++ (printT r ++ printJoinCond on us) ++ rest) = false ∧
              headIs .USING (joinToks strat kind ++ (printT r ++ printJoinCond on us) ++ rest) = false := by
            rw [hjt]
            simp only [List.cons_append, headIs_cons, beq_eq_false_iff_ne]
            constructor <;> (intro h; subst h; cases hjs)
          -- for `hdec` of `leftRec_rt`: `l`, its suffix, `pr e = pr l ++ suf`, `suf ≠ []`, the follow condition for `l`,
          -- one turn of the loop
          refine ⟨l, joinToks strat kind ++ (printT r ++ printJoinCond on us), printT_join .., by simp [hjt],
            ⟨hokl, by omega, hfl, fun _ => hnocond⟩, fun m => ?_⟩
          simp only [hjt, List.cons_append, List.append_assoc] at hjr ⊢
          simp [joinLoop, hjs, hjo, hjr]
        | _ => simp [Tbl.isFactor] at hfac <;> simp [okT] at hok)
    joinLoop_stop t rest ⟨hok, hd, followFactor_of_followT hf, hopen⟩ hf
  unfold parseTableRef; rw [h1]; exact h2

end level

end Octo.SqlSyn
