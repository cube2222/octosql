import Octo.Lemmas.SqlOps
/-! The ordered multiset of `OrderSensitiveTransform` and of the table printer: a list of items kept sorted by `itemCmp`,
    which is a total preorder only among keys of one length (`KeyLen`). -/
namespace Octo.Sql
open Octo

theorem keyCmp_refl (m : List Int) (k : List Value) : keyCmp m k k = 0 := by
  induction m generalizing k with
  | nil => rfl
  | cons a as ih =>
    cases k with
    | nil => rfl
    | cons x xs => rw [keyCmp, cmp_refl x]; exact ih xs

theorem keyCmp_eq_cmpK : ∀ m a b, keyCmp m a b = cmpK m a b
  | _ :: ms, x :: xs, y :: ys => by simp only [keyCmp, cmpK, keyCmp_eq_cmpK ms xs ys]
  | [], _, _ | _ :: _, [], _ | _ :: _, _ :: _, [] => by simp only [keyCmp, cmpK]

theorem keyCmp_cmpOn (m : List Int) (hm : Ops.Dirs m) (n : Nat) :
    CmpOn (fun a : List Value => a.length = n) (keyCmp m) :=
  (cmpK_cmpOn m hm n).congr fun a b _ _ => keyCmp_eq_cmpK m a b

theorem itemCmp_refl (m : List Int) (a : Item) : itemCmp m a a = 0 := by
  simp [itemCmp, keyCmp_refl, cmpList_refl]

def KeyLen (n : Nat) (a : Item) : Prop := a.key.length = n

theorem itemCmp_eq_lexC (m : List Int) :
    itemCmp m = lexC (fun a b : Item => keyCmp m a.key b.key) (fun a b : Item => cmpList a.vals b.vals) := rfl

theorem itemCmp_cmpOn (m : List Int) (hm : Ops.Dirs m) (n : Nat) : CmpOn (KeyLen n) (itemCmp m) :=
  ((keyCmp_cmpOn m hm n).comap Item.key fun _ h => h).lex (cmpList_cmpOn.comap Item.vals fun _ _ => trivial)

theorem itemCmp_eq_zero {m : List Int} {a b : Item} :
    itemCmp m a b = 0 ↔ keyCmp m a.key b.key = 0 ∧ cmpList a.vals b.vals = 0 := by
  rw [itemCmp_eq_lexC]; exact lexC_eq_zero

theorem itemCmp_zero_vals (m : List Int) (a b : Item) (h : itemCmp m a b = 0) : rowEq a.vals b.vals = true := by
  rw [rowEq, beq_iff_eq]; exact (itemCmp_eq_zero.mp h).2

theorem itemCmp_zero_key (m : List Int) (a b : Item) (h : itemCmp m a b = 0) : keyCmp m a.key b.key = 0 :=
  (itemCmp_eq_zero.mp h).1

theorem itemCmp_le_key (m : List Int) (a b : Item) (h : itemCmp m a b ≤ 0) : keyCmp m a.key b.key ≤ 0 := by
  rw [itemCmp_eq_lexC] at h; exact (lexC_le_zero.mp h).1

theorem flatten_eq_flatMap (t : List Item) : flatten t = t.flatMap fun it => List.replicate it.count it.vals := by
  induction t with
  | nil => rfl
  | cons it rest ih => rw [flatten, ih, List.flatMap_cons]

theorem flatten_append (a b : List Item) : flatten (a ++ b) = flatten a ++ flatten b := by
  simp only [flatten_eq_flatMap, List.flatMap_append]

theorem length_le_flatten (t : List Item) (hc : ∀ it ∈ t, it.count ≥ 1) : t.length ≤ (flatten t).length := by
  induction t with
  | nil => exact Nat.le_refl _
  | cons it rest ih =>
    obtain ⟨h1, hr⟩ := List.forall_mem_cons.mp hc
    have := ih hr
    simp only [flatten, List.length_cons, List.length_append, List.length_replicate]; omega

theorem mem_flatten (t : List Item) (b : Row) (h : b ∈ flatten t) : ∃ it ∈ t, b = it.vals := by
  rw [flatten_eq_flatMap, List.mem_flatMap] at h
  exact h.imp fun it h => ⟨h.1, List.eq_of_mem_replicate h.2⟩

/-! ### insertion

Inductions over `insertItem m x t` follow its four clauses: the empty tree, `x` below the first item `y`
(`c < 0` for `c := itemCmp m x y`), `x` of the class of `y` (`c == 0`: the counts add up), `x` above `y`. -/

theorem flatten_length_insert (m : List Int) (x : Item) (t : List Item) :
    (flatten (insertItem m x t)).length = (flatten t).length + x.count := by
  fun_induction insertItem m x t with
  | case1 => simp [flatten]
  | case2 => rw [flatten, List.length_append, List.length_replicate, Nat.add_comm]
  | case3 => simp only [flatten, List.length_append, List.length_replicate, Nat.add_right_comm]
  | case4 _ _ _ _ _ ih => simp only [flatten, List.length_append, ih, Nat.add_assoc]

theorem flatten_count_insert (m : List Int) (x : Item) (t : List Item) (r : Row) :
    countRow r (flatten (insertItem m x t)) = countRow r (flatten t) + (if rowEq r x.vals then x.count else 0) := by
  fun_induction insertItem m x t with
  | case1 => simp [flatten, countRow_replicate, countRow]
  | case2 => rw [flatten, countRow_append, countRow_replicate, Nat.add_comm]
  | case3 y ys c _ h =>
    -- the rows of `x` are counted under the values of `y`, which are of the same class
    simp only [flatten, countRow_append, countRow_replicate, rowEq_eqv.beq_congr_right (itemCmp_zero_vals m x y (eq_of_beq h)) r]
    split <;> omega
  | case4 _ _ _ _ _ ih => simp only [flatten, countRow_append, ih, Nat.add_assoc]

def ItemsSorted (m : List Int) : List Item → Prop
  | [] => True
  | a :: rest => (∀ b ∈ rest, itemCmp m a b < 0) ∧ ItemsSorted m rest

theorem mem_insertItem (m : List Int) (x : Item) (t : List Item) (b : Item) (hb : b ∈ insertItem m x t) :
    b ∈ t ∨ b = x ∨ (∃ y ∈ t, itemCmp m x y = 0 ∧ b = { y with count := y.count + x.count }) := by
  fun_induction insertItem m x t with
  | case1 => exact .inr (.inl (List.mem_singleton.mp hb))
  | case2 => exact (List.mem_cons.mp hb).elim (fun e => .inr (.inl e)) .inl
  | case3 y ys c _ h =>
    exact (List.mem_cons.mp hb).elim (fun e => .inr (.inr ⟨y, List.mem_cons_self, eq_of_beq h, e⟩))
      (fun hb => .inl (List.mem_cons_of_mem _ hb))
  | case4 y ys c _ _ ih =>
    rcases List.mem_cons.mp hb with rfl | hb
    · exact .inl List.mem_cons_self
    · exact (ih hb).imp (List.mem_cons_of_mem _) (.imp_right fun ⟨z, hz, h⟩ => ⟨z, List.mem_cons_of_mem _ hz, h⟩)

theorem insertItem_sorted (m : List Int) (hm : Ops.Dirs m) (n : Nat) (x : Item) (t : List Item)
    (hx : KeyLen n x) (ht : ∀ y ∈ t, KeyLen n y) (hs : ItemsSorted m t) :
    ItemsSorted m (insertItem m x t) := by
  have C := itemCmp_cmpOn m hm n
  fun_induction insertItem m x t with
  | case1 => simp [ItemsSorted]
  | case2 y ys c h =>
    refine ⟨fun b hb => ?_, hs⟩
    rcases List.mem_cons.mp hb with rfl | hb
    · exact h
    · -- x < y < b
      obtain ⟨hy, hys⟩ := List.forall_mem_cons.mp ht
      exact C.lt_of_lt_of_le hx hy (hys b hb) h (Int.le_of_lt (hs.1 b hb))
  | case3 => exact hs  -- `itemCmp` does not read `count`: the item with the new count compares as `y`
  | case4 y ys c h1 h2 ih =>
    refine ⟨fun b hb => ?_, ih (List.forall_mem_cons.mp ht).2 hs.2⟩
    rcases mem_insertItem m x ys b hb with hb | rfl | ⟨z, hz, _, rfl⟩
    · exact hs.1 b hb
    · -- `b` is `x`: neither below `y` nor of its class, hence above it
      have := C.antisymm b y hx (List.forall_mem_cons.mp ht).1
      rw [beq_iff_eq] at h2
      omega
    · exact hs.1 z hz

/-! ### the rows of a sorted tree are in key order -/

theorem sortedBy_iff (order : List (SExpr × Bool)) (l : List Row) : SortedBy order l ↔ l.Pairwise (KeyLE order) := by
  induction l with
  | nil => simp [SortedBy]
  | cons r rs ih => rw [SortedBy, List.pairwise_cons, ih]

theorem sortedBy_no_keys (l : List Row) : SortedBy [] l := by
  rw [sortedBy_iff]
  -- no keys: both key tuples are `[]`, so every pair of rows is in order
  exact List.pairwise_of_forall fun _ _ _ _ h1 h2 => by cases h1; cases h2; exact Int.le_refl 0

theorem flatten_sorted (order : List (SExpr × Bool)) (t : List Item)
    (hs : ItemsSorted (mults order) t)
    (hi : ∀ it ∈ t, evalAll it.vals (keyExprs order) = some it.key) :
    SortedBy order (flatten t) := by
  induction t with
  | nil => trivial
  | cons it rest ih =>
    obtain ⟨hit, hrest⟩ := List.forall_mem_cons.mp hi
    rw [flatten, sortedBy_iff, List.pairwise_append, List.pairwise_replicate]
    refine ⟨.inr ?_, (sortedBy_iff _ _).mp (ih hs.2 hrest), fun a ha x hx => ?_⟩
    · intro ka kb h1 h2
      cases h1.symm.trans h2
      exact Int.le_of_eq (keyCmp_refl _ _)
    · intro ka kb h1 h2
      obtain ⟨i, hi', rfl⟩ := mem_flatten rest x hx
      rw [List.eq_of_mem_replicate ha, hit] at h1
      rw [hrest i hi'] at h2
      cases h1; cases h2
      exact itemCmp_le_key _ _ _ (Int.le_of_lt (hs.1 i hi'))

/-! ### pruning

What `DeleteMax` drops can never come back among the first `n` items: inserting into the first `n` items and cutting
again gives the first `n` of inserting into all of them (`insert_take`). -/

theorem insert_take (m : List Int) (x : Item) (t : List Item) (n : Nat) :
    (insertItem m x (t.take n)).take n = (insertItem m x t).take n := by
  induction t generalizing n with
  | nil => simp
  | cons y ys ih =>
    cases n with
    | zero => simp
    | succ k =>
      rw [List.take_succ_cons, insertItem, insertItem]
      split
      · cases k <;> simp [List.take_take]
      · split
        · rw [List.take_succ_cons, List.take_succ_cons, List.take_take, Nat.min_self]
        · rw [List.take_succ_cons, List.take_succ_cons, ih k]

theorem insertItem_length_le (m : List Int) (x : Item) (t : List Item) :
    (insertItem m x t).length ≤ t.length + 1 := by
  fun_induction insertItem m x t with
  | case1 => simp
  | case2 => simp
  | case3 => simp
  | case4 _ _ _ _ _ ih => simpa using ih

theorem prune_eq_take (n : Nat) (t : List Item) (h : t.length ≤ n + 1) : prune (some n) t = t.take n := by
  simp only [prune]
  split
  · rw [List.dropLast_eq_take]; congr 1; omega
  · rw [List.take_of_length_le (by omega)]

theorem flatten_take_take (t : List Item) (hc : ∀ it ∈ t, it.count ≥ 1) (n : Nat) :
    (flatten (t.take n)).take n = (flatten t).take n := by
  by_cases h : t.length ≤ n
  · rw [List.take_of_length_le h]
  · -- the first n items already hold n rows
    have hl : n ≤ (flatten (t.take n)).length := by
      have := length_le_flatten (t.take n) (fun i hi => hc i (List.mem_of_mem_take hi))
      rw [List.length_take] at this; omega
    conv => rhs; rw [← List.take_append_drop n t, flatten_append, List.take_append_of_le_length hl]

end Octo.Sql
