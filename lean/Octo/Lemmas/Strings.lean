import Octo.Model.Strings
import Octo.Lemmas.Utf8
/-!
  `strings.Replace` is specified by the relation `Replaced`, which leaves no freedom (`Replaced.unique`); the loop over
  `indexOf` (`strings.Index`) and the single scan both meet it.
-/
namespace Octo.Str
open Octo.Utf8

theorem indexOf_spec (sub : Bytes) : ∀ s : Bytes,
    match indexOf sub s with
    | some i => i ≤ s.length ∧ sub <+: s.drop i ∧ ∀ j, j < i → ¬ sub <+: s.drop j
    | none => ∀ j, ¬ sub <+: s.drop j := by
  intro s
  induction s with
  | nil =>
    cases sub with
    | nil => exact ⟨Nat.le_refl _, List.prefix_refl _, fun j hj => absurd hj (Nat.not_lt_zero _)⟩
    | cons c sub => intro j hx; rw [List.drop_nil, List.prefix_nil] at hx; cases hx
  | cons b rest ih =>
    rw [indexOf]
    by_cases hp : sub.isPrefixOf (b :: rest) = true
    · rw [if_pos hp]
      exact ⟨Nat.zero_le _, List.isPrefixOf_iff_prefix.1 hp, fun j hj => absurd hj (Nat.not_lt_zero _)⟩
    · rw [if_neg hp]
      have hp' : ¬ sub <+: b :: rest := fun hx => hp (List.isPrefixOf_iff_prefix.2 hx)
      cases hr : indexOf sub rest with
      | none =>
        rw [hr] at ih
        intro j
        cases j with
        | zero => exact hp'
        | succ j => exact ih j
      | some i =>
        rw [hr] at ih
        refine ⟨Nat.succ_le_succ ih.1, ih.2.1, fun j hj => ?_⟩
        cases j with
        | zero => exact hp'
        | succ j => exact ih.2.2 j (Nat.lt_of_succ_lt_succ hj)

theorem indexOf_isSome_of_occurs {sub s : Bytes} {j : Nat} (h : sub <+: s.drop j) : (indexOf sub s).isSome = true := by
  have hs := indexOf_spec sub s
  cases hi : indexOf sub s with
  | some i => rfl
  | none => rw [hi] at hs; exact absurd h (hs j)

/-- `out` is `s` with every occurrence of `old` replaced by `new`, scanning left to right, occurrences not
    overlapping: either `old` does not occur in `s` and `out = s`, or `s = pre ++ old ++ rest` where this
    occurrence is the first one (none starts before `pre.length`), and `out = pre ++ new ++ out'` with
    `out'` the replacement of `rest`. -/
inductive Replaced (old new : Bytes) : Bytes → Bytes → Prop
  | done {s : Bytes} : (∀ j, ¬ old <+: s.drop j) → Replaced old new s s
  | step {pre rest out : Bytes} :
      (∀ j, j < pre.length → ¬ old <+: (pre ++ old ++ rest).drop j) →
      Replaced old new rest out → Replaced old new (pre ++ old ++ rest) (pre ++ new ++ out)

theorem split_at_occurrence {old s : Bytes} {j : Nat} (hj : j ≤ s.length) (h : old <+: s.drop j) :
    s = s.take j ++ old ++ s.drop (j + old.length) ∧ (s.take j).length = j := by
  obtain ⟨t, ht⟩ := h
  have h1 : s = s.take j ++ s.drop j := (List.take_append_drop j s).symm
  have h2 : s.drop (j + old.length) = t := by
    rw [← List.drop_drop, ← ht]; simp
  refine ⟨?_, by simp; omega⟩
  rw [h2, List.append_assoc, ht]; exact h1

theorem replaceLoop_spec (old new : Bytes) (hold : old ≠ []) :
    ∀ (fuel : Nat) (s : Bytes), s.length < fuel → Replaced old new s (replaceLoop old new fuel s) := by
  intro fuel
  induction fuel with
  | zero => intro s h; exact absurd h (Nat.not_lt_zero _)
  | succ fuel ih =>
    intro s hs
    have hspec := indexOf_spec old s
    simp only [replaceLoop]
    cases hi : indexOf old s with
    | none => rw [hi] at hspec; exact .done hspec
    | some j =>
      rw [hi] at hspec
      obtain ⟨h1, h2, h3⟩ := hspec
      obtain ⟨e, hl⟩ := split_at_occurrence h1 h2
      have hpos : 0 < old.length := List.length_pos_iff.2 hold
      have hle : old.length ≤ s.length - j := by simpa using h2.length_le
      have hr : (s.drop (j + old.length)).length < fuel := by
        rw [List.length_drop]; omega
      have := Replaced.step (old := old) (new := new) (pre := s.take j) (rest := s.drop (j + old.length))
        (by rw [← e, hl]; exact h3) (ih _ hr)
      rw [← e] at this
      exact this

theorem Replaced.unique {old new : Bytes} {s o1 : Bytes} (h1 : Replaced old new s o1) :
    ∀ {o2}, Replaced old new s o2 → o1 = o2 := by
  induction h1 with
  | done hno =>
    intro o2 h2
    cases h2 with
    | done _ => rfl
    | @step pre rest out _ _ =>
      exfalso
      apply hno pre.length
      simp
  | @step pre rest out hfirst _ ih =>
    intro o2 h2
    generalize hs : pre ++ old ++ rest = s at h2
    cases h2 with
    | done hno =>
      exfalso
      apply hno pre.length
      rw [← hs]; simp
    | @step pre2 rest2 out2 hfirst2 hrest2 =>
      have occ1 : old <+: (pre ++ old ++ rest).drop pre.length := by simp
      have occ2 : old <+: (pre2 ++ old ++ rest2).drop pre2.length := by simp
      -- each decomposition shows an occurrence at its own cut and forbids one before it, so the two cut at the same place
      have hlen : pre.length = pre2.length := by
        rcases Nat.lt_trichotomy pre.length pre2.length with h | h | h
        · exact absurd (hs ▸ occ1) (hfirst2 _ h)
        · exact h
        · exact absurd (hs ▸ occ2) (hfirst _ h)
      have hs' : pre ++ (old ++ rest) = pre2 ++ (old ++ rest2) := by simpa using hs
      obtain ⟨e1, e2⟩ := List.append_inj hs' hlen
      have e3 : rest = rest2 := List.append_cancel_left e2
      subst e1; subst e3
      rw [ih hrest2]

/-! ### the single-scan formulation (the oracle `judge` evaluates) meets the same specification -/

theorem replaceScan_skip (old new : Bytes) : ∀ (k : Nat) (s : Bytes),
    replaceScan old new k s = replaceScan old new 0 (s.drop k) := by
  intro k
  induction k with
  | zero => intro s; rfl
  | succ k ih =>
    intro s
    cases s with
    | nil => rfl
    | cons b rest => exact ih rest

theorem Replaced.cons {old new : Bytes} {b : UInt8} {rest out : Bytes} (hb : ¬ old <+: b :: rest)
    (h : Replaced old new rest out) : Replaced old new (b :: rest) (b :: out) := by
  cases h with
  | done hno =>
    refine .done ?_
    intro j
    cases j with
    | zero => simpa using hb
    | succ j => simpa using hno j
  | @step pre rest' out' hfirst hrest =>
    have := Replaced.step (old := old) (new := new) (pre := b :: pre) (rest := rest') (out := out') (by
      intro j hj
      cases j with
      | zero => simpa using hb
      | succ j => simpa using hfirst j (by simpa using hj)) hrest
    simpa using this

theorem replaceScan_spec (old new : Bytes) (hold : old ≠ []) :
    ∀ (n : Nat) (s : Bytes), s.length < n → Replaced old new s (replaceScan old new 0 s) := by
  intro n
  induction n with
  | zero => intro s hs; exact absurd hs (Nat.not_lt_zero _)
  | succ n ih =>
    intro s hs
    cases s with
    | nil => exact .done (fun j hj => hold (by simpa using hj))
    | cons b rest =>
      simp only [replaceScan]
      split
      · rename_i hp
        obtain ⟨t, ht⟩ := List.isPrefixOf_iff_prefix.1 hp
        have hl := congrArg List.length ht
        simp only [List.length_append, List.length_cons] at hl hs
        have hpos : 0 < old.length := List.length_pos_iff.2 hold
        have hd : (b :: rest).drop (old.length - 1 + 1) = t := by
          rw [Nat.sub_add_cancel hpos, ← ht, List.drop_left]
        rw [replaceScan_skip old new _ rest, show rest.drop (old.length - 1) = t from hd, ← ht]
        exact .step (pre := []) (fun j hj => absurd hj (Nat.not_lt_zero _)) (ih t (by omega))
      · rename_i hp
        exact Replaced.cons (fun hx => hp (List.isPrefixOf_iff_prefix.2 hx)) (ih rest (by simpa using hs))

theorem replaceEmptySkip_skip (new xs t : Bytes) :
    replaceEmptySkip new xs.length (xs ++ t) = xs ++ replaceEmptySkip new 0 t := by
  induction xs with
  | nil => rfl
  | cons x xs ih => exact congrArg (x :: ·) ih

theorem replaceEmpty_encodeRune (new : Bytes) (r : Nat) (hv : validRune r = true) (t : Bytes) :
    replaceEmptySkip new 0 (encodeRune r ++ t) = new ++ encodeRune r ++ replaceEmptySkip new 0 t := by
  obtain ⟨b, xs, he, hd⟩ := encodeRune_cons r hv t
  rw [he, List.cons_append, replaceEmptySkip, hd, Nat.add_sub_cancel, replaceEmptySkip_skip]
  simp

end Octo.Str
