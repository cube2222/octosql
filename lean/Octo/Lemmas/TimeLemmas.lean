import Octo.Lemmas.Int64
/-!
  Octo.Lemmas.TimeLemmas — `time.Unix`, `Time.Unix`, `Time.Add` on the (ext, nsec) representation.
  No tactic unfolds `nsPerSec`: all arithmetic is linear in it and only needs `0 < nsPerSec`. The `time.Unix` lemmas state
  their bound as `n < 1000000000`; it is handed to `mkTime_ediv_emod` as `n < nsPerSec`, which it is by definition.
-/
namespace Octo.Num

theorem nsPerSec_pos : 0 < nsPerSec := by decide

theorem mkTime_ext_nsec (ns : Int) : mkTime (timeExt ns) (timeNsec ns) = ns := by
  unfold mkTime timeExt timeNsec
  rw [Int.add_sub_cancel, Int.mul_comm]
  exact Int.mul_ediv_add_emod ns _

theorem mkTime_ediv_emod (e n : Int) (h0 : 0 ≤ n) (h1 : n < nsPerSec) :
    mkTime e n / nsPerSec = e - unixToInternal ∧ mkTime e n % nsPerSec = n :=
  (Int.ediv_emod_unique nsPerSec_pos).2 ⟨by unfold mkTime; rw [Int.add_comm, Int.mul_comm], h0, h1⟩

theorem timeExt_mkTime (e n : Int) (h0 : 0 ≤ n) (h1 : n < 1000000000) : timeExt (mkTime e n) = e := by
  unfold timeExt
  rw [(mkTime_ediv_emod e n h0 h1).1, Int.sub_add_cancel]

theorem timeNsec_mkTime (e n : Int) (h0 : 0 ≤ n) (h1 : n < 1000000000) : timeNsec (mkTime e n) = n :=
  (mkTime_ediv_emod e n h0 h1).2

theorem validTime_timeUnix (sec n : Int) (h0 : 0 ≤ n) (h1 : n < 1000000000) : ValidTime (timeUnix sec n) := by
  unfold ValidTime timeUnix
  rw [timeExt_mkTime _ _ h0 h1, addI64_eq]
  exact inI64_wrap64 _

/-- `Time.Unix()` of `time.Unix(sec, nsec)` is `sec`, for EVERY int64 `sec` (both additions wrap, and cancel) -/
theorem timeToUnix_timeUnix (sec n : Int) (hs : InI64 sec) (h0 : 0 ≤ n) (h1 : n < 1000000000) :
    timeToUnix (timeUnix sec n) = sec := by
  unfold timeToUnix timeUnix
  rw [timeExt_mkTime _ _ h0 h1, addI64_eq, addI64_eq]
  unfold wrap64
  -- the inner wrap is absorbed by the outer one
  rw [Int.bmod_add_bmod, Int.add_neg_cancel_right]
  exact wrap64_of_inI64 hs

theorem timeUnix_exact (sec : Int) (h : InI64 (sec + unixToInternal)) : timeUnix sec 0 = sec * nsPerSec := by
  unfold timeUnix mkTime
  rw [addI64_eq, wrap64_of_inI64 h, Int.add_sub_cancel, Int.add_zero]

theorem timeToUnix_eq (ns : Int) : timeToUnix ns = wrap64 (ns / nsPerSec) := by
  unfold timeToUnix timeExt
  rw [addI64_eq, Int.add_neg_cancel_right]

/-- seconds and nanoseconds of `Time.Add` after the carry, from the nanosecond sum `n` and the duration's seconds `dq` -/
def carrySec (n dq : Int) : Int := if n ≥ nsPerSec then dq + 1 else if n < 0 then dq - 1 else dq
def carryNsec (n : Int) : Int := if n ≥ nsPerSec then n - nsPerSec else if n < 0 then n + nsPerSec else n
/-- `addSec` saturates instead of wrapping -/
def addSec (e k : Int) : Int :=
  if (decide (addI64 e k > e) == decide (k > 0)) then addI64 e k else if k > 0 then maxI64 else -maxI64

theorem timeAdd_eq (ns d : Int) : timeAdd ns d =
    mkTime (addSec (timeExt ns) (carrySec (timeNsec ns + d.tmod nsPerSec) (d.tdiv nsPerSec)))
      (carryNsec (timeNsec ns + d.tmod nsPerSec)) := rfl

theorem addSec_exact (e k : Int) (h : InI64 (e + k)) : addSec e k = e + k := by
  unfold addSec
  rw [addI64_eq, wrap64_of_inI64 h, if_pos]
  by_cases hk : k > 0
  · rw [decide_eq_true hk, decide_eq_true (show e + k > e by omega)]; rfl
  · rw [decide_eq_false hk, decide_eq_false (show ¬ e + k > e by omega)]; rfl

theorem carry_spec (q r dq dr : Int) (h0 : 0 ≤ r) (h1 : r < nsPerSec) (h2 : -nsPerSec < dr) (h3 : dr < nsPerSec) :
    carryNsec (r + dr) + nsPerSec * (q + carrySec (r + dr) dq) = nsPerSec * q + r + (nsPerSec * dq + dr) ∧
    0 ≤ carryNsec (r + dr) ∧ carryNsec (r + dr) < nsPerSec := by
  unfold carrySec carryNsec
  generalize nsPerSec = N at *
  split
  · rw [Int.mul_add, Int.mul_add, Int.mul_one]; omega
  · split
    · rw [Int.mul_add, Int.mul_sub, Int.mul_one]; omega
    · rw [Int.mul_add]; omega

theorem timeAdd_exact (t d : Int) (h : InI64 (timeExt (t + d))) : timeAdd t d = t + d := by
  have key := carry_spec (t / nsPerSec) (t % nsPerSec) (d.tdiv nsPerSec) (d.tmod nsPerSec)
    (Int.emod_nonneg t (Int.ne_of_gt nsPerSec_pos)) (Int.emod_lt_of_pos t nsPerSec_pos)
    (Int.lt_tmod_of_pos d nsPerSec_pos) (Int.tmod_lt_of_pos d nsPerSec_pos)
  rw [Int.mul_ediv_add_emod, Int.mul_tdiv_add_tmod] at key
  -- so the carried seconds are the quotient of `t + d`, which fits: `addSec` does not saturate
  rw [timeAdd_eq]
  unfold timeExt timeNsec at *
  rw [((Int.ediv_emod_unique nsPerSec_pos).2 key).1, Int.add_right_comm] at h
  rw [addSec_exact _ _ h]
  unfold mkTime
  rw [Int.add_right_comm, Int.add_sub_cancel, Int.add_comm, Int.mul_comm]
  exact key.1

end Octo.Num
