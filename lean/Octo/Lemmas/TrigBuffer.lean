import Octo.Lemmas.OpsBufferProps
import Octo.Lemmas.TrigMap
import Octo.Model.TriggerGroupBy
/-!
  `EventTimeBuffer` as the group-by node sees it (`Trig.buffer`, a `TMap` keyed by `intLess`) is the buffer of the
  operator model (`Ops.etbOp`): on buckets in key order `AddRecord` and `Emit` of the two models are the same
  functions, so `buffer s = Ops.bufSpec [] s` and everything known of the specification holds of `buffer`.
-/
namespace Octo.Trig
open Octo Octo.TMap

theorem eqv_intLess (a b : Int) : eqv intLess a b = decide (a = b) := by
  rw [eqv, intLess, intLess, ← decide_not, ← decide_not, ← Bool.decide_and]
  exact decide_eq_decide.mpr ⟨fun h => by omega, fun h => by omega⟩

theorem buf_above {t : Int} {b : Buf} (h : ∀ q ∈ b, t < q.1) (v : List Rec) :
    find intLess t b = none ∧ erase intLess t b = b ∧ insSorted intLess (t, v) b = (t, v) :: b := by
  have hne : ∀ q ∈ b, eqv intLess t q.1 = false := fun q hq => by
    rw [eqv_intLess]; exact decide_eq_false (Int.ne_of_lt (h q hq))
  refine ⟨find_none_iff.mpr hne, List.filter_eq_self.mpr fun q hq => by rw [hne q hq]; rfl, ?_⟩
  cases b with
  | nil => rfl
  | cons q qs => exact if_pos (decide_eq_true (h q List.mem_cons_self))

theorem bufEmit_eq (w : Int) (b : Buf) : bufEmit w b = Ops.etbEmit w b := by
  induction b with
  | nil => rfl
  | cons a rest ih =>
    rw [Ops.etbEmit, ← ih, bufEmit, List.takeWhile_cons, List.dropWhile_cons]
    by_cases h : a.1 ≤ w
    · rw [if_pos (decide_eq_true h), if_pos (decide_eq_true h), if_pos h, List.flatMap_cons]; rfl
    · rw [if_neg (by rwa [decide_eq_true_eq]), if_neg (by rwa [decide_eq_true_eq]), if_neg h]; rfl

theorem bufAdd_eq (t : Int) (r : Rec) (b : Buf) (hs : Ops.SortedKeys b) : bufAdd t r b = Ops.etbAdd t r b := by
  induction b with
  | nil => rfl
  | cons a rest ih =>
    obtain ⟨u, rs⟩ := a
    obtain ⟨hu, hrest⟩ := List.pairwise_cons.mp hs
    rw [Ops.etbAdd]
    by_cases h1 : t < u
    · have ha := buf_above (t := t) (b := (u, rs) :: rest)
        (List.forall_mem_cons.mpr ⟨h1, fun q hq => Int.lt_trans h1 (hu q hq)⟩) [r]
      rw [if_pos h1, bufAdd, ha.1]
      exact (congrArg _ ha.2.1).trans ha.2.2
    · rw [if_neg h1]
      by_cases h2 : u < t
      · -- the head is passed over by `Get`, `Delete` and the insertion alike
        have he : eqv intLess t u = false := by rw [eqv_intLess]; exact decide_eq_false (Int.ne_of_gt h2)
        have hins : ∀ v, TMap.insert intLess t v ((u, rs) :: rest) = (u, rs) :: TMap.insert intLess t v rest := fun v => by
          rw [TMap.insert, TMap.insert, erase, List.filter_cons, he, Bool.not_false, if_pos rfl, insSorted,
            if_neg (by rw [intLess, decide_eq_true_eq]; exact h1)]
          rfl
        have hk : ∀ e, find intLess t rest = some e → e.1 = t := fun e h => by
          have := (find_some_mem h).2
          rw [eqv_intLess] at this
          exact (of_decide_eq_true this).symm
        rw [if_pos h2, ← ih hrest, bufAdd, bufAdd, find, he, if_neg Bool.false_ne_true]
        cases hf : find intLess t rest with
        | none => exact hins _
        | some e => simp only [hk e hf]; exact hins _
      · have hut : u = t := Int.le_antisymm (Int.not_lt.mp h1) (Int.not_lt.mp h2)
        subst hut
        have hf : find intLess u ((u, rs) :: rest) = some (u, rs) := by
          rw [find, eqv_intLess, if_pos (decide_eq_true rfl)]
        have ha := buf_above hu (rs ++ [r])
        rw [if_neg h2, bufAdd, hf]
        show insSorted intLess (u, rs ++ [r]) (erase intLess u ((u, rs) :: rest)) = _
        rw [erase, List.filter_cons, eqv_intLess, decide_eq_true rfl, Bool.not_true, if_neg Bool.false_ne_true]
        exact (congrArg _ ha.2.1).trans ha.2.2

theorem bufStep_wm_fst (b : Buf) (w : Int) : (bufStep b (.wm w)).1 = (bufEmit w b).2 := rfl

theorem bufFold_run (s : List Msg) (b : Buf) (hs : Ops.SortedKeys b) :
    Ops.etbOp.runFrom b s false = ((bufFold b s).2 ++ (bufEmit maxNs (bufFold b s).1).1.map .data, none) := by
  induction s generalizing b with
  | nil => rw [bufEmit_eq]; rfl
  | cons m ms ih =>
    cases m with
    | data r =>
      cases het : r.et with
      | none =>
        have hstep : Ops.etbOp.onMsg b (.data r) = (b, [.data r], none) := by simp only [Ops.etbOp, het]
        rw [Ops.runFrom_cons_ok hstep, ih b hs, bufFold, bufStep, het]; rfl
      | some t =>
        have hstep : Ops.etbOp.onMsg b (.data r) = (bufAdd t r b, [], none) := by
          simp only [Ops.etbOp, het, bufAdd_eq t r b hs]
        rw [Ops.runFrom_cons_silent hstep, ih _ (bufAdd_eq t r b hs ▸ Ops.etbAdd_sorted t r b hs), bufFold, bufStep, het]
        rfl
    | wm w =>
      have hstep : Ops.etbOp.onMsg b (.wm w) = ((bufEmit w b).2, (bufEmit w b).1.map .data ++ [.wm w], none) := by
        rw [bufEmit_eq]; rfl
      rw [Ops.runFrom_cons_ok hstep, ih _ (bufEmit_eq w b ▸ (Ops.etbEmit_flat w b hs).2.2), bufFold, bufStep]
      exact congrArg (·, none) (List.append_assoc ..).symm

theorem buffer_eq_bufSpec (s : List Msg) : buffer s = Ops.bufSpec [] s :=
  (congrArg Prod.fst ((bufFold_run s [] .nil).symm.trans (Ops.etb_run s)) :)

/-- every event time is a representable instant (the same predicate as `Ops.InRange`) -/
def EtInRange (s : List Msg) : Prop := ∀ r ∈ recs s, ∀ t, r.et = some t → t ≤ maxNs

theorem net_buffer (s : List Msg) (hs : EtInRange s) (row : Row) : net (recs (buffer s)) row = net (recs s) row :=
  buffer_eq_bufSpec s ▸ Ops.net_recs_bufSpec s hs row

/-- the records of one event time keep their order -/
theorem filter_et_buffer (τ : Option Int) (s : List Msg) (hs : EtInRange s) :
    (recs (buffer s)).filter (fun r => r.et == τ) = (recs s).filter fun r => r.et == τ :=
  buffer_eq_bufSpec s ▸
    Ops.filter_bufSpec (fun r => r.et == τ) s [] τ (fun _ h => nomatch h) hs (fun _ h => nomatch h) fun _ _ => eq_of_beq

/-- the event time of a record is a function of its row (the same predicate as `Ops.EtByRow`) -/
def EtByRow (L : List Rec) : Prop := ∀ r ∈ L, ∀ r' ∈ L, rowEq r.vals r'.vals = true → r.et = r'.et

/-- the records of one row class all carry one event time, so the buffer keeps their order -/
theorem validLog_buffer (s : List Msg) (hs : EtInRange s) (hE : EtByRow (recs s)) (hv : ValidLog (recs s)) :
    ValidLog (recs (buffer s)) := by
  rw [buffer_eq_bufSpec]
  exact Ops.validLog_bufSpec s hs hE hv

end Octo.Trig
