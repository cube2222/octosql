import Octo.Lemmas.TrigFlat
/-!
  When the primitive triggers fire (C17), on the trigger machines driven the way the group-by node drives
  them: `Poll` right after every `KeyReceived` / `WatermarkReceived` (`Leaf.stepEv`, `Leaf.drive`).

  The invariants of a primitive trigger are here (`wf` apart, which the pending contract of `Lemmas/Triggers.lean`
  needs): `Good` is what holds at every call of the node, `Idle` what holds between its steps.
-/
namespace Octo.Trig
open Octo Octo.TMap

namespace Leaf
variable {wl : WKey → WKey → Bool}

/-- no key is stored twice, and nothing is left in `toTrigger` between the node's calls -/
def nodup (wl : WKey → WKey → Bool) : Leaf → Prop
  | .counting _ counts _ tt => NoDup keyLess counts ∧ tt = []
  | .watermark _ tks _ _ => NoDup wl tks
  | .eos ks _ => NoDup keyLess ks

def sorted : Leaf → Prop
  | .watermark _ tks _ _ => tks.Pairwise fun a b => a.1.t.ns ≤ b.1.t.ns
  | _ => True

theorem sorted_keyReceived (W : WLaws wl) (l : Leaf) (k : Key) (h : l.sorted) : (l.keyReceived wl k).sorted := by
  cases l with
  | counting n counts e tt => rw [keyReceived_counting]; split <;> trivial
  | watermark idx tks e wm =>
    have h : tks.Pairwise fun a b => a.1.t.ns ≤ b.1.t.ns := h
    exact sorted_insSorted (fun x : WKey × Unit => x.1.t.ns) _ (fun _ => W.time_mono _ _)
      (fun _ => W.not_lt_time _ _) (pairwise_erase _ h)
  | eos ks e => trivial

theorem sorted_watermarkReceived (l : Leaf) (w : Int) (h : l.sorted) : (l.watermarkReceived w).sorted := by
  cases l <;> exact h
theorem sorted_poll (l : Leaf) (h : l.sorted) : (l.poll wl).2.sorted := by
  cases l with
  | watermark idx tks e wm => exact pairwise_foldl_erase _ _ _ h
  | _ => trivial

def allKeys (P : Key → Prop) : Leaf → Prop
  | .counting _ counts _ tt => (∀ e ∈ counts, P e.1) ∧ (∀ k ∈ tt, P k)
  | .watermark _ tks _ _ => ∀ x ∈ tks, P x.1.key
  | .eos ks _ => ∀ e ∈ ks, P e.1

theorem allKeys_keyReceived {P : Key → Prop} (l : Leaf) (k : Key) (hk : P k) (h : l.allKeys P) :
    (l.keyReceived wl k).allKeys P := by
  cases l with
  | counting n counts e tt =>
    have hc : P (counted counts k).1 := forall_find_getD counts k 0 hk h.1
    rw [keyReceived_counting]
    split
    · exact ⟨fun x hx => h.1 x (mem_erase.mp hx).1,
        fun k' hk' => (List.mem_append.mp hk').elim (h.2 k') fun h1 => List.mem_singleton.mp h1 ▸ hc⟩
    · exact ⟨forall_mem_insert hc h.1, h.2⟩
  | watermark idx tks e wm => exact forall_mem_insert hk h
  | eos ks e => exact forall_mem_insert hk h

theorem allKeys_poll {P : Key → Prop} (l : Leaf) (h : l.allKeys P) :
    (l.poll wl).2.allKeys P ∧ ∀ k ∈ (l.poll wl).1, P k := by
  have hkeys : ∀ {β : Type} (m : List (Key × β)), (∀ x ∈ m, P x.1) → ∀ k ∈ keys m, P k := fun m hm k hk => by
    obtain ⟨x, hx, rfl⟩ := List.mem_map.mp hk
    exact hm x hx
  cases l with
  | counting n counts e tt =>
    refine ⟨⟨h.1, nofun⟩, fun k hk => ?_⟩
    rcases List.mem_append.mp hk with h1 | h1
    · exact h.2 k h1
    · split at h1
      · exact hkeys counts h.1 k h1
      · cases h1
  | watermark idx tks e wm =>
    refine ⟨fun x hx => h x (mem_foldl_erase _ _ _ hx), fun k hk => ?_⟩
    simp only [poll] at hk
    split at hk
    · obtain ⟨x, hx, rfl⟩ := List.mem_map.mp hk
      exact h x (List.takeWhile_subset _ hx)
    · obtain ⟨x, hx, rfl⟩ := List.mem_map.mp hk
      exact h x hx
  | eos ks e =>
    refine ⟨h, fun k hk => ?_⟩
    simp only [poll] at hk
    split at hk
    · exact hkeys ks h k hk
    · cases hk

/-- what holds of a primitive trigger between the node's steps -/
structure Idle (wl : WKey → WKey → Bool) (l : Leaf) : Prop where
  nodup : l.nodup wl
  wf : l.wf
  sorted : l.sorted

theorem Idle.init (l : Leaf) (h : l.isInit) : l.Idle wl := by
  cases l with
  | counting n counts e tt => obtain ⟨rfl, _, rfl⟩ := h; exact ⟨⟨.nil, rfl⟩, trivial, trivial⟩
  | watermark idx tks e wm => obtain ⟨rfl, _⟩ := h; exact ⟨.nil, nofun, .nil⟩
  | eos ks e => obtain ⟨rfl, _⟩ := h; exact ⟨.nil, trivial, trivial⟩

/-- what holds of a primitive trigger at every call of the node; `nodup` is not among it: `toTrigger` is non-empty
    between `KeyReceived` and `Poll` -/
structure Good (nk : Nat) (l : Leaf) : Prop where
  wf : l.wf
  sorted : l.sorted
  allKeys : l.allKeys fun k => k.length = nk

theorem Good.init {nk : Nat} {l : Leaf} (h : l.isInit) : l.Good nk := by
  cases l with
  | counting n counts e tt => obtain ⟨rfl, _, rfl⟩ := h; exact ⟨trivial, trivial, nofun, nofun⟩
  | watermark idx tks e wm => obtain ⟨rfl, _⟩ := h; exact ⟨nofun, .nil, nofun⟩
  | eos ks e => obtain ⟨rfl, _⟩ := h; exact ⟨trivial, trivial, nofun⟩

theorem Good.keyReceived (W : WLaws wl) {nk : Nat} {l : Leaf} (h : l.Good nk) {k : Key} (hk : k.length = nk) :
    (l.keyReceived wl k).Good nk :=
  ⟨wf_keyReceived l k h.wf, sorted_keyReceived W l k h.sorted, allKeys_keyReceived l k hk h.allKeys⟩

theorem Good.poll {nk : Nat} {l : Leaf} (h : l.Good nk) : (l.poll wl).2.Good nk :=
  ⟨wf_poll l h.wf, sorted_poll l h.sorted, (allKeys_poll l h.allKeys).1⟩

theorem Good.watermarkReceived {nk : Nat} {l : Leaf} (h : l.Good nk) (w : Int) : (l.watermarkReceived w).Good nk := by
  cases l <;> exact ⟨h.wf, h.sorted, h.allKeys⟩

theorem Good.endOfStream {nk : Nat} {l : Leaf} (h : l.Good nk) : l.endOfStream.Good nk := by
  cases l <;> exact ⟨h.wf, h.sorted, h.allKeys⟩

theorem nodup_stepEv (l : Leaf) (e : TEv) (h : l.nodup wl) : (l.stepEv wl e).2.nodup wl := by
  cases e with
  | key k =>
    cases l with
    | counting n counts e tt =>
      rw [stepEv, keyReceived_counting]
      split
      · exact ⟨nodup_erase _ h.1, rfl⟩
      · exact ⟨nodup_insert _ _ h.1, rfl⟩
    | watermark idx tks e wm => exact pairwise_foldl_erase _ _ _ (nodup_insert _ _ h)
    | eos ks e => exact nodup_insert _ _ h
  | wm w =>
    cases l with
    | counting n counts e tt => exact ⟨h.1, rfl⟩
    | watermark idx tks e wm => exact pairwise_foldl_erase _ _ _ h
    | eos ks e => exact h

theorem wf_stepEv (l : Leaf) (e : TEv) (h : l.wf) : (l.stepEv wl e).2.wf := by
  cases e with
  | key k => exact wf_poll _ (wf_keyReceived l k h)
  | wm w => exact wf_poll _ (wf_watermarkReceived l w h)

theorem sorted_stepEv (W : WLaws wl) (l : Leaf) (e : TEv) (h : l.sorted) : (l.stepEv wl e).2.sorted := by
  cases e with
  | key k => exact sorted_poll _ (sorted_keyReceived W l k h)
  | wm w => exact sorted_poll _ (sorted_watermarkReceived l w h)

theorem Idle.drive (W : WLaws wl) (l : Leaf) (es : List TEv) (h : l.Idle wl) : (l.drive wl es).Idle wl := by
  induction es generalizing l with
  | nil => exact h
  | cons e es ih => exact ih _ ⟨nodup_stepEv l e h.nodup, wf_stepEv l e h.wf, sorted_stepEv W l e h.sorted⟩

theorem Idle.drive_init (W : WLaws wl) (l : Leaf) (h : l.isInit) (es : List TEv) : (l.drive wl es).Idle wl :=
  Idle.drive W l es (Idle.init l h)

theorem pairwise_keys {β : Type} {m : List (Key × β)} (h : NoDup keyLess m) :
    (keys m).Pairwise fun a b => keq a b = false :=
  List.pairwise_map.mpr (h.imp fun h => eqv_keyLess _ _ ▸ h)

theorem eos_once (W : WLaws wl) (l : Leaf) (hn : l.nodup wl) (hw : l.wf) :
    ((l.endOfStream.poll wl).1.Pairwise fun a b => keq a b = false) ∧
    ∀ k, (l.endOfStream.poll wl).1.any (keq k) = l.pend wl k := by
  refine ⟨?_, fun k => by
    rw [any_poll_eos W _ (wf_endOfStream l hw) (eosFlag_endOfStream l), pend_endOfStream]⟩
  cases l with
  | counting n counts e tt => obtain ⟨hn, rfl⟩ := hn; exact pairwise_keys hn
  | watermark idx tks e wm =>
    -- entries of `keq` keys carry the same instant (`wf`), so they would be the same item
    refine List.pairwise_map.mpr ((List.Pairwise.and_mem.mp hn).imp fun {a b} ⟨ha, hb, hab⟩ => ?_)
    rw [← wkey_eqv W idx, ← hw a ha, ← hw b hb]; exact hab
  | eos ks e => exact pairwise_keys hn

theorem eos_silent (ks : List (Key × Unit)) (e : TEv) : ((Leaf.eos ks false).stepEv wl e).1 = [] := by
  cases e <;> rfl

theorem drive_eos (ks : List (Key × Unit)) (es : List TEv) : ∃ ks', (Leaf.eos ks false).drive wl es = .eos ks' false := by
  induction es generalizing ks with
  | nil => exact ⟨ks, rfl⟩
  | cons e es ih => cases e <;> exact ih _

theorem drive_watermark (idx : Nat) (tks : List (WKey × Unit)) (w : Int) (es : List TEv) :
    ∃ tks' w', (Leaf.watermark idx tks false w).drive wl es = .watermark idx tks' false w' := by
  induction es generalizing tks w with
  | nil => exact ⟨tks, w, rfl⟩
  | cons e es ih => cases e <;> exact ih _ _

theorem watermark_upto (idx : Nat) (tks : List (WKey × Unit)) (wm : Int)
    (hw : (Leaf.watermark idx tks false wm).wf) :
    ∀ k ∈ ((Leaf.watermark idx tks false wm).poll wl).1, (timeAt idx k).ns ≤ wm := by
  intro k hk
  obtain ⟨x, hx, rfl⟩ := List.mem_map.mp hk
  rw [← hw x (List.takeWhile_subset _ hx)]
  simpa using List.all_eq_true.mp List.all_takeWhile x hx

theorem watermark_all (W : WLaws wl) (idx : Nat) (tks : List (WKey × Unit)) (wm : Int)
    (hs : (Leaf.watermark idx tks false wm).sorted) (k : Key)
    (hp : (Leaf.watermark idx tks false wm).pend wl k = true) (ht : (timeAt idx k).ns ≤ wm) :
    ((Leaf.watermark idx tks false wm).poll wl).1.any (keq k) = true := by
  obtain ⟨x, hx, hq⟩ := has_iff.mp hp
  obtain ⟨hns, hkey⟩ := (W.eqv_iff _ _).mp hq
  rw [poll, Bool.not_false, if_pos rfl, List.any_map]
  exact List.any_eq_true.mpr ⟨x, mem_takeWhile_sorted (fun e : WKey × Unit => e.1.t.ns) wm
    (fun e he => congrArg (!·) (decide_eq_false (Int.not_lt.mpr he))) hs hx (hns ▸ ht), hkey⟩

end Leaf

/-- number of records (additions and retractions alike) of group `k` among the events -/
def occ (k : Key) (es : List TEv) : Nat :=
  es.countP fun e => match e with
    | .key k' => keq k k'
    | .wm _ => false

theorem occ_congr {k k' : Key} (h : keq k k' = true) (es : List TEv) : occ k es = occ k' es := by
  refine congrArg es.countP (funext fun e => ?_)
  cases e with
  | key x => exact keq_eqv.beq_congr_left h x
  | wm w => rfl

theorem occ_snoc_key (k k' : Key) (es : List TEv) :
    occ k (es ++ [TEv.key k']) = occ k es + if keq k k' then 1 else 0 := by
  simp only [occ, List.countP_append, List.countP_cons, List.countP_nil, Nat.zero_add]

theorem occ_snoc_wm (k : Key) (w : Int) (es : List TEv) : occ k (es ++ [TEv.wm w]) = occ k es := by
  simp [occ, List.countP_append]

theorem succ_mod (a n : Nat) (hn : 0 < n) : (a + 1) % n = if a % n + 1 = n then 0 else a % n + 1 := by
  have hr : a % n < n := Nat.mod_lt a hn
  rw [← Nat.mod_add_mod]
  split
  · next h => rw [h, Nat.mod_self]
  · exact Nat.mod_eq_of_lt (by omega)

open Leaf in
theorem counted_erase (k k' : Key) (counts : List (Key × Nat)) :
    (counted (erase keyLess k counts) k').2 = if keq k k' then 0 else (counted counts k').2 := by
  rw [counted, counted, find_erase keyLaws, eqv_keyLess]
  split <;> rfl

open Leaf in
theorem counted_insert (k k' : Key) (c : Nat) (counts : List (Key × Nat)) :
    (counted (insert keyLess k c counts) k').2 = if keq k k' then c else (counted counts k').2 := by
  rw [counted, counted, find_insert keyLaws, eqv_keyLess]
  split <;> rfl

/-- the state of `CountingTrigger` after the node processed `hist`: nothing left to trigger and every key's
    stored count is the number of its records modulo `n` -/
def CountInv (n : Nat) (hist : List TEv) (l : Leaf) : Prop :=
  ∃ counts, l = .counting n counts false [] ∧ ∀ k, (Leaf.counted counts k).2 = occ k hist % n

variable {wl : WKey → WKey → Bool}

theorem counting_step (n : Nat) (hn : 0 < n) (hist : List TEv) (l : Leaf) (h : CountInv n hist l) (k' : Key) :
    CountInv n (hist ++ [TEv.key k']) (l.stepEv wl (.key k')).2 ∧
    (∀ k ∈ (l.stepEv wl (.key k')).1, keq k k' = true) ∧
    (l.stepEv wl (.key k')).1.length = if (occ k' hist + 1) % n = 0 then 1 else 0 := by
  obtain ⟨counts, rfl, hc⟩ := h
  have hk := Leaf.keq_counted counts k'
  -- every other group keeps its count; the group of `k'` gets the new one
  have hnew : ∀ (c : Nat) (k : Key), c = (occ k' hist + 1) % n →
      (if keq (Leaf.counted counts k').1 k then c else (Leaf.counted counts k).2) = occ k (hist ++ [TEv.key k']) % n := by
    intro c k hcn
    rw [occ_snoc_key, keq_eqv.beq_congr_left hk k, keq_eqv.beq_comm k' k]
    split
    · next hq => rw [occ_congr hq, hcn]
    · exact hc k
  have hsm := succ_mod (occ k' hist) n hn
  rw [← hc k'] at hsm
  rw [Leaf.stepEv, Leaf.keyReceived_counting]
  by_cases hfire : (Leaf.counted counts k').2 + 1 = n
  · -- the count reaches `n`: the entry is deleted and the group fires
    rw [if_pos hfire]
    rw [if_pos hfire] at hsm
    refine ⟨⟨_, rfl, fun k => ?_⟩, fun k hk' => ?_, ?_⟩
    · rw [counted_erase]; exact hnew 0 k hsm.symm
    · rw [List.mem_singleton.mp hk']; exact hk
    · rw [hsm]; rfl
  · rw [if_neg hfire]
    rw [if_neg hfire] at hsm
    refine ⟨⟨_, rfl, fun k => ?_⟩, nofun, ?_⟩
    · rw [counted_insert]; exact hnew _ k hsm.symm
    · rw [hsm, if_neg (Nat.succ_ne_zero _)]; rfl

theorem counting_step_wm (n : Nat) (hist : List TEv) (l : Leaf) (h : CountInv n hist l) (w : Int) :
    CountInv n (hist ++ [TEv.wm w]) (l.stepEv wl (.wm w)).2 ∧ (l.stepEv wl (.wm w)).1 = [] := by
  obtain ⟨counts, rfl, hc⟩ := h
  exact ⟨⟨counts, rfl, fun k => by rw [hc k, occ_snoc_wm]⟩, rfl⟩

theorem counting_drive (n : Nat) (hn : 0 < n) (hist : List TEv) (l : Leaf) (h : CountInv n hist l) (es : List TEv) :
    CountInv n (hist ++ es) (l.drive wl es) := by
  induction es generalizing hist l with
  | nil => rw [List.append_nil]; exact h
  | cons e es ih =>
    rw [List.append_cons]
    apply ih
    cases e with
    | key k => exact (counting_step n hn hist l h k).1
    | wm w => exact (counting_step_wm n hist l h w).1

theorem countInv_init (n : Nat) : CountInv n [] (.counting n [] false []) :=
  ⟨[], rfl, fun _ => (Nat.zero_mod n).symm⟩

end Octo.Trig
