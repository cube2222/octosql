import Octo.Lemmas.Triggers
/-!
  A trigger object (any nesting of `MultiTrigger`) behaves as the flat list of its primitive triggers:
  every method maps over the leaves, `Poll` concatenates their polls in order.  All reasoning about
  trigger configurations is done on that list.
-/
namespace Octo.Trig
open Octo Octo.TMap

section Flat
variable (wl : WKey → WKey → Bool)

mutual
theorem leaves_keyReceived : ∀ (t : TState) (k : Key),
    (t.keyReceived wl k).leaves = t.leaves.map (fun l => l.keyReceived wl k)
  | .leaf _, _ => rfl
  | .multi ts, k => leavesL_keyReceivedL ts k
theorem leavesL_keyReceivedL : ∀ (ts : List TState) (k : Key),
    TState.leavesL (TState.keyReceivedL wl ts k) = (TState.leavesL ts).map (fun l => l.keyReceived wl k)
  | [], k => rfl
  | t :: ts, k => by
    rw [TState.keyReceivedL, TState.leavesL, TState.leavesL, List.map_append, leaves_keyReceived t k,
      leavesL_keyReceivedL ts k]
end

mutual
theorem leaves_watermarkReceived : ∀ (t : TState) (w : Int),
    (t.watermarkReceived w).leaves = t.leaves.map (fun l => l.watermarkReceived w)
  | .leaf _, _ => rfl
  | .multi ts, w => leavesL_watermarkReceivedL ts w
theorem leavesL_watermarkReceivedL : ∀ (ts : List TState) (w : Int),
    TState.leavesL (TState.watermarkReceivedL ts w) = (TState.leavesL ts).map (fun l => l.watermarkReceived w)
  | [], w => rfl
  | t :: ts, w => by
    rw [TState.watermarkReceivedL, TState.leavesL, TState.leavesL, List.map_append, leaves_watermarkReceived t w,
      leavesL_watermarkReceivedL ts w]
end

mutual
theorem leaves_endOfStream : ∀ (t : TState), t.endOfStream.leaves = t.leaves.map (fun l => l.endOfStream)
  | .leaf _ => rfl
  | .multi ts => leavesL_endOfStreamL ts
theorem leavesL_endOfStreamL : ∀ (ts : List TState),
    TState.leavesL (TState.endOfStreamL ts) = (TState.leavesL ts).map (fun l => l.endOfStream)
  | [] => rfl
  | t :: ts => by
    rw [TState.endOfStreamL, TState.leavesL, TState.leavesL, List.map_append, leaves_endOfStream t,
      leavesL_endOfStreamL ts]
end

mutual
theorem poll_fst : ∀ (t : TState), (t.poll wl).1 = t.leaves.flatMap (fun l => (l.poll wl).1)
  | .leaf _ => (List.append_nil _).symm
  | .multi ts => pollL_fst ts
theorem pollL_fst : ∀ (ts : List TState),
    (TState.pollL wl ts).1 = (TState.leavesL ts).flatMap (fun l => (l.poll wl).1)
  | [] => rfl
  | t :: ts => by
    rw [TState.pollL, TState.leavesL, List.flatMap_append, poll_fst t, pollL_fst ts]
end

mutual
theorem poll_snd : ∀ (t : TState), (t.poll wl).2.leaves = t.leaves.map (fun l => (l.poll wl).2)
  | .leaf _ => rfl
  | .multi ts => pollL_snd ts
theorem pollL_snd : ∀ (ts : List TState),
    TState.leavesL (TState.pollL wl ts).2 = (TState.leavesL ts).map (fun l => (l.poll wl).2)
  | [] => rfl
  | t :: ts => by
    rw [TState.pollL, TState.leavesL, TState.leavesL, List.map_append, poll_snd t, pollL_snd ts]
end

end Flat

def Leaf.isInit : Leaf → Prop
  | .counting _ counts e tt => counts = [] ∧ e = false ∧ tt = []
  | .watermark _ tks e _ => tks = [] ∧ e = false
  | .eos ks e => ks = [] ∧ e = false

mutual
theorem init_leaves : ∀ (c : TCfg), ∀ l ∈ c.init.leaves, l.isInit
  | .counting _ => fun _ hl => List.mem_singleton.mp hl ▸ ⟨rfl, rfl, rfl⟩
  | .watermark _ => fun _ hl => List.mem_singleton.mp hl ▸ ⟨rfl, rfl⟩
  | .eos => fun _ hl => List.mem_singleton.mp hl ▸ ⟨rfl, rfl⟩
  | .multi ts => initL_leaves ts
theorem initL_leaves : ∀ (cs : List TCfg), ∀ l ∈ TState.leavesL (TCfg.initL cs), l.isInit
  | [] => fun _ hl => nomatch hl
  | c :: cs => fun l hl => by
    rw [TCfg.initL, TState.leavesL, List.mem_append] at hl
    exact hl.elim (init_leaves c l) (initL_leaves cs l)
end

mutual
theorem live_leaves : ∀ (c : TCfg), c.live = true → c.init.leaves ≠ []
  | .counting _, _ => List.cons_ne_nil _ _
  | .watermark _, _ => List.cons_ne_nil _ _
  | .eos, _ => List.cons_ne_nil _ _
  | .multi ts, h => liveL_leaves ts h
theorem liveL_leaves : ∀ (cs : List TCfg), TCfg.liveL cs = true → TState.leavesL (TCfg.initL cs) ≠ []
  | [], h => nomatch h
  | c :: cs, h => by
    rw [TCfg.liveL, Bool.or_eq_true] at h
    rw [TCfg.initL, TState.leavesL, ne_eq, List.append_eq_nil_iff]
    exact fun h1 => h.elim (fun h => live_leaves c h h1.1) (fun h => liveL_leaves cs h h1.2)
end

namespace Leaf
variable {wl : WKey → WKey → Bool}

theorem pend_init (l : Leaf) (h : l.isInit) (k : Key) : l.pend wl k = false := by
  cases l with
  | counting n counts e tt => obtain ⟨rfl, _, rfl⟩ := h; rfl
  | watermark idx tks e wm => obtain ⟨rfl, _⟩ := h; rfl
  | eos ks e => obtain ⟨rfl, _⟩ := h; rfl

end Leaf

end Octo.Trig
