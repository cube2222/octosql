import Octo.Model.TrigMap
/-! Laws of the ordered container `Octo.TMap` that hold whenever "neither is less" is transitive (it is symmetric as
    it is defined: `eqv_comm`). -/
namespace Octo.TMap

variable {α : Type} {β : Type} {lt : α → α → Bool}

structure EqvLaws (lt : α → α → Bool) : Prop where
  trans : ∀ a b c, eqv lt a b = true → eqv lt b c = true → eqv lt a c = true

theorem eqv_comm (a b : α) : eqv lt a b = eqv lt b a := Bool.and_comm _ _

theorem EqvLaws.congr_left (E : EqvLaws lt) {a b : α} (h : eqv lt a b = true) (c : α) :
    eqv lt a c = eqv lt b c :=
  Bool.eq_iff_iff.mpr ⟨E.trans b a c (eqv_comm a b ▸ h), E.trans a b c h⟩

theorem EqvLaws.congr_right (E : EqvLaws lt) {a b : α} (h : eqv lt a b = true) (c : α) :
    eqv lt c a = eqv lt c b := by
  rw [eqv_comm c a, eqv_comm c b, E.congr_left h]

theorem find_eq (k : α) (m : List (α × β)) : find lt k m = m.find? fun e => eqv lt k e.1 := by
  induction m with
  | nil => rfl
  | cons e es ih => rw [find, List.find?_cons, ih]; cases eqv lt k e.1 <;> rfl

theorem find_congr (E : EqvLaws lt) {k k' : α} (h : eqv lt k k' = true) (m : List (α × β)) :
    find lt k m = find lt k' m := by
  induction m with
  | nil => rfl
  | cons e es ih => simp only [find, E.congr_left h e.1, ih]

theorem find_some_mem {k : α} {m : List (α × β)} {e : α × β} (h : find lt k m = some e) :
    e ∈ m ∧ eqv lt k e.1 = true := by
  rw [find_eq] at h
  exact ⟨List.mem_of_find?_eq_some h, (List.find?_some h :)⟩

theorem find_none_iff {k : α} {m : List (α × β)} :
    find lt k m = none ↔ ∀ e ∈ m, eqv lt k e.1 = false := by
  simp only [find_eq, List.find?_eq_none, Bool.not_eq_true]

theorem has_eq_isSome (k : α) (m : List (α × β)) : has lt k m = (find lt k m).isSome := by
  rw [find_eq, has, Bool.eq_iff_iff, List.any_eq_true, List.find?_isSome]

theorem has_iff {k : α} {m : List (α × β)} : has lt k m = true ↔ ∃ e ∈ m, eqv lt k e.1 = true :=
  List.any_eq_true

theorem has_congr (E : EqvLaws lt) {k k' : α} (h : eqv lt k k' = true) (m : List (α × β)) :
    has lt k m = has lt k' m := by
  rw [has_eq_isSome, has_eq_isSome, find_congr E h]

theorem find_erase (E : EqvLaws lt) (k k' : α) (m : List (α × β)) :
    find lt k' (erase lt k m) = if eqv lt k k' then none else find lt k' m := by
  induction m with
  | nil => simp [erase, find]
  | cons e es ih =>
    rw [erase, List.filter_cons, ← erase, find]
    -- when `e` is the item `k'` looks for, `k` is equivalent to `k'` iff it is to `e`
    cases he' : eqv lt k' e.1
    · cases eqv lt k e.1 <;> simp [find, he', ih]
    · rw [E.congr_right he' k] at ih ⊢
      cases hk : eqv lt k e.1 <;> simp [find, he', hk, ih]

/-- a probe sees the new item iff it is equivalent to it (the tree then holds no other such item) -/
theorem find_insSorted (x : α × β) (k' : α) (m : List (α × β))
    (hm : eqv lt k' x.1 = true → find lt k' m = none) :
    find lt k' (insSorted lt x m) = if eqv lt k' x.1 then some x else find lt k' m := by
  induction m with
  | nil => rfl
  | cons e es ih =>
    rw [insSorted]
    split
    · rfl
    · have hm' : eqv lt k' x.1 = true → eqv lt k' e.1 = false ∧ find lt k' es = none := fun h => by
        have := hm h
        rw [find] at this
        split at this
        · cases this
        · exact ⟨Bool.eq_false_iff.mpr ‹_›, this⟩
      rw [find, find, ih fun h => (hm' h).2]
      cases hx : eqv lt k' x.1
      · rfl
      · rw [(hm' hx).1]; rfl

theorem find_insert (E : EqvLaws lt) (k k' : α) (v : β) (m : List (α × β)) :
    find lt k' (insert lt k v m) = if eqv lt k k' then some (k, v) else find lt k' m := by
  rw [insert, find_insSorted, find_erase E, eqv_comm k' k]
  · cases eqv lt k k' <;> rfl
  · intro h; rw [find_erase E, eqv_comm, h]; rfl

theorem has_erase (E : EqvLaws lt) (k k' : α) (m : List (α × β)) :
    has lt k' (erase lt k m) = (!eqv lt k k' && has lt k' m) := by
  rw [has_eq_isSome, has_eq_isSome, find_erase E]
  cases eqv lt k k' <;> rfl

theorem has_insert (E : EqvLaws lt) (k k' : α) (v : β) (m : List (α × β)) :
    has lt k' (insert lt k v m) = (eqv lt k k' || has lt k' m) := by
  rw [has_eq_isSome, has_eq_isSome, find_insert E]
  cases eqv lt k k' <;> rfl

theorem perm_insSorted (x : α × β) (m : List (α × β)) : (insSorted lt x m).Perm (x :: m) := by
  induction m with
  | nil => exact .refl _
  | cons e es ih =>
    rw [insSorted]
    split
    · exact .refl _
    · exact (ih.cons e).trans (.swap x e es)

theorem mem_insSorted {x e : α × β} {m : List (α × β)} : e ∈ insSorted lt x m ↔ e = x ∨ e ∈ m :=
  (perm_insSorted x m).mem_iff.trans List.mem_cons

theorem mem_erase {k : α} {e : α × β} {m : List (α × β)} :
    e ∈ erase lt k m ↔ e ∈ m ∧ eqv lt k e.1 = false := by
  simp [erase, List.mem_filter]

theorem mem_insert {k : α} {v : β} {e : α × β} {m : List (α × β)} :
    e ∈ insert lt k v m ↔ e = (k, v) ∨ (e ∈ m ∧ eqv lt k e.1 = false) := by
  rw [insert, mem_insSorted, mem_erase]

theorem forall_mem_insert {P : α × β → Prop} {k : α} {v : β} {m : List (α × β)} (hk : P (k, v))
    (h : ∀ e ∈ m, P e) : ∀ e ∈ insert lt k v m, P e :=
  fun e he => (mem_insert.mp he).elim (· ▸ hk) fun h1 => h e h1.1

theorem has_foldl_erase {γ : Type} (E : EqvLaws lt) (f : γ → α) (p : α) (ps : List γ) (m : List (α × β))
    (h : has lt p m = true) :
    ps.any (fun q => eqv lt (f q) p) = true ∨ has lt p (ps.foldl (fun m q => erase lt (f q) m) m) = true := by
  induction ps generalizing m with
  | nil => exact Or.inr h
  | cons q qs ih =>
    rw [List.any_cons, List.foldl_cons]
    cases hq : eqv lt (f q) p
    · exact ih _ (by rw [has_erase E, hq, h]; rfl)
    · exact Or.inl rfl

theorem mem_foldl_erase {γ : Type} (f : γ → α) {e : α × β} (ps : List γ) (m : List (α × β))
    (h : e ∈ ps.foldl (fun m q => erase lt (f q) m) m) : e ∈ m := by
  induction ps generalizing m with
  | nil => exact h
  | cons q qs ih => exact (mem_erase.mp (ih _ h)).1

theorem pairwise_erase {R : α × β → α × β → Prop} (k : α) {m : List (α × β)} (h : m.Pairwise R) :
    (erase lt k m).Pairwise R := h.filter _

theorem pairwise_foldl_erase {γ : Type} {R : α × β → α × β → Prop} (f : γ → α)
    (ps : List γ) (m : List (α × β)) (h : m.Pairwise R) :
    (ps.foldl (fun m q => erase lt (f q) m) m).Pairwise R := by
  induction ps generalizing m with
  | nil => exact h
  | cons q qs ih => exact ih _ (pairwise_erase _ h)

def NoDup (lt : α → α → Bool) (m : List (α × β)) : Prop := m.Pairwise fun a b => eqv lt a.1 b.1 = false

theorem nodup_erase (k : α) {m : List (α × β)} (h : NoDup lt m) : NoDup lt (erase lt k m) := pairwise_erase k h

theorem nodup_insert (k : α) (v : β) {m : List (α × β)} (h : NoDup lt m) : NoDup lt (insert lt k v m) :=
  ((perm_insSorted _ _).pairwise_iff (fun h => eqv_comm _ _ ▸ h)).mpr
    (List.pairwise_cons.mpr ⟨fun _ he => (mem_erase.mp he).2, nodup_erase k h⟩)

theorem sorted_insSorted (f : α × β → Int) (x : α × β) {m : List (α × β)}
    (h1 : ∀ e : α × β, lt x.1 e.1 = true → f x ≤ f e) (h2 : ∀ e : α × β, lt x.1 e.1 = false → f e ≤ f x)
    (h : m.Pairwise fun a b => f a ≤ f b) : (insSorted lt x m).Pairwise fun a b => f a ≤ f b := by
  induction m with
  | nil => exact List.pairwise_singleton _ _
  | cons e es ih =>
    have ⟨he, hes⟩ := List.pairwise_cons.mp h
    rw [insSorted]
    split
    · next hlt =>
      refine List.pairwise_cons.mpr ⟨fun e' he' => ?_, h⟩
      rcases List.mem_cons.mp he' with rfl | h3
      · exact h1 _ hlt
      · exact Int.le_trans (h1 e hlt) (he e' h3)
    · next hlt =>
      refine List.pairwise_cons.mpr ⟨fun e' he' => ?_, ih hes⟩
      rcases mem_insSorted.mp he' with rfl | h3
      · exact h2 e (Bool.eq_false_iff.mpr hlt)
      · exact he e' h3

theorem mem_takeWhile_sorted (f : α × β → Int) (w : Int) {p : α × β → Bool} (hp : ∀ e, f e ≤ w → p e = true)
    {m : List (α × β)} (h : m.Pairwise fun a b => f a ≤ f b) {x : α × β} (hx : x ∈ m) (hw : f x ≤ w) :
    x ∈ m.takeWhile p := by
  induction m with
  | nil => cases hx
  | cons e es ih =>
    have ⟨he, hes⟩ := List.pairwise_cons.mp h
    have hew : f e ≤ w := by
      rcases List.mem_cons.mp hx with rfl | h1
      · exact hw
      · exact Int.le_trans (he x h1) hw
    rw [List.takeWhile_cons, hp e hew]
    rcases List.mem_cons.mp hx with rfl | h1
    · exact List.mem_cons_self
    · exact List.mem_cons_of_mem _ (ih hes h1)

end Octo.TMap
