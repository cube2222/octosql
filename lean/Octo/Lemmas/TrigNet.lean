import Octo.Model.TriggerGroupBy
import Octo.Lemmas.Net
/-!
  The signed record count `countOf` of a changelog is a sum `sumBy` of the kind the pushforward lemma of
  `Lemmas/Net.lean` speaks of, so it is monotone in the net multiplicities (`countOf_mono`), hence determined by them
  (`count_eq_of_net_eq`) and non-negative when they are (`countOf_nonneg`).
-/
namespace Octo.Trig
open Octo Octo.TMap

theorem countOf_nil : countOf [] = 0 := rfl
theorem countOf_cons (r : Rec) (rs : List Rec) : countOf (r :: rs) = sign r + countOf rs := by
  rw [countOf, countOf, List.map_cons, List.sum_cons]
theorem countOf_append (a b : List Rec) : countOf (a ++ b) = countOf a + countOf b := by
  rw [countOf, countOf, countOf, List.map_append, List.sum_append_int]
theorem countOf_single (r : Rec) : countOf [r] = sign r := Int.add_zero _

/-- one function under two names: the model's `sign` and `Rec.sign` of `Lemmas/Net.lean` -/
theorem sign_eq (r : Rec) : sign r = r.sign := rfl

/-- `r.sign * 1` is the summand `r.sign * g r.vals` of `sumBy_mono_of_net` at `g := fun _ => 1` -/
theorem countOf_eq_sumBy (L : List Rec) : countOf L = sumBy (fun r => r.sign * 1) L := by
  induction L with
  | nil => rfl
  | cons r rs ih => rw [countOf_cons, ih, sumBy, Int.mul_one, sign_eq]

theorem countOf_mono (L₁ L₂ : List Rec) (h : ∀ row, net L₁ row ≤ net L₂ row) : countOf L₁ ≤ countOf L₂ := by
  rw [countOf_eq_sumBy, countOf_eq_sumBy]
  exact sumBy_mono_of_net (fun _ => 1) (fun _ _ _ => rfl) (fun _ => by decide) h

theorem count_eq_of_net_eq (L₁ L₂ : List Rec) (h : ∀ row, net L₁ row = net L₂ row) : countOf L₁ = countOf L₂ := by
  rw [countOf_eq_sumBy, countOf_eq_sumBy]
  exact sumBy_congr_of_net (fun _ => 1) (fun _ _ _ => rfl) h

theorem countOf_nonneg (L : List Rec) (h : ∀ row, 0 ≤ net L row) : 0 ≤ countOf L :=
  countOf_mono [] L h

theorem net_zero_of_count_zero (L : List Rec) (h : ∀ row, 0 ≤ net L row) (hc : countOf L = 0) (row : Row) :
    net L row = 0 := by
  have h1 := sumBy_split_row (fun _ => 1) (fun _ _ _ => rfl) row L
  rw [← countOf_eq_sumBy, ← countOf_eq_sumBy, hc, Int.one_mul] at h1
  have h2 := countOf_nonneg (L.filter fun r => !rowEq r.vals row) fun row' => by
    rw [net_filter_not]
    split
    · exact Int.le_refl 0
    · exact h row'
  have := h row
  omega

theorem validLog_nets (L : List Rec) (h : ValidLog L) (row : Row) : 0 ≤ net L row := validLog_net_nonneg h row

end Octo.Trig
