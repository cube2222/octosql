import Octo.Lemmas.TrigSpec
/-!
  `SimpleGroupBy` emits the table once: its consolidated output is `tableOf` of the same `aggregates`
  structure the custom-trigger node maintains, hence (C16) the two nodes agree on every valid input.
-/
namespace Octo.Trig
open Octo Octo.TMap

structure AggsWF (nk : Nat) (aggs : List (Key × AggItem)) : Prop where
  nodup : NoDup keyLess aggs
  len : ∀ e ∈ aggs, e.1.length = nk

theorem aggsWF_step (C : GBConf) (nk : Nat) (hK : KeyLen C nk) (r : Rec) (aggs : List (Key × AggItem))
    (h : AggsWF nk aggs) : AggsWF nk (updAggs C r aggs) := by
  have hk : (storedItem C aggs (C.keyOf r.vals)).1.length = nk :=
    forall_find_getD (P := fun k => k.length = nk) aggs _ _ (hK r.vals) h.len
  rw [updAggs_eq]
  split
  · exact ⟨nodup_erase _ h.nodup, fun e he => h.len e (mem_erase.mp he).1⟩
  · exact ⟨nodup_insert _ _ h.nodup, forall_mem_insert hk h.len⟩

theorem aggsWF_after (C : GBConf) (nk : Nat) (hK : KeyLen C nk) (rs : List Rec) : AggsWF nk (aggsAfter C rs) :=
  aggsAfter_ind C (P := fun aggs _ => AggsWF nk aggs) ⟨.nil, nofun⟩ (fun aggs _ r => aggsWF_step C nk hK r aggs) rs

/-- one row per class, counted: the multiplicity of `row` is decided by the one entry of the class of `row`'s key part -/
theorem net_rows_classes {β : Type} (key val : β → Row) (nk : Nat) (L : List β)
    (hlen : ∀ e ∈ L, (key e).length = nk) (hpw : L.Pairwise fun a b => rowEq (key a) (key b) = false) (row : Row) :
    net (L.map fun e => (⟨key e ++ val e, false, none⟩ : Rec)) row =
      hit ((L.find? fun e => rowEq (row.take nk) (key e)).map fun e => row.take nk ++ val e) row := by
  induction L with
  | nil => rfl
  | cons e es ih =>
    have ⟨hle, hles⟩ := List.forall_mem_cons.mp hlen
    have hn := List.pairwise_cons.mp hpw
    rw [List.map_cons, net, weight_add, ih hles hn.2, List.find?_cons]
    cases he : rowEq (row.take nk) (key e)
    · -- an entry of another class is not the row
      have hk : keq (key e) (row.take nk) = false := (keq_eq_rowEq _ _).trans ((rowEq_comm _ _).trans he)
      rw [hit_other hk fun r hr => ⟨key e, _, hle, keq_eqv.refl _, (Option.some.inj hr).symm⟩]
      exact Int.zero_add _
    · -- the row's class: no further entry of it
      have hk : rowEq (key e) (row.take nk) = true := (rowEq_comm _ _).trans he
      have hnone : es.find? (fun x => rowEq (row.take nk) (key x)) = none :=
        List.find?_eq_none.mpr fun x hx hq => Bool.false_ne_true ((hn.1 x hx).symm.trans (rowEq_trans hk hq))
      have hrow : rowEq (key e ++ val e) row = rowEq (row.take nk ++ val e) row :=
        rowEq_congr_left (rowEq_append hk (rowEq_refl _)) row
      rw [hnone, hit, hrow]
      exact Int.add_zero _

/-- the same for keys with a value that depends on the class of the key only -/
theorem net_key_rows (nk : Nat) (L : List Row) (V : Row → Row) (hlen : ∀ k ∈ L, k.length = nk)
    (hpw : L.Pairwise fun a b => rowEq a b = false) (hV : ∀ a b, rowEq a b = true → V a = V b) (row : Row) :
    net (L.map fun k => (⟨k ++ V k, false, none⟩ : Rec)) row =
      if (L.any (rowEq (row.take nk)) && rowEq (row.take nk ++ V (row.take nk)) row) = true then 1 else 0 := by
  rw [net_rows_classes (fun k => k) V nk L hlen hpw row]
  cases hf : L.find? fun k => rowEq (row.take nk) k with
  | none =>
    rw [List.any_eq_false.mpr fun k hk => List.find?_eq_none.mp hf k hk]
    rfl
  | some k =>
    rw [List.any_eq_true.mpr ⟨k, List.mem_of_find?_eq_some hf, List.find?_some hf⟩, Bool.true_and, Option.map_some,
      ← hV _ _ (List.find?_some hf)]
    rfl

theorem net_rows_eq_tableOf (C : GBConf) (nk : Nat) (aggs : List (Key × AggItem)) (h : AggsWF nk aggs) (row : Row) :
    net (aggs.map fun e => (⟨e.1 ++ results C.aggs e.2.cells, false, none⟩ : Rec)) row = tableOf C nk aggs row := by
  rw [tableOf_eq, curRow_eq, find_eq,
    funext fun e : Key × AggItem => (eqv_keyLess (row.take nk) e.1).trans (keq_eq_rowEq _ _)]
  exact net_rows_classes (β := Key × AggItem) (fun e => e.1) (fun e => results C.aggs e.2.cells) nk aggs h.len
    (h.nodup.imp fun hab => (keq_eq_rowEq _ _).symm.trans ((eqv_keyLess _ _).symm.trans hab)) row

theorem simple_eq_table (C : GBConf) (nk : Nat) (hK : KeyLen C nk) (s : List Msg) (row : Row) :
    net (recs (simpleRun C s)) row = tableOf C nk (aggsAfter C (recs s)) row := by
  rw [simpleRun, recs_append, recs_map_wm, List.nil_append,
    recs_data_map (fun e : Key × AggItem => (⟨e.1 ++ results C.aggs e.2.cells, false, none⟩ : Rec))]
  exact net_rows_eq_tableOf C nk _ (aggsWF_after C nk hK _) row

end Octo.Trig
