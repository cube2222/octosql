import Octo.Lemmas.TriggerGroupBy
import Octo.Lemmas.TrigNet
/-!
  The table the node holds is the batch grouping of the records it received (`table_eq_spec`), for valid
  changelogs and aggregates satisfying the C14 contract; and the batch grouping depends on the records only
  through their net multiplicities (`groupSpec_congr`), which is what makes the reordering done by the
  event-time buffer harmless.
-/
namespace Octo.Trig
open Octo Octo.TMap

theorem isNull_congr {a b : Value} (h : cmp a b = 0) : isNull a = isNull b := by
  cases Value.cmpEq_of_zero h <;> rfl

theorem rowEq_append_congr (k : Row) {a a' : Row} (h : cmpList a a' = 0) (row : Row) :
    rowEq (k ++ a) row = rowEq (k ++ a') row :=
  rowEq_congr_left (rowEq_append (rowEq_refl k) (rowEq_iff.mpr h)) row

theorem histSize_nil : histSize [] = 0 := rfl
theorem histSize_append (a b : Hist) : histSize (a ++ b) = histSize a + histSize b := by
  rw [histSize, histSize, histSize, List.map_append, List.sum_append_int]

theorem histOf_append (a : AggSpec) (g₁ g₂ : List Rec) : histOf a (g₁ ++ g₂) = histOf a g₁ ++ histOf a g₂ := by
  rw [histOf, histOf, histOf, List.filter_append, List.map_append]

theorem histOf_single (a : AggSpec) (r : Rec) :
    histOf a [r] = if isNull (a.arg r.vals) then [] else [(r.retr, a.arg r.vals)] := by
  rw [histOf, List.filter_cons]
  cases isNull (a.arg r.vals) <;> rfl

theorem histSize_histOf (a : AggSpec) (g : List Rec) :
    histSize (histOf a g) = countOf (g.filter fun r => !isNull (a.arg r.vals)) := by
  rw [histSize, histOf, countOf, List.map_map]
  rfl

theorem netH_histOf (a : AggSpec) (g : List Rec) (v : Value) :
    netH (histOf a g) v =
      countOf (g.filter fun r => !isNull (a.arg r.vals) && (cmp (a.arg r.vals) v == 0)) := by
  induction g with
  | nil => rfl
  | cons r rs ih =>
    simp only [histOf, netH, List.filter_cons] at ih ⊢
    cases isNull (a.arg r.vals)
    · simp only [Bool.not_false, if_true, List.map_cons, List.sum_cons, Bool.true_and]
      cases cmp (a.arg r.vals) v == 0
      · simp only [Bool.false_eq_true, if_false, ih]; omega
      · simp only [if_true, countOf_cons, ih, sign]
    · simpa using ih

/-- a history as a changelog of one-column rows: its record count is the history's size and its net multiplicities
    are `netH`, so that `count_eq_of_net_eq` gives `histSize_congr` -/
def histRecs (h : Hist) : List Rec := h.map fun x => ⟨[x.2], x.1, none⟩

theorem countOf_histRecs (h : Hist) : countOf (histRecs h) = histSize h := by
  rw [countOf, histRecs, List.map_map]; rfl

theorem rowEq_singleton (x : Value) (row : Row) :
    rowEq [x] row = match row with
      | [v] => cmp x v == 0
      | _ => false := by
  rw [rowEq, Bool.eq_iff_iff, beq_iff_eq]
  cases row with
  | nil => exact ⟨nofun, nofun⟩
  | cons v vs =>
    rw [cmpList_cons_iff]
    cases vs with
    | nil => exact (and_iff_left rfl).trans beq_iff_eq.symm
    | cons w ws => exact ⟨fun h => (by cases h.2), nofun⟩

theorem net_histRecs (h : Hist) (row : Row) :
    net (histRecs h) row = match row with
      | [v] => netH h v
      | _ => 0 := by
  induction h with
  | nil => cases row with
    | nil => rfl
    | cons v vs => cases vs <;> rfl
  | cons x xs ih =>
    rw [histRecs, List.map_cons, net, ← histRecs, ih, Rec.weight, rowEq_singleton]
    cases row with
    | nil => rfl
    | cons v vs => cases vs <;> rfl

theorem histSize_congr (h₁ h₂ : Hist) (hnet : ∀ v, netH h₁ v = netH h₂ v) : histSize h₁ = histSize h₂ := by
  rw [← countOf_histRecs, ← countOf_histRecs]
  refine count_eq_of_net_eq _ _ fun row => ?_
  rw [net_histRecs, net_histRecs]
  split
  · exact hnet _
  · rfl

theorem aggCount_eq (h : Hist) : aggCount h = .int (histSize h) := by
  have : ∀ c : Int, h.foldl (fun c x => if x.1 then c - 1 else c + 1) c = c + histSize h := by
    induction h with
    | nil => exact fun c => (Int.add_zero c).symm
    | cons x xs ih =>
      intro c
      rw [List.foldl_cons, ih]
      simp only [histSize, List.map_cons, List.sum_cons]
      cases x.1
      · exact Int.add_assoc c 1 _
      · exact Int.add_assoc c (-1) _
  rw [aggCount, this, Int.zero_add]

/-- what C16 needs of one aggregate: the C14 contract and an argument expression that respects row equality -/
def AggGood (x : AggSpec) : Prop :=
  AggOK x.f ∧ ∀ a b : Row, rowEq a b = true → cmp (x.arg a) (x.arg b) = 0

theorem congr_nonnull (x : AggSpec) (hx : ∀ a b : Row, rowEq a b = true → cmp (x.arg a) (x.arg b) = 0) :
    RowInv fun row => !isNull (x.arg row) :=
  fun a b h => congrArg (!·) (isNull_congr (hx a b h))

theorem congr_value (x : AggSpec) (hx : ∀ a b : Row, rowEq a b = true → cmp (x.arg a) (x.arg b) = 0) (v : Value) :
    RowInv fun row => !isNull (x.arg row) && (cmp (x.arg row) v == 0) := by
  intro a b h
  show (!isNull (x.arg a) && (cmp (x.arg a) v == 0)) = (!isNull (x.arg b) && (cmp (x.arg b) v == 0))
  rw [isNull_congr (hx a b h), cmp_congr (hx a b h) (cmp_refl v)]

theorem validHist_histOf (x : AggSpec) (hx : ∀ a b : Row, rowEq a b = true → cmp (x.arg a) (x.arg b) = 0)
    (g : List Rec) (hv : ValidLog g) :
    ValidHist (histOf x g) := by
  intro n v
  obtain ⟨m, hm⟩ := take_filter_exists (fun r : Rec => !isNull (x.arg r.vals)) g n
  have h1 : (histOf x g).take n = histOf x (g.take m) := by
    unfold histOf
    rw [← List.map_take, hm]
  rw [h1, netH_histOf]
  exact countOf_nonneg _ (validLog_net_nonneg (validLog_filter _ (congr_value x hx v) fun k => by
    rw [List.take_take]; exact hv _))

theorem specResults_congr (aggs : List AggSpec) (hA : ∀ x ∈ aggs, AggGood x) (g₁ g₂ : List Rec)
    (hnet : ∀ row, net g₁ row = net g₂ row) (hv₁ : ValidLog g₁) (hv₂ : ValidLog g₂) :
    cmpList (specResults aggs g₁) (specResults aggs g₂) = 0 := by
  -- filtering by a predicate on rows keeps the multiplicities, hence the record counts, equal
  have hcount : ∀ P, RowInv P → countOf (g₁.filter fun r => P r.vals) = countOf (g₂.filter fun r => P r.vals) :=
    fun P hP => count_eq_of_net_eq _ _ fun row => by rw [net_filter P hP, net_filter P hP, hnet row]
  induction aggs with
  | nil => rfl
  | cons x xs ih =>
    have ⟨hx, hxs⟩ := List.forall_mem_cons.mp hA
    have hhead : cmp (if histSize (histOf x g₁) > 0 then x.f (histOf x g₁) else .null)
        (if histSize (histOf x g₂) > 0 then x.f (histOf x g₂) else .null) = 0 := by
      rw [histSize_histOf, histSize_histOf, hcount _ (congr_nonnull x hx.2)]
      split
      · refine hx.1 _ _ (validHist_histOf x hx.2 g₁ hv₁) (validHist_histOf x hx.2 g₂ hv₂) fun v => ?_
        rw [netH_histOf, netH_histOf, hcount _ (congr_value x hx.2 v)]
      · rfl
    exact cmpList_cons_iff.mpr ⟨hhead, ih hxs⟩

def sinceZeroStep (acc : List Rec) (r : Rec) : List Rec := if countOf (acc ++ [r]) == 0 then [] else acc ++ [r]
/-- the records of a group since its record count was last zero: what the node's entry for the group, deleted whenever
    the count reaches zero, is built from -/
def sinceZero (g : List Rec) : List Rec := g.foldl sinceZeroStep []

theorem sinceZero_snoc (g : List Rec) (r : Rec) : sinceZero (g ++ [r]) = sinceZeroStep (sinceZero g) r := by
  rw [sinceZero, List.foldl_append]; rfl

theorem foldl_sinceZero_spec (g acc : List Rec) (hacc : acc = [] ∨ countOf acc ≠ 0) :
    ∃ d, acc ++ g = d ++ g.foldl sinceZeroStep acc ∧ countOf d = 0 ∧
      (g.foldl sinceZeroStep acc = [] ∨ countOf (g.foldl sinceZeroStep acc) ≠ 0) := by
  induction g generalizing acc with
  | nil => exact ⟨[], List.append_nil acc, rfl, hacc⟩
  | cons r rs ih =>
    rw [List.foldl_cons, sinceZeroStep]
    by_cases hc : countOf (acc ++ [r]) = 0
    · -- the count is back at zero: everything so far is dropped
      rw [if_pos (beq_iff_eq.mpr hc)]
      obtain ⟨d, h1, h2, h3⟩ := ih [] (Or.inl rfl)
      exact ⟨acc ++ [r] ++ d, by rw [List.append_assoc, ← h1]; simp, by rw [countOf_append, hc, h2]; rfl, h3⟩
    · rw [if_neg (by simpa using hc)]
      obtain ⟨d, h1, h2⟩ := ih (acc ++ [r]) (Or.inr hc)
      exact ⟨d, by rw [← h1]; simp, h2⟩

theorem sinceZero_split (g : List Rec) : ∃ d, g = d ++ sinceZero g ∧ countOf d = 0 := by
  obtain ⟨d, h1, h2, _⟩ := foldl_sinceZero_spec g [] (Or.inl rfl)
  exact ⟨d, h1, h2⟩

theorem sinceZero_nonzero (g : List Rec) : sinceZero g = [] ∨ countOf (sinceZero g) ≠ 0 := by
  obtain ⟨_, _, _, h⟩ := foldl_sinceZero_spec g [] (Or.inl rfl)
  exact h

theorem countOf_sinceZero (g : List Rec) : countOf (sinceZero g) = countOf g := by
  obtain ⟨d, h1, h2⟩ := sinceZero_split g
  have := congrArg countOf h1
  rw [countOf_append, h2, Int.zero_add] at this
  exact this.symm

def cellsOf (aggs : List AggSpec) (g : List Rec) : List (Hist × Int) :=
  aggs.map fun a => (histOf a g, histSize (histOf a g))

theorem results_cellsOf (aggs : List AggSpec) (g : List Rec) : results aggs (cellsOf aggs g) = specResults aggs g := by
  induction aggs with
  | nil => rfl
  | cons a as ih => rw [cellsOf, List.map_cons, results, ← cellsOf, ih]; rfl

theorem updCells_cellsOf (aggs : List AggSpec) (g : List Rec) (r : Rec) :
    updCells r.retr r.vals aggs (cellsOf aggs g) = cellsOf aggs (g ++ [r]) := by
  induction aggs with
  | nil => rfl
  | cons a as ih =>
    simp only [cellsOf, List.map_cons, updCells] at ih ⊢
    rw [ih, histOf_append, histSize_append]
    congr 1
    -- the one record: skipped when its argument is NULL, else appended to the history and counted
    rw [histOf_single]
    cases isNull (a.arg r.vals)
    · cases r.retr <;> rfl
    · exact Prod.ext (List.append_nil _).symm (Int.add_zero _).symm

/-- per group: absent from the tree when `sinceZero` of the group is empty, otherwise the histories, set sizes and
    record count of those records -/
def AggsInv (C : GBConf) (aggs : List (Key × AggItem)) (rs : List Rec) : Prop :=
  ∀ k, (find keyLess k aggs).map (fun ki => (ki.2.cells, ki.2.count)) =
    if (sinceZero (ofKey C k rs)).isEmpty then none
    else some (cellsOf C.aggs (sinceZero (ofKey C k rs)), countOf (sinceZero (ofKey C k rs)))

theorem ofKey_snoc (C : GBConf) (k : Key) (rs : List Rec) (r : Rec) :
    ofKey C k (rs ++ [r]) = if keq (C.keyOf r.vals) k then ofKey C k rs ++ [r] else ofKey C k rs := by
  rw [ofKey, List.filter_append, List.filter_cons, List.filter_nil]
  show _ = if (cmpList (C.keyOf r.vals) k == 0) = true then _ else _
  split
  · rfl
  · exact List.append_nil _

theorem storedItem_congr {C : GBConf} {aggs : List (Key × AggItem)} {k k' : Key} (h : keq k k' = true) :
    (storedItem C aggs k).2 = (storedItem C aggs k').2 := by
  rw [storedItem, storedItem, find_key_congr h]
  cases find keyLess k' aggs <;> rfl

theorem storedItem_of_inv {C : GBConf} {aggs : List (Key × AggItem)} {rs : List Rec} (h : AggsInv C aggs rs) (k : Key) :
    (storedItem C aggs k).2.cells = cellsOf C.aggs (sinceZero (ofKey C k rs)) ∧
    (storedItem C aggs k).2.count = countOf (sinceZero (ofKey C k rs)) := by
  have hk := h k
  rw [storedItem]
  cases hf : find keyLess k aggs <;> rw [hf] at hk <;> split at hk
  · next he => rw [List.isEmpty_iff.mp he]; exact ⟨rfl, rfl⟩
  · cases hk
  · cases hk
  · injection hk with hk
    exact ⟨congrArg Prod.fst hk, congrArg Prod.snd hk⟩

theorem aggsInv_step (C : GBConf) (aggs : List (Key × AggItem)) (rs : List Rec) (r : Rec)
    (h : AggsInv C aggs rs) : AggsInv C (updAggs C r aggs) (rs ++ [r]) := by
  intro k
  rw [find_updAggs, ofKey_snoc]
  cases hq : keq (C.keyOf r.vals) k
  · exact h k
  · -- the record's own group: the stored item is that of `k`, and it is updated by `r`
    have hst := storedItem_of_inv h k
    rw [← storedItem_congr hq] at hst
    have hcount : (updItem C r (storedItem C aggs (C.keyOf r.vals)).2).count = countOf (sinceZero (ofKey C k rs) ++ [r]) := by
      rw [countOf_append, countOf_single, updItem, hst.2, sign]
      cases r.retr <;> rfl
    rw [if_pos rfl, if_pos rfl, sinceZero_snoc, sinceZeroStep, hcount]
    by_cases hc : countOf (sinceZero (ofKey C k rs) ++ [r]) = 0
    · rw [if_pos hc, if_pos (beq_iff_eq.mpr hc)]; rfl
    · rw [if_neg hc, if_neg (mt beq_iff_eq.mp hc), if_neg (by simp), Option.map_some, ← hcount, updItem, hst.1,
        updCells_cellsOf]

theorem aggsAfter_ind (C : GBConf) {P : List (Key × AggItem) → List Rec → Prop} (h0 : P [] [])
    (hstep : ∀ aggs rs r, P aggs rs → P (updAggs C r aggs) (rs ++ [r])) (rs : List Rec) : P (aggsAfter C rs) rs := by
  have : ∀ aggs rs₀, P aggs rs₀ → P (rs.foldl (fun a r => updAggs C r a) aggs) (rs₀ ++ rs) := by
    induction rs with
    | nil => exact fun aggs rs₀ h => (List.append_nil rs₀).symm ▸ h
    | cons r rs ih =>
      intro aggs rs₀ h
      rw [List.append_cons]
      exact ih _ _ (hstep aggs rs₀ r h)
  exact this [] [] h0

theorem aggsInv_after (C : GBConf) (rs : List Rec) : AggsInv C (aggsAfter C rs) rs :=
  aggsAfter_ind C (fun _ => rfl) (aggsInv_step C) rs

theorem curRow_of_inv {C : GBConf} {aggs : List (Key × AggItem)} {rs : List Rec} (h : AggsInv C aggs rs) (k : Key) :
    curRow C aggs k = if (sinceZero (ofKey C k rs)).isEmpty then none
      else some (k ++ specResults C.aggs (sinceZero (ofKey C k rs))) := by
  have := congrArg (Option.map fun p : List (Hist × Int) × Int => k ++ results C.aggs p.1) (h k)
  rw [Option.map_map, apply_ite (Option.map _), Option.map_some, results_cellsOf] at this
  rw [curRow_eq]
  exact this

structure ConfGood (C : GBConf) (nk : Nat) : Prop where
  keyLen : KeyLen C nk
  keyCongr : ∀ a b : Row, rowEq a b = true → keq (C.keyOf a) (C.keyOf b) = true
  aggs : ∀ x ∈ C.aggs, AggGood x

theorem congr_ofKey (C : GBConf) (hk : ∀ a b : Row, rowEq a b = true → keq (C.keyOf a) (C.keyOf b) = true) (k : Key) :
    RowInv fun row => cmpList (C.keyOf row) k == 0 :=
  fun a b h => keq_eqv.beq_congr_left (hk a b h) k

theorem validLog_ofKey (C : GBConf) (hk : ∀ a b : Row, rowEq a b = true → keq (C.keyOf a) (C.keyOf b) = true) (k : Key)
    (rs : List Rec) (hv : ValidLog rs) : ValidLog (ofKey C k rs) :=
  validLog_filter _ (congr_ofKey C hk k) hv

theorem validLog_sinceZero (g : List Rec) (hv : ValidLog g) :
    ValidLog (sinceZero g) ∧ ∀ row, net (sinceZero g) row = net g row := by
  obtain ⟨d, h1, h2⟩ := sinceZero_split g
  -- the cancelled prefix `d` is itself a valid changelog with record count zero: it is empty in the net
  have hd : ∀ row, net d row = 0 := fun row =>
    net_zero_of_count_zero d (validLog_net_nonneg (validLog_prefix (b := sinceZero g) (by rw [← h1]; exact hv))) h2 row
  have hnet : ∀ row, net (sinceZero g) row = net g row := fun row => by
    have := congrArg (net · row) h1
    rw [net_append, hd row, Int.zero_add] at this
    exact this.symm
  refine ⟨fun n row => ?_, hnet⟩
  have := hv (d.length + n) row
  rwa [h1, List.take_length_add_append, net_append, hd row, Int.zero_add] at this

theorem table_eq_spec (C : GBConf) (nk : Nat) (hC : ConfGood C nk) (rs : List Rec) (hv : ValidLog rs) (row : Row) :
    tableOf C nk (aggsAfter C rs) row = groupSpec C nk rs row := by
  have hvg := validLog_ofKey C hC.keyCongr (row.take nk) rs hv
  obtain ⟨hvl, hnet⟩ := validLog_sinceZero _ hvg
  rw [tableOf_eq, curRow_of_inv (aggsInv_after C rs), groupSpec, ← countOf_sinceZero,
    ← rowEq_append_congr _ (specResults_congr C.aggs hC.aggs _ _ hnet hvl hvg)]
  rcases sinceZero_nonzero (ofKey C (row.take nk) rs) with h1 | h1
  · rw [h1]; rfl
  · have hne : (sinceZero (ofKey C (row.take nk) rs)).isEmpty = false :=
      List.isEmpty_eq_false_iff.mpr fun hl => h1 (hl ▸ rfl)
    rw [hne, if_neg Bool.false_ne_true, bne_iff_ne.mpr h1, Bool.true_and]; rfl

theorem groupSpec_congr (C : GBConf) (nk : Nat) (hC : ConfGood C nk) (rs₁ rs₂ : List Rec)
    (hnet : ∀ row, net rs₁ row = net rs₂ row) (hv₁ : ValidLog rs₁) (hv₂ : ValidLog rs₂) (row : Row) :
    groupSpec C nk rs₁ row = groupSpec C nk rs₂ row := by
  have hg : ∀ row', net (ofKey C (row.take nk) rs₁) row' = net (ofKey C (row.take nk) rs₂) row' := fun row' => by
    rw [ofKey, ofKey, net_filter _ (congr_ofKey C hC.keyCongr _), net_filter _ (congr_ofKey C hC.keyCongr _), hnet row']
  have hres := specResults_congr C.aggs hC.aggs _ _ hg (validLog_ofKey C hC.keyCongr _ rs₁ hv₁) (validLog_ofKey C hC.keyCongr _ rs₂ hv₂)
  rw [groupSpec, groupSpec, count_eq_of_net_eq _ _ hg, rowEq_append_congr _ hres]

/-! ### C16 for additions: without retractions nothing has to be assumed of the configuration -/

theorem countOf_adds (g : List Rec) (h : ∀ r ∈ g, r.retr = false) : countOf g = g.length := by
  induction g with
  | nil => rfl
  | cons r rs ih =>
    obtain ⟨hr, hrs⟩ := List.forall_mem_cons.mp h
    rw [countOf_cons, ih hrs, sign, hr, List.length_cons, Int.add_comm]
    rfl

theorem sinceZero_adds (g : List Rec) (h : ∀ r ∈ g, r.retr = false) : sinceZero g = g := by
  -- the dropped prefix has count 0, and it consists of additions: it is empty
  obtain ⟨d, hd, hc⟩ := sinceZero_split g
  have hlen := countOf_adds d (fun r hr => h r (by rw [hd]; exact List.mem_append_left _ hr))
  rw [hc] at hlen
  rw [List.eq_nil_of_length_eq_zero (by omega : d.length = 0), List.nil_append] at hd
  exact hd.symm

/-- no record is dropped, and the entry of a key holds the cells of its records -/
theorem table_eq_spec_adds (C : GBConf) (nk : Nat) (rs : List Rec) (h : ∀ r ∈ rs, r.retr = false) (row : Row) :
    tableOf C nk (aggsAfter C rs) row = groupSpec C nk rs row := by
  have hg : ∀ r ∈ ofKey C (row.take nk) rs, r.retr = false := fun r hr => h r (List.mem_filter.mp hr).1
  rw [tableOf_eq, curRow_of_inv (aggsInv_after C rs), sinceZero_adds _ hg, groupSpec, countOf_adds _ hg]
  cases ofKey C (row.take nk) rs <;> rfl

end Octo.Trig
