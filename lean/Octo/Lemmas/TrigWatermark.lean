import Octo.Lemmas.TriggerGroupBy
/-!
  ON WATERMARK at the level of the node (C17): the node triggers *before* it forwards a watermark, so when
  `wm W` appears in the output the output already holds the current row of every key at or below `W`
  (`wm_step_clean`), and with ON WATERMARK alone nothing above the highest watermark received so far is
  ever emitted before the end of the stream (`fold_no_early`).
-/
namespace Octo.Trig
open Octo Octo.TMap

variable {C : GBConf} {nk : Nat} {wl : WKey → WKey → Bool}

/-- a watermark trigger on column `idx`, before the end of the stream, whose watermark is at most `M` -/
def Leaf.wmBound (idx : Nat) (M : Int) : Leaf → Prop
  | .watermark i _ e wm => i = idx ∧ e = false ∧ wm ≤ M
  | _ => False

theorem Leaf.wmBound_mono (idx : Nat) {M M' : Int} (hM : M ≤ M') (l : Leaf) (h : l.wmBound idx M) : l.wmBound idx M' := by
  cases l with
  | watermark i tks e wm => exact ⟨h.1, h.2.1, Int.le_trans h.2.2 hM⟩
  | _ => exact h

theorem Leaf.wmBound_keyReceived (idx : Nat) (M : Int) (l : Leaf) (k : Key) (h : l.wmBound idx M) :
    (l.keyReceived wl k).wmBound idx M := by
  cases l with
  | watermark i tks e wm => exact h
  | _ => cases h
theorem Leaf.wmBound_watermarkReceived (idx : Nat) (M : Int) (l : Leaf) (w : Int) (h : l.wmBound idx M) :
    (l.watermarkReceived w).wmBound idx w := by
  cases l with
  | watermark i tks e wm => exact ⟨h.1, h.2.1, Int.le_refl w⟩
  | _ => cases h
theorem Leaf.wmBound_poll (idx : Nat) (M : Int) (l : Leaf) (h : l.wmBound idx M) :
    (l.poll wl).2.wmBound idx M := by
  cases l with
  | watermark i tks e wm => exact h
  | _ => cases h

-- `∃ M, l.wmBound idx M` says: `l` is an ON WATERMARK member on column `idx` before the end of the stream; the bound plays no part
-- (`.counting`, `.eos` and `[]` have no equation: there `h` is `false = true`)
mutual
theorem hasWm_leaves (idx : Nat) : ∀ (c : TCfg), c.hasWm idx = true → ∃ l ∈ c.init.leaves, ∃ M, l.wmBound idx M
  | .watermark _, h => ⟨_, List.mem_singleton.mpr rfl, zeroNs, beq_iff_eq.mp h, rfl, Int.le_refl _⟩
  | .multi ts, h => hasWmL_leaves idx ts h
theorem hasWmL_leaves (idx : Nat) : ∀ (cs : List TCfg), TCfg.hasWmL idx cs = true →
    ∃ l ∈ TState.leavesL (TCfg.initL cs), ∃ M, l.wmBound idx M
  | c :: cs, h => by
    rw [TCfg.hasWmL, Bool.or_eq_true] at h
    simp only [TCfg.initL, TState.leavesL, List.mem_append]
    rcases h with h | h
    · obtain ⟨l, hl, hw⟩ := hasWm_leaves idx c h
      exact ⟨l, Or.inl hl, hw⟩
    · obtain ⟨l, hl, hw⟩ := hasWmL_leaves idx cs h
      exact ⟨l, Or.inr hl, hw⟩
end

theorem fold_hasWm (idx : Nat) (st : NState) (B : List Msg) (h : ∃ l ∈ st.trig.leaves, ∃ M, l.wmBound idx M) :
    ∃ l ∈ (gbFold wl C st B).1.trig.leaves, ∃ M, l.wmBound idx M := by
  obtain ⟨l, hl, M, hw⟩ := h
  cases l with
  | watermark i tks e w =>
    obtain ⟨rfl, rfl, _⟩ := hw
    obtain ⟨tks', w', hd⟩ := Leaf.drive_watermark (wl := wl) i tks w (B.map (evOf C))
    refine ⟨_, by rw [leaves_gbFold]; exact List.mem_map_of_mem hl, w', ?_⟩
    rw [hd]; exact ⟨rfl, rfl, Int.le_refl _⟩
  | _ => cases hw

/-- `hex`: there is an ON WATERMARK member on column `idx` before the end of the stream -/
theorem wm_step_clean (W : WLaws wl) (idx : Nat) (st : NState) (w : Int) (h : Inv C nk wl st)
    (hex : ∃ l ∈ st.trig.leaves, ∃ M, l.wmBound idx M) (k : Key) (ht : (timeAt idx k).ns ≤ w) :
    cleanB C (gbStep wl C st (.wm w)).1.aggs (gbStep wl C st (.wm w)).1.prev k = true := by
  obtain ⟨l, hl, M, hw⟩ := hex
  -- a dirty key is pending in the ON WATERMARK member, which returns it
  refine fire_clean _ w (pre_inv_wm st w h) (l := l.watermarkReceived w)
    (by rw [leaves_watermarkReceived]; exact List.mem_map_of_mem hl) k fun hp => ?_
  have hs := (h.leafGood l hl).sorted
  cases l with
  | watermark i tks e wm0 =>
    obtain ⟨rfl, rfl, _⟩ := hw
    exact Leaf.watermark_all W i tks w hs k hp ht
  | _ => cases hw

theorem fireKey_recs_key (aggs : List (Key × AggItem)) (curEt : Int) (prev : Prev) (k : Key)
    (hk : k.length = nk) (hp : PrevWF nk prev) :
    ∀ r ∈ recs (fireKey C aggs curEt prev k).2, keq k (r.vals.take nk) = true := by
  have hold : ∀ p, find keyLess k prev = some p → keq k (p.2.1.take nk) = true := fun p hfp => by
    obtain ⟨hm, hq⟩ := find_some_mem hfp
    obtain ⟨hl, res, hres⟩ := hp p hm
    rw [hres, List.take_left' hl, ← eqv_keyLess]; exact hq
  have hnew : ∀ res, keq k ((k ++ res).take nk) = true := fun res => by
    rw [List.take_left' hk]; exact keq_eqv.refl k
  intro r hr
  rw [fireKey, curRow_eq] at hr
  cases hfa : find keyLess k aggs <;> cases hfp : find keyLess k prev <;>
    simp only [hfa, hfp, Option.map, recs, List.nil_append, List.cons_append, List.mem_cons, List.not_mem_nil,
      or_false] at hr
  · subst hr; exact hold _ hfp
  · subst hr; exact hnew _
  · rcases hr with rfl | rfl
    · exact hold _ hfp
    · exact hnew _

theorem fireKeys_recs_key (aggs : List (Key × AggItem)) (curEt : Int) (prev : Prev) (ks : List Key)
    (hk : ∀ k ∈ ks, k.length = nk) (hp : PrevWF nk prev) :
    ∀ r ∈ recs (fireKeys C aggs curEt prev ks).2, ∃ k ∈ ks, keq k (r.vals.take nk) = true := by
  induction ks generalizing prev with
  | nil => exact nofun
  | cons k ks ih =>
    have ⟨hk1, hk2⟩ := List.forall_mem_cons.mp hk
    intro r hr
    rw [fireKeys, recs_append, List.mem_append] at hr
    rcases hr with hr | hr
    · exact ⟨k, List.mem_cons_self, fireKey_recs_key aggs curEt prev k hk1 hp r hr⟩
    · obtain ⟨k', hk', hq⟩ := ih _ hk2 (fireKey_prevWF aggs curEt prev k hk1 hp) r hr
      exact ⟨k', List.mem_cons_of_mem _ hk', hq⟩

theorem fire_emitted_polled (st : NState) (curEt : Int) (h : Inv C nk wl st) :
    ∀ r ∈ recs (fire wl C st curEt).2,
      ∃ l ∈ st.trig.leaves, ∃ k ∈ (l.poll wl).1, keq k (r.vals.take nk) = true := by
  intro r hr
  obtain ⟨k, hk, hq⟩ := fireKeys_recs_key st.aggs curEt st.prev _ (polled_len (wl := wl) h.leafGood) h.prevWF r hr
  rw [poll_fst, List.mem_flatMap] at hk
  obtain ⟨l, hl, hkl⟩ := hk
  exact ⟨l, hl, k, hkl, hq⟩

theorem Leaf.wmBound_polled (idx : Nat) (M : Int) (l : Leaf) (hw : l.wf) (h : l.wmBound idx M) :
    ∀ k ∈ (l.poll wl).1, (timeAt idx k).ns ≤ M := by
  cases l with
  | watermark i tks e wm =>
    obtain ⟨rfl, rfl, hle⟩ := h
    exact fun k hk => Int.le_trans (Leaf.watermark_upto i tks wm hw k hk) hle
  | _ => cases h

theorem fire_no_early (idx : Nat) (M : Int) (st : NState) (curEt : Int) (h : Inv C nk wl st)
    (hb : ∀ l ∈ st.trig.leaves, l.wmBound idx M) :
    ∀ r ∈ recs (fire wl C st curEt).2, (timeAt idx (r.vals.take nk)).ns ≤ M := by
  intro r hr
  obtain ⟨l, hl, k, hkl, hq⟩ := fire_emitted_polled st curEt h r hr
  rw [← timeAt_congr idx (keq_iff.mp hq)]
  exact Leaf.wmBound_polled idx M l (h.leafGood l hl).wf (hb l hl) k hkl

theorem le_foldl_max (M : Int) (ws : List Int) : M ≤ ws.foldl max M := by
  induction ws generalizing M with
  | nil => exact Int.le_refl _
  | cons w ws ih => exact Int.le_trans (Int.le_max_left M w) (ih _)

theorem fold_no_early (W : WLaws wl) (hK : KeyLen C nk) (idx : Nat) (M : Int) (st : NState) (B : List Msg)
    (h : Inv C nk wl st) (hb : ∀ l ∈ st.trig.leaves, l.wmBound idx M) :
    ∀ r ∈ recs (gbFold wl C st B).2, (timeAt idx (r.vals.take nk)).ns ≤ (wms B).foldl max M := by
  induction B generalizing st M with
  | nil => exact nofun
  | cons m ms ih =>
    intro r hr
    rw [gbFold, recs_append, List.mem_append] at hr
    have hinv := (step_inv W hK st m h).1
    -- `hb1`: the bound on the members' watermarks right before the `Poll` for `m`
    cases m with
    | data rec =>
      have hb1 : ∀ l ∈ (st.trig.keyReceived wl (C.keyOf rec.vals)).leaves, l.wmBound idx M := by
        rw [leaves_keyReceived, List.forall_mem_map]
        exact fun l hl => Leaf.wmBound_keyReceived idx M l _ (hb l hl)
      rcases hr with hr | hr
      · exact Int.le_trans (fire_no_early idx M _ (etNs rec.et) (pre_inv_data W hK st rec h) hb1 r hr)
          (le_foldl_max M _)
      · refine ih M _ hinv ?_ r hr
        rw [gbStep, leaves_fire, List.forall_mem_map]
        exact fun l hl => Leaf.wmBound_poll idx M l (hb1 l hl)
    | wm w =>
      have hb1 : ∀ l ∈ (st.trig.watermarkReceived w).leaves, l.wmBound idx w := by
        rw [leaves_watermarkReceived, List.forall_mem_map]
        exact fun l hl => Leaf.wmBound_watermarkReceived idx M l w (hb l hl)
      rcases hr with hr | hr
      · rw [gbStep, recs_append, List.mem_append] at hr
        refine Int.le_trans (fire_no_early idx w _ w (pre_inv_wm st w h) hb1 r (hr.resolve_right nofun)) ?_
        exact Int.le_trans (Int.le_max_right M w) (le_foldl_max _ _)
      · refine ih (max M w) _ hinv ?_ r hr
        rw [gbStep, leaves_fire, List.forall_mem_map]
        exact fun l hl => Leaf.wmBound_mono idx (Int.le_max_right M w) _ (Leaf.wmBound_poll idx w l (hb1 l hl))

-- (`.counting` and `.eos` have no equation: there `h` is `false = true`)
mutual
theorem onlyWm_leaves (idx : Nat) : ∀ (c : TCfg), c.onlyWm idx = true → ∀ l ∈ c.init.leaves, l.wmBound idx zeroNs
  | .watermark _, h => fun _ hl => List.mem_singleton.mp hl ▸ ⟨beq_iff_eq.mp h, rfl, Int.le_refl _⟩
  | .multi ts, h => onlyWmL_leaves idx ts h
theorem onlyWmL_leaves (idx : Nat) : ∀ (cs : List TCfg), TCfg.onlyWmL idx cs = true →
    ∀ l ∈ TState.leavesL (TCfg.initL cs), l.wmBound idx zeroNs
  | [], _ => nofun
  | c :: cs, h => fun l hl => by
    rw [TCfg.onlyWmL, Bool.and_eq_true] at h
    rw [TCfg.initL, TState.leavesL, List.mem_append] at hl
    exact hl.elim (onlyWm_leaves idx c h.1 l) (onlyWmL_leaves idx cs h.2 l)
end

end Octo.Trig
