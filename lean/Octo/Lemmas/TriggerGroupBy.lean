import Octo.Lemmas.TrigFires
import Octo.Model.TriggerGroupBy
/-!
  The group-by node around the triggers (`Octo.Model.TriggerGroupBy`): whatever the trigger does, the
  consolidated output of the node is, at the end of the stream, exactly the table it holds.

  Invariant (`Inv`): a key whose last sent row differs from the row currently derivable from the
  `aggregates` tree ("dirty") is pending in *every* primitive trigger; beside it (`fold_inv`) the output so far sums
  to the rows in `previouslySentValues`.  At end of stream every pending key is polled, so no key is dirty.
-/
namespace Octo.Trig
open Octo Octo.TMap

theorem keq_take {k res row : List Value} {nk : Nat} (hl : k.length = nk) (h : keq (k ++ res) row = true) :
    keq k (row.take nk) = true :=
  keq_iff.mpr (List.take_left' hl ▸ (cmpList_take_drop (keq_iff.mp h) nk).1)

theorem find_key_congr {β : Type} {k k' : Key} (h : keq k k' = true) (m : List (Key × β)) :
    find keyLess k m = find keyLess k' m :=
  find_congr keyLaws (eqv_of_keq h) m

/-! ### the `aggregates` tree after one record: the lookup of any key as one equation (`find_updAggs`) -/
section Aggs
variable {C : GBConf}

/-- the item the record handler updates: the stored one of the key's group, or a fresh one -/
def storedItem (C : GBConf) (aggs : List (Key × AggItem)) (key : Key) : Key × AggItem :=
  (find keyLess key aggs).getD (key, freshItem C.aggs)

def updItem (C : GBConf) (r : Rec) (it : AggItem) : AggItem :=
  ⟨updCells r.retr r.vals C.aggs it.cells, if r.retr then it.count - 1 else it.count + 1⟩

theorem keq_storedItem (aggs : List (Key × AggItem)) (key : Key) : keq (storedItem C aggs key).1 key = true :=
  keq_find_getD aggs key _

theorem updAggs_eq (r : Rec) (aggs : List (Key × AggItem)) :
    updAggs C r aggs =
      if (updItem C r (storedItem C aggs (C.keyOf r.vals)).2).count = 0 then
        erase keyLess (storedItem C aggs (C.keyOf r.vals)).1 aggs
      else insert keyLess (storedItem C aggs (C.keyOf r.vals)).1
        (updItem C r (storedItem C aggs (C.keyOf r.vals)).2) aggs := by
  rw [updAggs, storedItem]
  cases find keyLess (C.keyOf r.vals) aggs <;> simp only [beq_iff_eq, Option.getD_none, Option.getD_some, updItem]

theorem find_updAggs (r : Rec) (aggs : List (Key × AggItem)) (k' : Key) :
    find keyLess k' (updAggs C r aggs) =
      if keq (C.keyOf r.vals) k' then
        (if (updItem C r (storedItem C aggs (C.keyOf r.vals)).2).count = 0 then none
         else some ((storedItem C aggs (C.keyOf r.vals)).1, updItem C r (storedItem C aggs (C.keyOf r.vals)).2))
      else find keyLess k' aggs := by
  rw [updAggs_eq, ← keq_eqv.beq_congr_left (keq_storedItem aggs (C.keyOf r.vals)) k', apply_ite (find keyLess k'),
    find_erase keyLaws, find_insert keyLaws, eqv_keyLess]
  cases keq (storedItem C aggs (C.keyOf r.vals)).1 k' <;> simp only [if_true, if_false, Bool.false_eq_true, ite_self]

def KeyLen (C : GBConf) (nk : Nat) : Prop := ∀ vals, (C.keyOf vals).length = nk

end Aggs

variable (C : GBConf) (nk : Nat)

/-- multiplicity of `row` in a table of at most one row -/
def hit (o : Option Row) (row : Row) : Int :=
  match o with
  | some r => if rowEq r row then 1 else 0
  | none => 0

/-- the row last sent for `k` (`previouslySentValues`) -/
def sentRow (prev : Prev) (k : Key) : Option Row := (find keyLess k prev).map (·.2.1)

def sentOf (prev : Prev) (row : Row) : Int := hit (sentRow prev (row.take nk)) row

def cleanB (aggs : List (Key × AggItem)) (prev : Prev) (k : Key) : Bool :=
  match sentRow prev k, curRow C aggs k with
  | none, none => true
  | some r, some r' => rowEq r r'
  | _, _ => false

def PrevWF (prev : Prev) : Prop := ∀ e ∈ prev, e.1.length = nk ∧ ∃ res, e.2.1 = e.1 ++ res

theorem curRow_eq (aggs : List (Key × AggItem)) (k : Key) :
    curRow C aggs k = (find keyLess k aggs).map fun ki => k ++ results C.aggs ki.2.cells := by
  rw [curRow]; cases find keyLess k aggs <;> rfl

theorem tableOf_eq (aggs : List (Key × AggItem)) (row : Row) :
    tableOf C nk aggs row = hit (curRow C aggs (row.take nk)) row := rfl

theorem cleanB_congr_aggs {aggs aggs' : List (Key × AggItem)} {prev : Prev} {k : Key}
    (h : find keyLess k aggs' = find keyLess k aggs) : cleanB C aggs' prev k = cleanB C aggs prev k := by
  rw [cleanB, cleanB, curRow_eq, curRow_eq, h]

theorem sentOf_eq_tableOf {aggs : List (Key × AggItem)} {prev : Prev} (row : Row)
    (h : cleanB C aggs prev (row.take nk) = true) : sentOf nk prev row = tableOf C nk aggs row := by
  rw [sentOf, tableOf_eq]
  rw [cleanB] at h
  cases hp : sentRow prev (row.take nk) <;> cases hc : curRow C aggs (row.take nk) <;>
    simp only [hp, hc] at h
  · rfl
  · cases h
  · cases h
  · exact congrArg (if · then (1 : Int) else 0) (rowEq_congr_left h row)

section FireKey
variable {C nk}

theorem weight_eq (vals : Row) (retr : Bool) (et : Option Int) (row : Row) :
    (Rec.mk vals retr et).weight row = if rowEq vals row then (if retr then -1 else 1) else 0 := rfl

theorem weight_add (r : Row) (et : Option Int) (row : Row) : (Rec.mk r false et).weight row = hit (some r) row := rfl
theorem weight_retr (r : Row) (et : Option Int) (row : Row) : (Rec.mk r true et).weight row = - hit (some r) row := by
  rw [weight_eq, hit]; split <;> rfl

theorem sentRow_fireKey (aggs : List (Key × AggItem)) (curEt : Int) (prev : Prev) (k k' : Key) :
    sentRow (fireKey C aggs curEt prev k).1 k' = if keq k k' then curRow C aggs k else sentRow prev k' := by
  rw [fireKey]
  cases curRow C aggs k with
  | none => -- the entry of `k` is deleted
    simp only [sentRow, find_erase keyLaws, eqv_keyLess]
    split <;> rfl
  | some row => -- the entry of `k` is replaced by the new row
    simp only [sentRow, find_insert keyLaws, find_erase keyLaws, eqv_keyLess]
    split <;> rfl

theorem fireKey_hits (aggs : List (Key × AggItem)) (curEt : Int) (prev : Prev) (k : Key) (row : Row) :
    net (recs (fireKey C aggs curEt prev k).2) row = hit (curRow C aggs k) row - hit (sentRow prev k) row := by
  rw [fireKey, sentRow]
  cases curRow C aggs k <;> cases find keyLess k prev
  · rfl
  · exact (Int.add_zero _).trans ((weight_retr ..).trans (Int.zero_sub _).symm)
  · exact (Int.add_zero _).trans (Int.sub_zero _).symm
  · simp only [Option.map, List.cons_append, List.nil_append, recs, net, weight_add, weight_retr, Int.add_zero]
    omega

theorem cleanB_fireKey (aggs : List (Key × AggItem)) (curEt : Int) (prev : Prev) (k k' : Key) :
    cleanB C aggs (fireKey C aggs curEt prev k).1 k' = (keq k' k || cleanB C aggs prev k') := by
  rw [cleanB, sentRow_fireKey, keq_eqv.beq_comm k' k]
  cases h : keq k k'
  · rfl
  · rw [if_pos rfl, curRow_eq, curRow_eq, find_key_congr h]
    cases find keyLess k' aggs
    · rfl
    · exact rowEq_append h (rowEq_refl _)

theorem fireKey_prevWF (aggs : List (Key × AggItem)) (curEt : Int) (prev : Prev) (k : Key)
    (hk : k.length = nk) (hp : PrevWF nk prev) : PrevWF nk (fireKey C aggs curEt prev k).1 := by
  rw [fireKey, curRow_eq]
  cases find keyLess k aggs with
  | none => exact fun e he => hp e (mem_erase.mp he).1
  | some ki => exact forall_mem_insert ⟨hk, _, rfl⟩ fun e he => hp e (mem_erase.mp he).1

theorem hit_other {k : Key} {o : Option Row} {row : Row} (hk : keq k (row.take nk) = false)
    (ho : ∀ r, o = some r → ∃ k' res, k'.length = nk ∧ keq k k' = true ∧ r = k' ++ res) : hit o row = 0 := by
  cases o with
  | none => rfl
  | some r =>
    obtain ⟨k', res, hl, hq, rfl⟩ := ho r rfl
    rw [hit, if_neg]
    intro h
    rw [keq_eqv.trans hq (keq_take hl h)] at hk
    cases hk

theorem fireKey_net (aggs : List (Key × AggItem)) (curEt : Int) (prev : Prev) (k : Key)
    (hk : k.length = nk) (hp : PrevWF nk prev) (row : Row) :
    net (recs (fireKey C aggs curEt prev k).2) row =
      sentOf nk (fireKey C aggs curEt prev k).1 row - sentOf nk prev row := by
  rw [fireKey_hits, sentOf, sentOf, sentRow_fireKey]
  cases hkr : keq k (row.take nk)
  · -- another key: neither the retraction nor the new row is this row
    rw [hit_other hkr, hit_other hkr, if_neg Bool.false_ne_true, Int.sub_self, Int.sub_self]
    · intro r hr
      obtain ⟨e, he, rfl⟩ := Option.map_eq_some_iff.mp hr
      obtain ⟨hm, hq⟩ := find_some_mem he
      obtain ⟨hl, res, hres⟩ := hp e hm
      exact ⟨e.1, res, hl, eqv_keyLess k e.1 ▸ hq, hres⟩
    · intro r hr
      rw [curRow_eq] at hr
      obtain ⟨ki, _, rfl⟩ := Option.map_eq_some_iff.mp hr
      exact ⟨k, _, hk, keq_eqv.refl k, rfl⟩
  · rw [if_pos rfl, sentRow, sentRow, find_key_congr hkr]

end FireKey

section FireKeys
variable {C nk}

theorem cleanB_fireKeys (aggs : List (Key × AggItem)) (curEt : Int) (prev : Prev) (ks : List Key) (k' : Key) :
    cleanB C aggs (fireKeys C aggs curEt prev ks).1 k' = (ks.any (keq k') || cleanB C aggs prev k') := by
  induction ks generalizing prev with
  | nil => rfl
  | cons k ks ih => rw [fireKeys, ih, cleanB_fireKey, List.any_cons, Bool.or_left_comm, Bool.or_assoc]

theorem fireKeys_prevWF (aggs : List (Key × AggItem)) (curEt : Int) (prev : Prev) (ks : List Key)
    (hk : ∀ k ∈ ks, k.length = nk) (hp : PrevWF nk prev) : PrevWF nk (fireKeys C aggs curEt prev ks).1 := by
  induction ks generalizing prev with
  | nil => exact hp
  | cons k ks ih =>
    have ⟨hk1, hk2⟩ := List.forall_mem_cons.mp hk
    exact ih _ hk2 (fireKey_prevWF aggs curEt prev k hk1 hp)

theorem fireKeys_net (aggs : List (Key × AggItem)) (curEt : Int) (prev : Prev) (ks : List Key)
    (hk : ∀ k ∈ ks, k.length = nk) (hp : PrevWF nk prev) (row : Row) :
    net (recs (fireKeys C aggs curEt prev ks).2) row =
      sentOf nk (fireKeys C aggs curEt prev ks).1 row - sentOf nk prev row := by
  induction ks generalizing prev with
  | nil => exact (Int.sub_self _).symm
  | cons k ks ih =>
    have ⟨hk1, hk2⟩ := List.forall_mem_cons.mp hk
    simp only [fireKeys, recs_append, net_append]
    rw [fireKey_net aggs curEt prev k hk1 hp row, ih _ hk2 (fireKey_prevWF aggs curEt prev k hk1 hp)]
    omega

end FireKeys

variable (wl : WKey → WKey → Bool)

structure Inv (st : NState) : Prop where
  prevWF : PrevWF nk st.prev
  leafGood : ∀ l ∈ st.trig.leaves, l.Good nk
  dirtyPending : ∀ k, cleanB C st.aggs st.prev k = false → ∀ l ∈ st.trig.leaves, l.pend wl k = true

variable {C nk wl}

theorem polled_len {t : TState} (h : ∀ l ∈ t.leaves, l.Good nk) : ∀ k ∈ (t.poll wl).1, k.length = nk := by
  intro k hk
  rw [poll_fst, List.mem_flatMap] at hk
  obtain ⟨l, hl, hkl⟩ := hk
  exact (Leaf.allKeys_poll l (h l hl).allKeys).2 k hkl

theorem any_poll_leaf {t : TState} {l : Leaf} (hl : l ∈ t.leaves) {k : Key}
    (h : (l.poll wl).1.any (keq k) = true) : (t.poll wl).1.any (keq k) = true := by
  rw [poll_fst, List.any_flatMap]
  exact List.any_eq_true.mpr ⟨l, hl, h⟩

theorem leaves_fire (st : NState) (curEt : Int) :
    (fire wl C st curEt).1.trig.leaves = st.trig.leaves.map fun l => (l.poll wl).2 := by
  rw [fire, poll_snd]

/-- what the node tells its trigger for a message -/
def evOf (C : GBConf) : Msg → TEv
  | .data r => .key (C.keyOf r.vals)
  | .wm w => .wm w

theorem leaves_gbStep (st : NState) (m : Msg) :
    (gbStep wl C st m).1.trig.leaves = st.trig.leaves.map fun l => (l.stepEv wl (evOf C m)).2 := by
  cases m with
  | data r => rw [gbStep, leaves_fire, leaves_keyReceived, List.map_map]; rfl
  | wm w => rw [gbStep, leaves_fire, leaves_watermarkReceived, List.map_map]; rfl

/-- the node drives each of its primitive triggers the way `Leaf.drive` does -/
theorem leaves_gbFold (st : NState) (B : List Msg) :
    (gbFold wl C st B).1.trig.leaves = st.trig.leaves.map fun l => l.drive wl (B.map (evOf C)) := by
  induction B generalizing st with
  | nil => exact (List.map_id' _).symm
  | cons m ms ih => rw [gbFold, ih, leaves_gbStep, List.map_map]; rfl

theorem gbFold_append (st : NState) (B₁ B₂ : List Msg) :
    gbFold wl C st (B₁ ++ B₂) =
      ((gbFold wl C (gbFold wl C st B₁).1 B₂).1, (gbFold wl C st B₁).2 ++ (gbFold wl C (gbFold wl C st B₁).1 B₂).2) := by
  induction B₁ generalizing st with
  | nil => rfl
  | cons m ms ih => simp only [gbFold, List.cons_append, ih, List.append_assoc]

theorem fire_inv (W : WLaws wl) (st : NState) (curEt : Int) (h : Inv C nk wl st) :
    Inv C nk wl (fire wl C st curEt).1 ∧
    (∀ row, net (recs (fire wl C st curEt).2) row =
      sentOf nk (fire wl C st curEt).1.prev row - sentOf nk st.prev row) := by
  have hlen := polled_len (wl := wl) h.leafGood
  refine ⟨⟨fireKeys_prevWF st.aggs curEt st.prev _ hlen h.prevWF, ?_, fun k hk => ?_⟩,
    fireKeys_net st.aggs curEt st.prev _ hlen h.prevWF⟩ <;> rw [leaves_fire, List.forall_mem_map]
  · exact fun l hl => (h.leafGood l hl).poll
  · intro l hl
    -- a key still dirty after firing was not polled and was dirty before, hence pending in `l`
    rw [fire, cleanB_fireKeys, Bool.or_eq_false_iff] at hk
    refine (Leaf.pend_poll W l k (h.dirtyPending k hk.2 l hl)).resolve_left fun h1 => ?_
    rw [any_poll_leaf hl h1] at hk
    cases hk.1

/-- firing cleans every key that some member returns whenever it has it pending -/
theorem fire_clean (st : NState) (curEt : Int) (h : Inv C nk wl st) {l : Leaf} (hl : l ∈ st.trig.leaves) (k : Key)
    (hfire : l.pend wl k = true → (l.poll wl).1.any (keq k) = true) :
    cleanB C (fire wl C st curEt).1.aggs (fire wl C st curEt).1.prev k = true := by
  rw [fire, cleanB_fireKeys]
  cases hc : cleanB C st.aggs st.prev k
  · rw [any_poll_leaf hl (hfire (h.dirtyPending k hc l hl))]; rfl
  · exact Bool.or_true _

theorem fire_eos_clean (W : WLaws wl) (st : NState) (curEt : Int) (h : Inv C nk wl st)
    (hne : st.trig.leaves ≠ []) (hflag : ∀ l ∈ st.trig.leaves, l.eosFlag = true) (k : Key) :
    cleanB C (fire wl C st curEt).1.aggs (fire wl C st curEt).1.prev k = true := by
  obtain ⟨l, hl⟩ := List.exists_mem_of_ne_nil _ hne
  exact fire_clean st curEt h hl k ((Leaf.any_poll_eos W l (h.leafGood l hl).wf (hflag l hl) k).trans)

theorem pre_inv_map {st : NState} {t' : TState} (f : Leaf → Leaf) (ht : t'.leaves = st.trig.leaves.map f)
    (hg : ∀ l, l.Good nk → (f l).Good nk) (hp : ∀ l k, (f l).pend wl k = l.pend wl k) (h : Inv C nk wl st) :
    Inv C nk wl ⟨st.aggs, st.prev, t'⟩ := by
  refine ⟨h.prevWF, ?_, fun k hk => ?_⟩ <;> rw [ht, List.forall_mem_map]
  · exact fun l hl => hg l (h.leafGood l hl)
  · exact fun l hl => (hp l k).trans (h.dirtyPending k hk l hl)

/-- the state handed to `trigger` after a record -/
theorem pre_inv_data (W : WLaws wl) (hK : KeyLen C nk) (st : NState) (r : Rec) (h : Inv C nk wl st) :
    Inv C nk wl ⟨updAggs C r st.aggs, st.prev, st.trig.keyReceived wl (C.keyOf r.vals)⟩ := by
  refine ⟨h.prevWF, ?_, fun k hk => ?_⟩ <;> rw [leaves_keyReceived, List.forall_mem_map] <;> intro l hl
  · exact (h.leafGood l hl).keyReceived W (hK r.vals)
  · -- the record's group becomes pending; any other group is as dirty as before
    rw [Leaf.pend_keyReceived W]
    cases hq : keq (C.keyOf r.vals) k
    · rw [cleanB_congr_aggs C (aggs := st.aggs) (by rw [find_updAggs, hq]; rfl)] at hk
      exact h.dirtyPending k hk l hl
    · rfl

theorem pre_inv_wm (st : NState) (w : Int) (h : Inv C nk wl st) :
    Inv C nk wl ⟨st.aggs, st.prev, st.trig.watermarkReceived w⟩ :=
  pre_inv_map _ (leaves_watermarkReceived _ w) (fun _ hg => hg.watermarkReceived w)
    (fun l k => Leaf.pend_watermarkReceived l w k) h

theorem pre_inv_eos (st : NState) (h : Inv C nk wl st) : Inv C nk wl ⟨st.aggs, st.prev, st.trig.endOfStream⟩ :=
  pre_inv_map _ (leaves_endOfStream _) (fun _ hg => hg.endOfStream) (fun l k => Leaf.pend_endOfStream l k) h

theorem step_inv (W : WLaws wl) (hK : KeyLen C nk) (st : NState) (m : Msg) (h : Inv C nk wl st) :
    Inv C nk wl (gbStep wl C st m).1 ∧
    (∀ row, net (recs (gbStep wl C st m).2) row =
      sentOf nk (gbStep wl C st m).1.prev row - sentOf nk st.prev row) := by
  cases m with
  | data r =>
    exact fire_inv W _ (etNs r.et) (pre_inv_data W hK st r h)
  | wm w =>
    have := fire_inv W _ w (pre_inv_wm st w h)
    refine ⟨this.1, fun row => ?_⟩
    rw [gbStep, recs_append, net_append, this.2 row]
    exact Int.add_zero _

/-- the `aggregates` tree does not depend on the trigger -/
theorem fold_aggs (st : NState) (B : List Msg) :
    (gbFold wl C st B).1.aggs = (recs B).foldl (fun a r => updAggs C r a) st.aggs := by
  induction B generalizing st with
  | nil => rfl
  | cons m ms ih =>
    rw [gbFold, ih]
    cases m <;> rfl

theorem fold_inv (W : WLaws wl) (hK : KeyLen C nk) (st : NState) (B : List Msg) (h : Inv C nk wl st) :
    Inv C nk wl (gbFold wl C st B).1 ∧
    (∀ row, net (recs (gbFold wl C st B).2) row =
      sentOf nk (gbFold wl C st B).1.prev row - sentOf nk st.prev row) := by
  induction B generalizing st with
  | nil => exact ⟨h, fun row => (Int.sub_self _).symm⟩
  | cons m ms ih =>
    have h1 := step_inv W hK st m h
    have h2 := ih _ h1.1
    refine ⟨h2.1, fun row => ?_⟩
    simp only [gbFold, recs_append, net_append]
    rw [h1.2 row, h2.2 row]; omega

theorem init_inv : Inv C nk wl (gbInit C) :=
  ⟨nofun, fun l hl => .init (init_leaves C.cfg l hl), nofun⟩

theorem run_inv (W : WLaws wl) (hK : KeyLen C nk) (B : List Msg) : Inv C nk wl (gbFold wl C (gbInit C) B).1 :=
  (fold_inv W hK (gbInit C) B init_inv).1

/-- the output so far sums to the rows in `previouslySentValues` -/
theorem run_net (W : WLaws wl) (hK : KeyLen C nk) (B : List Msg) (row : Row) :
    net (recs (gbFold wl C (gbInit C) B).2) row = sentOf nk (gbFold wl C (gbInit C) B).1.prev row :=
  ((fold_inv W hK (gbInit C) B init_inv).2 row).trans (Int.sub_zero _)

theorem run_aggs (B : List Msg) : (gbFold wl C (gbInit C) B).1.aggs = aggsAfter C (recs B) :=
  fold_aggs _ B

/-- **the consolidated output of the node is the table it holds at the end of the stream**, for every
    trigger configuration with at least one primitive trigger and every message list -/
theorem out_eq_table (W : WLaws wl) (hK : KeyLen C nk) (hlive : C.cfg.live = true) (B : List Msg) (row : Row) :
    net (recs (gbRun wl C B)) row = tableOf C nk (aggsAfter C (recs B)) row := by
  have hinv := run_inv W hK B
  have hnet := run_net W hK B row
  have hagg := run_aggs (wl := wl) (C := C) B
  have hleaves : (gbFold wl C (gbInit C) B).1.trig.leaves ≠ [] := by
    rw [leaves_gbFold]; exact mt List.map_eq_nil_iff.mp (live_leaves C.cfg hlive)
  rw [gbRun, recs_append, net_append, gbEnd]
  generalize (gbFold wl C (gbInit C) B).1 = st at hinv hnet hagg hleaves
  have hpre := pre_inv_eos st hinv
  have hfire := fire_inv W _ maxNs hpre
  have hclean := fire_eos_clean W _ maxNs hpre
    (by rw [leaves_endOfStream]; simpa using hleaves)
    (by rw [leaves_endOfStream, List.forall_mem_map]; exact fun l _ => Leaf.eosFlag_endOfStream l) (row.take nk)
  -- `fire` leaves the `aggregates` tree alone
  rw [hnet, hfire.2 row, sentOf_eq_tableOf C nk row hclean,
    show (fire wl C ⟨st.aggs, st.prev, st.trig.endOfStream⟩ maxNs).1.aggs = st.aggs from rfl, hagg]
  dsimp only
  omega

end Octo.Trig
