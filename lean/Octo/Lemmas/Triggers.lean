import Octo.Lemmas.Net
import Octo.Lemmas.TrigMap
import Octo.Model.Triggers
/-!
  Laws of the trigger machines (`Octo.Model.Triggers`).

  * `GroupKey.Less` induces the equivalence "`Compare == 0` pointwise" (`keq`), from the C09 order laws.
  * the repaired `watermarkTriggerKey.Less` (`wlessFixed`) induces "same instant and `keq` keys";
    everything a trigger must satisfy is proved for an arbitrary `wl` satisfying `WLaws`, which
    `wlessFixed` does and `wlessRaw` does not.
  * the *pending contract* of a primitive trigger (`Leaf.pend`): a received key stays pending until a
    `Poll` returns it, and the `Poll` after `EndOfStreamReached` returns every pending key.
-/
namespace Octo.Trig
open Octo Octo.TMap

theorem cmpList_trans (a b c : List Value) : cmpList a b ≤ 0 → cmpList b c ≤ 0 → cmpList a c ≤ 0 :=
  Octo.cmpList_trans a b c

theorem keq_iff {a b : Key} : keq a b = true ↔ cmpList a b = 0 := beq_iff_eq
theorem keq_eqv : Equivalence fun a b : Key => keq a b = true := cmpList_cmpOn.eqv_beq

/-- group keys and rows are lists of values compared the same way -/
theorem keq_eq_rowEq (a b : List Value) : keq a b = rowEq a b := rfl

theorem keyLess_eq (a b : Key) : keyLess a b = (cmpList a b == -1) := by
  induction a generalizing b with
  | nil => cases b <;> rfl
  | cons x xs ih =>
    cases b with
    | nil => rfl
    | cons y ys =>
      simp only [keyLess, cmpListWith]
      split
      · rfl
      · exact ih ys

theorem eqv_keyLess (a b : Key) : eqv keyLess a b = keq a b := by
  rw [eqv, keyLess_eq, keyLess_eq, keq, cmpList_antisymm b a]
  rcases cmpList_range a b with h | h | h <;> rw [h] <;> rfl

theorem keyLaws : EqvLaws keyLess where
  trans a b c := by simp only [eqv_keyLess]; exact keq_eqv.trans

theorem eqv_of_keq {k k' : Key} (h : keq k k' = true) : eqv keyLess k k' = true := eqv_keyLess k k' ▸ h

theorem keq_find_getD {β : Type} (m : List (Key × β)) (key : Key) (d : β) :
    keq ((find keyLess key m).getD (key, d)).1 key = true := by
  cases h : find keyLess key m with
  | none => exact keq_eqv.refl key
  | some kc => exact keq_eqv.symm (eqv_keyLess key kc.1 ▸ (find_some_mem h).2)

theorem forall_find_getD {β : Type} {P : Key → Prop} (m : List (Key × β)) (key : Key) (d : β) (hk : P key)
    (hm : ∀ e ∈ m, P e.1) : P ((find keyLess key m).getD (key, d)).1 := by
  cases h : find keyLess key m with
  | none => exact hk
  | some kc => exact hm _ (find_some_mem h).1

theorem cmp_zero_time_ns {a b : Value} (h : cmp a b = 0) : (timeOfValue a).ns = (timeOfValue b).ns := by
  cases Value.cmpEq_of_zero h <;> rfl

/-- `.Time` of NULL is the zero time, so an index out of range reads like a NULL -/
theorem timeAt_eq (idx : Nat) (k : Key) : timeAt idx k = timeOfValue (k.getD idx .null) := by
  rw [timeAt, List.getD_eq_getElem?_getD]
  cases k[idx]? <;> rfl

theorem timeAt_congr (idx : Nat) {k k' : Key} (h : cmpList k k' = 0) : (timeAt idx k).ns = (timeAt idx k').ns := by
  rw [timeAt_eq, timeAt_eq]
  exact cmp_zero_time_ns (cmpList_getD h idx)

/-- `wl` identifies exactly the entries with equal instants and `keq` group keys, and orders by instant first -/
structure WLaws (wl : WKey → WKey → Bool) : Prop where
  eqv_iff : ∀ a b : WKey, eqv wl a b = true ↔ (a.t.ns = b.t.ns ∧ keq a.key b.key = true)
  time_mono : ∀ a b : WKey, wl a b = true → a.t.ns ≤ b.t.ns
  not_lt_time : ∀ a b : WKey, wl a b = false → b.t.ns ≤ a.t.ns

theorem WLaws.laws {wl} (W : WLaws wl) : EqvLaws wl where
  trans a b c h1 h2 := by
    rw [W.eqv_iff] at *
    exact ⟨h1.1.trans h2.1, keq_eqv.trans h1.2 h2.2⟩

theorem wlessFixed_laws : WLaws wlessFixed where
  eqv_iff a b := by
    by_cases h : a.t.ns = b.t.ns
    · have : eqv wlessFixed a b = keq a.key b.key := by
        rw [← eqv_keyLess]; simp only [eqv, wlessFixed, h, beq_self_eq_true, if_true]
      rw [this]; exact ⟨fun hk => ⟨h, hk⟩, And.right⟩
    · have : eqv wlessFixed a b = false := by
        simp only [eqv, wlessFixed, beq_iff_eq, h, Ne.symm h, if_false]
        rcases Int.lt_or_gt_of_ne h with h1 | h1 <;> simp [h1]
      rw [this]; exact ⟨nofun, fun h' => absurd h'.1 h⟩
  time_mono a b := by
    rw [wlessFixed]
    split
    · next h => exact fun _ => Int.le_of_eq (beq_iff_eq.mp h)
    · exact fun h => Int.le_of_lt (of_decide_eq_true h)
  not_lt_time a b := by
    rw [wlessFixed]
    split
    · next h => exact fun _ => Int.le_of_eq (beq_iff_eq.mp h).symm
    · exact fun h => Int.not_lt.mp (of_decide_eq_false h)

/-- the shipped `Less` is *not* such an order: same instant, different location, different group keys -/
theorem wlessRaw_not_laws : ¬ WLaws wlessRaw := by
  intro W
  have := (W.eqv_iff ⟨⟨0, 0⟩, [.int 0]⟩ ⟨⟨0, 1⟩, [.int 1]⟩).mp (by decide)
  exact absurd this.2 (by decide)

namespace Leaf
variable {wl : WKey → WKey → Bool}

/-- the keys a trigger still owes a firing: received and not yet returned by `Poll` -/
def pend (wl : WKey → WKey → Bool) : Leaf → Key → Bool
  | .counting _ counts _ tt, k => tt.any (keq k) || has keyLess k counts
  | .watermark idx tks _ _, k => has wl ⟨timeAt idx k, k⟩ tks
  | .eos ks _, k => has keyLess k ks

def eosFlag : Leaf → Bool
  | .counting _ _ e _ => e
  | .watermark _ _ e _ => e
  | .eos _ e => e

theorem wkey_eqv (W : WLaws wl) (idx : Nat) (k k' : Key) :
    eqv wl ⟨timeAt idx k, k⟩ ⟨timeAt idx k', k'⟩ = keq k k' :=
  Bool.eq_iff_iff.mpr ((W.eqv_iff _ _).trans
    ⟨And.right, fun h => ⟨timeAt_congr idx (keq_iff.mp h), h⟩⟩)

theorem pend_congr (W : WLaws wl) {k k' : Key} (h : keq k k' = true) (l : Leaf) : l.pend wl k = l.pend wl k' := by
  cases l with
  | counting n counts e tt =>
    have hk : keq k = keq k' := funext (keq_eqv.beq_congr_left h)
    simp only [pend, hk, has_congr keyLaws (eqv_of_keq h)]
  | watermark idx tks e wm => exact has_congr W.laws ((wkey_eqv W idx k k').trans h) tks
  | eos ks e => exact has_congr keyLaws (eqv_of_keq h) ks

/-- the item `KeyReceived` counts up: the stored one of the key's group, or a fresh `{key, 0}` -/
def counted (counts : List (Key × Nat)) (key : Key) : Key × Nat := (find keyLess key counts).getD (key, 0)

theorem keyReceived_counting (n : Nat) (counts : List (Key × Nat)) (e : Bool) (tt : List Key) (key : Key) :
    (Leaf.counting n counts e tt).keyReceived wl key =
      if (counted counts key).2 + 1 = n then
        .counting n (erase keyLess (counted counts key).1 counts) e (tt ++ [(counted counts key).1])
      else .counting n (insert keyLess (counted counts key).1 ((counted counts key).2 + 1) counts) e tt := by
  rw [keyReceived, counted]
  cases find keyLess key counts <;> simp only [beq_iff_eq, Option.getD_none, Option.getD_some]

theorem keq_counted (counts : List (Key × Nat)) (key : Key) : keq (counted counts key).1 key = true :=
  keq_find_getD counts key 0

theorem pend_keyReceived (W : WLaws wl) (l : Leaf) (k k' : Key) :
    (l.keyReceived wl k).pend wl k' = (keq k k' || l.pend wl k') := by
  cases l with
  | counting n counts e tt =>
    rw [keyReceived_counting, ← keq_eqv.beq_congr_left (keq_counted counts k) k']
    split
    · simp only [pend, List.any_append, List.any_cons, List.any_nil, Bool.or_false, has_erase keyLaws,
        eqv_keyLess, keq_eqv.beq_comm k']
      cases keq (counted counts k).1 k' <;> cases tt.any _ <;> cases has keyLess k' counts <;> rfl
    · simp only [pend, has_insert keyLaws, eqv_keyLess]
      cases keq (counted counts k).1 k' <;> cases tt.any _ <;> cases has keyLess k' counts <;> rfl
  | watermark idx tks e wm => simp only [keyReceived, pend, has_insert W.laws, wkey_eqv W]
  | eos ks e => simp only [keyReceived, pend, has_insert keyLaws, eqv_keyLess]

theorem pend_watermarkReceived (l : Leaf) (w : Int) (k : Key) : (l.watermarkReceived w).pend wl k = l.pend wl k := by
  cases l <;> rfl

theorem pend_endOfStream (l : Leaf) (k : Key) : (l.endOfStream).pend wl k = l.pend wl k := by
  cases l <;> rfl

theorem eosFlag_endOfStream (l : Leaf) : l.endOfStream.eosFlag = true := by cases l <;> rfl

theorem pend_poll (W : WLaws wl) (l : Leaf) (k : Key) (h : l.pend wl k = true) :
    (l.poll wl).1.any (keq k) = true ∨ (l.poll wl).2.pend wl k = true := by
  cases l with
  | counting n counts e tt =>
    rcases Bool.or_eq_true_iff.mp h with h | h
    · exact Or.inl (by rw [poll, List.any_append, h]; rfl)
    · exact Or.inr h
  | watermark idx tks e wm =>
    simp only [poll, pend] at h ⊢
    refine (has_foldl_erase W.laws (fun q : Key => (⟨timeAt idx q, q⟩ : WKey)) _ _ tks h).imp_left fun h1 => ?_
    obtain ⟨q, hq, he⟩ := List.any_eq_true.mp h1
    exact List.any_eq_true.mpr ⟨q, hq, by rw [keq_eqv.beq_comm, ← wkey_eqv W idx]; exact he⟩
  | eos ks e => exact Or.inr h

/-- the entries of a watermark trigger carry the instant of their own key -/
def wf : Leaf → Prop
  | .watermark idx tks _ _ => ∀ x ∈ tks, x.1.t = timeAt idx x.1.key
  | _ => True

theorem wf_keyReceived (l : Leaf) (k : Key) (h : l.wf) : (l.keyReceived wl k).wf := by
  cases l with
  | counting n counts e tt => rw [keyReceived_counting]; split <;> trivial
  | watermark idx tks e wm => exact forall_mem_insert rfl h
  | eos ks e => trivial

theorem wf_watermarkReceived (l : Leaf) (w : Int) (h : l.wf) : (l.watermarkReceived w).wf := by
  cases l <;> exact h
theorem wf_endOfStream (l : Leaf) (h : l.wf) : l.endOfStream.wf := by
  cases l <;> exact h
theorem wf_poll (l : Leaf) (h : l.wf) : (l.poll wl).2.wf := by
  cases l with
  | watermark idx tks e wm => exact fun x hx => h x (mem_foldl_erase _ _ _ hx)
  | _ => trivial

theorem any_keys {β : Type} (k : Key) (m : List (Key × β)) : (keys m).any (keq k) = has keyLess k m := by
  rw [keys, List.any_map, has]
  exact congrArg m.any (funext fun e => (eqv_keyLess k e.1).symm)

theorem any_wkeys (W : WLaws wl) (idx : Nat) (tks : List (WKey × Unit))
    (hw : ∀ x ∈ tks, x.1.t = timeAt idx x.1.key) (k : Key) :
    (tks.map fun x => x.1.key).any (keq k) = has wl ⟨timeAt idx k, k⟩ tks := by
  have hx : ∀ x ∈ tks, keq k x.1.key = eqv wl ⟨timeAt idx k, k⟩ x.1 := fun x hx => by
    rw [← wkey_eqv W idx, ← hw x hx]
  rw [List.any_map, has, Bool.eq_iff_iff, List.any_eq_true, List.any_eq_true]
  exact ⟨fun ⟨x, h1, h2⟩ => ⟨x, h1, (hx x h1).symm.trans h2⟩, fun ⟨x, h1, h2⟩ => ⟨x, h1, (hx x h1).trans h2⟩⟩

theorem any_poll_eos (W : WLaws wl) (l : Leaf) (hw : l.wf) (he : l.eosFlag = true) (k : Key) :
    (l.poll wl).1.any (keq k) = l.pend wl k := by
  cases l with
  | counting n counts e tt => cases he; rw [poll, if_pos rfl, List.any_append, any_keys]; rfl
  | watermark idx tks e wm => cases he; exact any_wkeys W idx tks hw k
  | eos ks e => cases he; exact any_keys k ks

theorem eosFlag_poll (l : Leaf) : (l.poll wl).2.eosFlag = l.eosFlag := by cases l <;> rfl

end Leaf

end Octo.Trig
