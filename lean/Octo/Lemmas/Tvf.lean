import Octo.Model.TvfSpec
import Octo.Lemmas.ValidFrom
import Octo.Lemmas.IntFacts
/-!
  Octo.Lemmas.Tvf — tumble, range and poll against `Model.TvfSpec`: each loop is first brought into the form of its
  specification (`tumbleMsgs_append`, `rangeLoop_eq`, `pollFrom_split`); what C21 says of the output is then proved of
  the specification's terms (`TumbleOk`, `rangeSpec`, `rounds`).
-/
namespace Octo.Tvf
open Octo Octo.TvfSpec

/-- every record of the stream carries a time value at position `idx` -/
def Timed (idx : Nat) : List Msg → Prop
  | [] => True
  | .wm _ :: ms => Timed idx ms
  | .data r :: ms => (∃ t loc, r.vals[idx]? = some (.time t loc)) ∧ Timed idx ms

/-- non-failing rounds -/
def okRounds (snaps : List (List Msg)) : List (List Msg × Bool) := snaps.map fun s => (s, false)

theorem negDur_eq (off : Int) (hoff : I64 off) (hne : off ≠ minI64) : negDur off = -off := by
  unfold negDur wrap64; unfold I64 maxI64 at hoff; unfold minI64 at hoff hne; omega

theorem truncate_nonpos (t d : Int) (hd : d ≤ 0) : truncate t d = t := by
  unfold truncate; rw [if_pos hd]

theorem truncate_le (t d : Int) (hd : 0 < d) : truncate t d ≤ t := by
  unfold truncate
  have := Int.emod_nonneg (t - zeroUnix) (Int.ne_of_gt hd)
  split <;> omega

theorem lt_truncate_add (t d : Int) (hd : 0 < d) : t < truncate t d + d := by
  unfold truncate
  have := Int.emod_lt_of_pos (t - zeroUnix) hd
  split <;> omega

theorem truncate_aligned (t d : Int) (hd : 0 < d) : (truncate t d - zeroUnix) % d = 0 := by
  unfold truncate
  rw [if_neg (by omega),
    show t - (t - zeroUnix) % d - zeroUnix = (t - zeroUnix) - (t - zeroUnix) % d by omega]
  exact Int.emod_eq_zero_of_dvd (Int.dvd_self_sub_of_emod_eq rfl)

/-- `x - x % d` is the only multiple of `d` in `(x - d, x]` -/
theorem eq_sub_emod_of_multiple {x d a : Int} (hd : 0 < d) (ha : a % d = 0) (h1 : a ≤ x) (h2 : x < a + d) : a = x - x % d := by
  obtain ⟨k, rfl⟩ := Int.dvd_of_emod_eq_zero ha
  rw [← (Int.floor_unique hd h1 h2).2, Int.sub_sub_self]

theorem windowStart_eq (t len off : Int) (hlen : 0 < len) (hoff : I64 off) (hne : off ≠ minI64) :
    windowStart t len off = t - (t - off - zeroUnix) % len := by
  unfold windowStart truncate
  rw [negDur_eq off hoff hne, if_neg (Int.not_le.2 hlen), ← Int.sub_eq_add_neg]
  omega

theorem window_isWindow (t len off : Int) (hlen : 0 < len) (hoff : I64 off) (hne : off ≠ minI64) :
    IsWindow t len off (windowStart t len off) (windowEnd t len off) := by
  unfold IsWindow windowEnd windowStart
  rw [negDur_eq off hoff hne]
  have h1 := truncate_le (t + -off) len hlen
  have h2 := lt_truncate_add (t + -off) len hlen
  refine ⟨by omega, by omega, by omega, ?_⟩
  rw [Int.add_sub_cancel]
  exact truncate_aligned (t + -off) len hlen

theorem tumbleRec_spec (c : TumbleCfg) (idx : Nat) (hc : c.idx = idx) (hlen : 0 < c.len)
    (hoff : I64 c.off) (hne : c.off ≠ minI64) (r : Rec) (t : Int) (loc : Nat)
    (hv : r.vals[idx]? = some (.time t loc)) :
    ∃ r', tumbleRec c r = some r' ∧ TumbleRecOk idx c.len c.off r r' := by
  unfold tumbleRec
  rw [if_neg (by omega), hc, Int.toNat_natCast, hv]
  exact ⟨_, rfl, rfl, rfl, t, loc, _, _, hv, rfl, window_isWindow t c.len c.off hlen hoff hne⟩

theorem tumbleMsgs_append (c : TumbleCfg) (idx : Nat) (hc : c.idx = idx) (hlen : 0 < c.len)
    (hoff : I64 c.off) (hne : c.off ≠ minI64) (pre rest : List Msg) (ht : Timed idx pre) :
    ∃ out, TumbleOk idx c.len c.off pre out ∧
      tumbleMsgs c (pre ++ rest) = (out ++ (tumbleMsgs c rest).1, (tumbleMsgs c rest).2) := by
  induction pre with
  | nil => exact ⟨[], trivial, rfl⟩
  | cons m ms ih =>
    cases m with
    | wm w =>
      obtain ⟨out, hok, he⟩ := ih ht
      exact ⟨.wm w :: out, ⟨rfl, hok⟩, by rw [List.cons_append, tumbleMsgs, he]; rfl⟩
    | data r =>
      obtain ⟨⟨t, loc, hv⟩, ht'⟩ := ht
      obtain ⟨r', hr, hrok⟩ := tumbleRec_spec c idx hc hlen hoff hne r t loc hv
      obtain ⟨out, hok, he⟩ := ih ht'
      exact ⟨.data r' :: out, ⟨hrok, hok⟩, by rw [List.cons_append, tumbleMsgs, hr, he]; rfl⟩

theorem tumbleOk_induct {idx len off} {motive : List Msg → List Msg → Prop}
    (nil : motive [] [])
    (wm : ∀ w ms out, TumbleOk idx len off ms out → motive ms out → motive (.wm w :: ms) (.wm w :: out))
    (data : ∀ r r' ms out, TumbleRecOk idx len off r r' → TumbleOk idx len off ms out → motive ms out →
      motive (.data r :: ms) (.data r' :: out)) :
    ∀ {ms out : List Msg}, TumbleOk idx len off ms out → motive ms out
  | [], [], _ => nil
  | .wm w :: ms, .wm w' :: out, h => by
    have h1 : w' = w := h.1
    subst h1
    exact wm _ _ _ h.2 (tumbleOk_induct nil wm data h.2)
  | .data _ :: _, .data _ :: _, h => data _ _ _ _ h.1 h.2 (tumbleOk_induct nil wm data h.2)
  | .wm _ :: _, .data _ :: _, h => False.elim h.1
  | .data _ :: _, .wm _ :: _, h => False.elim h.1
  | [], _ :: _, h => False.elim h
  | _ :: _, [], h => False.elim h

theorem tumbleOk_length_eq {idx len off} {ms out : List Msg} (h : TumbleOk idx len off ms out) : out.length = ms.length :=
  tumbleOk_induct (motive := fun ms out => out.length = ms.length) rfl
    (fun _ _ _ _ ih => congrArg (· + 1) ih) (fun _ _ _ _ _ _ ih => congrArg (· + 1) ih) h

theorem tumbleOk_take {idx len off} (n : Nat) {ms out : List Msg} (h : TumbleOk idx len off ms out) :
    TumbleOk idx len off (ms.take n) (out.take n) :=
  tumbleOk_induct (motive := fun ms out => ∀ n, TumbleOk idx len off (ms.take n) (out.take n))
    (fun n => by cases n <;> trivial)
    (fun _ _ _ _ ih n => by cases n with | zero => trivial | succ n => exact ⟨rfl, ih n⟩)
    (fun _ _ _ _ hr _ ih n => by cases n with | zero => trivial | succ n => exact ⟨hr, ih n⟩) h n

theorem tumbleOk_wms_eq {idx len off} {ms out : List Msg} (h : TumbleOk idx len off ms out) : wms out = wms ms :=
  tumbleOk_induct (motive := fun ms out => wms out = wms ms) rfl
    (fun w _ _ _ ih => congrArg (w :: ·) ih) (fun _ _ _ _ _ _ ih => ih) h

theorem tumbleOk_timely {idx len off} {ms out : List Msg} (w : Option Int) (h : TumbleOk idx len off ms out) :
    Timely w ms → Timely w out :=
  tumbleOk_induct (motive := fun ms out => ∀ w, Timely w ms → Timely w out) (fun _ h => h)
    (fun _ _ _ _ ih _ ht => ⟨ht.1, ih _ ht.2⟩)
    (fun _ _ _ _ hr _ ih _ ht => ⟨fun W hW => hr.2.1 ▸ ht.1 W hW, ih _ ht.2⟩) h w

theorem tumbleOk_no_retractions {idx len off} {ms out : List Msg} (h : TumbleOk idx len off ms out) :
    (∀ r ∈ recs ms, r.retr = false) → ∀ r ∈ recs out, r.retr = false :=
  tumbleOk_induct (motive := fun ms out => (∀ r ∈ recs ms, r.retr = false) → ∀ r ∈ recs out, r.retr = false)
    (fun h => h) (fun _ _ _ _ ih => ih)
    (fun _ _ _ _ hr _ ih hm => List.forall_mem_cons.2
      ⟨hr.1 ▸ hm _ (List.mem_cons_self ..), ih fun r hx => hm r (List.mem_cons_of_mem _ hx)⟩) h

theorem lookupIdx_of_find (name : String) : ∀ (fields : List (String × FTy)) (i : Nat),
    findTimeField name fields = .ok true →
    ∃ j, lookupIdx name fields i = i + j ∧ fields[j]? = some (name, .time) := by
  intro fields
  induction fields with
  | nil => intro i h; simp [findTimeField] at h
  | cons f rest ih =>
    intro i h
    obtain ⟨n, t⟩ := f
    unfold findTimeField at h
    by_cases hn : n = name
    · subst hn
      simp only [ne_eq, not_true_eq_false, if_false] at h
      by_cases ht : t = .time
      · subst ht
        exact ⟨0, by simp [lookupIdx], by simp⟩
      · simp [ht] at h
    · simp only [ne_eq, hn, not_false_eq_true, if_true] at h
      obtain ⟨j, h1, h2⟩ := ih (i + 1) h
      refine ⟨j + 1, ?_, by simpa using h2⟩
      simp only [lookupIdx, hn, if_false, h1]; omega

theorem cut_eq (b : Option Nat) (r : Result) :
    cut b r = match b with
      | none => r
      | some n => (r.1.take n, if r.1.length > n then .errBudget else r.2) := by
  unfold cut
  cases b with
  | none => rfl
  | some n =>
    show (if r.1.length > n then (r.1.take n, .errBudget) else r) = (r.1.take n, if r.1.length > n then .errBudget else r.2)
    by_cases h : r.1.length > n
    · rw [if_pos h, if_pos h]
    · rw [if_neg h, if_neg h, List.take_of_length_le (by omega)]

theorem rangeSpec_succ (i e : Int) (h : i < e) : rangeSpec i e = i :: rangeSpec (i + 1) e := by
  unfold rangeSpec
  have : (e - i).toNat = (e - (i + 1)).toNat + 1 := by omega
  rw [this, List.range_succ_eq_map, List.map_cons, List.map_map]
  simp only [Int.natCast_zero, Int.add_zero, List.cons.injEq, true_and]
  apply List.map_congr_left
  intro k _
  simp only [Function.comp, Nat.succ_eq_add_one, Int.natCast_add, Int.natCast_one]
  omega

theorem rangeSpec_nil (i e : Int) (h : e ≤ i) : rangeSpec i e = [] := by
  unfold rangeSpec
  have : (e - i).toNat = 0 := by omega
  rw [this]; rfl

theorem rangeLoop_eq (e : Int) : ∀ (fuel : Nat) (i : Int), (e - i).toNat ≤ fuel → rangeLoop e fuel i = rangeSpec i e := by
  intro fuel
  induction fuel with
  | zero => intro i h; rw [rangeSpec_nil i e (by omega)]; rfl
  | succ n ih =>
    intro i h
    unfold rangeLoop
    split
    · next hlt => rw [rangeSpec_succ i e hlt, ih (i + 1) (by omega)]
    · next hge => rw [rangeSpec_nil i e (by omega)]

theorem rangeSpec_length (s e : Int) : (rangeSpec s e).length = (e - s).toNat := by
  simp [rangeSpec]

theorem mem_rangeSpec (s e x : Int) : x ∈ rangeSpec s e ↔ s ≤ x ∧ x < e := by
  unfold rangeSpec
  simp only [List.mem_map, List.mem_range]
  constructor
  · rintro ⟨k, hk, rfl⟩; omega
  · intro ⟨h1, h2⟩; exact ⟨(x - s).toNat, by omega, by omega⟩

theorem rangeSpec_sorted (s e : Int) : List.Pairwise (· < ·) (rangeSpec s e) := by
  unfold rangeSpec
  rw [List.pairwise_map]
  exact List.pairwise_lt_range.imp (by intro a b h; omega)

/-! poll. A round reports every record of its snapshot with the clock reading in front (`stamp`) and takes the previous
    snapshot back with the flags inverted (`undoRec`); what the output is worth is said of these two record functions first,
    then of the loop. -/

/-- a record as round `now` reports it: the clock reading in front and as event time (the record that `TvfSpec.stamped`,
    `bodyMsg` and the model's `pollMsg` each build) -/
def stamp (now : Int) (r : Rec) : Rec := { vals := .time now 0 :: r.vals, retr := r.retr, et := etOf now }

/-- a record as a round takes it back: the flag inverted, the event time `et` (the record `TvfSpec.undo` builds) -/
def undoRec (et : Option Int) (r : Rec) : Rec := { vals := r.vals, retr := !r.retr, et := et }

theorem stamped_eq (now : Int) (snap : List Msg) : stamped now snap = (recs snap).map (stamp now) := rfl

theorem map_pollMsg (now : Int) (ms : List Msg) : ms.map (pollMsg now) = body now ms :=
  List.map_congr_left fun m _ => by cases m <;> rfl

theorem recs_body (now : Int) (snap : List Msg) : recs (body now snap) = stamped now snap := by
  unfold body stamped
  induction snap with
  | nil => rfl
  | cons m ms ih => cases m <;> simp [recs, bodyMsg, ih]

theorem recs_undo (prev now : Int) (snap : List Msg) :
    recs (undo prev now snap) = (stamped prev snap).reverse.map (undoRec (etOf now)) := by
  unfold undo; exact recs_data_map _ _

theorem weight_undoRec (et : Option Int) (r : Rec) (row : Row) : (undoRec et r).weight row = - r.weight row := by
  unfold Rec.weight undoRec
  cases r.retr <;> simp <;> split <;> simp

theorem net_map_undoRec (et : Option Int) (l : List Rec) (row : Row) : net (l.map (undoRec et)) row = - net l row := by
  induction l with
  | nil => simp [net]
  | cons r l ih => simp only [List.map_cons, net, ih, weight_undoRec]; omega

theorem net_reverse (l : List Rec) (row : Row) : net l.reverse row = net l row :=
  net_perm (List.reverse_perm l) row

theorem net_undo (prev now : Int) (snap : List Msg) (row : Row) :
    net (recs (undo prev now snap)) row = - net (stamped prev snap) row := by
  rw [recs_undo, net_map_undoRec, net_reverse]

theorem weight_stamp (now : Int) (r : Rec) (row : Row) :
    (stamp now r).weight row =
      match row with
      | [] => 0
      | y :: ys => if cmp (.time now 0) y = 0 then r.weight ys else 0 := by
  cases row with
  | nil => simp [Rec.weight, stamp, rowEq, cmpListWith]
  | cons y ys =>
    simp only [Rec.weight, stamp, rowEq, cmpListWith]
    by_cases h : cmp (.time now 0) y = 0
    · simp [h]; rfl
    · simp [h]

theorem net_stamp (now : Int) (l : List Rec) (row : Row) :
    net (l.map (stamp now)) row =
      match row with
      | [] => 0
      | y :: ys => if cmp (.time now 0) y = 0 then net l ys else 0 := by
  induction l with
  | nil => cases row <;> simp [net]
  | cons r l ih =>
    rw [List.map_cons, net, ih, weight_stamp]
    cases row with
    | nil => rfl
    | cons y ys => simp only [net]; split <;> simp

theorem valid_stamped (now : Int) (snap : List Msg) (h : ValidLog (recs snap)) : ValidLog (stamped now snap) := by
  intro m row
  rw [stamped_eq, ← List.map_take, net_stamp]
  cases row with
  | nil => simp
  | cons y ys =>
    simp only
    split
    · exact h m ys
    · simp

theorem validFrom_undo (L : List Rec) (hL : ValidLog L) (et : Option Int) :
    Ops.ValidFrom (net L) (L.reverse.map (undoRec et)) := by
  intro m row
  rw [← List.map_take, net_map_undoRec]
  have h1 : net L row = net (L.reverse.take m) row + net (L.reverse.drop m) row := by
    rw [← net_append, List.take_append_drop, net_reverse]
  have h2 : net (L.reverse.drop m) row = net (L.take (L.length - m)) row := by
    rw [List.drop_reverse, net_reverse]
  have := hL (L.length - m) row
  omega

/-- poll's state when it enters round `k` -/
def stAfter (clock : Nat → Int) (snaps : List (List Msg)) : Nat → PollSt
  | 0 => {}
  | j + 1 => { lastNow := clock j, last := pollRemember (clock j) (snaps.getD j []) }

theorem pollRetractions_eq (clock : Nat → Int) (hz : ∀ j, clock j ≠ zeroUnix) (snaps : List (List Msg)) (k : Nat) :
    pollRetractions (stAfter clock snaps k) (clock k) = undoBefore clock snaps k := by
  cases k with
  | zero => simp [stAfter, pollRetractions, undoBefore]
  | succ j =>
    have h : (stAfter clock snaps (j + 1)).lastNow ≠ zeroUnix := hz j
    unfold pollRetractions
    rw [if_neg h]
    simp only [stAfter, undoBefore, undo, stamped, pollRemember]
    simp [← List.map_reverse, List.map_map, Function.comp_def]

/-- the loop over non-failing rounds `rest` (snapshots `k …` of `snaps`) followed by anything else -/
theorem pollFrom_split (clock : Nat → Int) (hz : ∀ j, clock j ≠ zeroUnix) (snaps : List (List Msg))
    (tail : List (List Msg × Bool)) :
    ∀ (rest : List (List Msg)) (k : Nat), snaps.drop k = rest →
      pollFrom clock k (stAfter clock snaps k) (okRounds rest ++ tail) =
        ((List.range' k rest.length).flatMap (round clock snaps) ++
            (pollFrom clock (k + rest.length) (stAfter clock snaps (k + rest.length)) tail).1,
          (pollFrom clock (k + rest.length) (stAfter clock snaps (k + rest.length)) tail).2) := by
  intro rest
  induction rest with
  | nil => intro k _; simp [okRounds]
  | cons s rest ih =>
    intro k h
    have hget : snaps.getD k [] = s := by
      rw [List.getD_eq_getElem?_getD, ← Nat.add_zero k, ← List.getElem?_drop, h]; rfl
    have hdrop : snaps.drop (k + 1) = rest := by rw [← List.tail_drop, h]; rfl
    have hst : ({ lastNow := clock k, last := pollRemember (clock k) s } : PollSt) = stAfter clock snaps (k + 1) := by
      rw [← hget]; rfl
    have := ih (k + 1) hdrop
    have hk : k + 1 + rest.length = k + (rest.length + 1) := by omega
    simp only [okRounds, List.map_cons, List.cons_append, List.length_cons, hk] at this ⊢
    generalize pollFrom clock (k + (rest.length + 1)) (stAfter clock snaps (k + (rest.length + 1))) tail = r at this ⊢
    unfold pollFrom
    simp only [Bool.false_eq_true, if_false, hst]
    rw [this]
    simp only [List.range'_succ, List.flatMap_cons, round, hget,
      pollRetractions_eq clock hz, map_pollMsg]
    simp

theorem recs_round (clock : Nat → Int) (snaps : List (List Msg)) (k : Nat) :
    recs (round clock snaps k) = recs (undoBefore clock snaps k) ++ stamped (clock k) (snaps.getD k []) := by
  simp [round, recs_append, recs_body, recs]

theorem rounds_succ (clock : Nat → Int) (snaps : List (List Msg)) (n : Nat) :
    rounds clock snaps (n + 1) = rounds clock snaps n ++ round clock snaps n := by
  simp [rounds, List.range_succ, List.flatMap_append]

/-- induction over what poll emits for `n` snapshots, from the last round back -/
theorem rounds_induct (clock : Nat → Int) (snaps : List (List Msg)) {P : Nat → List Msg → Prop}
    (last : ∀ k, P k (undoBefore clock snaps k))
    (step : ∀ k out, P (k + 1) out → P k (round clock snaps k ++ out)) (n : Nat) :
    P 0 (rounds clock snaps n ++ undoBefore clock snaps n) := by
  have h : ∀ c k, P k ((List.range' k c).flatMap (round clock snaps) ++ undoBefore clock snaps (k + c)) := by
    intro c
    induction c with
    | zero => exact last
    | succ c ih =>
      intro k
      rw [List.range'_succ, List.flatMap_cons, List.append_assoc, show k + (c + 1) = k + 1 + c by omega]
      exact step k _ (ih (k + 1))
  have := h n 0
  rwa [Nat.zero_add, ← List.range_eq_range'] at this

def AllDataAt (e : Int) (a : List Msg) : Prop := ∀ m ∈ a, ∃ r, m = .data r ∧ r.et = some e

theorem timely_append_data (e : Int) (w : Option Int) (hw : ∀ W, w = some W → W < e) :
    ∀ (a b : List Msg), AllDataAt e a → Timely w b → Timely w (a ++ b) := by
  intro a b ha hb
  induction a with
  | nil => exact hb
  | cons m a ih =>
    obtain ⟨r, rfl, hr⟩ := ha m (by simp)
    refine ⟨fun W hW => ⟨e, hr, hw W hW⟩, ih (fun m hm => ha m (by simp [hm]))⟩

theorem etOf_of_ne (t : Int) (h : t ≠ zeroUnix) : etOf t = some t := by
  unfold etOf; rw [if_neg h]

theorem undo_allData (prev now : Int) (hn : now ≠ zeroUnix) (snap : List Msg) : AllDataAt now (undo prev now snap) := by
  intro m hm
  obtain ⟨r, _, rfl⟩ := List.mem_map.1 hm
  exact ⟨_, rfl, etOf_of_ne now hn⟩

theorem body_allData (now : Int) (hn : now ≠ zeroUnix) (snap : List Msg) (hs : wms snap = []) :
    AllDataAt now (body now snap) := by
  induction snap with
  | nil => intro m hm; simp [body] at hm
  | cons x xs ih =>
    cases x with
    | wm w => simp [wms] at hs
    | data r =>
      intro m hm
      simp only [body, List.map_cons, List.mem_cons] at hm
      rcases hm with rfl | hm
      · exact ⟨_, rfl, etOf_of_ne now hn⟩
      · exact ih (by simpa [wms] using hs) m hm

/-- the watermark in force when round `k` starts -/
def wmBefore (clock : Nat → Int) : Nat → Option Int
  | 0 => none
  | j + 1 => some (clock j)

theorem undoBefore_allData (clock : Nat → Int) (hz : ∀ j, clock j ≠ zeroUnix) (snaps : List (List Msg)) (k : Nat) :
    AllDataAt (clock k) (undoBefore clock snaps k) := by
  cases k with
  | zero => intro m hm; simp [undoBefore] at hm
  | succ j => exact undo_allData _ _ (hz _) _

theorem timely_rounds (clock : Nat → Int) (hz : ∀ j, clock j ≠ zeroUnix) (hinc : ∀ j, clock j < clock (j + 1))
    (snaps : List (List Msg)) (hs : ∀ k, wms (snaps.getD k []) = []) (n : Nat) :
    Timely none (rounds clock snaps n ++ undoBefore clock snaps n) := by
  have hw : ∀ k W, wmBefore clock k = some W → W < clock k := by
    intro k W h
    cases k with
    | zero => simp [wmBefore] at h
    | succ j => simp only [wmBefore, Option.some.injEq] at h; subst h; exact hinc j
  refine rounds_induct clock snaps (P := fun k out => Timely (wmBefore clock k) out) (fun k => ?_) (fun k out h => ?_) n
  · simpa using timely_append_data (clock k) _ (hw k) _ [] (undoBefore_allData clock hz snaps k) trivial
  · -- the records of round `k` carry `clock k`, then its watermark is in force
    rw [round, List.append_assoc]
    exact timely_append_data (clock k) _ (hw k) _ _
      (List.forall_mem_append.2 ⟨undoBefore_allData clock hz snaps k, body_allData _ (hz k) _ (hs k)⟩) ⟨hw k, h⟩

/-- what is present when round `k` starts: snapshot `k − 1` as reported -/
def baseAt (clock : Nat → Int) (snaps : List (List Msg)) : Nat → Row → Int
  | 0 => fun _ => 0
  | j + 1 => net (stamped (clock j) (snaps.getD j []))

theorem baseAt_nonneg (clock : Nat → Int) (snaps : List (List Msg)) (hv : ∀ k, ValidLog (recs (snaps.getD k [])))
    (k : Nat) (row : Row) : 0 ≤ baseAt clock snaps k row := by
  cases k with
  | zero => simp [baseAt]
  | succ j =>
    have := valid_stamped (clock j) _ (hv j) (stamped (clock j) (snaps.getD j [])).length row
    simpa [baseAt] using this

theorem valid_undoBefore (clock : Nat → Int) (snaps : List (List Msg)) (hv : ∀ k, ValidLog (recs (snaps.getD k [])))
    (k : Nat) : Ops.ValidFrom (baseAt clock snaps k) (recs (undoBefore clock snaps k)) := by
  cases k with
  | zero => exact Ops.validFrom_nil (fun _ => by simp [baseAt])
  | succ j =>
    simp only [undoBefore, recs_undo, baseAt]
    exact validFrom_undo _ (valid_stamped _ _ (hv j)) _

theorem base_after_undo (clock : Nat → Int) (snaps : List (List Msg)) (k : Nat) :
    (fun row => baseAt clock snaps k row + net (recs (undoBefore clock snaps k)) row) = fun _ => 0 := by
  funext row
  cases k with
  | zero => simp [baseAt, undoBefore, recs, net]
  | succ j => simp only [baseAt, undoBefore, net_undo]; omega

theorem valid_rounds (clock : Nat → Int) (snaps : List (List Msg)) (hv : ∀ k, ValidLog (recs (snaps.getD k []))) (n : Nat) :
    ValidLog (recs (rounds clock snaps n ++ undoBefore clock snaps n)) := by
  rw [Ops.validLog_iff_validFrom]
  refine rounds_induct clock snaps (P := fun k out => Ops.ValidFrom (baseAt clock snaps k) (recs out))
    (valid_undoBefore clock snaps hv) (fun k out h => ?_) n
  -- the undo takes the content to nothing, the snapshot to what round `k + 1` starts from
  rw [recs_append, recs_round, List.append_assoc]
  apply Ops.validFrom_append (valid_undoBefore clock snaps hv k)
  rw [base_after_undo]
  apply Ops.validFrom_append ((Ops.validLog_iff_validFrom _).mp (valid_stamped _ _ (hv k)))
  simpa [baseAt] using h

end Octo.Tvf
