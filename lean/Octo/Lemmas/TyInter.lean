import Octo.Lemmas.TySumLeast
import Octo.Lemmas.TySumTotal
/-! `TypeIntersection` (repaired code): on well-formed operands it never runs out of fuel and the result is
    well formed and contained in both operands. -/
namespace Octo
namespace Ty

theorem mem_primsList {p : Ty} {l : List Ty} (h : p ∈ primsList l) : ∃ a ∈ l, p ∈ prims a := by
  induction l with
  | nil => cases h
  | cons x xs ih =>
    rcases List.mem_append.mp h with h | h
    · exact ⟨x, List.mem_cons_self, h⟩
    · obtain ⟨a, ha, h'⟩ := ih h
      exact ⟨a, List.mem_cons_of_mem _ ha, h'⟩

theorem prims_of_not_union {t : Ty} (hu : t.isUnion = false) : prims t = [t] := by
  cases t <;> first | rfl | cases hu

theorem primsList_of_not_union {l : List Ty} : (∀ x ∈ l, x.isUnion = false) → primsList l = l := by
  induction l with
  | nil => intro _; rfl
  | cons x xs ih =>
    intro h
    rw [primsList, prims_of_not_union (h x List.mem_cons_self), ih fun y hy => h y (List.mem_cons_of_mem _ hy)]; rfl

theorem prims_spec {t p : Ty} (hp : p ∈ prims t) : p.is t = .is ∧ (wf t = true → wf p = true) := by
  induction t using size_induction with
  | h t ih =>
    cases t with
    | union alts =>
      obtain ⟨a, ha, hpa⟩ := mem_primsList hp
      have ⟨h1, h2⟩ := ih a (size_lt_of_mem_union ha) hpa
      exact ⟨is_into_union h1 ha, fun w => h2 (wf_alt w ha)⟩
    | _ => cases List.mem_singleton.mp hp; exact ⟨is_refl _, fun w => w⟩

/-- `P` has to imply well-formedness so that `TypeSum` does not run out of fuel inside the loop -/
theorem interLoop_spec {P : Ty → Prop} (hwf : ∀ t, P t → wf t = true)
    (hs : ∀ o p s, P o → P p → typeSum o p = some s → P s) (target : Ty) (ps : List Ty) (out : Option Ty)
    (hp : ∀ p ∈ ps, p.is target = .is → P p) (ho : ∀ o, out = some o → P o) :
    ∃ res, interLoop target out ps = some res ∧ ∀ o, res = some o → P o := by
  induction ps generalizing out with
  | nil => exact ⟨out, rfl, ho⟩
  | cons p ps ih =>
    have ⟨hp0, hps⟩ := List.forall_mem_cons.mp hp
    simp only [interLoop]
    split
    · rename_i hsel
      cases out with
      | none => exact ih (some p) hps fun o h => by cases h; exact hp0 hsel
      | some o =>
        have po := ho o rfl
        obtain ⟨s, hsum⟩ := Option.isSome_iff_exists.mp (typeSum_total (hwf o po) (hwf p (hp0 hsel)))
        simp only [hsum]
        exact ih (some s) hps fun o' h => by cases h; exact hs o p s po (hp0 hsel) hsum
    · exact ih out hps ho

theorem typeInter_spec {a b : Ty} (wa : wf a = true) (wb : wf b = true) :
    ∃ res, typeInter a b = some res ∧ ∀ c, res = some c → wf c = true ∧ c.is a = .is ∧ c.is b = .is := by
  have hs : ∀ o p s, (wf o = true ∧ o.is a = .is ∧ o.is b = .is) → (wf p = true ∧ p.is a = .is ∧ p.is b = .is) →
      typeSum o p = some s → wf s = true ∧ s.is a = .is ∧ s.is b = .is := fun o p s ho hp h =>
    ⟨(wfFor_typeSum o p s h ho.1 hp.1).1, leastFor_typeSum o p s a h ho.1 hp.1 wa ho.2.1 hp.2.1,
      leastFor_typeSum o p s b h ho.1 hp.1 wb ho.2.2 hp.2.2⟩
  obtain ⟨out, h1, g1⟩ := interLoop_spec (fun _ h => h.1) hs b (prims a) none
    (fun p hp hsel => ⟨(prims_spec hp).2 wa, (prims_spec hp).1, hsel⟩) (fun _ h => nomatch h)
  obtain ⟨res, h2, g2⟩ := interLoop_spec (fun _ h => h.1) hs a (prims b) out
    (fun p hp hsel => ⟨(prims_spec hp).2 wb, hsel, (prims_spec hp).1⟩) g1
  exact ⟨res, by rw [typeInter, h1]; exact h2, g2⟩

theorem typeInter_sub {a b c : Ty} (wa : wf a = true) (wb : wf b = true) (h : typeInter a b = some (some c)) :
    wf c = true ∧ c.is a = .is ∧ c.is b = .is := by
  obtain ⟨res, hr, g⟩ := typeInter_spec wa wb
  rw [h] at hr
  cases hr
  exact g c rfl

theorem typeInter_total {a b : Ty} (wa : wf a = true) (wb : wf b = true) : (typeInter a b).isSome = true := by
  obtain ⟨res, hr, _⟩ := typeInter_spec wa wb
  rw [hr]; rfl

end Ty
end Octo
