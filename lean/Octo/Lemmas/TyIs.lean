import Octo.Model.TyAlgebra
import Octo.Lemmas.SizeFacts
/-! `Type.Is` (model `Ty.is`): from the unfolding equation `is_eq` on, the fuel plays no part. -/
namespace Octo

theorem Rel.max_eq_is (out rel : Rel) : Rel.max out rel = .is ↔ out = .is ∨ rel = .is := by
  cases out <;> cases rel <;> decide

theorem Rel.ite_isnt {c : Prop} [Decidable c] (x : Rel) : (if c then Rel.isnt else x) = .is ↔ ¬c ∧ x = .is := by
  by_cases h : c
  · rw [if_pos h]; exact ⟨fun h' => (nomatch h'), fun h' => absurd h h'.1⟩
  · rw [if_neg h]; exact (and_iff_right h).symm

namespace Ty

theorem rel_not_lt2 (r : Rel) : ¬ (r.toNat < 2) ↔ r = .is := by cases r <;> simp [Rel.toNat]

/-- the test `rel < TypeRelationIs` of the container loops -/
theorem ite_lt2 (r : Rel) (x : Rel) : (if r.toNat < 2 then Rel.isnt else x) = .is ↔ r = .is ∧ x = .is :=
  (Rel.ite_isnt x).trans (and_congr_left' (rel_not_lt2 r))

theorem eq_union_of_isUnion {t : Ty} (h : t.isUnion = true) : ∃ alts, t = .union alts := by
  cases t with
  | union alts => exact ⟨alts, rfl⟩
  | _ => cases h
theorem eq_any_of_isAny {t : Ty} (h : t.isAny = true) : t = .any := by
  cases t with
  | any => rfl
  | _ => cases h

/-- `Null`, the six scalar types and `Any` (not `listNil`, which `Is` treats with the lists): such a type `Is` a plain type
    only when the two are equal (last clause of `is_plain_inv`) -/
def isConst : Ty → Bool
  | .null | .int | .float | .bool | .str | .time | .dur | .any => true
  | _ => false

/-- neither a union nor `Any`: what an alternative of a well-formed union is, and the operands on which `Is` and
    `TypeSum` compare constructor against constructor -/
def plain (t : Ty) : Prop := t.isUnion = false ∧ t.isAny = false

/-- the `i`-th entry describes the types with `TypeID` `i`: a `TypeID` determines the type up to the arguments
    of a container -/
theorem id_cases (o : Ty) :
    [o = .null, o = .int, o = .float, o = .bool, o = .str, o = .time, o = .dur,
     o = .listNil ∨ ∃ e, o = .list e, ∃ ns ts, o = .struct ns ts, ∃ ts, o = .tuple ts, ∃ alts, o = .union alts,
     o = .any].getD o.id False := by
  cases o
  case listNil => exact .inl rfl
  case list e => exact .inr ⟨e, rfl⟩
  case struct ns ts => exact ⟨ns, ts, rfl⟩
  case tuple ts => exact ⟨ts, rfl⟩
  case union ts => exact ⟨ts, rfl⟩
  all_goals exact rfl

theorem same_id_cases {x y : Ty} (hx : x.isUnion = false) (h : x.id = y.id) :
    (x.isConst = true ∧ x = y) ∨ (∃ ns1 ts1 ns2 ts2, x = .struct ns1 ts1 ∧ y = .struct ns2 ts2) ∨
    ((x = .listNil ∨ ∃ e, x = .list e) ∧ (y = .listNil ∨ ∃ e, y = .list e)) ∨
    (∃ ts1 ts2, x = .tuple ts1 ∧ y = .tuple ts2) := by
  have hy := id_cases y
  rw [← h] at hy
  cases x with
  | struct ns ts => obtain ⟨ns', ts', rfl⟩ := hy; exact .inr (.inl ⟨_, _, _, _, rfl, rfl⟩)
  | listNil => exact .inr (.inr (.inl ⟨.inl rfl, hy⟩))
  | list e => exact .inr (.inr (.inl ⟨.inr ⟨e, rfl⟩, hy⟩))
  | tuple ts => obtain ⟨ts', rfl⟩ := hy; exact .inr (.inr (.inr ⟨_, _, rfl, rfl⟩))
  | union _ => cases hx
  | _ => exact .inl ⟨rfl, hy.symm⟩

/-- the hypothesis has the shape `split` leaves for a `match` clause behind a missed `.union` pattern -/
theorem isUnion_eq_false {t : Ty} (h : ∀ alts, t = .union alts → False) : t.isUnion = false := by
  cases t with
  | union alts => exact (h alts rfl).elim
  | _ => rfl

theorem foldl_congr_mem {α β} (f g : β → α → β) (l : List α) (b : β)
    (h : ∀ a ∈ l, ∀ b, f b a = g b a) : l.foldl f b = l.foldl g b := by
  induction l generalizing b with
  | nil => rfl
  | cons x xs ih =>
    rw [List.foldl_cons, List.foldl_cons, h x List.mem_cons_self]
    exact ih _ fun a ha => h a (List.mem_cons_of_mem _ ha)

theorem structLoop_congr {f g : Ty → Ty → Rel} (ns : List Name) (ts : List Ty) (ns' : List Name) (ts' : List Ty)
    (h : ∀ a ∈ ts, ∀ b ∈ ts', f a b = g a b) : structLoop f ns ts ns' ts' = structLoop g ns ts ns' ts' := by
  induction ts generalizing ns ns' ts' with
  | nil => rfl
  | cons t ts ih =>
    cases ts' with
    | nil => rfl
    | cons t' ts' =>
      rw [structLoop, structLoop, h t List.mem_cons_self t' List.mem_cons_self,
        ih _ _ ts' fun a ha b hb => h a (List.mem_cons_of_mem _ ha) b (List.mem_cons_of_mem _ hb)]

theorem tupleLoop_eq (f : Ty → Ty → Rel) (ts ts' : List Ty) : tupleLoop f ts ts' = structLoop f [] ts [] ts' := by
  induction ts generalizing ts' with
  | nil => rfl
  | cons t ts ih =>
    cases ts' with
    | nil => rfl
    | cons t' ts' =>
      rw [tupleLoop, structLoop, ih ts']
      exact (if_neg fun h : ([] : List Name).head? ≠ [].head? => h rfl).symm

theorem isStep_congr {f g : Ty → Ty → Rel} (t o : Ty)
    (h : ∀ a b, a.size + b.size < t.size + o.size → f a b = g a b) : isStep f t o = isStep g t o := by
  unfold isStep
  by_cases ho : o.isAny = true
  · rw [if_pos ho, if_pos ho]
  rw [if_neg ho, if_neg ho]
  split
  · rename_i alts
    congr 1
    exact foldl_congr_mem _ _ _ _ fun a ha st => by rw [h a o (Nat.add_lt_add_right (size_lt_of_mem_union ha) _)]
  split
  · rename_i oalts
    exact foldl_congr_mem _ _ _ _ fun a ha st => by rw [h t a (Nat.add_lt_add_left (size_lt_of_mem_union ha) _)]
  split <;> try rfl
  · rw [h _ _ (Nat.add_lt_add (size_lt_list _) (size_lt_list _))]
  · rw [structLoop_congr (f := f) (g := g)]
    exact fun a ha b hb => h a b (Nat.add_lt_add (size_lt_of_mem_struct _ ha) (size_lt_of_mem_struct _ hb))
  · rw [tupleLoop_eq, tupleLoop_eq, structLoop_congr (f := f) (g := g)]
    exact fun a ha b hb => h a b (Nat.add_lt_add (size_lt_of_mem_tuple ha) (size_lt_of_mem_tuple hb))

theorem isF_fuel : ∀ (n m : Nat) (t o : Ty), t.size + o.size ≤ n → t.size + o.size ≤ m → isF n t o = isF m t o
  | 0, _, t, _, h, _ | _, 0, t, _, _, h => absurd h (Nat.not_le_of_gt (Nat.add_pos_left (size_pos t) _))
  | n + 1, m + 1, t, o, h1, h2 =>
    isStep_congr t o fun a b hab =>
      isF_fuel n m a b (Nat.le_of_lt_succ (Nat.lt_of_lt_of_le hab h1)) (Nat.le_of_lt_succ (Nat.lt_of_lt_of_le hab h2))

theorem is_eq (t o : Ty) : t.is o = isStep is t o :=
  -- raise the fuel by one: `isF (n + 1)` unfolds (by `rfl`) to `isStep (isF n)`, whose inner calls `isF_fuel` exchanges for
  -- `Ty.is`
  (isF_fuel _ (t.size + o.size + 1) t o (Nat.le_refl _) (Nat.le_succ _)).trans
    (isStep_congr t o fun a b hab => isF_fuel _ _ a b (Nat.le_of_lt hab) (Nat.le_refl _))

theorem unionFold_snd (r : Ty → Rel) (l : List Ty) (st : Bool × Bool) :
    (l.foldl (fun st a => unionStep st (r a)) st).2 = true ↔ st.2 = true ∧ ∀ a ∈ l, r a = .is := by
  induction l generalizing st with
  | nil => exact (and_iff_left fun _ h => nomatch h).symm
  | cons x xs ih =>
    rw [List.foldl_cons, ih, List.forall_mem_cons, ← and_assoc]
    refine and_congr_left' ?_
    cases r x
    · exact ⟨fun h => (nomatch h), fun h => (nomatch h.2)⟩
    · exact ⟨fun h => (nomatch h), fun h => (nomatch h.2)⟩
    · exact (and_iff_left rfl).symm

theorem unionResult_is (st : Bool × Bool) : unionResult st = .is ↔ st.2 = true := by
  unfold unionResult
  cases st.2 <;> cases st.1 <;> simp

theorem maxFold_is (r : Ty → Rel) : ∀ (l : List Ty) (init : Rel),
    l.foldl (fun out a => Rel.max out (r a)) init = .is ↔ (init = .is ∨ ∃ a ∈ l, r a = .is)
  | [], init => by simp
  | x :: xs, init => by
    simp only [List.foldl]
    rw [maxFold_is r xs, Rel.max_eq_is]
    simp [or_assoc]

@[simp] theorem is_any (t : Ty) : t.is .any = .is := by rw [is_eq]; rfl

theorem is_union_l (alts : List Ty) (o : Ty) :
    (Ty.union alts).is o = .is ↔ ∀ a ∈ alts, a.is o = .is := by
  by_cases ho : o.isAny = true
  · cases eq_any_of_isAny ho
    exact ⟨fun _ _ _ => is_any _, fun _ => is_any _⟩
  · rw [is_eq]
    unfold isStep
    rw [if_neg ho]
    exact (unionResult_is _).trans ((unionFold_snd ..).trans (and_iff_right rfl))

/-- when no alternative relates to `o` at all the union is never "maybe" `o`: the fold then leaves its first flag
    ("some alternative is or may be the target") down, and `unionResult` answers `maybe` only with that flag up -/
theorem is_union_isnt {alts : List Ty} {o : Ty} (ho : o.isAny = false) (h : ∀ a ∈ alts, a.is o = .isnt) :
    (Ty.union alts).is o ≠ .maybe := by
  have fst : ∀ (l : List Ty) (st : Bool × Bool), (∀ a ∈ l, a.is o = .isnt) →
      (l.foldl (fun st a => unionStep st (a.is o)) st).1 = st.1 := fun l => by
    induction l with
    | nil => intro _ _; rfl
    | cons x xs ih =>
      intro st h
      rw [List.foldl, ih _ (fun a ha => h a (List.mem_cons_of_mem _ ha)), h x List.mem_cons_self]
      rfl
  rw [is_eq]
  unfold isStep
  rw [if_neg (ho ▸ Bool.false_ne_true)]
  show unionResult (alts.foldl (fun st a => unionStep st (a.is o)) (false, true)) ≠ .maybe
  unfold unionResult
  rw [fst _ _ h]
  split <;> exact Rel.noConfusion

theorem is_union_r (t : Ty) (oalts : List Ty) (ht : t.isUnion = false) :
    t.is (.union oalts) = .is ↔ ∃ a ∈ oalts, t.is a = .is := by
  rw [is_eq]
  unfold isStep
  rw [if_neg (show ¬(Ty.union oalts).isAny = true from Bool.false_ne_true)]
  split
  · cases ht
  · exact (maxFold_is ..).trans (or_iff_right fun h => nomatch h)

theorem is_list_list (e e' : Ty) : (Ty.list e).is (.list e') = .is ↔ e.is e' = .is := by
  rw [is_eq]
  exact (ite_lt2 _ _).trans (and_iff_left rfl)

@[simp] theorem is_listNil_listNil : Ty.listNil.is .listNil = .is := by rw [is_eq]; rfl
@[simp] theorem is_listNil_list (e : Ty) : Ty.listNil.is (.list e) = .is := by rw [is_eq]; rfl
@[simp] theorem is_list_listNil (e : Ty) : (Ty.list e).is .listNil = .isnt := by rw [is_eq]; rfl

theorem plain_is_null {a : Ty} (hu : a.isUnion = false) (ha : a.isAny = false) (hid : a.id ≠ 0) : a.is .null = .isnt := by
  -- a union and `Any` are excluded by `hu`, `ha`, NULL by `hid`; for every other constructor the relation computes
  cases a <;> first | (cases hu; done) | (cases ha; done) | rfl | exact absurd rfl hid

theorem is_struct_struct (ns ns' : List Name) (ts ts' : List Ty) :
    (Ty.struct ns ts).is (.struct ns' ts') = .is ↔ ts.length = ts'.length ∧ structLoop is ns ts ns' ts' = .is := by
  rw [is_eq]
  exact (Rel.ite_isnt _).trans (and_congr_left' Decidable.not_not)

theorem is_tuple_tuple (ts ts' : List Ty) :
    (Ty.tuple ts).is (.tuple ts') = .is ↔ ts.length = ts'.length ∧ tupleLoop is ts ts' = .is := by
  rw [is_eq]
  exact (Rel.ite_isnt _).trans (and_congr_left' Decidable.not_not)

/-- inversion of `t Is o` for non-unions and `o ≠ Any`, as a disjunction over the clauses of `isStep` that answer `Is`
    (`is_inv` in `TyIsLaws` is the same fact read from a known left operand) -/
theorem is_plain_inv {t o : Ty} (ht : t.isUnion = false) (ho : o.isUnion = false) (ha : o.isAny = false)
    (h : t.is o = .is) :
    (t = .listNil ∧ (o = .listNil ∨ ∃ e', o = .list e')) ∨
    (∃ e e', t = .list e ∧ o = .list e' ∧ e.is e' = .is) ∨
    (∃ ns ts ns' ts', t = .struct ns ts ∧ o = .struct ns' ts' ∧ ts.length = ts'.length ∧ structLoop is ns ts ns' ts' = .is) ∨
    (∃ ts ts', t = .tuple ts ∧ o = .tuple ts' ∧ ts.length = ts'.length ∧ tupleLoop is ts ts' = .is) ∨
    (t.isConst = true ∧ t = o) := by
  have h' := h
  rw [is_eq] at h'
  unfold isStep at h'
  rw [ha, if_neg Bool.false_ne_true] at h'
  -- the clauses of `isStep` in their order; the clauses that answer `Isnt` are impossible
  split at h'
  · cases ht
  split at h'
  · cases ho
  split at h'
  · exact .inl ⟨rfl, .inl rfl⟩
  · exact .inl ⟨rfl, .inr ⟨_, rfl⟩⟩
  · cases h'
  · exact .inr (.inl ⟨_, _, rfl, rfl, (is_list_list _ _).mp h⟩)
  · cases h'
  · cases h'
  · exact .inr (.inr (.inl ⟨_, _, _, _, rfl, rfl, (is_struct_struct _ _ _ _).mp h⟩))
  · cases h'
  · exact .inr (.inr (.inr (.inl ⟨_, _, rfl, rfl, (is_tuple_tuple _ _).mp h⟩)))
  · cases h'
  · -- the last clause compares `TypeID`s and is reached by constants only
    rename_i nNil nList nStruct nTuple _ _ _ _ _ _
    split at h'
    · rename_i hid
      rcases same_id_cases ht hid with hc | ⟨_, _, _, _, rfl, _⟩ | ⟨rfl | ⟨_, rfl⟩, _⟩ | ⟨_, _, rfl, _⟩
      · exact .inr (.inr (.inr (.inr hc)))
      · exact (nStruct _ _ rfl).elim
      · exact (nNil rfl).elim
      · exact (nList _ rfl).elim
      · exact (nTuple _ rfl).elim
    · cases h'

theorem is_plain_id {x o : Ty} (hx : x.isUnion = false) (ho : plain o) (h : x.is o = .is) : x.id = o.id := by
  rcases is_plain_inv hx ho.1 ho.2 h with ⟨rfl, rfl | ⟨_, rfl⟩⟩ | ⟨_, _, rfl, rfl, _⟩ | ⟨_, _, _, _, rfl, rfl, _⟩ |
      ⟨_, _, rfl, rfl, _⟩ | ⟨_, rfl⟩ <;> rfl

theorem structLoop_cons (f : Ty → Ty → Rel) (ns ns' : List Name) (t t' : Ty) (ts ts' : List Ty) :
    structLoop f ns (t :: ts) ns' (t' :: ts') = .is ↔
      ns.head? = ns'.head? ∧ f t t' = .is ∧ structLoop f ns.tail ts ns'.tail ts' = .is := by
  simp only [structLoop]
  by_cases h1 : ns.head? = ns'.head?
  · simp [h1, ite_lt2]
  · simp [h1]

theorem structLoop_refl (f : Ty → Ty → Rel) : ∀ (ns : List Name) (ts : List Ty),
    (∀ t ∈ ts, f t t = .is) → structLoop f ns ts ns ts = .is
  | _, [], _ => by simp only [structLoop]
  | ns, t :: ts, h =>
    (structLoop_cons ..).mpr ⟨rfl, h t List.mem_cons_self,
      structLoop_refl f ns.tail ts fun a ha => h a (List.mem_cons_of_mem _ ha)⟩

theorem structLoop_trans (f : Ty → Ty → Rel) (ns : List Name) (ts : List Ty) (ns' : List Name) (ts' : List Ty)
    (ns'' : List Name) (ts'' : List Ty)
    (h : ∀ a ∈ ts, ∀ b ∈ ts', ∀ c ∈ ts'', f a b = .is → f b c = .is → f a c = .is)
    (h1 : ts.length = ts'.length)
    (l1 : structLoop f ns ts ns' ts' = .is) (l2 : structLoop f ns' ts' ns'' ts'' = .is) :
    structLoop f ns ts ns'' ts'' = .is := by
  induction ts generalizing ns ns' ts' ns'' ts'' with
  | nil => simp only [structLoop]
  | cons a ts ih =>
    cases ts' with
    | nil => cases h1
    | cons b ts' =>
      cases ts'' with
      | nil => simp only [structLoop]
      | cons c ts'' =>
        rw [structLoop_cons] at l1 l2 ⊢
        exact ⟨l1.1.trans l2.1, h a List.mem_cons_self b List.mem_cons_self c List.mem_cons_self l1.2.1 l2.2.1,
          ih _ _ _ _ _
            (fun a ha b hb c hc =>
              h a (List.mem_cons_of_mem _ ha) b (List.mem_cons_of_mem _ hb) c (List.mem_cons_of_mem _ hc))
            (Nat.succ.inj h1) l1.2.2 l2.2.2⟩

theorem structLoop_names {f : Ty → Ty → Rel} (ns : List Name) (ts : List Ty) (ns' : List Name) (ts' : List Ty)
    (h1 : ns.length = ts.length) (h2 : ns'.length = ts'.length) (h3 : ts.length = ts'.length)
    (hs : structLoop f ns ts ns' ts' = .is) : ns = ns' := by
  induction ts generalizing ns ns' ts' with
  | nil =>
    cases ts' with
    | nil => rw [List.eq_nil_of_length_eq_zero h1, List.eq_nil_of_length_eq_zero h2]
    | cons _ _ => cases h3
  | cons t ts ih =>
    cases ts' with
    | nil => cases h3
    | cons t' ts' =>
      cases ns with
      | nil => cases h1
      | cons n ns =>
        cases ns' with
        | nil => cases h2
        | cons n' ns' =>
          rw [structLoop_cons] at hs
          cases Option.some.inj hs.1
          rw [ih ns ns' ts' (Nat.succ.inj h1) (Nat.succ.inj h2) (Nat.succ.inj h3) hs.2.2]

theorem is_into_union {x y : Ty} {alts : List Ty} (h : x.is y = .is) (hy : y ∈ alts) :
    x.is (.union alts) = .is := by
  induction x using size_induction with
  | h x ih =>
    rcases Bool.eq_false_or_eq_true x.isUnion with hu | hu
    · obtain ⟨xs, rfl⟩ := eq_union_of_isUnion hu
      rw [is_union_l] at h ⊢
      exact fun a ha => ih a (size_lt_of_mem_union ha) (h a ha)
    · exact (is_union_r x alts hu).mpr ⟨y, hy, h⟩

theorem is_refl (t : Ty) : t.is t = .is := by
  induction t using size_induction with
  | h t ih =>
    cases t with
    | list e => exact (is_list_list e e).mpr (ih e (size_lt_list e))
    | struct ns ts =>
      exact (is_struct_struct ns ns ts ts).mpr
        ⟨rfl, structLoop_refl _ ns ts fun a ha => ih a (size_lt_of_mem_struct ns ha)⟩
    | tuple ts =>
      exact (is_tuple_tuple ts ts).mpr
        ⟨rfl, tupleLoop_eq .. ▸ structLoop_refl _ [] ts fun a ha => ih a (size_lt_of_mem_tuple ha)⟩
    | union alts => exact (is_union_l alts _).mpr fun a ha => is_into_union (ih a (size_lt_of_mem_union ha)) ha
    | _ => rfl

theorem is_union_of_mem {x : Ty} {l : List Ty} (h : x ∈ l) : x.is (.union l) = .is :=
  is_into_union (is_refl x) h

theorem equals_iff (a b : Ty) : a.equals b = true ↔ a.is b = .is ∧ b.is a = .is := by
  rw [equals, Bool.and_eq_true, beq_iff_eq, beq_iff_eq]

end Ty
end Octo
