import Octo.Lemmas.TyIs
/-! Induction on `a Is b` (`is_induct`); from it transitivity of `Is` and its soundness with respect to `conforms`
    ("value matches type"). -/
namespace Octo
namespace Ty

/-- `is_plain_inv` read from the left operand: its shape fixes that of the right operand -/
theorem is_inv {t o : Ty} (ht : t.isUnion = false) (ho : plain o) (h : t.is o = .is) :
    match t with
    | .listNil => o = .listNil ∨ ∃ e', o = .list e'
    | .list e => ∃ e', o = .list e' ∧ e.is e' = .is
    | .struct ns ts => ∃ ns' ts', o = .struct ns' ts' ∧ ts.length = ts'.length ∧ structLoop is ns ts ns' ts' = .is
    | .tuple ts => ∃ ts', o = .tuple ts' ∧ ts.length = ts'.length ∧ tupleLoop is ts ts' = .is
    | t => t = o := by
  rcases is_plain_inv ht ho.1 ho.2 h with ⟨rfl, ho'⟩ | ⟨e, e', rfl, rfl, he⟩ | ⟨ns, ts, ns', ts', rfl, rfl, hl⟩ |
      ⟨ts, ts', rfl, rfl, hl⟩ | ⟨hc, rfl⟩
  · exact ho'
  · exact ⟨e', rfl, he⟩
  · exact ⟨ns', ts', rfl, hl⟩
  · exact ⟨ts', rfl, hl⟩
  · cases t <;> first | rfl | cases hc

/-- `Is` is the least relation closed under its own rules: the induction principle that proofs "by induction on
    `a Is b`" share (the measure is the sum of the two sizes; the order of the tests is that of `isStep`). -/
theorem is_induct {R : Ty → Ty → Prop}
    (any : ∀ a, R a .any)
    (union_l : ∀ xs b, (∀ x ∈ xs, x.is b = .is ∧ R x b) → R (.union xs) b)
    (union_r : ∀ a bs b, a.isUnion = false → b ∈ bs → a.is b = .is → R a b → R a (.union bs))
    (refl : ∀ a, R a a)
    (nil_list : ∀ e, R .listNil (.list e))
    (list : ∀ e e', e.is e' = .is → R e e' → R (.list e) (.list e'))
    (struct : ∀ ns ts ns' ts', ts.length = ts'.length → structLoop is ns ts ns' ts' = .is →
      (∀ x ∈ ts, ∀ y ∈ ts', x.is y = .is → R x y) → R (.struct ns ts) (.struct ns' ts'))
    (tuple : ∀ ts ts', ts.length = ts'.length → tupleLoop is ts ts' = .is →
      (∀ x ∈ ts, ∀ y ∈ ts', x.is y = .is → R x y) → R (.tuple ts) (.tuple ts'))
    {a b : Ty} (h : a.is b = .is) : R a b := by
  generalize hn : a.size + b.size = n
  induction n using Nat.strongRecOn generalizing a b with
  | ind n ih =>
    subst hn
    rcases Bool.eq_false_or_eq_true b.isAny with hbA | hbA
    · cases eq_any_of_isAny hbA; exact any a
    rcases Bool.eq_false_or_eq_true a.isUnion with haU | haU
    · obtain ⟨xs, rfl⟩ := eq_union_of_isUnion haU
      exact union_l xs b fun x hx => have hxb := (is_union_l _ _).mp h x hx
        ⟨hxb, ih _ (Nat.add_lt_add_right (size_lt_of_mem_union hx) _) hxb rfl⟩
    rcases Bool.eq_false_or_eq_true b.isUnion with hbU | hbU
    · obtain ⟨bs, rfl⟩ := eq_union_of_isUnion hbU
      obtain ⟨b', hb', hab'⟩ := (is_union_r a bs haU).mp h
      exact union_r a bs b' haU hb' hab' (ih _ (Nat.add_lt_add_left (size_lt_of_mem_union hb') _) hab' rfl)
    rcases is_plain_inv haU hbU hbA h with ⟨rfl, rfl | ⟨e', rfl⟩⟩ | ⟨e, e', rfl, rfl, he⟩ |
        ⟨ns, ts, ns', ts', rfl, rfl, hl, hs⟩ | ⟨ts, ts', rfl, rfl, hl, hs⟩ | ⟨_, rfl⟩
    · exact refl _
    · exact nil_list e'
    · exact list e e' he (ih _ (Nat.add_lt_add (size_lt_list e) (size_lt_list e')) he rfl)
    · exact struct ns ts ns' ts' hl hs fun x hx y hy hxy =>
        ih _ (Nat.add_lt_add (size_lt_of_mem_struct ns hx) (size_lt_of_mem_struct ns' hy)) hxy rfl
    · exact tuple ts ts' hl hs fun x hx y hy hxy =>
        ih _ (Nat.add_lt_add (size_lt_of_mem_tuple hx) (size_lt_of_mem_tuple hy)) hxy rfl
    · exact refl _

/-- to pass from `b Is c` to `a Is c` for a non-union `b` it is enough to do so for plain `c`: a union on the right is
    entered through one of its alternatives -/
theorem is_lift_right {a b : Ty} (hb : b.isUnion = false)
    (H : ∀ c, plain c → b.is c = .is → a.is c = .is) (c : Ty) (hbc : b.is c = .is) : a.is c = .is := by
  induction c using size_induction with
  | h c ih =>
    rcases Bool.eq_false_or_eq_true c.isAny with hcA | hcA
    · cases eq_any_of_isAny hcA; exact is_any a
    rcases Bool.eq_false_or_eq_true c.isUnion with hcU | hcU
    · obtain ⟨cs, rfl⟩ := eq_union_of_isUnion hcU
      obtain ⟨c', hc', hbc'⟩ := (is_union_r b cs hb).mp hbc
      exact is_into_union (ih c' (size_lt_of_mem_union hc') hbc') hc'
    · exact H c ⟨hcU, hcA⟩ hbc

theorem is_trans {a b c : Ty} (hab : a.is b = .is) (hbc : b.is c = .is) : a.is c = .is := by
  -- induction on `a Is b`; in the structural cases `b Is c` fixes the shape of a plain `c`
  refine is_induct (R := fun a b => ∀ c, b.is c = .is → a.is c = .is)
    ?any ?union_l ?union_r ?refl ?nil_list ?list ?struct ?tuple hab c hbc
  case any =>
    -- `Any Is c` for a plain `c` is impossible
    refine fun a => is_lift_right rfl fun c pc hc => ?_
    cases (is_inv (t := .any) rfl pc hc : Ty.any = c)
    cases pc.2
  case union_l =>
    exact fun xs b ih c hc => (is_union_l _ _).mpr fun x hx => (ih x hx).2 c hc
  case union_r =>
    exact fun a bs b' _ hb' _ ih c hc => ih c ((is_union_l _ _).mp hc b' hb')
  case refl =>
    exact fun _ c hc => hc
  case nil_list =>
    refine fun e => is_lift_right rfl fun c pc hc => ?_
    obtain ⟨e'', rfl, _⟩ := is_inv rfl pc hc
    exact is_listNil_list e''
  case list =>
    refine fun e e' _ ih => is_lift_right rfl fun c pc hc => ?_
    obtain ⟨e'', rfl, h2⟩ := is_inv rfl pc hc
    exact (is_list_list e e'').mpr (ih e'' h2)
  case struct =>
    refine fun ns ts ns' ts' hl hs ih => is_lift_right rfl fun c pc hc => ?_
    obtain ⟨ns'', ts'', rfl, hl2, hs2⟩ := is_inv rfl pc hc
    exact (is_struct_struct ..).mpr ⟨hl.trans hl2, structLoop_trans _ ns ts ns' ts' ns'' ts''
      (fun x hx y hy z _ hxy hyz => ih x hx y hy hxy z hyz) hl hs hs2⟩
  case tuple =>
    refine fun ts ts' hl hs ih => is_lift_right rfl fun c pc hc => ?_
    obtain ⟨ts'', rfl, hl2, hs2⟩ := is_inv rfl pc hc
    rw [tupleLoop_eq] at hs hs2
    exact (is_tuple_tuple ..).mpr ⟨hl.trans hl2, tupleLoop_eq .. ▸ structLoop_trans _ [] ts [] ts' [] ts''
      (fun x hx y hy z _ hxy hyz => ih x hx y hy hxy z hyz) hl hs hs2⟩

end Ty

theorem conformsAny_iff (alts : List Ty) (v : Value) :
    conformsAny alts v = true ↔ ∃ a ∈ alts, conforms a v = true := by
  induction alts with
  | nil => simp [conformsAny]
  | cons a as ih => simp [conformsAny, ih]

@[simp] theorem conforms_any (v : Value) : conforms .any v = true := by cases v <;> rfl
@[simp] theorem conforms_union (alts : List Ty) (v : Value) : conforms (.union alts) v = conformsAny alts v := by
  cases v <;> rfl

theorem conforms_union_iff (alts : List Ty) (v : Value) :
    conforms (.union alts) v = true ↔ ∃ a ∈ alts, conforms a v = true :=
  conforms_union alts v ▸ conformsAny_iff alts v

/-! the values of a list, object or tuple type -/

theorem conforms_listNil_inv {v : Value} (h : conforms .listNil v = true) : v = .list [] := by
  cases v <;> first | (cases h; done) | skip
  rw [conforms, List.isEmpty_iff] at h
  rw [h]

theorem conforms_list_inv {e : Ty} {v : Value} (h : conforms (.list e) v = true) :
    ∃ xs, v = .list xs ∧ ∀ x ∈ xs, conforms e x = true := by
  cases v <;> first | (cases h; done) | skip
  rw [conforms, List.all_eq_true] at h
  exact ⟨_, rfl, h⟩

theorem conforms_struct_inv {ns : List Name} {ts : List Ty} {v : Value} (h : conforms (.struct ns ts) v = true) :
    ∃ xs, v = .struct xs ∧ conformsZip ts xs = true := by
  cases v <;> first | (cases h; done) | skip
  rw [conforms] at h
  exact ⟨_, rfl, h⟩

theorem conforms_tuple_inv {ts : List Ty} {v : Value} (h : conforms (.tuple ts) v = true) :
    ∃ xs, v = .tuple xs ∧ conformsZip ts xs = true := by
  cases v <;> first | (cases h; done) | skip
  rw [conforms] at h
  exact ⟨_, rfl, h⟩

theorem conformsZip_get (ts : List Ty) : ∀ (xs : List Value) (i : Nat) (t : Ty) (x : Value),
    conformsZip ts xs = true → ts[i]? = some t → xs[i]? = some x → conforms t x = true := by
  induction ts with
  | nil => intro _ _ _ _ _ ht; cases ht
  | cons t' ts ih =>
    intro xs i t x hc ht hx
    cases xs with
    | nil => cases hc
    | cons x' xs =>
      rw [conformsZip, Bool.and_eq_true] at hc
      cases i with
      | zero => cases ht; cases hx; exact hc.1
      | succ i => exact ih xs i t x hc.2 ht hx

theorem conformsZip_length (ts : List Ty) : ∀ (xs : List Value), conformsZip ts xs = true → ts.length = xs.length := by
  induction ts with
  | nil => intro xs h; cases xs <;> first | rfl | cases h
  | cons _ ts ih =>
    intro xs h
    cases xs with
    | nil => cases h
    | cons _ xs =>
      rw [conformsZip, Bool.and_eq_true] at h
      rw [List.length_cons, List.length_cons, ih xs h.2]

namespace Ty

theorem conformsZip_struct_mono (f : Ty → Ty → Rel) (ns : List Name) (ts : List Ty) (ns' : List Name) (ts' : List Ty)
    (xs : List Value)
    (h : ∀ a ∈ ts, ∀ b ∈ ts', f a b = .is → ∀ v, conforms a v = true → conforms b v = true)
    (hl : ts.length = ts'.length) (hs : structLoop f ns ts ns' ts' = .is)
    (hc : conformsZip ts xs = true) : conformsZip ts' xs = true := by
  induction ts generalizing ns ns' ts' xs with
  | nil => cases ts' with
    | nil => exact hc
    | cons _ _ => cases hl
  | cons a ts ih =>
    cases ts' with
    | nil => cases hl
    | cons b ts' =>
      cases xs with
      | nil => cases hc
      | cons x xs =>
        rw [structLoop_cons] at hs
        simp only [conformsZip, Bool.and_eq_true] at hc ⊢
        exact ⟨h a List.mem_cons_self b List.mem_cons_self hs.2.1 x hc.1,
          ih _ _ _ _ (fun a ha b hb => h a (List.mem_cons_of_mem _ ha) b (List.mem_cons_of_mem _ hb))
            (Nat.succ.inj hl) hs.2.2 hc.2⟩

theorem is_sound {a b : Ty} (h : a.is b = .is) (v : Value) (hv : conforms a v = true) : conforms b v = true := by
  refine is_induct (R := fun a b => ∀ v, conforms a v = true → conforms b v = true)
    ?any ?union_l ?union_r ?refl ?nil_list ?list ?struct ?tuple h v hv
  case any =>
    exact fun _ v _ => conforms_any v
  case union_l =>
    intro xs b ih v hv
    obtain ⟨x, hx, hxv⟩ := (conforms_union_iff ..).mp hv
    exact (ih x hx).2 v hxv
  case union_r =>
    intro a bs b' _ hb' _ ih v hv
    exact (conforms_union_iff ..).mpr ⟨b', hb', ih v hv⟩
  case refl =>
    exact fun _ _ hv => hv
  case nil_list =>
    intro e v hv
    cases conforms_listNil_inv hv; rfl
  case list =>
    intro e e' _ ih v hv
    obtain ⟨xs, rfl, hxs⟩ := conforms_list_inv hv
    rw [conforms, List.all_eq_true]
    exact fun x hx => ih x (hxs x hx)
  case struct =>
    intro ns ts ns' ts' hl hs ih v hv
    obtain ⟨xs, rfl, hxs⟩ := conforms_struct_inv hv
    exact conformsZip_struct_mono _ ns ts ns' ts' _ ih hl hs hxs
  case tuple =>
    intro ts ts' hl hs ih v hv
    obtain ⟨xs, rfl, hxs⟩ := conforms_tuple_inv hv
    rw [tupleLoop_eq] at hs
    exact conformsZip_struct_mono _ [] ts [] ts' _ ih hl hs hxs

end Ty
end Octo
