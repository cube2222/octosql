import Octo.Model.TyAlgebra
import Octo.Lemmas.ListFacts
/-! Field names: laws of `cmpName`, of the sorted key set `sortNames` and of the map lookup `lookupLast`; with them, the
    struct clause of `TypeSum` on equal sorted names is `tupleMerge` (`structFields_pointwise`). -/
namespace Octo

theorem cmpName_refl : ∀ a, cmpName a a = 0
  | [] => rfl
  | x :: xs => by rw [cmpName, if_neg (Nat.lt_irrefl x), if_neg (Nat.lt_irrefl x), cmpName_refl xs]

theorem cmpName_eq_zero : ∀ a b, cmpName a b = 0 → a = b
  | [], [], _ => rfl
  | [], _ :: _, h => nomatch h
  | _ :: _, [], h => nomatch h
  | x :: xs, y :: ys, h => by
    rw [cmpName] at h
    split at h
    · cases h
    · split at h
      · cases h
      · have e : x = y := Nat.le_antisymm (Nat.not_lt.mp ‹¬x > y›) (Nat.not_lt.mp ‹¬x < y›)
        rw [e, cmpName_eq_zero xs ys h]

theorem cmpName_antisymm : ∀ a b, cmpName a b = - cmpName b a
  | [], [] => rfl
  | [], _ :: _ => rfl
  | _ :: _, [] => rfl
  | x :: xs, y :: ys => by
    rcases Nat.lt_trichotomy x y with h | rfl | h
    · rw [cmpName, cmpName, if_pos h, if_neg (Nat.lt_asymm h), if_pos h]
    · rw [cmpName, cmpName]
      simp only [Nat.lt_irrefl, gt_iff_lt, if_false]
      exact cmpName_antisymm xs ys
    · rw [cmpName, cmpName, if_neg (Nat.lt_asymm h), if_pos h, if_pos h]; rfl

theorem cmpName_cons_neg (x y : Nat) (xs ys : List Nat) :
    cmpName (x :: xs) (y :: ys) < 0 ↔ x < y ∨ x = y ∧ cmpName xs ys < 0 := by
  rcases Nat.lt_trichotomy x y with h | rfl | h
  · rw [cmpName, if_pos h]; exact ⟨fun _ => .inl h, fun _ => by decide⟩
  · rw [cmpName, if_neg (Nat.lt_irrefl x), if_neg (Nat.lt_irrefl x)]
    exact ⟨fun h => .inr ⟨rfl, h⟩, fun h => h.elim (absurd · (Nat.lt_irrefl x)) (·.2)⟩
  · rw [cmpName, if_neg (Nat.lt_asymm h), if_pos h]
    exact ⟨fun h' => absurd h' (by decide),
      fun h' => h'.elim (absurd · (Nat.lt_asymm h)) fun ⟨e, _⟩ => absurd (e ▸ h) (Nat.lt_irrefl y)⟩

theorem cmpName_neg_iff (a b : Name) : cmpName a b < 0 ↔ a < b := by
  induction a generalizing b with
  | nil => cases b with
    | nil => exact iff_of_false (by decide : ¬(0 : Int) < 0) (List.lt_irrefl _)
    | cons y ys => exact iff_of_true (by decide : (-1 : Int) < 0) (List.nil_lt_cons ..)
  | cons x xs ih => cases b with
    | nil => exact iff_of_false (by decide : ¬(1 : Int) < 0) (List.not_lt_nil _)
    | cons y ys => rw [cmpName_cons_neg, List.cons_lt_cons_iff, ih]

theorem cmpName_lt_trans (a b c : Name) (h1 : cmpName a b < 0) (h2 : cmpName b c < 0) : cmpName a c < 0 :=
  (cmpName_neg_iff a c).mpr (List.lt_trans ((cmpName_neg_iff a b).mp h1) ((cmpName_neg_iff b c).mp h2))

theorem cmpName_irrefl (a : Name) : ¬cmpName a a < 0 := fun h => List.lt_irrefl a ((cmpName_neg_iff a a).mp h)

namespace Ty

def ltAll (x : Name) (l : List Name) : Prop := ∀ y ∈ l, cmpName x y < 0

/-- `strictSortedNames` compares neighbours only; by transitivity the head sorts before the whole tail -/
theorem strictSorted_cons {x : Name} {l : List Name} :
    strictSortedNames (x :: l) = true ↔ ltAll x l ∧ strictSortedNames l = true := by
  constructor
  · intro h
    induction l generalizing x with
    | nil => exact ⟨fun _ h => (nomatch h), rfl⟩
    | cons y ys ih =>
      simp only [strictSortedNames, Bool.and_eq_true, decide_eq_true_eq] at h
      refine ⟨fun z hz => ?_, h.2⟩
      cases hz with
      | head => exact h.1
      | tail _ hz => exact cmpName_lt_trans _ _ _ h.1 ((ih h.2).1 z hz)
  · intro ⟨h1, h2⟩
    cases l with
    | nil => rfl
    | cons y ys => simp [strictSortedNames, h1 y List.mem_cons_self, h2]

theorem insertName_of_ltAll {x : Name} {l : List Name} (h : ltAll x l) : insertName x l = x :: l := by
  cases l with
  | nil => rfl
  | cons y ys => rw [insertName, if_pos (h y List.mem_cons_self)]

theorem insertName_of_mem : ∀ {l : List Name} {x : Name}, strictSortedNames l = true → x ∈ l → insertName x l = l
  | [], _, _, h => nomatch h
  | y :: ys, x, hs, hx => by
    have ⟨hlt, hs'⟩ := strictSorted_cons.mp hs
    rw [insertName]
    cases hx with
    | head => rw [cmpName_refl, if_neg (by decide), if_pos rfl]
    | tail _ hx =>
      have h1 := hlt x hx
      rw [if_neg fun h => cmpName_irrefl y (cmpName_lt_trans _ _ _ h1 h),
        if_neg fun h => cmpName_irrefl y (cmpName_eq_zero x y h ▸ h1), insertName_of_mem hs' hx]

theorem sortNames_of_sorted : ∀ {l : List Name}, strictSortedNames l = true → sortNames l = l
  | [], _ => rfl
  | x :: xs, h => by
    have ⟨hlt, hs⟩ := strictSorted_cons.mp h
    rw [sortNames, List.foldr_cons, ← sortNames, sortNames_of_sorted hs, insertName_of_ltAll hlt]

/-- the key set of two maps with the same, strictly sorted keys -/
theorem sortNames_self_append {l : List Name} (hs : strictSortedNames l = true) : sortNames (l ++ l) = l := by
  rw [sortNames, List.foldr_append, ← sortNames, sortNames_of_sorted hs]
  have : ∀ m : List Name, (∀ x ∈ m, x ∈ l) → m.foldr insertName l = l := fun m => by
    induction m with
    | nil => exact fun _ => rfl
    | cons x xs ih =>
      intro h
      rw [List.foldr_cons, ih fun y hy => h y (List.mem_cons_of_mem _ hy), insertName_of_mem hs (h x List.mem_cons_self)]
  exact this l fun _ h => h

theorem mem_insertName (x z : Name) (l : List Name) : z ∈ insertName x l ↔ z = x ∨ z ∈ l := by
  induction l with
  | nil => simp [insertName]
  | cons y ys ih =>
    rw [insertName]
    split
    · exact List.mem_cons
    · split
      · next h => rw [cmpName_eq_zero x y h, List.mem_cons, ← or_assoc, or_self]
      · rw [List.mem_cons, ih, List.mem_cons]; exact or_left_comm

theorem mem_sortNames (z : Name) : ∀ (l : List Name), z ∈ sortNames l ↔ z ∈ l
  | [] => Iff.rfl
  | y :: ys => by
    have := mem_sortNames z ys
    unfold sortNames at this ⊢
    rw [List.foldr, mem_insertName, this, List.mem_cons]

theorem strictSorted_insertName (x : Name) : ∀ (l : List Name), strictSortedNames l = true →
    strictSortedNames (insertName x l) = true
  | [], _ => rfl
  | y :: ys, h => by
    have ⟨hlt, hs⟩ := strictSorted_cons.mp h
    simp only [insertName]
    split
    · rename_i hxy
      simp [strictSortedNames, hxy, h]
    · split
      · exact h
      · rename_i h1 h2
        refine strictSorted_cons.mpr ⟨?_, strictSorted_insertName x ys hs⟩
        intro z hz
        rcases (mem_insertName x z ys).mp hz with rfl | hz
        · have := cmpName_antisymm z y; omega
        · exact hlt z hz

theorem strictSorted_sortNames : ∀ (l : List Name), strictSortedNames (sortNames l) = true
  | [] => rfl
  | x :: xs => strictSorted_insertName x _ (strictSorted_sortNames xs)

theorem lookupLast_of_not_mem (k : Name) (ns : List Name) (ts : List Ty) (h : k ∉ ns) : lookupLast k ns ts = none := by
  induction ns generalizing ts with
  | nil => rfl
  | cons n ns ih =>
    cases ts with
    | nil => rfl
    | cons t ts =>
      rw [lookupLast, ih ts fun hk => h (List.mem_cons_of_mem _ hk)]
      exact if_neg fun e : n = k => h (e ▸ List.mem_cons_self)

theorem lookupLast_cons_ne {k n : Name} (hne : n ≠ k) (ns : List Name) (t : Ty) (ts : List Ty) :
    lookupLast k (n :: ns) (t :: ts) = lookupLast k ns ts := by
  rw [lookupLast]
  cases lookupLast k ns ts with
  | some r => rfl
  | none => exact if_neg hne

theorem lookupLast_head (x : Name) (ns : List Name) (t : Ty) (ts : List Ty) (h : x ∉ ns) :
    lookupLast x (x :: ns) (t :: ts) = some t := by
  rw [lookupLast, lookupLast_of_not_mem x ns ts h]
  exact if_pos rfl

theorem lookupLast_mem (k : Name) (ns : List Name) (ts : List Ty) (a : Ty) (h : lookupLast k ns ts = some a) : a ∈ ts := by
  induction ns generalizing ts with
  | nil => cases h
  | cons n ns ih =>
    cases ts with
    | nil => cases h
    | cons t ts =>
      rw [lookupLast] at h
      split at h
      · cases h; exact List.mem_cons_of_mem _ (ih ts ‹_›)
      · split at h <;> cases h
        exact List.mem_cons_self

theorem lookupLast_isSome (k : Name) (ns : List Name) (ts : List Ty) (hl : ns.length = ts.length) (h : k ∈ ns) :
    (lookupLast k ns ts).isSome = true := by
  induction ns generalizing ts with
  | nil => cases h
  | cons n ns ih =>
    cases ts with
    | nil => cases hl
    | cons t ts =>
      rw [lookupLast]
      cases hrec : lookupLast k ns ts with
      | some r => rfl
      | none =>
        cases h with
        | head => simp
        | tail _ h => have := ih ts (Nat.succ.inj hl) h; rw [hrec] at this; cases this

theorem optMap_eq_mapM {α β} (f : α → Option β) (l : List α) : optMap f l = l.mapM f := by
  induction l with
  | nil => rfl
  | cons x xs ih => rw [optMap, List.mapM_cons, ih]; cases f x <;> cases xs.mapM f <;> rfl

theorem optMap_congr {α β} {f g : α → Option β} : ∀ (l : List α), (∀ x ∈ l, f x = g x) → optMap f l = optMap g l :=
  fun l h => by rw [optMap_eq_mapM, optMap_eq_mapM, List.mapM_congr_mem h]

/-- on equal, strictly sorted field lists the struct clause of `TypeSum` sums field by field: it is `tupleMerge` on lists of
    equal length, where that pads nothing.  Struct and tuple therefore share the `tupleMerge_*` lemmas of the laws. -/
theorem structFields_pointwise (f : Ty → Ty → Option Ty) (ns : List Name) (ts1 ts2 : List Ty)
    (hs : strictSortedNames ns = true) (h1 : ns.length = ts1.length) (h2 : ns.length = ts2.length) :
    optMap (structField f ns ts1 ns ts2) ns = tupleMerge f ts1 ts2 := by
  induction ns generalizing ts1 ts2 with
  | nil =>
    cases ts1 with
    | nil => rfl
    | cons _ _ => cases h1
  | cons x ns ih =>
    cases ts1 with
    | nil => cases h1
    | cons a ts1 =>
      cases ts2 with
      | nil => cases h2
      | cons b ts2 =>
        have ⟨hlt, hs'⟩ := strictSorted_cons.mp hs
        have hx : x ∉ ns := fun hx => cmpName_irrefl x (hlt x hx)
        -- the head field is found at the head, the others are looked up in the tails
        have e1 : structField f (x :: ns) (a :: ts1) (x :: ns) (b :: ts2) x = f a b := by
          rw [structField, lookupLast_head x ns a ts1 hx, lookupLast_head x ns b ts2 hx]
        have e2 : optMap (structField f (x :: ns) (a :: ts1) (x :: ns) (b :: ts2)) ns = tupleMerge f ts1 ts2 := by
          rw [← ih ts1 ts2 hs' (Nat.succ.inj h1) (Nat.succ.inj h2)]
          refine optMap_congr ns fun y hy => ?_
          have hne : x ≠ y := fun e => hx (e ▸ hy)
          rw [structField, structField, lookupLast_cons_ne hne, lookupLast_cons_ne hne]
        rw [optMap, tupleMerge, e1, e2]
        cases f a b <;> cases tupleMerge f ts1 ts2 <;> rfl

end Ty
end Octo
