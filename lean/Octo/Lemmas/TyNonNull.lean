import Octo.Lemmas.TyWf
/-! `NonNullable`: the result is a subtype of the argument; on a union with plain alternatives it is matched by
    exactly the non-NULL values that match the argument; of a well-formed type it is well formed and never "maybe" NULL. -/
namespace Octo
namespace Ty

theorem nonNullable_of_not_union (t : Ty) (h : t.isUnion = false) : nonNullable t = t := by
  cases t <;> simp_all [nonNullable, isUnion]

theorem nonNullable_is (t : Ty) : (nonNullable t).is t = .is := by
  by_cases hu : t.isUnion = true
  · obtain ⟨alts, rfl⟩ := eq_union_of_isUnion hu
    simp only [nonNullable]
    have hmem : ∀ a ∈ alts.filter (fun a => a.id ≠ 0), a.is (.union alts) = .is := by
      intro a ha
      exact is_union_of_mem (List.mem_filter.mp ha).1
    split
    · rename_i x hx
      exact hmem x (by rw [hx]; simp)
    · rw [is_union_l]; exact hmem
  · rw [nonNullable_of_not_union t (by simpa using hu)]; exact is_refl t

theorem conforms_null_iff {a : Ty} (hu : a.isUnion = false) (ha : a.isAny = false) :
    conforms a .null = true ↔ a.id = 0 := by
  cases a <;> simp [isUnion] at hu <;> simp [isAny] at ha <;> simp [conforms, Ty.id]

theorem id0_eq_null {a : Ty} (h : a.id = 0) : a = .null := by
  have := id_cases a; rwa [h] at this

theorem conforms_id0 {a : Ty} (h : a.id = 0) (v : Value) : conforms a v = true ↔ v = .null := by
  cases id0_eq_null h
  cases v <;> simp [conforms]

theorem nonNullable_conforms (alts : List Ty) (hf : ∀ a ∈ alts, plain a) (v : Value) :
    conforms (nonNullable (.union alts)) v = true ↔ (conforms (.union alts) v = true ∧ v ≠ .null) := by
  have key : conformsAny (alts.filter (fun a => a.id ≠ 0)) v = true ↔ (conformsAny alts v = true ∧ v ≠ .null) := by
    simp only [conformsAny_iff, List.mem_filter, decide_eq_true_eq]
    constructor
    · rintro ⟨a, ⟨hm, hid⟩, hv⟩
      exact ⟨⟨a, hm, hv⟩, fun hn => hid ((conforms_null_iff (hf a hm).1 (hf a hm).2).mp (hn ▸ hv))⟩
    · rintro ⟨⟨a, hm, hv⟩, hn⟩
      exact ⟨a, ⟨hm, fun h0 => hn ((conforms_id0 h0 v).mp hv)⟩, hv⟩
  simp only [nonNullable, conforms_union]
  split
  · rename_i x hx
    rw [← key, hx]; simp [conformsAny]
  · rw [conforms_union]; exact key

theorem distinctIds_filter (p : Ty → Bool) (l : List Ty) (h : distinctIds l = true) : distinctIds (l.filter p) = true :=
  (distinctIds_iff _).mpr (((distinctIds_iff l).mp h).filter p)

theorem nonNullable_wf {t : Ty} (w : wf t = true) : wf (nonNullable t) = true := by
  rcases wf_cases w with ⟨alts, rfl, hp, hd, hw⟩ | hu
  · simp only [nonNullable]
    split
    · next x hx => exact hw x (List.mem_filter.mp (hx ▸ List.mem_singleton_self x)).1
    · exact wf_union.mpr ⟨fun a ha => hp a (List.mem_filter.mp ha).1, distinctIds_filter _ _ hd,
        fun a ha => hw a (List.mem_filter.mp ha).1⟩
  · rw [nonNullable_of_not_union t hu]; exact w

/-- the non-NULL part of a well-formed type is never "maybe" NULL (so the maybe pass never picks a `TypeFn` aggregate) -/
theorem nonNullable_is_null_ne_maybe {t : Ty} (w : wf t = true) : (nonNullable t).is .null ≠ .maybe := by
  rcases wf_cases w with ⟨alts, rfl, hp, _, _⟩ | hu'
  · have hf : ∀ a ∈ alts.filter (fun a => decide (a.id ≠ 0)), a.is .null = .isnt := by
      intro a ha
      have ⟨hm, hid⟩ := List.mem_filter.mp ha
      exact plain_is_null (hp a hm).1 (hp a hm).2 (by simpa using hid)
    simp only [nonNullable]
    split
    · rename_i x hx
      rw [hf x (by rw [hx]; simp)]; simp
    · exact is_union_isnt rfl hf
  · rw [nonNullable_of_not_union t hu']
    by_cases ha : t.isAny = true
    · cases eq_any_of_isAny ha; decide
    · by_cases hid : t.id = 0
      · cases id0_eq_null hid; decide
      · rw [plain_is_null hu' (Bool.eq_false_iff.mpr ha) hid]; exact Rel.noConfusion

end Ty
end Octo
