import Octo.Lemmas.TyTypeOf
/-! A declarative sufficient condition for ShapeCompatible: types without structs and tuples
    (scalars, lists, unions of those — most SQL column types) are always shape compatible. -/
namespace Octo
namespace Ty

mutual
def noRec : Ty → Bool
  | .list e => noRec e
  | .struct _ _ => false
  | .tuple _ => false
  | .union alts => noRecList alts
  | .null | .int | .float | .bool | .str | .time | .dur | .listNil | .any => true
def noRecList : List Ty → Bool
  | [] => true
  | t :: ts => noRec t && noRecList ts
end

theorem noRecList_iff (l : List Ty) : noRecList l = true ↔ ∀ a ∈ l, noRec a = true :=
  forall_mem_of_and_rec rfl (fun _ _ => rfl) l

def RecFreeFor (f : Ty → Ty → Option Ty) (ok : Ty → Ty → Bool) : Prop :=
  ∀ x y s, f x y = some s → noRec x = true → noRec y = true → ok x y = true ∧ noRec s = true

theorem optFoldl_recFree {f : Ty → Ty → Option Ty} {ok : Ty → Ty → Bool} (hf : RecFreeFor f ok) (alts : List Ty)
    (out c : Ty) (hc : optFoldl f out alts = some c) (ho : noRec out = true) (ha : ∀ a ∈ alts, noRec a = true) :
    foldOk f ok out alts = true ∧ noRec c = true := by
  induction alts generalizing out with
  | nil => cases hc; exact ⟨rfl, ho⟩
  | cons a as ih =>
    obtain ⟨out', hs, hc⟩ := optFoldl_cons_some hc
    have ⟨h1, h2⟩ := hf out a out' hs ho (ha a List.mem_cons_self)
    have ⟨h3, h4⟩ := ih out' hc h2 fun b hb => ha b (List.mem_cons_of_mem _ hb)
    exact ⟨by rw [foldOk, h1, hs]; exact h3, h4⟩

theorem recFree_step {f : Ty → Ty → Option Ty} {ok : Ty → Ty → Bool} (hf : RecFreeFor f ok) :
    RecFreeFor (typeSumStep f) (shapeOkStep f ok) := by
  intro a b c hc na nb
  obtain ⟨r, hr, hcase⟩ := typeSumStep_cases ok hc
  rw [hr]
  cases hcase with
  | below _ => exact ⟨rfl, nb⟩
  | above _ => exact ⟨rfl, na⟩
  | struct _ => cases na
  | @list e1 e2 s hs => exact hf e1 e2 s hs na nb
  | tuple _ => cases na
  | unions h => exact optFoldl_recFree hf _ _ c h na ((noRecList_iff _).mp nb)
  | swap _ h => exact hf _ _ c h nb na
  | @merge pre a0 post _ r _ _ hsum =>
    have na' := (noRecList_iff _).mp na
    have ⟨h1, h2⟩ := hf a0 b r hsum (na' a0 (List.mem_append_right _ List.mem_cons_self)) nb
    exact ⟨h1, (noRecList_iff _).mpr (forall_mem_replace na' h2)⟩
  | add _ _ => exact ⟨rfl, (noRecList_iff _).mpr (forall_mem_sortById_snoc ((noRecList_iff _).mp na) nb)⟩
  | pair _ _ _ => exact ⟨rfl, (noRecList_iff _).mpr (forall_mem_sortById_pair na nb)⟩

theorem recFreeFor_F : ∀ (n : Nat), RecFreeFor (typeSumF n) (shapeOkF n)
  | 0 => fun _ _ _ h => nomatch h
  | n + 1 => recFree_step (recFreeFor_F n)

theorem recFreeFor_typeSum : RecFreeFor typeSum shapeOk := fun a b => recFreeFor_F (sumFuel a b) a b

end Ty
open Ty

mutual
def Value.noRecV : Value → Bool
  | .list xs => Value.noRecVList xs
  | .struct _ => false
  | .tuple _ => false
  | _ => true
def Value.noRecVList : List Value → Bool
  | [] => true
  | x :: xs => Value.noRecV x && Value.noRecVList xs
end

theorem Value.noRecVList_iff (xs : List Value) : Value.noRecVList xs = true ↔ ∀ x ∈ xs, x.noRecV = true :=
  forall_mem_of_and_rec rfl (fun _ _ => rfl) xs

theorem Value.typeOf_recFree (v : Value) : v.noRecV = true →
    ∀ t, v.typeOf = some t → v.typeOfShapeOk = true ∧ noRec t = true := by
  induction v using Value.size_induction with
  | h v ih =>
    intro hv t ht
    cases v with
    | list xs =>
      obtain ⟨ts, hm, hts⟩ := Value.typeOf_list_inv ht
      have hxs := (Value.noRecVList_iff xs).mp hv
      have ⟨_, hfrom, hto⟩ := optMap_spec _ _ hm
      have h1 : Value.typeOfShapeOkMany xs = true := (Value.typeOfShapeOkMany_iff xs).mpr fun x hx =>
        have ⟨t', _, hxt⟩ := hto x hx
        (ih x (Value.size_lt_of_mem hx) (hxs x hx) t' hxt).1
      have h2 : ∀ t' ∈ ts, noRec t' = true := fun t' ht' =>
        have ⟨x, hx, hxt⟩ := hfrom t' ht'
        (ih x (Value.size_lt_of_mem hx) (hxs x hx) t' hxt).2
      rw [Value.typeOfShapeOk, h1, Value.typeOfMany_eq_optMap, hm, Bool.true_and]
      rcases hts with ⟨rfl, rfl⟩ | ⟨t0, ts', e, rfl, he, rfl⟩
      · exact ⟨rfl, rfl⟩
      · exact optFoldl_recFree recFreeFor_typeSum ts' t0 e he (h2 t0 List.mem_cons_self)
          fun a ha => h2 a (List.mem_cons_of_mem _ ha)
    | struct xs => cases hv
    | tuple xs => cases hv
    | _ => cases ht; exact ⟨rfl, rfl⟩

end Octo
