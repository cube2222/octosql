import Octo.Lemmas.TyIsLaws
import Octo.Lemmas.TyNames
/-! `TypeSum`: what its list operations compute; more fuel never changes a result; one unfolding read as the list of its
    reachable branches (`SumCase`), on which every law of the sum is a case analysis. -/
namespace Octo
namespace Ty

theorem optMap_cons_some {α β} {f : α → Option β} {x : α} {xs : List α} {rs : List β} (h : optMap f (x :: xs) = some rs) :
    ∃ y ys, f x = some y ∧ optMap f xs = some ys ∧ rs = y :: ys := by
  simp only [optMap_eq_mapM] at h ⊢; exact List.mapM_cons_some h

theorem optMap_spec {α β} {f : α → Option β} (l : List α) (rs : List β) (h : optMap f l = some rs) :
    rs.length = l.length ∧ (∀ r ∈ rs, ∃ x ∈ l, f x = some r) ∧ ∀ x ∈ l, ∃ r ∈ rs, f x = some r := by
  rw [optMap_eq_mapM] at h
  exact ⟨List.mapM_length h, fun _ => List.mapM_mem h,
    fun _ => List.mapM_mem_left h⟩

theorem tupleMerge_cons_some {f : Ty → Ty → Option Ty} {a : Ty} {as s zs : List Ty}
    (h : tupleMerge f (a :: as) s = some zs) :
    ∃ y ys, f a (s.headD .null) = some y ∧ tupleMerge f as s.tail = some ys ∧ zs = y :: ys := by
  -- either clause of `tupleMerge` on `a :: as` is a `match` on the two partial results
  cases s with
  | nil =>
    rw [tupleMerge] at h
    split at h
    · next y ys hy hys => cases h; exact ⟨y, ys, hy, hys, rfl⟩
    · cases h
  | cons b bs =>
    rw [tupleMerge] at h
    split at h
    · next y ys hy hys => cases h; exact ⟨y, ys, hy, hys, rfl⟩
    · cases h

theorem tupleMerge_spec {f : Ty → Ty → Option Ty} (l s rs : List Ty) (h : tupleMerge f l s = some rs) :
    ∀ r ∈ rs, ∃ a ∈ l, (∃ b ∈ s, f a b = some r) ∨ f a .null = some r := by
  induction l generalizing s rs with
  | nil => cases h; exact fun _ h => nomatch h
  | cons x xs ih =>
    obtain ⟨y, ys, hy, hys, rfl⟩ := tupleMerge_cons_some h
    refine List.forall_mem_cons.mpr ⟨⟨x, List.mem_cons_self, ?_⟩, fun r hr => ?_⟩
    · cases s with
      | nil => exact .inr hy
      | cons b bs => exact .inl ⟨b, List.mem_cons_self, hy⟩
    · obtain ⟨a, ha, h'⟩ := ih _ ys hys r hr
      exact ⟨a, List.mem_cons_of_mem _ ha, h'.imp_left fun ⟨b, hb, e⟩ => ⟨b, List.mem_of_mem_tail hb, e⟩⟩

theorem optFoldl_cons_some {f : Ty → Ty → Option Ty} {b x r : Ty} {xs : List Ty} (h : optFoldl f b (x :: xs) = some r) :
    ∃ y, f b x = some y ∧ optFoldl f y xs = some r := by
  rw [optFoldl] at h
  split at h
  · exact ⟨_, ‹_›, h⟩
  · cases h

theorem mergeFirst_eq {k : Nat} {alts : List Ty} (hany : (alts.any fun a => a.id = k) = true) :
    ∃ pre a0 post, alts = pre ++ a0 :: post ∧ alts.find? (fun a => a.id = k) = some a0 ∧ a0.id = k ∧
      ∀ g : Ty → Option Ty, mergeFirst g k alts = (g a0).map (pre ++ · :: post) := by
  induction alts with
  | nil => cases hany
  | cons a as ih =>
    by_cases hk : a.id = k
    · -- the head is the first alternative with `TypeID` `k`: `pre = []`
      refine ⟨[], a, as, rfl, ?_, hk, fun g => ?_⟩
      · exact List.find?_cons_of_pos (decide_eq_true hk)
      · rw [mergeFirst, if_pos hk]; rfl
    · -- otherwise the head joins `pre` and the split of the tail is kept
      rw [List.any_cons, decide_eq_false hk, Bool.false_or] at hany
      obtain ⟨pre, a0, post, rfl, hf, e2, e3⟩ := ih hany
      refine ⟨a :: pre, a0, post, rfl, ?_, e2, fun g => ?_⟩
      · rw [List.find?_cons_of_neg (by simpa using hk)]; exact hf
      · rw [mergeFirst, if_neg hk, e3, Option.map_map]; rfl

theorem perm_insertById (x : Ty) (l : List Ty) : (insertById x l).Perm (x :: l) := by
  induction l with
  | nil => exact .refl _
  | cons y ys ih =>
    rw [insertById]
    split
    · exact .refl _
    · exact (ih.cons y).trans (.swap x y ys)

theorem perm_sortById_aux (l acc : List Ty) : (l.foldl (fun acc x => insertById x acc) acc).Perm (l ++ acc) := by
  induction l generalizing acc with
  | nil => exact .refl _
  | cons x xs ih => exact (ih _).trans (((perm_insertById x acc).append_left xs).trans List.perm_middle)

theorem perm_sortById (l : List Ty) : (sortById l).Perm l := by
  have := perm_sortById_aux l []
  rwa [List.append_nil] at this

theorem mem_sortById (y : Ty) (l : List Ty) : y ∈ sortById l ↔ y ∈ l := (perm_sortById l).mem_iff

theorem forall_mem_sortById_snoc {P : Ty → Prop} {as : List Ty} {b : Ty} (h : ∀ x ∈ as, P x) (hb : P b) :
    ∀ x ∈ sortById (as ++ [b]), P x := fun x hx =>
  (List.mem_append.mp ((mem_sortById ..).mp hx)).elim (h x) fun hx => List.mem_singleton.mp hx ▸ hb

theorem forall_mem_sortById_pair {P : Ty → Prop} {a b : Ty} (ha : P a) (hb : P b) : ∀ x ∈ sortById [a, b], P x :=
  forall_mem_sortById_snoc (as := [a]) (fun _ hx => List.mem_singleton.mp hx ▸ ha) hb

theorem forall_mem_replace {P : Ty → Prop} {pre post : List Ty} {a0 r : Ty} (h : ∀ x ∈ pre ++ a0 :: post, P x)
    (hr : P r) : ∀ x ∈ pre ++ r :: post, P x := by
  intro x hx
  rcases List.mem_append.mp hx with hx | hx
  · exact h x (List.mem_append_left _ hx)
  · cases hx with
    | head => exact hr
    | tail _ hx => exact h x (List.mem_append_right _ (List.mem_cons_of_mem _ hx))

/-- `g` returns what `f` returns wherever `f` returns something (`typeSumF` with more fuel against less) -/
def Ext (f g : Ty → Ty → Option Ty) : Prop := ∀ x y r, f x y = some r → g x y = some r

theorem optMap_mono {α β} {f g : α → Option β} (h : ∀ x r, f x = some r → g x = some r) (l : List α) (rs : List β)
    (hr : optMap f l = some rs) : optMap g l = some rs := by
  rw [optMap_eq_mapM] at hr ⊢
  simpa using List.mapM_lift (k := _root_.id) (fun x _ => h x) hr

theorem optFoldl_mono {f g : Ty → Ty → Option Ty} (h : Ext f g) (l : List Ty) (b r : Ty)
    (hr : optFoldl f b l = some r) : optFoldl g b l = some r := by
  induction l generalizing b with
  | nil => exact hr
  | cons x xs ih =>
    obtain ⟨y, hx, hr⟩ := optFoldl_cons_some hr
    rw [optFoldl, h b x y hx]
    exact ih y hr

theorem tupleMerge_mono {f g : Ty → Ty → Option Ty} (h : Ext f g) (l s rs : List Ty)
    (hr : tupleMerge f l s = some rs) : tupleMerge g l s = some rs := by
  induction l generalizing s rs with
  | nil => exact hr
  | cons x xs ih =>
    obtain ⟨y, ys, hy, hys, rfl⟩ := tupleMerge_cons_some hr
    cases s with
    | nil =>
      have hy' : g x .null = some y := h _ _ y hy
      rw [tupleMerge, hy', ih [] ys hys]
    | cons b bs =>
      have hy' : g x b = some y := h _ _ y hy
      rw [tupleMerge, hy', ih bs ys hys]

theorem structField_mono {f g : Ty → Ty → Option Ty} (h : Ext f g) (ns1 : List Name) (ts1 : List Ty)
    (ns2 : List Name) (ts2 : List Ty) (name : Name) (r : Ty)
    (hr : structField f ns1 ts1 ns2 ts2 name = some r) : structField g ns1 ts1 ns2 ts2 name = some r := by
  unfold structField at hr ⊢
  cases h1 : lookupLast name ns1 ts1 <;> cases h2 : lookupLast name ns2 ts2 <;> simp only [h1, h2] at hr ⊢
  all_goals first | exact h _ _ _ hr | exact hr

theorem typeSumStep_mono {f g : Ty → Ty → Option Ty} (h : Ext f g) : Ext (typeSumStep f) (typeSumStep g) := by
  intro a b c hc
  unfold typeSumStep at hc ⊢
  by_cases h1 : a.is b = .is
  · rw [if_pos h1] at hc ⊢; exact hc
  by_cases h2 : b.is a = .is
  · rw [if_neg h1, if_pos h2] at hc ⊢; exact hc
  rw [if_neg h1, if_neg h2] at hc ⊢
  -- the clauses of `typeSumStep` in their order; a clause that makes no recursive call hands back `hc`
  split at hc
  · obtain ⟨tys, ht, rfl⟩ := Option.map_eq_some_iff.mp hc
    exact Option.map_eq_some_iff.mpr ⟨tys, optMap_mono (fun x r => structField_mono h _ _ _ _ x r) _ _ ht, rfl⟩
  · exact hc
  · exact hc
  · exact hc
  · obtain ⟨s, hs, rfl⟩ := Option.map_eq_some_iff.mp hc
    exact Option.map_eq_some_iff.mpr ⟨s, h _ _ _ hs, rfl⟩
  · obtain ⟨s, hs, rfl⟩ := Option.map_eq_some_iff.mp hc
    refine Option.map_eq_some_iff.mpr ⟨s, ?_, rfl⟩
    split at hs
    · rw [if_pos ‹_›]; exact tupleMerge_mono h _ _ _ hs
    · rw [if_neg ‹_›]; exact tupleMerge_mono h _ _ _ hs
  · exact optFoldl_mono h _ _ _ hc
  · exact h _ _ _ hc
  · split at hc
    · obtain ⟨s, hs, rfl⟩ := Option.map_eq_some_iff.mp hc
      rw [if_pos ‹_›]
      obtain ⟨_, a0, _, _, _, _, e⟩ := mergeFirst_eq ‹_›
      rw [e] at hs ⊢
      obtain ⟨r, hr, rfl⟩ := Option.map_eq_some_iff.mp hs
      rw [h a0 _ r hr]; rfl
    · rw [if_neg ‹_›]; exact hc
  · exact hc

theorem typeSumF_succ : ∀ (n : Nat), Ext (typeSumF n) (typeSumF (n + 1))
  | 0 => by intro a b c h; simp [typeSumF] at h
  | n + 1 => by
    intro a b c h
    simp only [typeSumF] at h ⊢
    exact typeSumStep_mono (typeSumF_succ n) a b c h

theorem typeSumF_mono {n m : Nat} (hnm : n ≤ m) {a b c : Ty} (h : typeSumF n a b = some c) :
    typeSumF m a b = some c := by
  induction hnm with
  | refl => exact h
  | step _ ih => exact typeSumF_succ _ a b c ih

theorem isAny_eq_false_of_not_is {a b : Ty} (h : ¬a.is b = .is) : b.isAny = false :=
  (Bool.eq_false_or_eq_true b.isAny).resolve_left fun hb => h (eq_any_of_isAny hb ▸ is_any a)

/-- The reachable branches of `typeSumStep f a b`, each with its result `c` and with the value that
    `shapeOkStep f ok a b` takes on it.  The three `listNil` clauses of `typeSumStep` are behind the two `Is` tests
    and never reached; on the last clause the two `TypeID`s differ. -/
inductive SumCase (f : Ty → Ty → Option Ty) (ok : Ty → Ty → Bool) : Ty → Ty → Ty → Bool → Prop
  | below {a b} : a.is b = .is → SumCase f ok a b b true
  | above {a b} : b.is a = .is → SumCase f ok a b a true
  | struct {ns1 ts1 ns2 ts2 tys} :
      optMap (structField f ns1 ts1 ns2 ts2) (sortNames (ns1 ++ ns2)) = some tys →
      SumCase f ok (.struct ns1 ts1) (.struct ns2 ts2) (.struct (sortNames (ns1 ++ ns2)) tys)
        (decide (ns1 = ns2) && strictSortedNames ns1 && decide (ns1.length = ts1.length) &&
          decide (ns2.length = ts2.length) && all2 ok ts1 ts2)
  | list {e1 e2 s} : f e1 e2 = some s → SumCase f ok (.list e1) (.list e2) (.list s) (ok e1 e2)
  | tuple {ts1 ts2 tys} :
      (if ts1.length > ts2.length then tupleMerge f ts1 ts2 else tupleMerge f ts2 ts1) = some tys →
      SumCase f ok (.tuple ts1) (.tuple ts2) (.tuple tys) (decide (ts1.length = ts2.length) && all2 ok ts2 ts1)
  | unions {as bs c} : optFoldl f (.union as) bs = some c →
      SumCase f ok (.union as) (.union bs) c (foldOk f ok (.union as) bs)
  | swap {a bs c} : plain a → f (.union bs) a = some c → SumCase f ok a (.union bs) c (ok (.union bs) a)
  | merge {pre a0 post b r} : plain b → a0.id = b.id → f a0 b = some r →
      SumCase f ok (.union (pre ++ a0 :: post)) b (.union (pre ++ r :: post)) (ok a0 b)
  | add {as b} : plain b → (∀ a ∈ as, a.id ≠ b.id) → SumCase f ok (.union as) b (.union (sortById (as ++ [b]))) true
  | pair {a b} : plain a → plain b → a.id ≠ b.id → SumCase f ok a b (.union (sortById [a, b])) true

theorem typeSumStep_cases {f : Ty → Ty → Option Ty} (ok : Ty → Ty → Bool) {a b c : Ty}
    (h : typeSumStep f a b = some c) : ∃ r, shapeOkStep f ok a b = r ∧ SumCase f ok a b c r := by
  -- the `∃ r` only makes the Bool index a variable: with `shapeOkStep f ok a b` in its place `cases` on the result fails
  refine ⟨_, rfl, ?_⟩
  unfold typeSumStep at h
  unfold shapeOkStep
  by_cases h1 : a.is b = .is
  · rw [if_pos h1] at h ⊢; cases h; exact .below h1
  rw [if_neg h1] at h ⊢
  by_cases h2 : b.is a = .is
  · rw [if_pos h2] at h ⊢; cases h; exact .above h2
  rw [if_neg h2] at h ⊢
  have hbA := isAny_eq_false_of_not_is h1
  have haA := isAny_eq_false_of_not_is h2
  split at h
  · obtain ⟨tys, hm, rfl⟩ := Option.map_eq_some_iff.mp h
    exact .struct hm
  · exact absurd is_listNil_listNil h1
  · exact absurd (is_listNil_list _) h1
  · exact absurd (is_listNil_list _) h2
  · obtain ⟨s, hs, rfl⟩ := Option.map_eq_some_iff.mp h
    exact .list hs
  · obtain ⟨s, hs, rfl⟩ := Option.map_eq_some_iff.mp h
    exact .tuple hs
  · exact .unions h
  · rename_i haU
    exact .swap ⟨isUnion_eq_false haU, haA⟩ h
  · rename_i as hbU
    have pb : plain b := ⟨isUnion_eq_false hbU, hbA⟩
    split at h
    · rename_i hany
      obtain ⟨as', hm, rfl⟩ := Option.map_eq_some_iff.mp h
      obtain ⟨pre, a0, post, rfl, hfind, hid, e⟩ := mergeFirst_eq hany
      rw [e] at hm
      obtain ⟨r, hr, rfl⟩ := Option.map_eq_some_iff.mp hm
      rw [hfind]
      exact .merge pb hid hr
    · rename_i hany
      cases h
      have hno : ∀ x ∈ as, x.id ≠ b.id := fun x hx hid => hany (List.any_eq_true.mpr ⟨x, hx, decide_eq_true hid⟩)
      rw [List.find?_eq_none.mpr fun x hx => by simpa using hno x hx]
      exact .add pb hno
  · rename_i haU hbU nStruct nNilNil nNilList nListNil nListList nTuple _
    have haU := isUnion_eq_false haU
    have hne : a.id ≠ b.id := fun hid => by
      rcases same_id_cases haU hid with ⟨_, rfl⟩ | ⟨_, _, _, _, rfl, rfl⟩ | ⟨ha | ⟨_, ha⟩, hb | ⟨_, hb⟩⟩ | ⟨_, _, rfl, rfl⟩
      · exact h1 (is_refl a)
      · exact nStruct _ _ _ _ rfl rfl
      · exact nNilNil ha hb
      · exact nNilList _ ha hb
      · exact nListNil _ ha hb
      · exact nListList _ _ ha hb
      · exact nTuple _ _ rfl rfl
    cases h
    exact .pair ⟨haU, haA⟩ ⟨isUnion_eq_false hbU, hbA⟩ hne

end Ty
end Octo
