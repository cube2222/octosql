import Octo.Lemmas.TyWf
/-! `TypeSum` is the *least* upper bound among well-formed types:
    `a Is t`, `b Is t`, `t` well formed ⇒ `TypeSum(a, b) Is t`. -/
namespace Octo
namespace Ty

def LeastFor (f : Ty → Ty → Option Ty) : Prop :=
  ∀ x y s t, f x y = some s → wf x = true → wf y = true → wf t = true →
    x.is t = .is → y.is t = .is → s.is t = .is

theorem plain_target {x y t : Ty} (wt : wf t = true) (htA : t.isAny = false)
    (hx : x.is t = .is) (hy : y.is t = .is)
    (hxU : x.isUnion = false) (hyU : y.isUnion = false) (hid : x.id = y.id) :
    ∃ t', wf t' = true ∧ plain t' ∧ x.is t' = .is ∧ y.is t' = .is ∧ ∀ s : Ty, s.is t' = .is → s.is t = .is := by
  rcases Bool.eq_false_or_eq_true t.isUnion with htU | htU
  · obtain ⟨alts, rfl⟩ := eq_union_of_isUnion htU
    obtain ⟨wp, wd, wl⟩ := wf_union.mp wt
    obtain ⟨a1, m1, h1⟩ := (is_union_r x alts hxU).mp hx
    obtain ⟨a2, m2, h2⟩ := (is_union_r y alts hyU).mp hy
    cases distinctIds_unique wd m1 m2 (by rw [← is_plain_id hxU (wp a1 m1) h1, ← is_plain_id hyU (wp a2 m2) h2, hid])
    exact ⟨a1, wl a1 m1, wp a1 m1, h1, h2, fun s hs => is_into_union hs m1⟩
  · exact ⟨t, wt, ⟨htU, htA⟩, hx, hy, fun _ h => h⟩

theorem tupleMerge_least {f : Ty → Ty → Option Ty} (xs ys zs ts : List Ty) (hz : tupleMerge f xs ys = some zs)
    (hl1 : xs.length = ys.length) (hl2 : xs.length = ts.length)
    (H : ∀ x ∈ xs, ∀ y ∈ ys, ∀ t ∈ ts, ∀ r, f x y = some r → x.is t = .is → y.is t = .is → r.is t = .is) :
    zs.length = xs.length ∧
    (∀ ns ns' : List Name, structLoop is ns xs ns' ts = .is → structLoop is ns ys ns' ts = .is →
      structLoop is ns zs ns' ts = .is) := by
  induction xs generalizing ys zs ts with
  | nil =>
    cases ys with
    | nil => cases hz; exact ⟨rfl, fun _ _ h _ => h⟩
    | cons _ _ => cases hl1
  | cons x xs ih =>
    cases ys with
    | nil => cases hl1
    | cons y ys =>
      cases ts with
      | nil => cases hl2
      | cons t ts =>
        obtain ⟨r, rs, hxy, hrest, rfl⟩ := tupleMerge_cons_some hz
        have ⟨l, hs⟩ := ih ys rs ts hrest (Nat.succ.inj hl1) (Nat.succ.inj hl2) fun a ha b hb c hc =>
          H a (List.mem_cons_of_mem _ ha) b (List.mem_cons_of_mem _ hb) c (List.mem_cons_of_mem _ hc)
        have hr := H x List.mem_cons_self y List.mem_cons_self t List.mem_cons_self r hxy
        refine ⟨congrArg (· + 1) l, fun ns ns' h1 h2 => ?_⟩
        rw [structLoop_cons] at h1 h2 ⊢
        exact ⟨h1.1, hr h1.2.1 h2.2.1, hs _ _ h1.2.2 h2.2.2⟩

theorem optFoldl_least {f : Ty → Ty → Option Ty} (hf : LeastFor f) (hw : WfFor f) (t : Ty) (wt : wf t = true)
    (alts : List Ty) (out c : Ty) (hc : optFoldl f out alts = some c) (wo : wf out = true)
    (wa : ∀ a ∈ alts, wf a = true) (ho : out.is t = .is) (ha : ∀ a ∈ alts, a.is t = .is) : c.is t = .is := by
  induction alts generalizing out with
  | nil => cases hc; exact ho
  | cons a as ih =>
    obtain ⟨out', hs, hc⟩ := optFoldl_cons_some hc
    have ⟨wa0, was⟩ := List.forall_mem_cons.mp wa
    have ⟨ha0, has⟩ := List.forall_mem_cons.mp ha
    exact ih out' hc (hw out a out' hs wo wa0).1 was (hf out a out' t hs wo wa0 wt ho ha0) has

theorem least_step {f : Ty → Ty → Option Ty} (hf : LeastFor f) (hw : WfFor f) : LeastFor (typeSumStep f) := by
  intro a b c t hc wa wb wt ha hb
  rcases Bool.eq_false_or_eq_true t.isAny with htA | htA
  · cases eq_any_of_isAny htA; exact is_any c
  obtain ⟨_, -, hcase⟩ := typeSumStep_cases (fun _ _ => true) hc
  -- for two containers of the same kind the target may be narrowed to a plain part `t'` of `t`
  cases hcase with
  | below _ => exact hb
  | above _ => exact ha
  | @struct ns1 ts1 ns2 ts2 tys hm =>
    obtain ⟨t', wt', pt', ha', hb', close⟩ := plain_target wt htA ha hb rfl rfl rfl
    apply close
    obtain ⟨ns', ts', rfl, hl1, hs1⟩ := is_inv rfl pt' ha'
    obtain ⟨hl2, hs2⟩ := (is_struct_struct ..).mp hb'
    rw [wf_struct] at wa wb wt'
    cases structLoop_names _ _ _ _ wa.2.1 wt'.2.1 hl1 hs1
    cases structLoop_names _ _ _ _ wb.2.1 wt'.2.1 hl2 hs2
    rw [sortNames_self_append wa.1] at hm ⊢
    rw [structFields_pointwise f ns1 ts1 ts2 wa.1 wa.2.1 wb.2.1] at hm
    have w1 := (wfList_iff _).mp wa.2.2
    have w2 := (wfList_iff _).mp wb.2.2
    have w' := (wfList_iff _).mp wt'.2.2
    have ⟨l, hs⟩ := tupleMerge_least ts1 ts2 tys ts' hm (hl1.trans hl2.symm) hl1
      (fun x hx y hy t ht r hr => hf x y r t hr (w1 x hx) (w2 y hy) (w' t ht))
    exact (is_struct_struct ..).mpr ⟨l.trans hl1, hs _ _ hs1 hs2⟩
  | @list e1 e2 s hs =>
    obtain ⟨t', wt', pt', ha', hb', close⟩ := plain_target wt htA ha hb rfl rfl rfl
    apply close
    obtain ⟨e', rfl, he1⟩ := is_inv rfl pt' ha'
    exact (is_list_list ..).mpr (hf _ _ s e' hs (wf_list.mp wa) (wf_list.mp wb) (wf_list.mp wt') he1 ((is_list_list ..).mp hb'))
  | @tuple ts1 ts2 tys hm =>
    obtain ⟨t', wt', pt', ha', hb', close⟩ := plain_target wt htA ha hb rfl rfl rfl
    apply close
    obtain ⟨ts', rfl, hl1, hs1⟩ := is_inv rfl pt' ha'
    obtain ⟨hl2, hs2⟩ := (is_tuple_tuple ..).mp hb'
    have hl : ts2.length = ts1.length := hl2.trans hl1.symm
    -- equal lengths take the `else` branch of the tuple clause: the merge is `tupleMerge f ts2 ts1`, operands swapped
    rw [if_neg (Nat.lt_irrefl _ ∘ (hl ▸ ·))] at hm
    have w1 := wf_tuple.mp wa
    have w2 := wf_tuple.mp wb
    have w' := wf_tuple.mp wt'
    have ⟨l, hs⟩ := tupleMerge_least ts2 ts1 tys ts' hm hl hl2
      (fun x hx y hy t ht r hr => hf x y r t hr (w2 x hx) (w1 y hy) (w' t ht))
    rw [tupleLoop_eq] at hs1 hs2
    exact (is_tuple_tuple ..).mpr ⟨l.trans hl2, tupleLoop_eq .. ▸ hs [] [] hs2 hs1⟩
  | unions h => exact optFoldl_least hf hw t wt _ _ c h wa (fun _ => wf_alt wb) ha ((is_union_l _ _).mp hb)
  | swap _ h => exact hf _ _ c t h wb wa wt hb ha
  | @merge pre a0 post _ r _ _ hr =>
    have ha' := (is_union_l _ _).mp ha
    have ha0 : a0 ∈ pre ++ a0 :: post := List.mem_append_right _ List.mem_cons_self
    exact (is_union_l _ _).mpr
      (forall_mem_replace ha' (hf a0 b r t hr (wf_alt wa ha0) wb wt (ha' a0 ha0) hb))
  | add _ _ => exact (is_union_l _ _).mpr (forall_mem_sortById_snoc ((is_union_l _ _).mp ha) hb)
  | pair _ _ _ => exact (is_union_l _ _).mpr (forall_mem_sortById_pair ha hb)

theorem leastFor_F : ∀ (n : Nat), LeastFor (typeSumF n)
  | 0 => fun _ _ _ _ h => nomatch h
  | n + 1 => least_step (leastFor_F n) (wfFor_F n)

theorem leastFor_typeSum : LeastFor typeSum := fun a b => leastFor_F (sumFuel a b) a b

end Ty
end Octo
