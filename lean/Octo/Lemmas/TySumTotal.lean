import Octo.Lemmas.TyWf
/-! `TypeSum` of well-formed types terminates within fuel `2·(size a + size b)`: the model's `typeSum`
    (default fuel `2·(size a + size b) + 8`) is total on well-formed types. -/
namespace Octo
namespace Ty

theorem optMap_total {α β} {f : α → Option β} (l : List α) (h : ∀ x ∈ l, (f x).isSome = true) :
    (optMap f l).isSome = true :=
  optMap_eq_mapM f l ▸ List.mapM_isSome h

theorem tupleMerge_total {f : Ty → Ty → Option Ty} (l s : List Ty)
    (h1 : ∀ a ∈ l, ∀ b ∈ s, (f a b).isSome = true) (h2 : ∀ a ∈ l, (f a .null).isSome = true) :
    (tupleMerge f l s).isSome = true := by
  induction l generalizing s with
  | nil => rfl
  | cons x xs ih =>
    have hxs := fun s h1 => ih s h1 fun a ha => h2 a (List.mem_cons_of_mem _ ha)
    cases s with
    | nil =>
      obtain ⟨y, hy⟩ := Option.isSome_iff_exists.mp (h2 x List.mem_cons_self)
      obtain ⟨ys, hys⟩ := Option.isSome_iff_exists.mp (hxs [] fun _ _ _ h => nomatch h)
      rw [tupleMerge, hy, hys]; rfl
    | cons b bs =>
      obtain ⟨y, hy⟩ := Option.isSome_iff_exists.mp (h1 x List.mem_cons_self b List.mem_cons_self)
      obtain ⟨ys, hys⟩ := Option.isSome_iff_exists.mp
        (hxs bs fun a ha b hb => h1 a (List.mem_cons_of_mem _ ha) b (List.mem_cons_of_mem _ hb))
      rw [tupleMerge, hy, hys]; rfl

theorem structMerge_total {f : Ty → Ty → Option Ty} (ns1 : List Name) (ts1 : List Ty) (ns2 : List Name) (ts2 : List Ty)
    (l1 : ns1.length = ts1.length) (l2 : ns2.length = ts2.length)
    (h12 : ∀ a ∈ ts1, ∀ b ∈ ts2, (f a b).isSome = true)
    (h1 : ∀ a ∈ ts1, (f a .null).isSome = true) (h2 : ∀ b ∈ ts2, (f b .null).isSome = true) :
    (optMap (structField f ns1 ts1 ns2 ts2) (sortNames (ns1 ++ ns2))).isSome = true := by
  refine optMap_total _ fun name hn => ?_
  unfold structField
  cases e1 : lookupLast name ns1 ts1 with
  | some a =>
    cases e2 : lookupLast name ns2 ts2 with
    | some b => exact h12 a (lookupLast_mem _ _ _ _ e1) b (lookupLast_mem _ _ _ _ e2)
    | none => exact h1 a (lookupLast_mem _ _ _ _ e1)
  | none =>
    cases e2 : lookupLast name ns2 ts2 with
    | some b => exact h2 b (lookupLast_mem _ _ _ _ e2)
    | none =>
      rcases List.mem_append.mp ((mem_sortNames name _).mp hn) with hm | hm
      · have := lookupLast_isSome name ns1 ts1 l1 hm; rw [e1] at this; cases this
      · have := lookupLast_isSome name ns2 ts2 l2 hm; rw [e2] at this; cases this

/-- `typeSumStep g a b` has a result once the calls of `g` made by the clause that `a` and `b` select have one:
    `typeSumStep_cases` read backwards, as far as totality goes -/
theorem typeSumStep_isSome {g : Ty → Ty → Option Ty} {a b : Ty}
    (hstruct : ∀ ns1 ts1 ns2 ts2, a = .struct ns1 ts1 → b = .struct ns2 ts2 →
      (optMap (structField g ns1 ts1 ns2 ts2) (sortNames (ns1 ++ ns2))).isSome = true)
    (hlist : ∀ e1 e2, a = .list e1 → b = .list e2 → (g e1 e2).isSome = true)
    (htuple : ∀ ts1 ts2, a = .tuple ts1 → b = .tuple ts2 →
      (tupleMerge g ts1 ts2).isSome = true ∧ (tupleMerge g ts2 ts1).isSome = true)
    (hunions : ∀ as bs, a = .union as → b = .union bs → (optFoldl g (.union as) bs).isSome = true)
    (hswap : ∀ bs, a.isUnion = false → b = .union bs → (g (.union bs) a).isSome = true)
    (hmerge : ∀ as, a = .union as → b.isUnion = false → ∀ x ∈ as, x.id = b.id → (g x b).isSome = true) :
    (typeSumStep g a b).isSome = true := by
  unfold typeSumStep
  by_cases h1 : a.is b = .is
  · rw [if_pos h1]; rfl
  by_cases h2 : b.is a = .is
  · rw [if_neg h1, if_pos h2]; rfl
  rw [if_neg h1, if_neg h2]
  split
  · rw [Option.isSome_map]; exact hstruct _ _ _ _ rfl rfl
  · rfl
  · rfl
  · rfl
  · rw [Option.isSome_map]; exact hlist _ _ rfl rfl
  · rw [Option.isSome_map]
    split
    · exact (htuple _ _ rfl rfl).1
    · exact (htuple _ _ rfl rfl).2
  · exact hunions _ _ rfl rfl
  · rename_i hau
    exact hswap _ (isUnion_eq_false hau) rfl
  · rename_i hbu
    split
    · obtain ⟨pre, a0, post, rfl, _, hid, e⟩ := mergeFirst_eq ‹_›
      rw [e, Option.isSome_map, Option.isSome_map]
      exact hmerge _ rfl (isUnion_eq_false hbu) a0 (List.mem_append_right _ List.mem_cons_self) hid
    · rfl
  · rfl

theorem unionPlain_total {g : Ty → Ty → Option Ty} (alts : List Ty) (y : Ty) (hy : y.isUnion = false)
    (h : ∀ x ∈ alts, x.id = y.id → (g x y).isSome = true) : (typeSumStep g (.union alts) y).isSome = true :=
  typeSumStep_isSome (fun _ _ _ _ e => nomatch e) (fun _ _ e => nomatch e) (fun _ _ e => nomatch e)
    (fun _ _ _ e => by rw [e] at hy; cases hy) (fun _ hu => nomatch hu) (fun _ e _ => by cases e; exact h)

/-- invariant of `out = TypeSum(out, alt)` over the alternatives `rest` still to come (`as` are the alternatives
    of the left operand): `out` is well formed and every part of it whose `TypeID` is still to come is an original
    alternative of the left operand -/
def FoldInv (as : List Ty) (out : Ty) (rest : List Ty) : Prop :=
  wf out = true ∧
  ((∃ alts, out = .union alts ∧ ∀ x ∈ alts, x ∈ as ∨ ∀ y ∈ rest, x.id ≠ y.id) ∨
   (out.isUnion = false ∧ ∀ y ∈ rest, out.id ≠ y.id))

theorem foldInv_weaken {as : List Ty} {out y : Ty} {rest : List Ty} (h : FoldInv as out (y :: rest)) :
    FoldInv as out rest := by
  refine ⟨h.1, ?_⟩
  rcases h.2 with ⟨alts, e, hal⟩ | ⟨hu, hid⟩
  · exact .inl ⟨alts, e, fun x hx => (hal x hx).imp_right fun h' y' hy' => h' y' (List.mem_cons_of_mem _ hy')⟩
  · exact .inr ⟨hu, fun y' hy' => hid y' (List.mem_cons_of_mem _ hy')⟩

theorem foldInv_step {g : Ty → Ty → Option Ty} (hg : WfFor g) (as : List Ty) (out y : Ty) (rest : List Ty)
    (inv : FoldInv as out (y :: rest)) (wy : wf y = true) (py : plain y) (hd : ∀ y' ∈ rest, y.id ≠ y'.id)
    (has : ∀ x ∈ as, wf x = true ∧ plain x)
    (htot : ∀ x ∈ as, x.id = y.id → (g x y).isSome = true) :
    ∃ r, typeSumStep g out y = some r ∧ FoldInv as r rest := by
  -- `out` is a union whose parts with the `TypeID` of `y` come from `as`, or a non-union with another `TypeID`
  have tot : (typeSumStep g out y).isSome = true := by
    rcases inv.2 with ⟨alts, rfl, hal⟩ | ⟨hu, hid⟩
    · exact unionPlain_total alts y py.1 fun x hx hxy =>
        htot x ((hal x hx).resolve_right fun h => h y List.mem_cons_self hxy) hxy
    · -- a non-union with another `TypeID` than `y`: no clause that calls `g` is selected
      have hne := hid y List.mem_cons_self
      exact typeSumStep_isSome (fun _ _ _ _ e1 e2 => absurd (e1 ▸ e2 ▸ rfl) hne) (fun _ _ e1 e2 => absurd (e1 ▸ e2 ▸ rfl) hne)
        (fun _ _ e1 e2 => absurd (e1 ▸ e2 ▸ rfl) hne) (fun _ _ e => by rw [e] at hu; cases hu)
        (fun _ _ e => by rw [e] at py; cases py.1) (fun _ e => by rw [e] at hu; cases hu)
  obtain ⟨r, hr⟩ := Option.isSome_iff_exists.mp tot
  refine ⟨r, hr, (wf_step hg out y r hr inv.1 wy).1, ?_⟩
  have old := (foldInv_weaken inv).2
  obtain ⟨_, -, hcase⟩ := typeSumStep_cases (fun _ _ => true) hr
  have hne : out.isUnion = false → out.id ≠ y.id := fun hu =>
    inv.2.elim (fun ⟨_, e, _⟩ => by rw [e] at hu; cases hu) fun ⟨_, hid⟩ => hid y List.mem_cons_self
  cases hcase with
  | below _ => exact .inr ⟨py.1, hd⟩
  | above _ => exact old
  | struct _ => exact absurd rfl (hne rfl)
  | list _ => exact absurd rfl (hne rfl)
  | tuple _ => exact absurd rfl (hne rfl)
  | unions _ => cases py.1
  | swap _ _ => cases py.1
  | @merge pre a0 post _ r0 _ hid hsum =>
    obtain ⟨alts, e, hal⟩ | ⟨hu, _⟩ := inv.2
    · cases e
      have ha0 := hal a0 (List.mem_append_right _ List.mem_cons_self)
      have ha0' : a0 ∈ as := ha0.resolve_right fun h => h y List.mem_cons_self hid
      have idr := ((hg a0 y r0 hsum (has a0 ha0').1 wy).2 (has a0 ha0').2 py hid).2
      obtain ⟨alts', e', hal'⟩ | ⟨hu', _⟩ := old
      · cases e'
        exact .inl ⟨_, rfl, forall_mem_replace hal' (.inr fun y' hy' => by rw [idr, hid]; exact hd y' hy')⟩
      · cases hu'
    · cases hu
  | add _ _ =>
    obtain ⟨alts', e', hal'⟩ | ⟨hu', _⟩ := old
    · cases e'
      exact .inl ⟨_, rfl, forall_mem_sortById_snoc hal' (.inr hd)⟩
    · cases hu'
  | pair pa _ _ =>
    obtain ⟨_, e', _⟩ | ⟨_, hid'⟩ := old
    · rw [e'] at pa; cases pa.1
    · exact .inl ⟨_, rfl, forall_mem_sortById_pair (.inr hid') (.inr hd)⟩

theorem optFoldl_total {g : Ty → Ty → Option Ty} (hg : WfFor g) (as : List Ty)
    (has : ∀ x ∈ as, wf x = true ∧ plain x) (rest : List Ty) (out : Ty) (inv : FoldInv as out rest)
    (hd : distinctIds rest = true) (hr : ∀ y ∈ rest, wf y = true ∧ plain y)
    (htot : ∀ x ∈ as, ∀ y ∈ rest, x.id = y.id → (g x y).isSome = true) :
    (optFoldl (typeSumStep g) out rest).isSome = true := by
  induction rest generalizing out with
  | nil => rfl
  | cons y rest ih =>
    rw [distinctIds_cons] at hd
    have ⟨hy, hrest⟩ := List.forall_mem_cons.mp hr
    obtain ⟨r, hr1, hr2⟩ := foldInv_step hg as out y rest inv hy.1 hy.2 hd.1 has fun x hx => htot x hx y List.mem_cons_self
    rw [optFoldl, hr1]
    exact ih r hr2 hd.2 hrest fun x hx y' hy' => htot x hx y' (List.mem_cons_of_mem _ hy')

theorem typeSumF_isSome_mono {n m : Nat} (h : n ≤ m) {a b : Ty} (hs : (typeSumF n a b).isSome = true) :
    (typeSumF m a b).isSome = true := by
  obtain ⟨c, hc⟩ := Option.isSome_iff_exists.mp hs
  rw [typeSumF_mono h hc]; rfl

theorem sum_terminates_exact (a b : Ty) (wa : wf a = true) (wb : wf b = true) :
    (typeSumF (2 * (a.size + b.size)) a b).isSome = true := by
  generalize hs : a.size + b.size = s
  induction s using Nat.strongRecOn generalizing a b with
  | ind s ih =>
    subst hs
    obtain ⟨s0, hs0⟩ : ∃ s0, a.size + b.size = s0 + 1 :=
      ⟨_, (Nat.succ_pred_eq_of_pos (Nat.add_pos_left (size_pos a) _)).symm⟩
    -- smaller pairs are summed with every fuel from `2·(size a + size b) - 2` on: the swap and the union/union loop
    -- unfold `typeSumF` a second time and call it with that fuel
    have H : ∀ {x y : Ty}, wf x = true → wf y = true → x.size + y.size < a.size + b.size → ∀ {m}, 2 * s0 ≤ m →
        (typeSumF m x y).isSome = true := fun wx wy h _ hm =>
      typeSumF_isSome_mono (Nat.le_trans (Nat.mul_le_mul_left 2 (Nat.le_of_lt_succ (Nat.lt_of_lt_of_eq h hs0))) hm) (ih _ h _ _ wx wy rfl)
    rw [hs0]
    have hf : ∀ {x y : Ty}, wf x = true → wf y = true → x.size + y.size < a.size + b.size →
        (typeSumF (2 * s0 + 1) x y).isSome = true := fun wx wy h => H wx wy h (Nat.le_succ _)
    have hfe : typeSumF (2 * s0 + 1) = typeSumStep (typeSumF (2 * s0)) := rfl
    show (typeSumStep (typeSumF (2 * s0 + 1)) a b).isSome = true
    refine typeSumStep_isSome ?_ ?_ ?_ ?_ ?_ ?_
    · rintro ns1 ts1 ns2 ts2 rfl rfl
      rw [wf_struct] at wa wb
      have w1 := (wfList_iff _).mp wa.2.2
      have w2 := (wfList_iff _).mp wb.2.2
      refine structMerge_total _ _ _ _ wa.2.1 wb.2.1 ?_ ?_ ?_
      · exact fun x hx y hy => hf (w1 x hx) (w2 y hy)
          (Nat.add_lt_add (size_lt_of_mem_struct _ hx) (size_lt_of_mem_struct _ hy))
      · exact fun x hx => hf (w1 x hx) wf_null (Nat.add_lt_add_of_lt_of_le (size_lt_of_mem_struct _ hx) (size_pos _))
      · exact fun y hy => hf (w2 y hy) wf_null
          (Nat.add_comm .. ▸ Nat.add_lt_add_of_le_of_lt (size_pos _) (size_lt_of_mem_struct _ hy))
    · rintro e1 e2 rfl rfl
      exact hf (wf_list.mp wa) (wf_list.mp wb) (Nat.add_lt_add (size_lt_list _) (size_lt_list _))
    · rintro ts1 ts2 rfl rfl
      have w1 := wf_tuple.mp wa
      have w2 := wf_tuple.mp wb
      refine ⟨tupleMerge_total _ _ ?_ ?_, tupleMerge_total _ _ ?_ ?_⟩
      · exact fun x hx y hy => hf (w1 x hx) (w2 y hy) (Nat.add_lt_add (size_lt_of_mem_tuple hx) (size_lt_of_mem_tuple hy))
      · exact fun x hx => hf (w1 x hx) wf_null (Nat.add_lt_add_of_lt_of_le (size_lt_of_mem_tuple hx) (size_pos _))
      · exact fun y hy x hx => hf (w2 y hy) (w1 x hx)
          (Nat.add_comm .. ▸ Nat.add_lt_add (size_lt_of_mem_tuple hx) (size_lt_of_mem_tuple hy))
      · exact fun y hy => hf (w2 y hy) wf_null
          (Nat.add_comm .. ▸ Nat.add_lt_add_of_le_of_lt (size_pos _) (size_lt_of_mem_tuple hy))
    · rintro as bs rfl rfl
      obtain ⟨pa, _, wla⟩ := wf_union.mp wa
      obtain ⟨pb, db, wlb⟩ := wf_union.mp wb
      rw [hfe]
      exact optFoldl_total (wfFor_F (2 * s0)) _ (fun x hx => ⟨wla x hx, pa x hx⟩) _ _
        ⟨wa, .inl ⟨_, rfl, fun x hx => .inl hx⟩⟩ db (fun y hy => ⟨wlb y hy, pb y hy⟩) fun x hx y hy _ =>
          H (wla x hx) (wlb y hy) (Nat.add_lt_add (size_lt_of_mem_union hx) (size_lt_of_mem_union hy)) (Nat.le_refl _)
    · rintro bs hau rfl
      rw [hfe]
      refine unionPlain_total _ a hau fun x hx _ => ?_
      exact H (wf_alt wb hx) wa (Nat.add_comm .. ▸ Nat.add_lt_add_left (size_lt_of_mem_union hx) _)
        (Nat.le_refl _)
    · rintro as rfl _ x hx _
      exact hf (wf_alt wa hx) wb (Nat.add_lt_add_right (size_lt_of_mem_union hx) _)

theorem sum_terminates {a b : Ty} (wa : wf a = true) (wb : wf b = true) {n : Nat} (hn : 2 * (a.size + b.size) ≤ n) :
    (typeSumF n a b).isSome = true := typeSumF_isSome_mono hn (sum_terminates_exact a b wa wb)

theorem typeSum_total {a b : Ty} (wa : wf a = true) (wb : wf b = true) : (typeSum a b).isSome = true :=
  sum_terminates wa wb (Nat.le_add_right _ 8)

end Ty
end Octo
