import Octo.Lemmas.TySum
/-! `TypeSum` is an upper bound of both operands (w.r.t. `Is`) under `ShapeCompatible` (`shapeOkF`). -/
namespace Octo
namespace Ty

/-- a law of `TypeSum` as a property of a pair `(sum, ok)`: it passes from `(f, ok)` to `(typeSumStep f, shapeOkStep f ok)`
    and so holds of `(typeSumF n, shapeOkF n)` for every fuel; `WfFor`, `LeastFor`, `RecFreeFor` likewise -/
def UpperFor (f : Ty → Ty → Option Ty) (ok : Ty → Ty → Bool) : Prop :=
  ∀ x y r, f x y = some r → ok x y = true → x.is r = .is ∧ y.is r = .is

/-- the pointwise sums of two equally long lists (`tupleMerge` pads only a shorter second list) -/
theorem tupleMerge_upper {f : Ty → Ty → Option Ty} {ok : Ty → Ty → Bool} (hf : UpperFor f ok) (xs ys zs : List Ty)
    (hz : tupleMerge f xs ys = some zs) (hl : xs.length = ys.length) (hok : all2 ok xs ys = true) :
    zs.length = xs.length ∧
      ∀ ns : List Name, structLoop is ns xs ns zs = .is ∧ structLoop is ns ys ns zs = .is := by
  induction xs generalizing ys zs with
  | nil => cases ys with
    | nil => cases hz; exact ⟨rfl, fun _ => ⟨rfl, rfl⟩⟩
    | cons _ _ => cases hl
  | cons x xs ih => cases ys with
    | nil => cases hl
    | cons y ys =>
      obtain ⟨r, rs, hxy, hrest, rfl⟩ := tupleMerge_cons_some hz
      rw [all2, Bool.and_eq_true] at hok
      have ⟨h1, h2⟩ := hf x y r hxy hok.1
      have ⟨l, st⟩ := ih ys rs hrest (Nat.succ.inj hl) hok.2
      refine ⟨congrArg (· + 1) l, fun ns => ?_⟩
      exact ⟨(structLoop_cons ..).mpr ⟨rfl, h1, (st ns.tail).1⟩, (structLoop_cons ..).mpr ⟨rfl, h2, (st ns.tail).2⟩⟩

theorem optFoldl_upper {f : Ty → Ty → Option Ty} {ok : Ty → Ty → Bool} (hf : UpperFor f ok) (alts : List Ty) (out c : Ty)
    (hc : optFoldl f out alts = some c) (hok : foldOk f ok out alts = true) :
    out.is c = .is ∧ ∀ alt ∈ alts, alt.is c = .is := by
  induction alts generalizing out with
  | nil => cases hc; exact ⟨is_refl _, fun _ h => nomatch h⟩
  | cons alt alts ih =>
    obtain ⟨out', hs, hc⟩ := optFoldl_cons_some hc
    rw [foldOk, Bool.and_eq_true, hs] at hok
    have ⟨h1, h2⟩ := hf out alt out' hs hok.1
    have ⟨h3, h4⟩ := ih out' hc hok.2
    exact ⟨is_trans h1 h3, List.forall_mem_cons.mpr ⟨is_trans h2 h3, h4⟩⟩

theorem upper_step {f : Ty → Ty → Option Ty} {ok : Ty → Ty → Bool} (hf : UpperFor f ok) :
    UpperFor (typeSumStep f) (shapeOkStep f ok) := by
  intro a b c hc hok
  obtain ⟨r, hr, hcase⟩ := typeSumStep_cases ok hc
  rw [hr] at hok
  cases hcase with
  | below h => exact ⟨h, is_refl _⟩
  | above h => exact ⟨is_refl _, h⟩
  | @struct ns1 ts1 ns2 ts2 tys hm =>
    simp only [Bool.and_eq_true, decide_eq_true_eq] at hok
    obtain ⟨⟨⟨⟨rfl, hs⟩, l1⟩, l2⟩, hall⟩ := hok
    rw [sortNames_self_append hs] at hm ⊢
    rw [structFields_pointwise f ns1 ts1 ts2 hs l1 l2] at hm
    have ⟨l, st⟩ := tupleMerge_upper hf ts1 ts2 tys hm (l1.symm.trans l2) hall
    exact ⟨(is_struct_struct ..).mpr ⟨l.symm, (st ns1).1⟩, (is_struct_struct ..).mpr ⟨(l.trans (l1.symm.trans l2)).symm, (st ns1).2⟩⟩
  | list hs =>
    have ⟨h3, h4⟩ := hf _ _ _ hs hok
    exact ⟨(is_list_list _ _).mpr h3, (is_list_list _ _).mpr h4⟩
  | @tuple ts1 ts2 tys hm =>
    simp only [Bool.and_eq_true, decide_eq_true_eq] at hok
    obtain ⟨hl, hall⟩ := hok
    -- equal lengths take the `else` branch of the tuple clause: the merge is `tupleMerge f ts2 ts1`, operands swapped
    rw [if_neg (Nat.lt_irrefl _ ∘ (hl ▸ ·))] at hm
    have ⟨l, st⟩ := tupleMerge_upper hf ts2 ts1 tys hm hl.symm hall
    exact ⟨(is_tuple_tuple ..).mpr ⟨(l.trans hl.symm).symm, tupleLoop_eq .. ▸ (st []).2⟩,
      (is_tuple_tuple ..).mpr ⟨l.symm, tupleLoop_eq .. ▸ (st []).1⟩⟩
  | unions h =>
    have ⟨h3, h4⟩ := optFoldl_upper hf _ _ c h hok
    exact ⟨h3, (is_union_l _ _).mpr h4⟩
  | swap _ h =>
    have ⟨h3, h4⟩ := hf _ _ c h hok
    exact ⟨h4, h3⟩
  | @merge pre a0 post _ r _ _ hsum =>
    have ⟨h3, h4⟩ := hf a0 b r hsum hok
    have hr' : r ∈ pre ++ r :: post := List.mem_append_right _ List.mem_cons_self
    exact ⟨(is_union_l _ _).mpr (forall_mem_replace (fun _ => is_union_of_mem) (is_into_union h3 hr')), is_into_union h4 hr'⟩
  | add _ _ =>
    exact ⟨(is_union_l _ _).mpr fun x hx => is_union_of_mem ((mem_sortById _ _).mpr (List.mem_append_left _ hx)),
      is_union_of_mem ((mem_sortById _ _).mpr (List.mem_append_right _ List.mem_cons_self))⟩
  | pair _ _ _ =>
    exact ⟨is_union_of_mem ((mem_sortById _ _).mpr List.mem_cons_self),
      is_union_of_mem ((mem_sortById _ _).mpr (List.mem_cons_of_mem _ List.mem_cons_self))⟩

theorem upperFor_F : ∀ (n : Nat), UpperFor (typeSumF n) (shapeOkF n)
  | 0 => fun _ _ _ h => nomatch h
  | n + 1 => upper_step (upperFor_F n)

/-- `typeSum` and `shapeOk` run with the same fuel `sumFuel a b` -/
theorem upperFor_typeSum : UpperFor typeSum shapeOk := fun a b => upperFor_F (sumFuel a b) a b

end Ty
end Octo
