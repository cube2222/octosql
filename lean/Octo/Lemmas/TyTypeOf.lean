import Octo.Lemmas.TySumUpper
/-! `Value.Type`: every value matches the type it reports (under ShapeCompatible element chains). -/
namespace Octo

open Ty

theorem Value.typeOfMany_eq_optMap (xs : List Value) : Value.typeOfMany xs = optMap Value.typeOf xs := by
  induction xs with
  | nil => rfl
  | cons x xs ih =>
    rw [Value.typeOfMany, optMap, ih]
    cases x.typeOf <;> cases optMap Value.typeOf xs <;> rfl

theorem Value.typeOf_list_inv {xs : List Value} {t : Ty} (h : (Value.list xs).typeOf = some t) :
    ∃ ts, optMap Value.typeOf xs = some ts ∧
      ((ts = [] ∧ t = .listNil) ∨ ∃ t0 ts' e, ts = t0 :: ts' ∧ optFoldl typeSum t0 ts' = some e ∧ t = .list e) := by
  rw [Value.typeOf, Value.typeOfMany_eq_optMap] at h
  cases hm : optMap Value.typeOf xs with
  | none => rw [hm] at h; cases h
  | some ts =>
    rw [hm] at h
    refine ⟨ts, rfl, ?_⟩
    cases ts with
    | nil => cases h; exact .inl ⟨rfl, rfl⟩
    | cons t0 ts' =>
      obtain ⟨e, he, rfl⟩ := Option.map_eq_some_iff.mp h
      exact .inr ⟨t0, ts', e, rfl, he, rfl⟩

theorem Value.typeOf_struct_inv {xs : List Value} {t : Ty} (h : (Value.struct xs).typeOf = some t) :
    ∃ ts, optMap Value.typeOf xs = some ts ∧ t = .struct (ts.map fun _ => []) ts := by
  rw [Value.typeOf, Value.typeOfMany_eq_optMap] at h
  obtain ⟨ts, hm, rfl⟩ := Option.map_eq_some_iff.mp h
  exact ⟨ts, hm, rfl⟩

theorem Value.typeOf_tuple_inv {xs : List Value} {t : Ty} (h : (Value.tuple xs).typeOf = some t) :
    ∃ ts, optMap Value.typeOf xs = some ts ∧ t = .tuple ts := by
  rw [Value.typeOf, Value.typeOfMany_eq_optMap] at h
  obtain ⟨ts, hm, rfl⟩ := Option.map_eq_some_iff.mp h
  exact ⟨ts, hm, rfl⟩

theorem Value.typeOfShapeOkMany_iff (xs : List Value) :
    Value.typeOfShapeOkMany xs = true ↔ ∀ x ∈ xs, x.typeOfShapeOk = true :=
  forall_mem_of_and_rec rfl (fun _ _ => rfl) xs

theorem conformsZip_typeOf (xs : List Value) (ts : List Ty) (hm : optMap Value.typeOf xs = some ts)
    (h : ∀ x ∈ xs, ∀ t, x.typeOf = some t → conforms t x = true) : conformsZip ts xs = true := by
  induction xs generalizing ts with
  | nil => cases hm; rfl
  | cons x xs ih =>
    obtain ⟨t, ts', ht, hts, rfl⟩ := optMap_cons_some hm
    have ⟨h0, hrest⟩ := List.forall_mem_cons.mp h
    rw [conformsZip, h0 t ht, ih ts' hts hrest]; rfl

theorem Value.typeOf_conforms (v : Value) : v.typeOfShapeOk = true → ∀ t, v.typeOf = some t → conforms t v = true := by
  induction v using Value.size_induction with
  | h v ih =>
    intro hok t ht
    cases v with
    | list xs =>
      rw [Value.typeOfShapeOk, Bool.and_eq_true, Value.typeOfShapeOkMany_iff] at hok
      obtain ⟨ts, hm, hts⟩ := Value.typeOf_list_inv ht
      rw [Value.typeOfMany_eq_optMap, hm] at hok
      have hmem : ∀ x ∈ xs, ∃ t' ∈ ts, conforms t' x = true := fun x hx =>
        have ⟨t', ht', hxt⟩ := (optMap_spec _ _ hm).2.2 x hx
        ⟨t', ht', ih x (Value.size_lt_of_mem hx) (hok.1 x hx) t' hxt⟩
      rcases hts with ⟨rfl, rfl⟩ | ⟨t0, ts', e, rfl, he, rfl⟩
      · cases xs with
        | nil => rfl
        | cons x xs => obtain ⟨_, h, _⟩ := hmem x List.mem_cons_self; cases h
      · have ⟨h0, hrest⟩ := optFoldl_upper upperFor_typeSum ts' t0 e he hok.2
        rw [conforms, List.all_eq_true]
        intro x hx
        obtain ⟨t', ht', hc⟩ := hmem x hx
        have hall : ∀ t ∈ t0 :: ts', t.is e = .is := List.forall_mem_cons.mpr ⟨h0, hrest⟩
        exact is_sound (hall t' ht') x hc
    | struct xs =>
      obtain ⟨ts, hm, rfl⟩ := Value.typeOf_struct_inv ht
      rw [Value.typeOfShapeOk, Value.typeOfShapeOkMany_iff] at hok
      exact conformsZip_typeOf xs ts hm fun x hx => ih x (Value.size_lt_of_mem hx) (hok x hx)
    | tuple xs =>
      obtain ⟨ts, hm, rfl⟩ := Value.typeOf_tuple_inv ht
      rw [Value.typeOfShapeOk, Value.typeOfShapeOkMany_iff] at hok
      exact conformsZip_typeOf xs ts hm fun x hx => ih x (Value.size_lt_of_mem hx) (hok x hx)
    | _ => cases ht; rfl

end Octo
