import Octo.Lemmas.TySumTotal
import Octo.Lemmas.TyTypeOf
/-! `Value.Type` on values none of whose struct parts has two or more fields: it never runs out of fuel and the type
    it reports is well formed (`Value.typeOf_spec`).  A struct value with two or more fields is reported with the
    field name `""` repeated (struct values carry no names), which is not well formed. -/
namespace Octo
open Ty

mutual
def Value.narrowStructs : Value → Bool
  | .list xs => Value.narrowStructsList xs
  | .struct xs => decide (xs.length ≤ 1) && Value.narrowStructsList xs
  | .tuple xs => Value.narrowStructsList xs
  | _ => true
def Value.narrowStructsList : List Value → Bool
  | [] => true
  | x :: xs => Value.narrowStructs x && Value.narrowStructsList xs
end

theorem Value.narrowStructsList_iff (xs : List Value) :
    Value.narrowStructsList xs = true ↔ ∀ x ∈ xs, x.narrowStructs = true :=
  forall_mem_of_and_rec rfl (fun _ _ => rfl) xs

/-- the element chain of the List case of `Value.Type` -/
theorem Ty.optFoldl_typeSum_spec (ts : List Ty) (t : Ty) (wt : wf t = true) (h : ∀ x ∈ ts, wf x = true) :
    ∃ e, optFoldl typeSum t ts = some e ∧ wf e = true := by
  induction ts generalizing t with
  | nil => exact ⟨t, rfl, wt⟩
  | cons x xs ih =>
    have ⟨wx, wxs⟩ := List.forall_mem_cons.mp h
    obtain ⟨s, hs⟩ := Option.isSome_iff_exists.mp (typeSum_total wt wx)
    rw [optFoldl, hs]
    exact ih s (typeSum_wf hs wt wx) wxs

theorem Value.typeOf_spec (v : Value) : v.narrowStructs = true → ∃ t, v.typeOf = some t ∧ t.wf = true := by
  induction v using Value.size_induction with
  | h v ih =>
    intro hv
    have sub : ∀ xs, (∀ x ∈ xs, x.size < v.size) → Value.narrowStructsList xs = true →
        ∃ ts, Value.typeOfMany xs = some ts ∧ ts.length = xs.length ∧ ∀ t ∈ ts, t.wf = true := fun xs hs hxs => by
      have part := fun x hx => ih x (hs x hx) ((Value.narrowStructsList_iff xs).mp hxs x hx)
      rw [Value.typeOfMany_eq_optMap]
      have tot : ∀ x ∈ xs, (x.typeOf).isSome = true := fun x hx => by
        obtain ⟨t, ht, _⟩ := part x hx
        rw [ht]; rfl
      obtain ⟨ts, hm⟩ := Option.isSome_iff_exists.mp (optMap_total xs tot)
      have ⟨hl, hfrom, _⟩ := optMap_spec _ _ hm
      refine ⟨ts, hm, hl, fun t ht => ?_⟩
      obtain ⟨x, hx, hxt⟩ := hfrom t ht
      obtain ⟨t', ht', wt'⟩ := part x hx
      cases ht'.symm.trans hxt
      exact wt'
    cases v with
    | list xs =>
      obtain ⟨ts, hm, _, wts⟩ := sub xs (fun _ => Value.size_lt_of_mem) hv
      rw [Value.typeOf, hm]
      cases ts with
      | nil => exact ⟨_, rfl, rfl⟩
      | cons t0 ts =>
        obtain ⟨e, he, we⟩ := optFoldl_typeSum_spec ts t0 (wts t0 List.mem_cons_self) fun x hx => wts x (List.mem_cons_of_mem _ hx)
        exact ⟨.list e, congrArg (Option.map Ty.list) he, we⟩
    | struct xs =>
      rw [Value.narrowStructs, Bool.and_eq_true, decide_eq_true_eq] at hv
      obtain ⟨ts, hm, hl, wts⟩ := sub xs (fun _ => Value.size_lt_of_mem) hv.2
      rw [Value.typeOf, hm]
      refine ⟨_, rfl, (wf_struct ..).mpr ⟨?_, List.length_map _, (wfList_iff _).mpr wts⟩⟩
      -- at most one field, hence at most one (empty) field name
      match ts, hl ▸ hv.1 with
      | [], _ => rfl
      | [_], _ => rfl
    | tuple xs =>
      obtain ⟨ts, hm, _, wts⟩ := sub xs (fun _ => Value.size_lt_of_mem) hv
      rw [Value.typeOf, hm]
      exact ⟨_, rfl, wf_tuple.mpr wts⟩
    | _ => exact ⟨_, rfl, rfl⟩

theorem Value.typeOf_wf (v : Value) (hv : v.narrowStructs = true) (t : Ty) (ht : v.typeOf = some t) : t.wf = true := by
  obtain ⟨t', ht', w⟩ := v.typeOf_spec hv
  cases ht'.symm.trans ht
  exact w

theorem Value.typeOf_total (v : Value) (hv : v.narrowStructs = true) : (v.typeOf).isSome = true := by
  obtain ⟨t, ht, _⟩ := v.typeOf_spec hv
  rw [ht]; rfl

end Octo
