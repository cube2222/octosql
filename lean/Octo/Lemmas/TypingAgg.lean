import Octo.Lemmas.TypingCall
import Octo.Lemmas.TypingKinds
/-! Aggregates: overload choice and output types of `GroupBy.Typecheck`, one group of `SimpleGroupBy`. -/
namespace Octo.Tc
open Octo Octo.Ty Octo.Gen.FuncTable

def aggProduces : AggKind → List Value → Value → Prop
  | .ctor tid, _, v => v.rank = tid
  | .input, xs, v => v ∈ xs
  | .inputs, xs, v => ∃ ys, v = .list ys ∧ ∀ y ∈ ys, y ∈ xs

/-- what the go/ast pass establishes about a `Trigger` method, `xs` being the (non-NULL) values added -/
def AggRespects (k : AggKind) (trigger : List Value → Res) : Prop := ∀ xs v, trigger xs = .val v → aggProduces k xs v

def aggKindOk (arg out : Ty) : AggKind → Bool
  | .ctor tid => match scalarOfId tid with
    | some s => s.is out == .is
    | none => false
  | .input => arg.is out == .is
  -- only the `TypeFn` aggregates (`array_agg`) yield the list of their inputs; they go through `aggSound_array`
  | .inputs => false

def AggSound (d : AggDescr) (trigger : List Value → Res) : Prop :=
  match d.typeFn with
  | none => ∀ xs v, (∀ x ∈ xs, conforms d.arg x = true) → trigger xs = .val v → conforms d.out v = true
  | some f => ∀ t o xs v, f t = some o → (∀ x ∈ xs, conforms t x = true) → trigger xs = .val v → conforms o v = true

theorem aggSound_static {d : AggDescr} {k : AggKind} {trigger : List Value → Res} (htf : d.typeFn = none)
    (hk : aggKindOk d.arg d.out k = true) (hr : AggRespects k trigger) : AggSound d trigger := by
  unfold AggSound; simp only [htf]
  intro xs v hx hv
  have hp := hr xs v hv
  cases k with
  -- a constructed scalar is the no-argument case of the function lemma: on `.ctor tid`, `aggKindOk _ out` unfolds to
  -- `kindOk [] out` and `aggProduces _ xs v` to `produces _ [] v`
  | ctor tid => exact kindOk_sound (argTys := []) (args := []) (k := .ctor tid) hk rfl hp
  | input => exact Ty.is_sound (beq_iff_eq.mp hk) v (hx v hp)
  | inputs => cases hk

theorem aggSound_array {d : AggDescr} {trigger : List Value → Res} (htf : d.typeFn = some aggTyFn)
    (hr : AggRespects .inputs trigger) : AggSound d trigger := by
  unfold AggSound; simp only [htf]
  intro t o xs v hf hx hv
  simp only [aggTyFn, Option.some.injEq] at hf; subst hf
  obtain ⟨ys, rfl, hys⟩ := hr xs v hv
  simp only [conforms, List.all_eq_true]
  intro y hy; exact hx y (hys y hy)

/-- `aggLift` is the nullable lifting of a strict call with one argument -/
theorem aggLift_spec {t out o : Ty} (h : aggLift t out = .ok o) (wo : wf out = true) :
    wf o = true ∧ (∀ v, conforms out v = true → conforms o v = true) ∧ (admitsNull t = true → conforms o .null = true) :=
  have ⟨w, mono, hnull⟩ := liftNull_spec [.var t 0] out o h wo
  ⟨w, mono, fun hn => hnull ⟨_, List.mem_cons_self, hn⟩⟩

theorem aggRun_spec (trigger : List Value → Res) (T : Ty) (rs : List Res) : ∀ (acc : List Value) (v : Value),
    (∀ r ∈ rs, ∀ w, r = .val w → conforms T w = true) → (∀ x ∈ acc, conforms T x = true ∧ x ≠ .null) →
    aggRun trigger rs acc = .val v →
    (v = .null ∧ acc = [] ∧ (rs = [] ∨ conforms T .null = true)) ∨
    (∃ xs, (∀ x ∈ xs, conforms T x = true ∧ x ≠ .null) ∧ trigger xs = .val v) := by
  induction rs with
  | nil =>
    intro acc v _ ha h
    rw [aggRun] at h
    split at h
    · next he => cases h; exact Or.inl ⟨rfl, List.isEmpty_iff.mp he, Or.inl rfl⟩
    · exact Or.inr ⟨acc.reverse, fun x hx => ha x (List.mem_reverse.mp hx), h⟩
  | cons r rest ih =>
    intro acc v hr ha h
    have hrest : ∀ r ∈ rest, ∀ w, r = .val w → conforms T w = true := fun r hr' => hr r (List.mem_cons_of_mem _ hr')
    cases r with
    | val w =>
      have hw := hr (.val w) List.mem_cons_self w rfl
      rw [aggRun] at h
      split at h
      · next hn =>
        cases (isNullV_iff w).mp hn
        -- the skipped input is NULL and a value of `T`: if the group then yields NULL for want of inputs, `T` admits it
        exact (ih acc v hrest ha h).imp_left fun ⟨h1, h2, _⟩ => ⟨h1, h2, Or.inr hw⟩
      · next hn =>
        refine (ih (w :: acc) v hrest (List.forall_mem_cons.mpr ⟨⟨hw, fun hh => hn ((isNullV_iff _).mpr hh)⟩, ha⟩) h).elim
          (fun ⟨_, h2, _⟩ => nomatch h2) Or.inr
    | _ => simp [aggRun] at h

/-- what the aggregate rule needs of a descriptor; a `TypeFn` descriptor has the zero `ArgumentType`, NULL -/
structure AggDescrOk (d : AggDescr) : Prop where
  param : d.typeFn = none → paramOk d.arg = true
  out_wf : d.typeFn = none → wf d.out = true
  tyfn_arg : ∀ f, d.typeFn = some f → d.arg = .null
  tyfn_wf : ∀ f, d.typeFn = some f → ∀ t o, wf t = true → f t = some o → wf o = true

def AggTableOk (ds : List AggDescr) : Prop := ∀ d ∈ ds, AggDescrOk d

theorem aggExact_spec (t : Ty) (ds : List (AggDescr × Nat)) (i : Nat) (o : Ty) : aggExact t ds = .ok (some (i, o)) →
    ∃ d, (d, i) ∈ ds ∧
      ((∃ f o0, d.typeFn = some f ∧ f t = some o0 ∧ aggLift t o0 = .ok o) ∨
       (d.typeFn = none ∧ ∃ an, typeSum d.arg .null = some an ∧ t.is an = .is ∧ aggLift t d.out = .ok o)) := by
  induction ds with
  | nil => intro h; cases h
  | cons dj rest ih =>
    intro h
    obtain ⟨d, j⟩ := dj
    have next := fun h' => (ih h').imp fun _ hd => And.intro (List.mem_cons_of_mem (d, j) hd.1) hd.2
    rw [aggExact] at h
    split at h
    · next f htf =>
      split at h
      · next o0 hf =>
        cases hl : aggLift t o0 <;> rw [hl] at h <;> cases h
        exact ⟨d, List.mem_cons_self, Or.inl ⟨f, o0, htf, hf, hl⟩⟩
      · exact next h
    · next htf =>
      split at h
      · cases h
      · next an hs =>
        split at h
        · next his =>
          cases hl : aggLift t d.out <;> rw [hl] at h <;> cases h
          exact ⟨d, List.mem_cons_self, Or.inr ⟨htf, an, hs, beq_iff_eq.mp his, hl⟩⟩
        · exact next h

theorem aggMaybe_spec (p : PExpr) (ds : List (AggDescr × Nat)) (i : Nat) (p' : PExpr) (o : Ty) :
    aggMaybe p ds = .ok (some (i, p', o)) →
    ∃ d, (d, i) ∈ ds ∧ (nonNullable p.ty).is d.arg = .maybe ∧ ∃ target at', typeSum d.arg .null = some target ∧
      typeInter target p.ty = some (some at') ∧ p' = .assert at' target p ∧ aggLift at' d.out = .ok o := by
  induction ds with
  | nil => intro h; cases h
  | cons dj rest ih =>
    intro h
    obtain ⟨d, j⟩ := dj
    rw [aggMaybe] at h
    split at h
    · next hm =>
      split at h
      · cases h
      · next target hs =>
        split at h <;> try cases h
        next at' hi =>
        cases hl : aggLift at' d.out <;> rw [hl] at h <;> cases h
        exact ⟨d, List.mem_cons_self, beq_iff_eq.mp hm, target, at', hs, hi, rfl, hl⟩
    · exact (ih h).imp fun _ hd => ⟨List.mem_cons_of_mem _ hd.1, hd.2⟩

/-- the tail of the aggregate rule, as `finish_sound` is that of the call rule; `t`: the argument type the descriptor is
    resolved at (its own, or for a `TypeFn` descriptor the type of the expression) -/
theorem aggFinish_sound {S : Sig} {Γ : Ctx} (d : AggDescr) {q : PExpr} {t o0 o : Ty} (hq : Sound S Γ q) (wo0 : wf o0 = true)
    (hl : aggLift q.ty o0 = .ok o)
    (hd : match d.typeFn with
      | some f => f t = some o0
      | none => t = d.arg ∧ o0 = d.out)
    (hfit : TyFit true q.ty t) :
    wf o = true ∧ ∀ trigger, AggSound d trigger → coalesceOk q = true →
      ∀ (ρs : List (List (List Value))), ρs ≠ [] → (∀ ρ ∈ ρs, EnvConforms Γ ρ) →
        ∀ v, aggRun trigger (ρs.map (fun ρ => eval S Γ ρ q)) [] = .val v → conforms o v = true := by
  have ⟨wo, mono, hnull⟩ := aggLift_spec hl wo0
  refine ⟨wo, ?_⟩
  intro trigger hts hpl ρs hne hρ v hv
  have hin : ∀ r ∈ ρs.map (fun ρ => eval S Γ ρ q), ∀ w, r = .val w → conforms q.ty w = true := by
    intro r hr w hw
    simp only [List.mem_map] at hr
    obtain ⟨ρ, hρm, rfl⟩ := hr
    exact hq.2 hpl ρ w (hρ ρ hρm) hw
  rcases aggRun_spec trigger q.ty _ [] v hin (by simp) hv with ⟨rfl, _, hc⟩ | ⟨xs, hxs, htr⟩
  · rcases hc with hc | hc
    · simp only [List.map_eq_nil_iff] at hc; exact absurd hc hne
    · exact hnull (admits_of_conforms_null hq.1 hc)
  · have hxt : ∀ x ∈ xs, conforms t x = true := fun x hx => hfit x (hxs x hx).1 fun _ => (hxs x hx).2
    refine mono v ?_
    unfold AggSound at hts
    split at hts
    · next htf => rw [htf] at hd; obtain ⟨rfl, rfl⟩ := hd; exact hts xs v hxt htr
    · next f htf => rw [htf] at hd; exact hts t o0 xs v hd hxt htr

theorem agg_sound {S : Sig} {Γ : Ctx} {ds : List AggDescr} {p p' : PExpr} {i : Nat} {o : Ty}
    (hp : Sound S Γ p) (hds : AggTableOk ds) (h : aggTypecheck ds p = .ok (i, p', o)) :
    Sound S Γ p' ∧ wf o = true ∧
    ∃ d, ds[i]? = some d ∧ ∀ trigger, AggSound d trigger → coalesceOk p' = true →
      ∀ (ρs : List (List (List Value))), ρs ≠ [] → (∀ ρ ∈ ρs, EnvConforms Γ ρ) →
        ∀ v, aggRun trigger (ρs.map (fun ρ => eval S Γ ρ p')) [] = .val v → conforms o v = true := by
  unfold aggTypecheck at h
  split at h
  · cases h
  · next j o' he =>
    cases h
    obtain ⟨d, hmem, hd⟩ := aggExact_spec p.ty _ i o he
    have hget := zipIdx_get hmem
    have hdm : d ∈ ds := List.mem_of_getElem? hget
    rcases hd with ⟨f, o0, htf, hf, hl⟩ | ⟨htf, an, hs, his, hl⟩
    · have ⟨wo, ht⟩ := aggFinish_sound d hp ((hds d hdm).tyfn_wf f htf p.ty o0 hp.1 hf) hl (by rw [htf]; exact hf)
        fun _ hv _ => hv
      exact ⟨hp, wo, d, hget, ht⟩
    · have ⟨wo, ht⟩ := aggFinish_sound d hp ((hds d hdm).out_wf htf) hl (by rw [htf]; exact ⟨rfl, rfl⟩) fun x hx hn =>
        ((typeSum_null_char hs x).mp (Ty.is_sound his x hx)).resolve_right (hn rfl)
      exact ⟨hp, wo, d, hget, ht⟩
  · split at h
    · cases h
    · next r hm =>
      cases h
      obtain ⟨d, hmem, hmaybe, target, at', hs, hi, rfl, hl⟩ := aggMaybe_spec p _ i p' o hm
      have hget := zipIdx_get hmem
      have hdm : d ∈ ds := List.mem_of_getElem? hget
      -- a `TypeFn` descriptor (ArgumentType NULL) never "maybe" fits
      have htf : d.typeFn = none := by
        cases htf : d.typeFn with
        | none => rfl
        | some f =>
          rw [(hds d hdm).tyfn_arg f htf] at hmaybe
          exact absurd hmaybe (nonNullable_is_null_ne_maybe hp.1)
      have ⟨hq, hfit⟩ := assertion_spec (strict := true) (a' := .assert at' target p) hp ((hds d hdm).param htf) hmaybe
        (by unfold assertion; simp only [if_true, hs, hi])
      have ⟨wo, ht⟩ := aggFinish_sound d hq ((hds d hdm).out_wf htf) hl (by rw [htf]; exact ⟨rfl, rfl⟩) hfit
      exact ⟨hq, wo, d, hget, ht⟩
    · cases h

end Octo.Tc
