import Octo.Lemmas.TypingSound
/-! Soundness of the function-call rule (`FunctionExpression.Typecheck`, `FunctionCall.Evaluate`): an exact pass, else the
    first descriptor that may fit, with run-time assertions inserted; nullable lifting and the NULL check for strict
    descriptors. -/
namespace Octo.Tc
open Octo Octo.Ty

/-- argument type first, parameter type second, as in `Ty.is`.  A strict descriptor's body sees no NULL (the NULL check of
    `FunctionCall.Evaluate` answers first), which is why `Typecheck` matches such a descriptor with the `NonNullable`
    argument types. -/
def TyFit (strict : Bool) (t p : Ty) : Prop :=
  ∀ v, conforms t v = true → (strict = true → v ≠ .null) → conforms p v = true

def FitAll (strict : Bool) (ps : List Ty) (args : List PExpr) : Prop :=
  ∀ vs, conformsZip (args.map PExpr.ty) vs = true → (strict = true → nullHit args vs = false) → conformsZip ps vs = true

theorem fitAll_nil {strict : Bool} : FitAll strict [] [] := fun _ hc _ => hc

theorem fitAll_cons {strict : Bool} {p : Ty} {ps : List Ty} {a : PExpr} {as : List PExpr} (wa : wf a.ty = true)
    (h : TyFit strict a.ty p) (hs : FitAll strict ps as) : FitAll strict (p :: ps) (a :: as) := by
  intro vs hc hn
  cases vs with
  | nil => cases hc
  | cons v vs =>
    rw [List.map_cons, conformsZip, Bool.and_eq_true] at hc
    rw [conformsZip, Bool.and_eq_true]
    have hn' : strict = true → (admitsNull a.ty && isNullV v) = false ∧ nullHit as vs = false := fun hst => by
      have := hn hst; rwa [nullHit, Bool.or_eq_false_iff] at this
    refine ⟨h v hc.1 fun hst hv => ?_, hs vs hc.2 fun hst => (hn' hst).2⟩
    -- a NULL argument value would have been caught by the NULL check
    subst hv
    have := (hn' hst).1
    rw [admits_of_conforms_null wa hc.1] at this
    cases this

/-- a declared parameter type other than `Any` is one of the six scalar types: what the assertions inserted by the
    second resolution pass need of it and of `p | NULL` -/
structure ScalarParam (p : Ty) : Prop where
  sumNull : typeSum p .null = some (.union [.null, p])
  anyIsnt : Ty.any.is p = .isnt
  flat : flatTarget p = true
  wfd : wf p = true
  flatNull : flatTarget (.union [.null, p]) = true
  wfdNull : wf (.union [.null, p]) = true

theorem param_scalar {p : Ty} (hp : paramOk p = true) (ha : p.isAny = false) : ScalarParam p := by
  cases p <;> first | contradiction | exact ⟨rfl, rfl, rfl, rfl, rfl, rfl⟩

def viewTy (strict : Bool) (t : Ty) : Ty := if strict then nonNullable t else t

abbrev viewTys (strict : Bool) (args : List PExpr) : List Ty := args.map fun a => viewTy strict a.ty

theorem viewTys_cons (strict : Bool) (a : PExpr) (as : List PExpr) :
    viewTys strict (a :: as) = viewTy strict a.ty :: viewTys strict as := rfl

theorem view_eq (d : Descr) (args : List PExpr) :
    view d (args.map PExpr.ty) ((args.map PExpr.ty).map nonNullable) = viewTys d.strict args := by
  unfold view viewTys viewTy
  cases d.strict <;> simp [List.map_map, Function.comp_def]

theorem viewTy_any (strict : Bool) : viewTy strict .any = .any := by cases strict <;> rfl

theorem viewTy_wf {strict : Bool} {t : Ty} (w : wf t = true) : wf (viewTy strict t) = true := by
  cases strict
  · exact w
  · exact nonNullable_wf w

theorem tyFit_of_is {strict : Bool} {p t : Ty} (wt : wf t = true) (h : (viewTy strict t).is p = .is) : TyFit strict t p := by
  intro v hv hn
  cases strict with
  | false => exact Ty.is_sound h v hv
  | true => exact Ty.is_sound h v (nonNullable_conforms_of_wf wt hv (hn rfl))

theorem fitAll_of_fitsAll (strict : Bool) (ps : List Ty) : ∀ (args : List PExpr), (∀ a ∈ args, wf a.ty = true) →
    (viewTys strict args).length = ps.length →
    fitsAll (viewTys strict args) ps = true → FitAll strict ps args := by
  induction ps with
  | nil => intro args _ hl _; cases args <;> first | exact fitAll_nil | cases hl
  | cons p ps ih =>
    intro args hw hl hf
    cases args with
    | nil => cases hl
    | cons a as =>
      rw [viewTys_cons, fitsAll, Bool.and_eq_true, beq_iff_eq] at hf
      exact fitAll_cons (hw a List.mem_cons_self) (tyFit_of_is (hw a List.mem_cons_self) hf.1)
        (ih as (fun b hb => hw b (List.mem_cons_of_mem _ hb)) (Nat.succ.inj hl) hf.2)

theorem fitAll_view (strict : Bool) : ∀ (args : List PExpr), (∀ a ∈ args, wf a.ty = true) →
    FitAll strict (viewTys strict args) args
  | [], _ => fitAll_nil
  | a :: as, hw =>
    fitAll_cons (hw a List.mem_cons_self) (tyFit_of_is (hw a List.mem_cons_self) (Ty.is_refl _))
      (fitAll_view strict as (fun b hb => hw b (List.mem_cons_of_mem _ hb)))

theorem assertion_spec {S : Sig} {Γ : Ctx} {strict : Bool} {p : Ty} {a a' : PExpr} (hs : Sound S Γ a)
    (hp : paramOk p = true) (hm : (viewTy strict a.ty).is p = .maybe) (h : assertion strict p a = .ok a') :
    Sound S Γ a' ∧ TyFit strict a'.ty p := by
  have hpa : p.isAny = false := isAny_eq_false_of_not_is fun h => Rel.noConfusion (hm.symm.trans h)
  have sp := param_scalar hp hpa
  have haa : a.ty.isAny = false := Bool.eq_false_iff.mpr fun h => by
    rw [eq_any_of_isAny h, viewTy_any, sp.anyIsnt] at hm; cases hm
  -- the target, flat and well formed, and what its non-NULL values are
  obtain ⟨target, ht, wt, ft, hfit⟩ : ∃ target, (if strict then typeSum p .null else some p) = some target ∧
      wf target = true ∧ flatTarget target = true ∧
      ∀ v, conforms target v = true → (strict = true → v ≠ .null) → conforms p v = true := by
    cases strict
    · exact ⟨p, rfl, sp.wfd, sp.flat, fun v hv _ => hv⟩
    · exact ⟨_, sp.sumNull, sp.wfdNull, sp.flatNull, fun v hv hnn =>
        ((typeSum_null_char sp.sumNull v).mp hv).resolve_right (hnn rfl)⟩
  unfold assertion at h
  simp only [ht] at h
  split at h <;> cases h
  next t hi =>
  exact ⟨assert_sound hs wt ft haa hi, fun v hv hnn => hfit v (Ty.is_sound (assert_below wt hs.1 hi) v hv) hnn⟩

theorem wrapArgs_spec {S : Sig} {Γ : Ctx} (strict : Bool) (ps : List Ty) : ∀ (args args' : List PExpr),
    (∀ a ∈ args, Sound S Γ a) → (∀ p ∈ ps, paramOk p = true) →
    (viewTys strict args).length = ps.length →
    anyIsnt (viewTys strict args) ps = false →
    wrapArgs strict (viewTys strict args) ps args = .ok args' →
    (∀ a ∈ args', Sound S Γ a) ∧ FitAll strict ps args' := by
  induction ps with
  | nil =>
    intro args args' _ _ hl _ h
    cases args with
    | nil => cases h; exact ⟨fun _ ha => (nomatch ha), fitAll_nil⟩
    | cons => cases hl
  | cons p ps ih =>
    intro args args' hs hp hl hn h
    cases args with
    | nil => cases hl
    | cons a as =>
    rw [viewTys_cons, anyIsnt, Bool.or_eq_false_iff, beq_eq_false_iff_ne] at hn
    rw [viewTys_cons, wrapArgs] at h
    have hsa := hs a List.mem_cons_self
    have rest := fun as' => ih as as' (fun b hb => hs b (List.mem_cons_of_mem _ hb))
      (fun q hq => hp q (List.mem_cons_of_mem _ hq)) (Nat.succ.inj hl) hn.2
    -- the head `b` of the result is sound and fits `p`, the tail is what the loop makes of the other arguments
    suffices ∃ b as', args' = b :: as' ∧ Sound S Γ b ∧ TyFit strict b.ty p ∧
        wrapArgs strict (viewTys strict as) ps as = .ok as' by
      obtain ⟨b, as', rfl, hb, hfb, hws⟩ := this
      have ⟨r1, r2⟩ := rest as' hws
      exact ⟨List.forall_mem_cons.mpr ⟨hb, r1⟩, fitAll_cons hb.1 hfb r2⟩
    split at h
    · next hm =>
      rw [beq_iff_eq] at hm
      split at h <;> cases h
      next a' as' has hws =>
      have ⟨k1, k2⟩ := assertion_spec hsa (hp p List.mem_cons_self) hm has
      exact ⟨a', as', rfl, k1, k2, hws⟩
    · next hm =>
      split at h <;> cases h
      next as' hws =>
      refine ⟨a, as', rfl, hsa, tyFit_of_is hsa.1 ?_, hws⟩
      cases hr : (viewTy strict a.ty).is p with
      | is => rfl
      | maybe => rw [hr] at hm; exact absurd rfl hm
      | isnt => exact absurd hr hn.1

theorem zipIdx_eq {α} (l : List α) : ∀ (k : Nat), zipIdx l k = l.zipIdx k := by
  induction l with
  | nil => exact fun _ => rfl
  | cons x xs ih => intro k; rw [zipIdx, ih, List.zipIdx_cons]

theorem zipIdx_get {α} {l : List α} {x : α} {i : Nat} (h : (x, i) ∈ zipIdx l) : l[i]? = some x :=
  List.mem_zipIdx_iff_getElem?.mp (zipIdx_eq l 0 ▸ h)

/-- the descriptor `d` fits the arguments exactly, with output type `o` -/
def ExactFit (args : List PExpr) (d : Descr) (o : Ty) : Prop :=
  match d.typeFn with
  | some f => f (viewTys d.strict args) = some (some o)
  | none => (viewTys d.strict args).length = d.args.length ∧ fitsAll (viewTys d.strict args) d.args = true ∧ o = d.out

theorem exactPass_spec (args : List PExpr) (ds : List (Descr × Nat)) (d : Descr) (i : Nat) (o : Ty) :
    ∀ (acc : Option (Descr × Nat × Ty)),
    exactPass (args.map PExpr.ty) ((args.map PExpr.ty).map nonNullable) ds acc = .ok (some (d, i, o)) →
    acc = some (d, i, o) ∨ ((d, i) ∈ ds ∧ ExactFit args d o) := by
  induction ds with
  | nil => intro acc h; cases h; exact Or.inl rfl
  | cons dj rest ih =>
    intro acc h
    obtain ⟨d', j⟩ := dj
    -- whatever the loop does with `(d', j)`, it goes on with the old accumulator or with `(d', j, o')` picked
    have keep := fun acc' h' => (ih acc' h').imp_right fun hr => And.intro (List.mem_cons_of_mem (d', j) hr.1) hr.2
    have pick : ∀ o', ExactFit args d' o' →
        exactPass (args.map PExpr.ty) ((args.map PExpr.ty).map nonNullable) rest (some (d', j, o')) = .ok (some (d, i, o)) →
        acc = some (d, i, o) ∨ ((d, i) ∈ (d', j) :: rest ∧ ExactFit args d o) := fun o' ho h =>
      Or.inr ((keep _ h).elim (fun e => by cases e; exact ⟨List.mem_cons_self, ho⟩) id)
    rw [exactPass, view_eq] at h
    split at h
    · next f htf =>
      split at h
      · cases h
      · next o' hf => exact pick o' (by unfold ExactFit; rw [htf]; exact hf) h
      · exact keep acc h
    · next htf =>
      by_cases hlen : (viewTys d'.strict args).length = d'.args.length
      case neg => rw [if_pos hlen] at h; exact keep acc h
      rw [if_neg (not_not_intro hlen)] at h
      split at h
      · next hfit => exact pick _ (by unfold ExactFit; rw [htf]; exact ⟨hlen, hfit, rfl⟩) h
      · exact keep acc h

theorem maybePass_spec (args : List PExpr) (ds : List (Descr × Nat)) (d : Descr) (i : Nat) (args' : List PExpr) :
    maybePass args (args.map PExpr.ty) ((args.map PExpr.ty).map nonNullable) ds = .ok (some (d, i, args')) →
    (d, i) ∈ ds ∧ d.typeFn = none ∧ (viewTys d.strict args).length = d.args.length ∧
      anyIsnt (viewTys d.strict args) d.args = false ∧
      wrapArgs d.strict (viewTys d.strict args) d.args args = .ok args' := by
  induction ds with
  | nil => intro h; cases h
  | cons di rest ih =>
    intro h
    obtain ⟨d0, i0⟩ := di
    have next := fun h' => (ih h').imp_left (List.mem_cons_of_mem (d0, i0))
    rw [maybePass, view_eq] at h
    -- the descriptor is skipped unless it is static, has as many parameters as there are arguments, and may fit
    by_cases htf : d0.typeFn.isSome = true
    · rw [if_pos htf] at h; exact next h
    by_cases hlen : (viewTys d0.strict args).length = d0.args.length
    case neg => rw [if_neg htf, if_pos hlen] at h; exact next h
    by_cases hni : anyIsnt (viewTys d0.strict args) d0.args = true
    · rw [if_neg htf, if_neg (not_not_intro hlen), if_pos hni] at h; exact next h
    rw [if_neg htf, if_neg (not_not_intro hlen), if_neg hni] at h
    split at h <;> cases h
    next hw =>
    exact ⟨List.mem_cons_self, Option.not_isSome_iff_eq_none.mp htf, hlen, Bool.eq_false_iff.mpr hni, hw⟩

theorem liftNull_spec (args : List PExpr) : ∀ (o t : Ty), liftNull o args = .ok t → wf o = true →
    wf t = true ∧ (∀ v, conforms o v = true → conforms t v = true) ∧
    ((∃ a ∈ args, admitsNull a.ty = true) → conforms t .null = true) := by
  induction args with
  | nil => intro o t h wo; cases h; exact ⟨wo, fun _ hv => hv, fun ⟨_, ha, _⟩ => nomatch ha⟩
  | cons a as ih =>
    intro o t h wo
    rw [liftNull] at h
    split at h
    · next hn =>
      split at h
      · next o' hs =>
        have ⟨w, mono, _⟩ := ih o' t h (typeSum_wf hs wo wf_null)
        exact ⟨w, fun v hv => mono v ((typeSum_null_char hs v).mpr (Or.inl hv)),
          fun _ => mono .null ((typeSum_null_char hs .null).mpr (Or.inr rfl))⟩
      · cases h
    · next hn =>
      have ⟨w, mono, hnull⟩ := ih o t h wo
      refine ⟨w, mono, fun ⟨b, hb, hbn⟩ => ?_⟩
      cases hb with
      | head => exact absurd hbn hn
      | tail _ hb => exact hnull ⟨b, hb, hbn⟩

theorem nullHit_exists (args : List PExpr) : ∀ (vs : List Value), nullHit args vs = true → ∃ a ∈ args, admitsNull a.ty = true := by
  induction args with
  | nil => intro _ h; cases h
  | cons a as ih =>
    intro vs h
    cases vs with
    | nil => cases h
    | cons v vs =>
      rw [nullHit, Bool.or_eq_true, Bool.and_eq_true] at h
      rcases h with h | h
      · exact ⟨a, List.mem_cons_self, h.1⟩
      · obtain ⟨b, hb, hbn⟩ := ih vs h
        exact ⟨b, List.mem_cons_of_mem _ hb, hbn⟩

/-- `ps`: the parameter types the descriptor is resolved at (its own, or for a `TypeFn` descriptor the argument types as
    it sees them) -/
theorem finish_sound {S : Sig} {Γ : Ctx} {name : Name} {d : Descr} {i : Nat} {o : Ty} {ps : List Ty} {args : List PExpr}
    {p : PExpr} (hargs : ∀ a ∈ args, Sound S Γ a) (wo : wf o = true) (hsound : DescrSound d (S.body name i))
    (hd : match d.typeFn with
      | some f => f ps = some (some o)
      | none => ps = d.args ∧ o = d.out)
    (hfit : FitAll d.strict ps args) (h : finishCall name d i o args = .ok p) : Sound S Γ p := by
  -- the type of the call is `o`, lifted over the nullable arguments of a strict descriptor
  obtain ⟨t, rfl, wt, mono, hnull⟩ : ∃ t, p = .call t name i d.strict args ∧ wf t = true ∧
      (∀ v, conforms o v = true → conforms t v = true) ∧
      (d.strict = true → (∃ a ∈ args, admitsNull a.ty = true) → conforms t .null = true) := by
    unfold finishCall at h
    cases hst : d.strict <;> rw [hst] at h
    · cases h; exact ⟨o, rfl, wo, fun _ hv => hv, fun hs => nomatch hs⟩
    · cases hl : liftNull o args <;> simp only [hl, if_true] at h <;> cases h
      have ⟨wt, mono, hnull⟩ := liftNull_spec args o _ hl wo
      exact ⟨_, rfl, wt, mono, fun _ => hnull⟩
  refine ⟨wt, fun hp ρ v he hv => ?_⟩
  rw [eval] at hv
  obtain ⟨vs, hea, hv⟩ := evalArgs_val hv
  have hc := evalArgs_conforms S Γ ρ args vs (sound_vals hargs hp he) hea
  split at hv
  · next hh =>
    rw [Bool.and_eq_true] at hh
    cases hv; exact hnull hh.1 (nullHit_exists args vs hh.2)
  · next hh =>
    have hps := hfit vs hc fun hs => by rwa [hs, Bool.true_and, Bool.not_eq_true] at hh
    refine mono v ?_
    unfold DescrSound at hsound
    split at hsound
    · next htf => rw [htf] at hd; obtain ⟨rfl, rfl⟩ := hd; exact hsound vs v hps hv
    · next f htf => rw [htf] at hd; exact hsound ps o vs v hd hps hv

theorem call_sound {S : Sig} {Γ : Ctx} (hS : SigOk S) (name : Name) (args : List PExpr) (p : PExpr)
    (hargs : ∀ a ∈ args, Sound S Γ a) (h : typecheckCall S name args = .ok p) : Sound S Γ p := by
  have hw : ∀ a ∈ args, wf a.ty = true := fun a ha => (hargs a ha).1
  unfold typecheckCall at h
  dsimp only at h
  split at h
  · cases h
  · next d i o he =>
    rcases exactPass_spec args _ d i o none he with hr | ⟨hmem, hpick⟩
    · cases hr
    have hget := zipIdx_get hmem
    have hd : d ∈ S.descrs name := List.mem_of_getElem? hget
    unfold ExactFit at hpick
    split at hpick
    · next f htf =>
      have wo : wf o = true := hS.tyfn_wf name d f hd htf _ o (fun t ht => by
        obtain ⟨a, ha, rfl⟩ := List.mem_map.mp ht
        exact viewTy_wf (hw a ha)) hpick
      exact finish_sound hargs wo (hS.sound name i d hget) (by rw [htf]; exact hpick) (fitAll_view d.strict args hw) h
    · next htf =>
      obtain ⟨hlen, hfit, rfl⟩ := hpick
      exact finish_sound hargs (hS.out_wf name d hd) (hS.sound name i d hget) (by rw [htf]; exact ⟨rfl, rfl⟩)
        (fitAll_of_fitsAll d.strict d.args args hw hlen hfit) h
  · split at h
    · cases h
    · next d i args' hm =>
      have ⟨hmem, htf, hlen, hni, hwrap⟩ := maybePass_spec args _ d i args' hm
      have hget := zipIdx_get hmem
      have hd : d ∈ S.descrs name := List.mem_of_getElem? hget
      have ⟨hargs', hfit⟩ := wrapArgs_spec (S := S) (Γ := Γ) d.strict d.args args args' hargs (hS.params name d hd) hlen hni hwrap
      exact finish_sound hargs' (hS.out_wf name d hd) (hS.sound name i d hget) (by rw [htf]; exact ⟨rfl, rfl⟩) hfit h
    · cases h

end Octo.Tc
