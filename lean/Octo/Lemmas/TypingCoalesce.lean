import Octo.Lemmas.TypingSound
import Octo.Lemmas.Coalesce
/-! Soundness of the COALESCE rule (`coalesce_sound`): the loop of `Coalesce.Evaluate`, given that the result type `Hosts`
    every argument type.  Over struct-, tuple- and `Any`-free argument types the fixer is the identity and the result type
    is an upper bound (`hosts_plain`); over objects, tuples and lists the result type `Covers` the argument types
    (`hosts_covered`). -/
namespace Octo.Tc
open Octo Octo.Ty

/-- the result type `T` hosts the argument type `s`: a value of `s`, its layout fixed with the mapping that `Materialize`
    computed for the pair, is a value of `T` -/
def Hosts (T s : Ty) : Prop :=
  ∀ m w r, Coal.calcMapping (Ty.size T + Ty.size s + 1) T s = some m → conforms s w = true →
    Coal.fixLayout (Coal.fuelFor w) m w = some r → conforms T r = true

theorem hosts_any (s : Ty) : Hosts .any s := fun _ _ _ _ _ _ => rfl

theorem evalCoalesce_sound (S : Sig) (Γ : Ctx) (ρ : List (List Value)) (T : Ty) :
    ∀ (ms : List Coal.Mapping) (args : List PExpr) (v : Value),
      (∀ a ∈ args, (∀ w, eval S Γ ρ a = .val w → conforms a.ty w = true) ∧ Hosts T a.ty) →
      layoutMappings T args = some ms → (conforms T .null = true ∨ args ≠ []) →
      evalCoalesce S Γ ρ ms args = .val v → conforms T v = true := by
  intro ms args
  induction args generalizing ms with
  | nil =>
    intro v _ hm hn h
    simp only [layoutMappings, List.mapM_nil, Option.pure_def, Option.some.injEq] at hm
    subst hm
    simp only [evalCoalesce, Res.val.injEq] at h
    subst h
    exact hn.elim id fun hne => absurd rfl hne
  | cons a as ih =>
    intro v hs hm _ h
    obtain ⟨m, ms', hma, hmas, rfl⟩ := List.mapM_cons_some hm
    have ⟨hval, hfix⟩ := hs a List.mem_cons_self
    rw [evalCoalesce] at h
    obtain ⟨w, hav, h⟩ := Res.val_of_match h
    have hcw := hval w hav
    split at h
    · next hnull =>
      cases (isNullV_iff w).mp hnull
      -- the skipped NULL is a value of the argument type, so `T`, which hosts that type, admits NULL: should every
      -- argument be skipped, the NULL the loop then returns is a value of `T` (the first disjunct of the hypothesis)
      exact ih ms' v (fun b hb => hs b (List.mem_cons_of_mem _ hb)) hmas (Or.inl (hfix m .null .null hma hcw rfl)) h
    · split at h <;> cases h
      next hf => exact hfix m w v hma hcw hf

theorem plainData_noRec (t : Ty) : plainData t = true → noRec t = true := by
  -- by the recursor of the nested inductive `Ty` (`motive_2` speaks of a list of component types); its goals come in the
  -- order of the constructors: eight leaves, list, struct, tuple, union, `Any`, then `[]` and `::` of the list
  refine Ty.rec (motive_1 := fun t => plainData t = true → noRec t = true)
    (motive_2 := fun ts => plainDataList ts = true → noRecList ts = true) ?_ ?_ ?_ ?_ ?_ ?_ ?_ ?_ ?_ ?_ ?_ ?_ ?_ ?_ ?_ t
  iterate 8 exact fun _ => rfl
  · intro e ih h
    rw [plainData] at h; rw [noRec]; exact ih h
  · intro _ _ _ h; cases h
  · intro _ _ h; cases h
  · intro alts ih h
    rw [plainData] at h; rw [noRec]; exact ih h
  · intro h; cases h
  · exact fun _ => rfl
  · intro t ts iht ihts h
    rw [plainDataList, Bool.and_eq_true] at h
    rw [noRecList, Bool.and_eq_true]; exact ⟨iht h.1, ihts h.2⟩

theorem conforms_plainData_noRecV (t : Ty) : ∀ (v : Value), plainData t = true → conforms t v = true → v.noRecV = true := by
  -- goals in constructor order, as at `plainData_noRec`
  refine Ty.rec (motive_1 := fun t => ∀ v, plainData t = true → conforms t v = true → v.noRecV = true)
    (motive_2 := fun ts => ∀ v, plainDataList ts = true → conformsAny ts v = true → v.noRecV = true)
    ?_ ?_ ?_ ?_ ?_ ?_ ?_ ?_ ?_ ?_ ?_ ?_ ?_ ?_ ?_ t
  iterate 7
    intro v _ hc
    -- a value of a scalar type has the rank of that type, at most 6
    have hr : v.rank ≤ 6 := rank_of_conforms_plain rfl rfl hc ▸ (by decide)
    exact (leafValue_spec hr).2
  · intro v _ hc
    cases conforms_listNil_inv hc; rfl
  · intro e ih v hp hc
    obtain ⟨xs, rfl, hxs⟩ := conforms_list_inv hc
    rw [plainData] at hp
    rw [Value.noRecV, Value.noRecVList_iff]
    exact fun x hx => ih x hp (hxs x hx)
  · intro _ _ _ _ hp; cases hp
  · intro _ _ _ hp; cases hp
  · intro alts ih v hp hc
    rw [plainData] at hp
    rw [conforms] at hc
    exact ih v hp hc
  · intro _ hp; cases hp
  · intro _ _ hc; cases hc
  · intro t ts iht ihts v hp hc
    rw [plainDataList, Bool.and_eq_true] at hp
    rw [conformsAny, Bool.or_eq_true] at hc
    exact hc.elim (iht v hp.1) (ihts v hp.2)

theorem mapM_id_of_forall {α} (f : α → Option α) (l r : List α) (hf : ∀ x ∈ l, ∀ y, f x = some y → y = x)
    (h : l.mapM f = some r) : r = l := by
  refine (List.map_inj_right fun _ _ => Option.some.inj).mp
    ((List.mapM_eq_some_iff.mp h).symm.trans (List.map_congr_left fun x hx => ?_))
  obtain ⟨y, _, e⟩ := List.mapM_mem_left h hx
  rw [e, hf x hx y e]

/-- `ObjectLayoutFixer.fixLayout` returns a value without objects and tuples unchanged -/
theorem fixLayout_id : ∀ (fuel : Nat) (m : Coal.Mapping) (v r : Value), v.noRecV = true → Coal.fixLayout fuel m v = some r → r = v := by
  intro fuel
  induction fuel with
  | zero => intro m v r _ h; cases h
  | succ n ih =>
    intro m v r hn h
    cases v with
    | struct xs => cases hn
    | tuple xs => cases hn
    | list xs =>
      rw [Value.noRecV] at hn
      simp only [Coal.fixLayout] at h
      split at h
      · cases h; rfl
      · cases h
      · next em _ _ _ =>
        split at h <;> cases h
        next ys hm =>
        rw [mapM_id_of_forall _ _ ys (fun y hy z hz => ih em y z ((Value.noRecVList_iff _).mp hn y hy) hz) hm]
    | _ => cases h; rfl

theorem hosts_plain {T s : Ty} (hp : plainData s = true) (his : s.is T = .is) : Hosts T s := fun m w r _ hcw hf => by
  rw [fixLayout_id _ m w r (conforms_plainData_noRecV s w hp hcw) hf]
  exact Ty.is_sound his w hcw

/- From here on C13's names are open: `conforms` alone would be ambiguous between C13's specification (`Spec13.conforms`)
   and C10's `Octo.conforms`, so every statement below names the one it means. -/
open Octo.Coal Octo.Spec13

theorem conforms13_eq (t : Ty) : ∀ (v : Value), Spec13.conforms t v = Octo.conforms t v := by
  -- goals in constructor order, as at `plainData_noRec`; of a list of types: the two field loops agree, and so do the
  -- two alternative loops
  refine Ty.rec (motive_1 := fun t => ∀ v, Spec13.conforms t v = Octo.conforms t v)
    (motive_2 := fun ts => (∀ xs, Spec13.conformsEach ts xs = Octo.conformsZip ts xs) ∧
      ∀ v, Spec13.conformsAny ts v = Octo.conformsAny ts v) ?_ ?_ ?_ ?_ ?_ ?_ ?_ ?_ ?_ ?_ ?_ ?_ ?_ ?_ ?_ t
  iterate 8 exact fun v => by cases v <;> rfl
  · intro e ih v
    cases v <;> first | rfl | skip
    rw [Spec13.conforms, Octo.conforms, funext ih]
  · intro _ ts ih v
    cases v <;> first | rfl | skip
    rw [Spec13.conforms, Octo.conforms]; exact ih.1 _
  · intro ts ih v
    cases v <;> first | rfl | skip
    rw [Spec13.conforms, Octo.conforms]; exact ih.1 _
  · intro alts ih v
    rw [Spec13.conforms, Octo.conforms]; exact ih.2 v
  · exact fun v => by cases v <;> rfl
  · exact ⟨fun xs => by cases xs <;> rfl, fun _ => rfl⟩
  · intro t ts iht ihts
    refine ⟨fun xs => ?_, fun v => by rw [Spec13.conformsAny, Octo.conformsAny, iht v, ihts.2 v]⟩
    cases xs with
    | nil => rfl
    | cons x xs => rw [Spec13.conformsEach, Octo.conformsZip, iht x, ihts.1 xs]

/-- the target type hosts every value of the source type after `ObjectLayoutFixer` has re-laid it out: object fields by
    name (a field the source lacks must admit NULL in the target), tuples padded with NULL, through lists and unions.
    It refines C13's `Fits` (which only says that the fixer does not panic) with what type soundness needs. -/
inductive Covers : Ty → Ty → Prop
  | srcUnion (t : Ty) (alts : List Ty) : (∀ a, a ∈ alts → Covers t a) → Covers t (.union alts)
  | tgtUnion (talts : List Ty) (s ta : Ty) : Concrete s → findAlt s.id talts = some ta → Covers ta s →
      Covers (.union talts) s
  | leaf (t : Ty) : t.id ≤ 6 → Covers t t
  | struct (tn : List Name) (tt : List Ty) (sn : List Name) (st : List Ty) :
      (∀ n ft j sj, (n, ft) ∈ tn.zip tt → lastIndexOf sn n = some j → st[j]? = some sj → Covers ft sj) →
      (∀ n ft, (n, ft) ∈ tn.zip tt → lastIndexOf sn n = none → Octo.conforms ft .null = true) →
      Covers (.struct tn tt) (.struct sn st)
  | listNilSrc (te : Ty) : Covers (.list te) .listNil
  | listNilBoth : Covers .listNil .listNil
  | list (te se : Ty) : Covers te se → Covers (.list te) (.list se)
  | tuple (te se : List Ty) : se.length ≤ te.length →
      (∀ ft sj, (ft, sj) ∈ te.zip se → Covers ft sj) →
      (∀ ft, ft ∈ te.drop se.length → Octo.conforms ft .null = true) →
      Covers (.tuple te) (.tuple se)

theorem covers_fits {t s : Ty} (h : Covers t s) : Fits t s := by
  induction h with
  | srcUnion t alts _ ih => exact Fits.srcUnion t alts ih
  | tgtUnion talts s ta hc hf _ ih => exact Fits.tgtUnion talts s ta hc hf ih
  | leaf t hl => exact Fits.scalar t t (scalar_of_id hl).1 hl
  | struct tn tt sn st _ _ ih => exact Fits.struct tn tt sn st ih
  | listNilSrc te => exact Fits.listNilSrc te
  | listNilBoth => exact Fits.listNilBoth
  | list te se _ ih => exact Fits.list te se ih
  | tuple te se hl _ _ ih =>
    exact Fits.tuple te se hl fun i ft sj hi hs => ih ft sj (List.mem_of_getElem? (List.getElem?_zip_eq_some.mpr ⟨hi, hs⟩))

theorem concrete_plain {t : Ty} (h : Concrete t) : plain t :=
  ⟨isUnion_eq_false h.1, (Bool.eq_false_or_eq_true t.isAny).resolve_left fun ha => h.2 (eq_any_of_isAny ha)⟩

theorem conformsZip_map_zip (f : Name × Ty → Value) (tn : List Name) : ∀ (tt : List Ty), tn.length = tt.length →
    (∀ p ∈ tn.zip tt, Octo.conforms p.2 (f p) = true) → conformsZip tt ((tn.zip tt).map f) = true := by
  induction tn with
  | nil => intro tt hl _; cases tt <;> first | rfl | cases hl
  | cons n tn ih =>
    intro tt hl h
    cases tt with
    | nil => cases hl
    | cons t tt =>
      rw [List.zip_cons_cons, List.map_cons, conformsZip, Bool.and_eq_true]
      exact ⟨h (n, t) List.mem_cons_self, ih tt (Nat.succ.inj hl) fun p hp => h p (List.mem_cons_of_mem _ hp)⟩

theorem value_size_pos (v : Value) : 0 < Value.size v := Value.size_pos v

theorem conformsZip_relayoutElems (rec : Ty → Ty → Value → Value) (te : List Ty) : ∀ (se : List Ty) (xs : List Value),
    conformsZip se xs = true →
    (∀ ft sj x, (ft, sj) ∈ te.zip se → x ∈ xs → Octo.conforms sj x = true → Octo.conforms ft (rec ft sj x) = true) →
    (∀ ft, ft ∈ te.drop se.length → Octo.conforms ft .null = true) →
    conformsZip te (relayoutElems rec te se xs) = true := by
  induction te with
  | nil => intros; rw [relayoutElems]; rfl
  | cons ft te ih =>
    intro se xs hc h2 h3
    cases se with
    | nil =>
      cases xs with
      | cons => cases hc
      | nil =>
        rw [relayoutElems, conformsZip, Bool.and_eq_true]
        · exact ⟨h3 ft List.mem_cons_self, ih [] [] rfl (fun _ _ _ hp => by rw [List.zip_nil_right] at hp; cases hp) fun ft' hm => h3 ft' (List.mem_cons_of_mem _ hm)⟩
        · intro _ _ _ _ _ h; cases h
    | cons sj se =>
      cases xs with
      | nil => cases hc
      | cons x xs =>
        rw [conformsZip, Bool.and_eq_true] at hc
        rw [relayoutElems, conformsZip, Bool.and_eq_true]
        exact ⟨h2 ft sj x List.mem_cons_self List.mem_cons_self hc.1, ih se xs hc.2
          (fun ft' sj' x' hp hx => h2 ft' sj' x' (List.mem_cons_of_mem _ hp) (List.mem_cons_of_mem _ hx)) h3⟩

theorem conforms_relayoutField (rec : Ty → Ty → Value → Value) {sn : List Name} {st : List Ty} {xs : List Value}
    (hva : conformsZip st xs = true) (hlen : sn.length = st.length) {n : Name} {ft : Ty}
    (hsome : ∀ j sj x, firstIndexOf sn n = some j → st[j]? = some sj → xs[j]? = some x →
      Octo.conforms ft (rec ft sj x) = true)
    (hnone : firstIndexOf sn n = none → Octo.conforms ft .null = true) :
    Octo.conforms ft (relayoutField rec sn st xs (n, ft)) = true := by
  cases hfi : firstIndexOf sn n with
  | none => simp only [relayoutField, hfi]; exact hnone hfi
  | some j =>
    have hjs : j < st.length := hlen ▸ firstIndexOf_lt hfi
    have hjx : j < xs.length := conformsZip_length _ _ hva ▸ hjs
    simp only [relayoutField, hfi, List.getElem?_eq_getElem hjx, List.getElem?_eq_getElem hjs]
    exact hsome j _ _ hfi (List.getElem?_eq_getElem hjs) (List.getElem?_eq_getElem hjx)

theorem size_lt_of_part {x : Value} {xs : List Value} {fr : Nat} (hx : x ∈ xs) (h : 1 + Value.sizeList xs < fr + 1) :
    x.size < fr :=
  Nat.lt_of_lt_of_le (Value.size_lt_of_mem hx) (Nat.le_of_lt_succ h)

/-- by induction on the derivation of `Covers`, as C13's `solved_all` follows `Fits`: the two union rules pick the
    alternative without spending fuel, the other rules spend one unit on the value itself -/
theorem covers_conforms {t s : Ty} (hcov : Covers t s) : NormTy t → NormTy s → ∀ (v : Value) (fr : Nat), Value.size v < fr →
    Octo.conforms s v = true → Octo.conforms t (relayout fr t s v) = true := by
  induction hcov with
  | srcUnion t alts _ ih =>
    intro ht hs v fr hsz hv
    have ⟨hcs, hns, hp⟩ := normTy_union_inv hs
    obtain ⟨a, ha, hav⟩ := (conforms_union_iff alts v).mp hv
    have ca := concrete_plain (hcs a ha)
    rw [relayout_congr fr t t (.union alts) a v rfl
      (by rw [rank_of_conforms_plain ca.1 ca.2 hav, altFor_union_of_mem hp ha, altFor_concrete (hcs a ha)])]
    exact ih a ha ht (hns a ha) v fr hsz hav
  | tgtUnion talts s ta hc hf _ ih =>
    intro ht hs v fr hsz hv
    have ⟨hm, _⟩ := findAlt_some hf
    have ⟨hcs, hns, _⟩ := normTy_union_inv ht
    have cs := concrete_plain hc
    rw [relayout_congr fr (.union talts) ta s s v
      (by rw [rank_of_conforms_plain cs.1 cs.2 hv, altFor_concrete (hcs ta hm), altFor, hf]; rfl) rfl]
    exact (conforms_union_iff _ _).mpr ⟨ta, hm, ih (hns ta hm) hs v fr hsz hv⟩
  | leaf t hl =>
    intro _ _ v fr _ hv
    rw [relayout_leaf _ _ _ _ (leaf_of_conforms_scalar hl (by rw [conforms13_eq]; exact hv))]
    exact hv
  | struct tn tt sn st h1 h2 ih =>
    intro ht hs v fr hsz hv
    have ⟨hnd, hlen, hnst⟩ := normTy_struct_inv hs
    have ⟨_, hlent, hntt⟩ := normTy_struct_inv ht
    obtain ⟨xs, rfl, hxs⟩ := conforms_struct_inv hv
    cases fr with
    | zero => cases hsz
    | succ fr =>
    unfold relayout
    simp only [altFor, relayoutStruct, Octo.conforms, Value.size] at hsz ⊢
    apply conformsZip_map_zip _ tn tt hlent
    intro ⟨n, ft⟩ hp
    -- `Covers` (like `calculateMapping`) finds a source field by the LAST index of its name, the specification
    -- `relayoutField` by the first: the two agree because the field names of a normal-form type are distinct
    have hlast := lastIndexOf_eq_first n sn hnd
    refine conforms_relayoutField _ hxs hlen (fun j sj x hfi hsj hx => ?_) fun hfi => h2 n ft hp (hlast.trans hfi)
    exact ih n ft j sj hp (hlast.trans hfi) hsj (hntt ft (List.of_mem_zip hp).2) (hnst _ (List.mem_of_getElem? hsj)) x fr
      (size_lt_of_part (List.mem_of_getElem? hx) hsz) (conformsZip_get st xs j sj x hxs hsj hx)
  | listNilSrc te =>
    intro _ _ v fr _ hv
    cases conforms_listNil_inv hv
    cases fr <;> rfl
  | listNilBoth =>
    intro _ _ v fr _ hv
    cases conforms_listNil_inv hv
    cases fr <;> rfl
  | list te se _ ih =>
    intro ht hs v fr hsz hv
    obtain ⟨xs, rfl, hxs⟩ := conforms_list_inv hv
    cases fr with
    | zero => cases hsz
    | succ fr =>
    unfold relayout
    simp only [altFor, Octo.conforms, List.all_map, List.all_eq_true, Function.comp, Value.size] at hsz ⊢
    exact fun x hx => ih (normTy_list_inv ht) (normTy_list_inv hs) x fr (size_lt_of_part hx hsz) (hxs x hx)
  | tuple te se hl h2 h3 ih =>
    intro ht hs v fr hsz hv
    obtain ⟨xs, rfl, hxs⟩ := conforms_tuple_inv hv
    cases fr with
    | zero => cases hsz
    | succ fr =>
    unfold relayout
    simp only [altFor, relayoutTuple, Octo.conforms, Value.size] at hsz ⊢
    refine conformsZip_relayoutElems _ te se xs hxs (fun ft sj x hp hx hcx => ?_) h3
    exact ih ft sj hp (normTy_tuple_inv ht ft (List.of_mem_zip hp).1) (normTy_tuple_inv hs sj (List.of_mem_zip hp).2)
      x fr (size_lt_of_part hx hsz) hcx

theorem isConcrete_sound {t : Ty} (h : isConcrete t = true) : Concrete t := by
  simp only [isConcrete, Bool.and_eq_true, Bool.not_eq_true'] at h
  constructor
  · intro alts e; subst e; simp [isUnion] at h
  · intro e; subst e; simp [isAny] at h

theorem namesNodup_sound (l : List Name) : namesNodup l = true → l.Nodup := by
  induction l with
  | nil => intro _; exact List.nodup_nil
  | cons n ns ih =>
    intro h
    simp only [namesNodup, Bool.and_eq_true, Bool.not_eq_true', List.contains_eq_mem, decide_eq_false_iff_not] at h
    exact List.nodup_cons.mpr ⟨h.1, ih h.2⟩

theorem idsAscending_cons (l : List Ty) : ∀ (a : Ty), idsAscending (a :: l) = true →
    (∀ b ∈ l, a.id < b.id) ∧ l.Pairwise (fun a b => a.id < b.id) := by
  induction l with
  | nil => exact fun _ _ => ⟨fun _ hb => (nomatch hb), List.Pairwise.nil⟩
  | cons c rest ih =>
    intro a h
    simp only [idsAscending, Bool.and_eq_true, decide_eq_true_eq] at h
    have ⟨hc, hp⟩ := ih c h.2
    exact ⟨List.forall_mem_cons.mpr ⟨h.1, fun b hb => Nat.lt_trans h.1 (hc b hb)⟩, List.pairwise_cons.mpr ⟨hc, hp⟩⟩

theorem idsAscending_sound (l : List Ty) (h : idsAscending l = true) : l.Pairwise (fun a b => a.id < b.id) := by
  cases l with
  | nil => exact List.Pairwise.nil
  | cons a l => exact List.pairwise_cons.mpr (idsAscending_cons l a h)

theorem normB_sound (t : Ty) : normB t = true → NormTy t := by
  -- goals in constructor order, as at `plainData_noRec`
  refine Ty.rec (motive_1 := fun t => normB t = true → NormTy t)
    (motive_2 := fun ts => normBList ts = true → ∀ a ∈ ts, NormTy a) ?_ ?_ ?_ ?_ ?_ ?_ ?_ ?_ ?_ ?_ ?_ ?_ ?_ ?_ ?_ t
  iterate 7 exact fun _ => NormTy.scalar _ (by decide)
  · exact fun _ => NormTy.listNil
  · intro e ih h
    rw [normB] at h; exact NormTy.list e (ih h)
  · intro ns ts ih h
    simp only [normB, Bool.and_eq_true, beq_iff_eq] at h
    exact NormTy.struct ns ts (namesNodup_sound ns h.1.1) h.1.2 (ih h.2)
  · intro ts ih h
    rw [normB] at h; exact NormTy.tuple ts (ih h)
  · intro alts ih h
    simp only [normB, Bool.and_eq_true, List.all_eq_true] at h
    exact NormTy.union alts (fun a ha => isConcrete_sound (h.1.1 a ha)) (ih h.2) (idsAscending_sound alts h.1.2)
  · intro h; cases h
  · exact fun _ _ ha => nomatch ha
  · intro t ts iht ihts h
    rw [normBList, Bool.and_eq_true] at h
    exact List.forall_mem_cons.mpr ⟨iht h.1, ihts h.2⟩

theorem coversTuple_sound (f : Ty → Ty → Bool) (te : List Ty) : ∀ (se : List Ty), coversTuple f te se = true →
    (∀ ft sj, (ft, sj) ∈ te.zip se → f ft sj = true) ∧ (∀ ft, ft ∈ te.drop se.length → Octo.conforms ft .null = true) := by
  induction te with
  | nil => intro _ _; exact ⟨fun _ _ hp => (nomatch hp), fun _ hm => by rw [List.drop_nil] at hm; cases hm⟩
  | cons ft te ih =>
    intro se h
    cases se with
    | nil =>
      rw [coversTuple, Bool.and_eq_true] at h
      exact ⟨fun _ _ hp => (nomatch hp), List.forall_mem_cons.mpr ⟨h.1, (ih [] h.2).2⟩⟩
    | cons sj se =>
      rw [coversTuple, Bool.and_eq_true] at h
      have ⟨r1, r2⟩ := ih se h.2
      exact ⟨fun ft' sj' hp => (List.mem_cons.mp hp).elim (fun e => by cases e; exact h.1) (r1 ft' sj'), r2⟩

theorem coversF_sound : ∀ (n : Nat) (t s : Ty), coversF n t s = true → Covers t s := by
  intro n
  induction n with
  | zero => intro t s h; cases h
  | succ n ih =>
    intro t s h
    -- one case per clause of `coversF`; `heq` identifies the fuel of the clause with `n`
    unfold coversF at h
    split at h
    next heq => cases heq
    next _ alts heq =>
      cases heq
      exact Covers.srcUnion _ alts fun a ha => ih _ a (List.all_eq_true.mp h a ha)
    next _ talts heq _ =>
      cases heq
      rw [Bool.and_eq_true] at h
      obtain ⟨hc, hm⟩ := h
      split at hm
      · next ta hf => exact Covers.tgtUnion talts _ ta (isConcrete_sound hc) hf (ih ta _ hm)
      · cases hm
    next _ tn tt sn st heq =>
      cases heq
      have h := List.all_eq_true.mp h
      refine Covers.struct tn tt sn st (fun nm ft j sj hp hj hs => ?_) fun nm ft hp hj => ?_
      · have := h (nm, ft) hp
        simp only [coversField, hj, hs] at this
        exact ih ft sj this
      · have := h (nm, ft) hp
        simp only [coversField, hj] at this
        exact this
    next => exact Covers.listNilSrc _
    next => exact Covers.listNilBoth
    next _ te se heq => cases heq; exact Covers.list te se (ih te se h)
    next _ te se heq =>
      cases heq
      rw [Bool.and_eq_true, decide_eq_true_eq] at h
      have ⟨r1, r2⟩ := coversTuple_sound (coversF n) te se h.2
      exact Covers.tuple te se h.1 (fun ft sj hp => ih ft sj (r1 ft sj hp)) r2
    all_goals first | exact Covers.leaf _ (by decide) | cases h

theorem coversB_sound {t s : Ty} (h : coversB t s = true) : Covers t s := coversF_sound _ t s h

theorem hosts_covered {T s : Ty} (nT : normB T = true) (ns : normB s = true) (hc : coversB T s = true) : Hosts T s := by
  intro m w r hm hcw hf
  have nT := normB_sound _ nT
  have ns := normB_sound _ ns
  have hc := coversB_sound hc
  obtain ⟨m', hm', hfix⟩ := fixLayout_calcMapping T s w nT ns (covers_fits hc) (by rw [conforms13_eq]; exact hcw)
  rw [hm] at hm'; cases hm'
  rw [hfix] at hf; cases hf
  exact covers_conforms hc nT ns w _ (Nat.lt_succ_self _) hcw

theorem coalesceTy_sum (as : List PExpr) : ∀ (t T : Ty), coalesceTy t as = .ok T →
    optFoldl typeSum t (as.map PExpr.ty) = some T := by
  induction as with
  | nil => intro t T h; cases h; rfl
  | cons a as ih =>
    intro t T h
    rw [coalesceTy] at h
    rw [List.map_cons, optFoldl]
    split at h
    · next s hs => rw [hs]; exact ih s T h
    · cases h

theorem coalesceTy_upper {p : PExpr} {ps : List PExpr} {T : Ty} (h : coalesceTy p.ty ps = .ok T)
    (hn : ∀ a ∈ p :: ps, noRec a.ty = true) : ∀ a ∈ p :: ps, a.ty.is T = .is := by
  -- `T` is the `TypeSum` of all the argument types, from the left
  have hsum : sumAll ((p :: ps).map PExpr.ty) = some (some T) := congrArg (Option.map some) (coalesceTy_sum ps p.ty T h)
  have hnr : ∀ x ∈ (p :: ps).map PExpr.ty, noRec x = true := fun x hx => by
    obtain ⟨b, hb, rfl⟩ := List.mem_map.mp hx
    exact hn b hb
  exact fun a ha => (sumAll_upper hsum hnr).2 a.ty (List.mem_map_of_mem ha)

theorem coalesceTy_wf (as : List PExpr) (t T : Ty) (h : coalesceTy t as = .ok T) (wt : wf t = true)
    (ha : ∀ a ∈ as, wf a.ty = true) : wf T = true :=
  optFoldl_wf wfFor_typeSum _ t T (coalesceTy_sum as t T h) wt fun x hx => by
    obtain ⟨b, hb, rfl⟩ := List.mem_map.mp hx
    exact ha b hb

theorem coalesce_sound {S : Sig} {Γ : Ctx} {p : PExpr} {ps : List PExpr} {T : Ty} (hargs : ∀ a ∈ p :: ps, Sound S Γ a)
    (h : coalesceTy p.ty ps = .ok T) : Sound S Γ (.coalesce T (p :: ps)) := by
  refine ⟨coalesceTy_wf ps p.ty T h (hargs p List.mem_cons_self).1 (fun a ha => (hargs a (List.mem_cons_of_mem _ ha)).1),
    fun hp ρ v he hv => ?_⟩
  rw [coalesceOk, Bool.and_eq_true] at hp
  obtain ⟨hpl, hok⟩ := hp
  -- each of the three alternatives of `coalesceArgsOk` makes the result type host every argument type
  have hosts : ∀ a ∈ p :: ps, Hosts T a.ty := by
    simp only [coalesceArgsOk, Bool.or_eq_true, Bool.and_eq_true, List.all_eq_true] at hok
    rcases hok with (hany | hplain) | ⟨nT, hcov⟩
    · cases eq_any_of_isAny hany; exact fun a _ => hosts_any a.ty
    · have his := coalesceTy_upper h fun a ha => plainData_noRec _ (hplain a ha)
      exact fun a ha => hosts_plain (hplain a ha) (his a ha)
    · exact fun a ha => hosts_covered nT (hcov a ha).1 (hcov a ha).2
  rw [eval] at hv
  split at hv
  · cases hv
  · next ms hm =>
    have hvals := sound_vals hargs hpl he
    exact evalCoalesce_sound S Γ ρ T ms _ v (fun a ha => ⟨hvals a ha, hosts a ha⟩) hm (Or.inr (List.cons_ne_nil _ _)) hv

end Octo.Tc
