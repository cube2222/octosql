import Octo.Lemmas.TypingDefs
import Octo.Model.TypingTable
/-!
  From the result kinds that the translator extracts from the Go source of every function body to the per-descriptor
  obligation `DescrSound`.  `produces k args v`: what a `return` statement of kind `k` can yield on
  `args`; `RespectsKinds kinds body`: every value `body` returns is produced by one of the kinds (what the go/ast pass
  establishes about the real body: the trusted step); `kindOk argTys out k` decides that such values match `out`.
-/
namespace Octo.Tc
open Octo Octo.Ty Octo.Gen.FuncTable

/-- the scalar type built by `octosql.NewInt`, `NewFloat`, … -/
def scalarOfId : Nat → Option Ty
  | 1 => some .int | 2 => some .float | 3 => some .bool | 4 => some .str | 5 => some .time | 6 => some .dur
  | _ => none

def produces : Kind → List Value → Value → Prop
  | .ctor tid, _, v => v.rank = tid
  | .null, _, v => v = .null
  | .arg i, args, v => args[i]? = some v
  | .elem i, args, v => ∃ xs, args[i]? = some (.list xs) ∧ v ∈ xs
  | .err, _, _ => False

def RespectsKinds (kinds : List Kind) (body : List Value → Res) : Prop :=
  ∀ args v, body args = .val v → ∃ k ∈ kinds, produces k args v

def kindOk (argTys : List Ty) (out : Ty) : Kind → Bool
  | .ctor tid => match scalarOfId tid with
    | some s => s.is out == .is
    | none => false
  | .null => Ty.null.is out == .is
  | .arg i => match argTys[i]? with
    | some t => t.is out == .is
    | none => true
  | .elem i => match argTys[i]? with
    | some (.list e) => e.is out == .is
    | some .listNil => true
    | some _ => false
    | none => true
  | .err => true

theorem scalarOfId_eq {tid : Nat} {s : Ty} (hs : scalarOfId tid = some s) : s = leafOf tid ∧ tid ≤ 6 := by
  unfold scalarOfId at hs
  split at hs <;> cases hs <;> exact ⟨rfl, by decide⟩

theorem conforms_scalar_of_rank {tid : Nat} {s : Ty} {v : Value} (hs : scalarOfId tid = some s) (hr : v.rank = tid) :
    conforms s v = true := by
  obtain ⟨rfl, hle⟩ := scalarOfId_eq hs
  subst hr
  exact (leafValue_spec hle).1

theorem kindOk_sound {argTys : List Ty} {out : Ty} {k : Kind} {args : List Value} {v : Value}
    (hk : kindOk argTys out k = true) (hc : conformsZip argTys args = true) (hp : produces k args v) :
    conforms out v = true := by
  cases k with
  | ctor tid =>
    rw [kindOk] at hk
    split at hk
    · next s hs => exact Ty.is_sound (beq_iff_eq.mp hk) v (conforms_scalar_of_rank hs hp)
    · cases hk
  | null =>
    cases hp
    exact Ty.is_sound (beq_iff_eq.mp hk) .null conforms_null_null
  | arg i =>
    obtain ⟨t, ht, hcv⟩ := conformsZip_get_value hc hp
    simp only [kindOk, ht, beq_iff_eq] at hk
    exact Ty.is_sound hk v hcv
  | elem i =>
    obtain ⟨xs, hx, hv⟩ := hp
    obtain ⟨t, ht, hcl⟩ := conformsZip_get_value hc hx
    simp only [kindOk, ht] at hk
    cases t <;> try cases hk
    · -- listNil: the list is empty
      cases conforms_listNil_inv hcl; cases hv
    · obtain ⟨_, e, hall⟩ := conforms_list_inv hcl
      cases e
      exact Ty.is_sound (beq_iff_eq.mp hk) v (hall v hv)
  | err => cases hp

theorem descrSound_of_kinds {d : Descr} {kinds : List Kind} {body : List Value → Res} (htf : d.typeFn = none)
    (hk : ∀ k ∈ kinds, kindOk d.args d.out k = true) (hb : RespectsKinds kinds body) : DescrSound d body := by
  unfold DescrSound
  simp only [htf]
  intro args v hc hv
  obtain ⟨k, hkm, hp⟩ := hb args v hv
  exact kindOk_sound (hk k hkm) hc hp

/-- the result kinds a modelled `TypeFn` accounts for: the comparisons and `in` build a Boolean, `len` an Int, `[]`
    returns an element of its first argument or NULL; any of them may fail -/
def tyFnKindOk : TyFn → Kind → Bool
  | .cmp, k => k == .ctor 3 || k == .err
  | .lenOf _, k => k == .ctor 1 || k == .err
  | .memberOf _, k => k == .ctor 3 || k == .err
  | .index, k => k == .null || k == .elem 0 || k == .err

/- The three scalar shapes: a list of another length answers `(_, false)`, against `h`; on the right length the answer
   is an `if` whose `then` branch holds the type. -/

theorem applyTyFn_cmp {tys : List Ty} {o : Ty} (h : applyTyFn .cmp tys = some (some o)) : o = .bool := by
  rcases tys with _ | ⟨a, _ | ⟨b, _ | ⟨c, rest⟩⟩⟩ <;> try (cases h; done)
  rw [applyTyFn] at h
  split at h <;> cases h
  rfl

theorem applyTyFn_lenOf {tid : Nat} {tys : List Ty} {o : Ty} (h : applyTyFn (.lenOf tid) tys = some (some o)) : o = .int := by
  rcases tys with _ | ⟨a, _ | ⟨b, rest⟩⟩ <;> try (cases h; done)
  rw [applyTyFn] at h
  split at h <;> cases h
  rfl

theorem applyTyFn_memberOf {tid : Nat} {tys : List Ty} {o : Ty} (h : applyTyFn (.memberOf tid) tys = some (some o)) : o = .bool := by
  rcases tys with _ | ⟨a, _ | ⟨b, _ | ⟨c, rest⟩⟩⟩ <;> try (cases h; done)
  rw [applyTyFn] at h
  split at h <;> cases h
  rfl

theorem applyTyFn_index {tys : List Ty} {o : Ty} (h : applyTyFn .index tys = some (some o)) :
    ∃ l i, tys = [l, i] ∧ ((l = .listNil ∧ o = .null) ∨ ∃ e, l = .list e ∧ typeSum .null e = some o) := by
  rcases tys with _ | ⟨l, _ | ⟨i, _ | ⟨c, rest⟩⟩⟩ <;> try (cases h; done)
  refine ⟨l, i, rfl, ?_⟩
  simp only [applyTyFn] at h
  split at h
  · cases h
  next h7 =>
  split at h
  · cases h
  rcases id7_cases (Decidable.of_not_not h7) with rfl | ⟨e, rfl⟩
  · cases h; exact Or.inl ⟨rfl, rfl⟩
  · obtain ⟨c, hs, hc⟩ := Option.map_eq_some_iff.mp h
    cases hc; exact Or.inr ⟨e, rfl, hs⟩

theorem tyFnKindOk_sound {f : TyFn} {k : Kind} {tys : List Ty} {o : Ty} {args : List Value} {v : Value}
    (hk : tyFnKindOk f k = true) (hf : applyTyFn f tys = some (some o)) (hc : conformsZip tys args = true)
    (hp : produces k args v) : conforms o v = true := by
  have ctor_case : ∀ {tid : Nat} {s : Ty}, scalarOfId tid = some s → (k == Kind.ctor tid || k == Kind.err) = true →
      conforms s v = true := by
    intro tid s hs hk
    rw [Bool.or_eq_true, beq_iff_eq, beq_iff_eq] at hk
    rcases hk with rfl | rfl
    · exact conforms_scalar_of_rank hs hp
    · cases hp
  cases f with
  | cmp => rw [applyTyFn_cmp hf]; exact ctor_case (tid := 3) rfl hk
  | lenOf tid => rw [applyTyFn_lenOf hf]; exact ctor_case (tid := 1) rfl hk
  | memberOf tid => rw [applyTyFn_memberOf hf]; exact ctor_case (tid := 3) rfl hk
  | index =>
    simp only [tyFnKindOk, Bool.or_eq_true, beq_iff_eq] at hk
    obtain ⟨l, i, rfl, hl⟩ := applyTyFn_index hf
    rcases hk with (rfl | rfl) | rfl
    · cases hp
      rcases hl with ⟨_, rfl⟩ | ⟨e, _, hs⟩
      · rfl
      · exact (typeSum_null_l_char hs .null).mpr (Or.inl rfl)
    · obtain ⟨xs, hx, hv⟩ := hp
      have hcl := conformsZip_get _ args 0 l (.list xs) hc rfl hx
      rcases hl with ⟨rfl, _⟩ | ⟨e, rfl, hs⟩
      · cases conforms_listNil_inv hcl; cases hv
      · obtain ⟨_, e, hall⟩ := conforms_list_inv hcl
        cases e
        exact (typeSum_null_l_char hs v).mpr (Or.inr (hall v hv))
    · cases hp

theorem applyTyFn_wf {f : TyFn} {tys : List Ty} {o : Ty} (hw : ∀ t ∈ tys, wf t = true)
    (hf : applyTyFn f tys = some (some o)) : wf o = true := by
  cases f with
  | cmp => rw [applyTyFn_cmp hf]; rfl
  | lenOf tid => rw [applyTyFn_lenOf hf]; rfl
  | memberOf tid => rw [applyTyFn_memberOf hf]; rfl
  | index =>
    obtain ⟨l, i, rfl, hl⟩ := applyTyFn_index hf
    rcases hl with ⟨_, rfl⟩ | ⟨e, rfl, hs⟩
    · rfl
    · -- `wf (.list e)` unfolds to `wf e`
      exact typeSum_wf hs wf_null (hw (.list e) List.mem_cons_self)

end Octo.Tc
