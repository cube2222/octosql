import Octo.Lemmas.TypingCall
import Octo.Lemmas.TypingCoalesce
/-! The induction over expressions that assembles the rule lemmas. -/
namespace Octo.Tc
open Octo Octo.Ty

theorem typecheckList_sound_of {S : Sig} {Γ : Ctx} (es : List LExpr)
    (hes : ∀ e ∈ es, ∀ p, constsOk e = true → typecheck S Γ e = .ok p → Sound S Γ p) :
    ∀ (ps : List PExpr), constsOkList es = true → typecheckList S Γ es = .ok ps → ∀ a ∈ ps, Sound S Γ a := by
  induction es with
  | nil => intro ps _ h; cases h; exact fun _ ha => nomatch ha
  | cons e es ih =>
    intro ps hc h
    rw [constsOkList, Bool.and_eq_true] at hc
    unfold typecheckList at h
    -- the rule fails as soon as one of its steps fails: of all the branches only the one where every step succeeded is left
    split at h
    · cases h
    next q he =>
    split at h <;> cases h
    next qs hl =>
    exact List.forall_mem_cons.mpr ⟨hes e List.mem_cons_self q hc.1 he,
      ih (fun e' he' => hes e' (List.mem_cons_of_mem _ he')) qs hc.2 hl⟩

theorem typecheck_sound {S : Sig} {Γ : Ctx} (hS : SigOk S) (hΓ : CtxWf Γ) (e : LExpr) :
    ∀ (p : PExpr), constsOk e = true → typecheck S Γ e = .ok p → Sound S Γ p := by
  -- by the recursor of the nested inductive `LExpr` (`motive_2`: every expression of an argument list is typed soundly);
  -- goals in constructor order: var, const, call, and, or, coalesce, tuple, cast, field, then `[]` and `::`
  refine LExpr.rec (motive_1 := fun e => ∀ p, constsOk e = true → typecheck S Γ e = .ok p → Sound S Γ p)
    (motive_2 := fun es => ∀ e ∈ es, ∀ p, constsOk e = true → typecheck S Γ e = .ok p → Sound S Γ p)
    ?_ ?_ ?_ ?_ ?_ ?_ ?_ ?_ ?_ ?_ ?_ e
  · intro n p _ h
    unfold typecheck at h
    split at h <;> cases h
    next t hl => exact var_sound hΓ hl
  · intro c p hc h
    unfold typecheck at h
    split at h <;> cases h
    next t ht => exact const_sound (by rwa [constsOk] at hc) ht
  · intro name args ih p hc h
    unfold typecheck at h
    split at h
    · next ps hl => exact call_sound hS name ps p (typecheckList_sound_of args ih ps (by rwa [constsOk] at hc) hl) h
    · cases h
  · intro l r ihl ihr p hc h
    rw [constsOk, Bool.and_eq_true] at hc
    unfold typecheck at h
    split at h
    · cases h
    next pl hl =>
    split at h
    · cases h
    next pl' hcl =>
    split at h
    · cases h
    next pr hr =>
    split at h <;> cases h
    next pr' hcr =>
    exact and_sound (checkExpected_bool (ihl pl hc.1 hl) hcl) (checkExpected_bool (ihr pr hc.2 hr) hcr)
  · intro l r ihl ihr p hc h
    rw [constsOk, Bool.and_eq_true] at hc
    unfold typecheck at h
    split at h
    · cases h
    next pl hl =>
    split at h
    · cases h
    next pl' hcl =>
    split at h
    · cases h
    next pr hr =>
    split at h <;> cases h
    next pr' hcr =>
    exact or_sound (checkExpected_bool (ihl pl hc.1 hl) hcl) (checkExpected_bool (ihr pr hc.2 hr) hcr)
  · intro args ih p hc h
    rw [constsOk] at hc
    cases args with
    | nil => unfold typecheck at h; cases h
    | cons a as =>
    simp only [typecheck] at h
    split at h
    · cases h
    · cases h
    next q qs hl =>
    split at h <;> cases h
    next T hct =>
    exact coalesce_sound (typecheckList_sound_of (a :: as) ih (q :: qs) hc hl) hct
  · intro args ih p hc h
    unfold typecheck at h
    split at h <;> cases h
    next ps hl => exact tuple_sound ps (typecheckList_sound_of args ih ps (by rwa [constsOk] at hc) hl)
  · intro tid e ih p hc h
    unfold typecheck at h
    split at h
    · next q hl => exact cast_sound (ih q (by rwa [constsOk] at hc) hl) h
    · cases h
  · intro name e ih p hc h
    unfold typecheck at h
    split at h
    · cases h
    next q hl =>
    split at h
    · next obj ho => exact field_sound (possiblyNullableStruct_sound (ih q (by rwa [constsOk] at hc) hl) ho) h
    · cases h
  · exact fun _ h => nomatch h
  · exact fun _ _ ih ihs => List.forall_mem_cons.mpr ⟨ih, ihs⟩

theorem typecheckList_sound {S : Sig} {Γ : Ctx} (hS : SigOk S) (hΓ : CtxWf Γ) :
    ∀ (es : List LExpr) (ps : List PExpr), constsOkList es = true → typecheckList S Γ es = .ok ps → ∀ a ∈ ps, Sound S Γ a :=
  fun es => typecheckList_sound_of es fun e _ => typecheck_sound hS hΓ e

theorem run_val {S : Sig} {Γ : Ctx} {ρ : List (List Value)} {p : PExpr} {v : Value} (h : run S Γ ρ p = .val v) :
    eval S Γ ρ p = .val v := by
  unfold run at h; split at h
  · exact h
  · cases h

end Octo.Tc
