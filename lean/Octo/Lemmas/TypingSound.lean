import Octo.Lemmas.TypingDefs
/-! Soundness of the typing rules, rule by rule: each rule lemma inverts the evaluator's match on the operands
    (`Res.val_of_match`, `evalArgs_val`) and uses the invariant `Sound` of the operands. -/
namespace Octo.Tc
open Octo Octo.Ty

/-- stated with a bare `match`: after `rw [eval]` it applies to the match of any node that evaluates an operand first -/
theorem Res.val_of_match {r : Res} {f : Value → Res} {v : Value}
    (h : (match r with
      | .val w => f w
      | r => r) = .val v) : ∃ w, r = .val w ∧ f w = .val v := by
  cases r <;> first | contradiction | exact ⟨_, rfl, h⟩

theorem isNullV_iff (v : Value) : isNullV v = true ↔ v = .null := by cases v <;> simp [isNullV]

theorem evalArgs_cons_ok {S : Sig} {Γ : Ctx} {ρ : List (List Value)} {a : PExpr} {as : List PExpr} {vs : List Value}
    (h : evalArgs S Γ ρ (a :: as) = .ok vs) :
    ∃ v ws, eval S Γ ρ a = .val v ∧ evalArgs S Γ ρ as = .ok ws ∧ vs = v :: ws := by
  rw [evalArgs] at h
  cases hv : eval S Γ ρ a <;> simp only [hv] at h <;> try contradiction
  cases hr : evalArgs S Γ ρ as <;> simp only [hr] at h <;> first | contradiction | exact ⟨_, _, rfl, rfl, by cases h; rfl⟩

theorem evalArgs_error (S : Sig) (Γ : Ctx) (ρ : List (List Value)) (args : List PExpr) : ∀ (r : Res),
    evalArgs S Γ ρ args = .error r → ∀ v, r ≠ .val v := by
  induction args with
  | nil => intro r h; cases h
  | cons a as ih =>
    intro r h v
    rw [evalArgs] at h
    cases ha : eval S Γ ρ a with
    | val w =>
      cases hr : evalArgs S Γ ρ as with
      | ok ws => simp only [ha, hr] at h; cases h
      | error r' => simp only [ha, hr] at h; cases h; exact ih _ hr v
    | _ => simp only [ha] at h; cases h; exact Res.noConfusion

theorem evalArgs_val {S : Sig} {Γ : Ctx} {ρ : List (List Value)} {args : List PExpr} {g : List Value → Res} {v : Value}
    (h : (match evalArgs S Γ ρ args with
      | .error r => r
      | .ok vs => g vs) = .val v) : ∃ vs, evalArgs S Γ ρ args = .ok vs ∧ g vs = .val v := by
  cases hea : evalArgs S Γ ρ args <;> simp only [hea] at h
  · exact absurd h (evalArgs_error S Γ ρ args _ hea v)
  · exact ⟨_, rfl, h⟩

/-- `Materialize` finds the field that `Typecheck` found -/
theorem indexOfField_spec (n : Nat) (c : List (Nat × Ty)) :
    (indexOfField n c = none ∧ lookupField n c = none) ∨
    ∃ i t, indexOfField n c = some i ∧ lookupField n c = some t ∧ (c.map (·.2))[i]? = some t ∧ (n, t) ∈ c := by
  induction c with
  | nil => exact Or.inl ⟨rfl, rfl⟩
  | cons f fs ih =>
    obtain ⟨m, t'⟩ := f
    rw [indexOfField, lookupField]
    by_cases hm : m = n
    · rw [if_pos hm, if_pos hm]; subst hm
      exact Or.inr ⟨0, t', rfl, rfl, rfl, List.mem_cons_self⟩
    · rw [if_neg hm, if_neg hm]
      rcases ih with ⟨h1, h2⟩ | ⟨i, t, h1, h2, h3, h4⟩
      · exact Or.inl ⟨by rw [h1]; rfl, h2⟩
      · exact Or.inr ⟨i + 1, t, by rw [h1]; rfl, h2, h3, List.mem_cons_of_mem _ h4⟩

theorem lookupVar_spec (n : Nat) (Γ : Ctx) : ∀ (t : Ty), lookupVar n Γ = some t →
    (∃ c ∈ Γ, (n, t) ∈ c) ∧ ∀ ρ v, EnvConforms Γ ρ → evalVar n Γ ρ = .val v → conforms t v = true := by
  induction Γ with
  | nil => intro _ hl; cases hl
  | cons c cs ih =>
    intro t hl
    rw [lookupVar] at hl
    rcases indexOfField_spec n c with ⟨h1, h2⟩ | ⟨i, t', h1, h2, h3, hm⟩
    · simp only [h2] at hl
      have ⟨⟨c', hc', hm⟩, hev⟩ := ih t hl
      refine ⟨⟨c', List.mem_cons_of_mem _ hc', hm⟩, fun ρ v he hv => ?_⟩
      cases ρ with
      | nil => cases he
      | cons vs vss =>
        rw [evalVar] at hv; simp only [h1] at hv
        exact hev vss v he.2 hv
    · simp only [h2] at hl; cases hl
      refine ⟨⟨c, List.mem_cons_self, hm⟩, fun ρ v he hv => ?_⟩
      cases ρ with
      | nil => cases he
      | cons vs vss =>
        rw [evalVar] at hv; simp only [h1] at hv
        cases hx : vs[i]? <;> simp only [hx] at hv <;> cases hv
        exact conformsZip_get _ vs i t _ he.1 h3 hx

theorem var_sound {S : Sig} {Γ : Ctx} (hΓ : CtxWf Γ) {n : Nat} {t : Ty} (h : lookupVar n Γ = some t) : Sound S Γ (.var t n) := by
  have ⟨⟨c, hc, hm⟩, hev⟩ := lookupVar_spec n Γ t h
  refine ⟨hΓ c hc (n, t) hm, fun _ ρ v he hv => ?_⟩
  simp only [eval] at hv
  exact hev ρ v he hv

theorem coalesceOkList_iff : ∀ (l : List PExpr), coalesceOkList l = true ↔ ∀ a ∈ l, coalesceOk a = true :=
  forall_mem_of_and_rec rfl fun _ _ => rfl

theorem sound_vals {S : Sig} {Γ : Ctx} {ρ : List (List Value)} {args : List PExpr} (hs : ∀ a ∈ args, Sound S Γ a)
    (hp : coalesceOkList args = true) (he : EnvConforms Γ ρ) :
    ∀ a ∈ args, ∀ w, eval S Γ ρ a = .val w → conforms a.ty w = true :=
  fun a ha w => (hs a ha).2 ((coalesceOkList_iff args).mp hp a ha) ρ w he

theorem evalArgs_conforms (S : Sig) (Γ : Ctx) (ρ : List (List Value)) : ∀ (args : List PExpr) (vs : List Value),
    (∀ a ∈ args, ∀ w, eval S Γ ρ a = .val w → conforms a.ty w = true) →
    evalArgs S Γ ρ args = .ok vs → conformsZip (args.map PExpr.ty) vs = true := by
  intro args
  induction args with
  | nil => intro vs _ h; cases h; rfl
  | cons a as ih =>
    intro vs hs h
    obtain ⟨v, ws, ha, hr, rfl⟩ := evalArgs_cons_ok h
    rw [List.map_cons, conformsZip, Bool.and_eq_true]
    exact ⟨hs a List.mem_cons_self v ha, ih ws (fun b hb => hs b (List.mem_cons_of_mem _ hb)) hr⟩

theorem assert_sound_of {S : Sig} {Γ : Ctx} {a : PExpr} {target t : Ty} (hs : Sound S Γ a) (wt : wf t = true)
    (hin : ∀ v, conforms a.ty v = true → (targetIds target).contains v.rank = true → conforms t v = true) :
    Sound S Γ (.assert t target a) := by
  refine ⟨wt, fun hp ρ v he hv => ?_⟩
  rw [eval] at hv
  obtain ⟨w, hav, hv⟩ := Res.val_of_match hv
  split at hv
  · next hr => cases hv; exact hin v (hs.2 hp ρ v he hav) hr
  · cases hv

theorem assert_sound {S : Sig} {Γ : Ctx} {a : PExpr} {target t : Ty} (hs : Sound S Γ a) (wt : wf target = true)
    (ft : flatTarget target = true) (ha : a.ty.isAny = false) (h : typeInter target a.ty = some (some t)) :
    Sound S Γ (.assert t target a) :=
  assert_sound_of hs (typeInter_sub wt hs.1 h).1 fun _ hv hr => inter_complete hs.1 ha ft hv hr h

theorem assert_below {a target t : Ty} (wt : wf target = true) (wa : wf a = true) (h : typeInter target a = some (some t)) :
    t.is target = .is := (typeInter_sub wt wa h).2.1

theorem any_isnt_boolNull : Ty.any.is boolNull = .isnt := by decide

theorem boolNull_eq : typeSum .bool .null = some boolNull := rfl

theorem boolNull_flat : flatTarget boolNull = true := by decide

theorem boolNull_wf : wf boolNull = true := by decide

theorem not_any_of_maybe {t p : Ty} (hm : t.is p = .maybe) (hp : Ty.any.is p = .isnt) : t.isAny = false :=
  Bool.eq_false_iff.mpr fun h => by rw [eq_any_of_isAny h, hp] at hm; cases hm

theorem boolNull_values {v : Value} (h : conforms boolNull v = true) : v = .null ∨ ∃ b, v = .bool b := by
  cases v <;> first | contradiction | exact Or.inl rfl | exact Or.inr ⟨_, rfl⟩

theorem checkExpected_bool {S : Sig} {Γ : Ctx} {p p' : PExpr} (hs : Sound S Γ p) (h : checkExpected boolNull p = .ok p') :
    Sound S Γ p' ∧ p'.ty.is boolNull = .is := by
  unfold checkExpected at h
  split at h
  · cases h
  · next hr =>
    have haa := not_any_of_maybe hr any_isnt_boolNull
    split at h <;> cases h
    next t hi => exact ⟨assert_sound hs boolNull_wf boolNull_flat haa hi, assert_below boolNull_wf hs.1 hi⟩
  · next hr => cases h; exact ⟨hs, hr⟩

/-- what `And.Evaluate` / `Or.Evaluate` can return over arguments of types below `Boolean | NULL` -/
def LogicRes (nullEncountered : Bool) (args : List PExpr) (v : Value) : Prop :=
  (∃ b, v = .bool b) ∨ (v = .null ∧ (nullEncountered = true ∨ ∃ a ∈ args, admitsNull a.ty = true))

theorem logicRes_cons {ne : Bool} {a : PExpr} {as : List PExpr} {v : Value} (h : LogicRes ne as v) : LogicRes ne (a :: as) v :=
  h.imp_right fun ⟨h1, h2⟩ => ⟨h1, h2.imp_right fun ⟨b, hb, hbn⟩ => ⟨b, List.mem_cons_of_mem _ hb, hbn⟩⟩

theorem logicRes_null {ne : Bool} {a : PExpr} {as : List PExpr} {v : Value} (ha : admitsNull a.ty = true)
    (h : LogicRes true as v) : LogicRes ne (a :: as) v :=
  h.imp_right fun ⟨h1, _⟩ => ⟨h1, Or.inr ⟨a, List.mem_cons_self, ha⟩⟩

theorem logicRes_nil (ne : Bool) {v : Value} {b : Bool} (h : (if ne then Res.val .null else .val (.bool b)) = .val v) :
    LogicRes ne [] v := by
  cases ne <;> cases h
  · exact Or.inl ⟨_, rfl⟩
  · exact Or.inr ⟨rfl, Or.inl rfl⟩

/-- what the AND / OR loops need of an operand -/
def LogicArg (a : PExpr) (w : Value) : Prop := (w = .null ∧ admitsNull a.ty = true) ∨ ∃ b, w = .bool b

theorem logicArg_vals {S : Sig} {Γ : Ctx} {ρ : List (List Value)} {a : PExpr} (hs : Sound S Γ a)
    (hb : a.ty.is boolNull = .is) (hp : coalesceOk a = true) (he : EnvConforms Γ ρ) (w : Value)
    (hw : eval S Γ ρ a = .val w) : LogicArg a w := by
  have hcw := hs.2 hp ρ w he hw
  rcases boolNull_values (Ty.is_sound hb w hcw) with rfl | hbool
  · exact Or.inl ⟨rfl, admits_of_conforms_null hs.1 hcw⟩
  · exact Or.inr hbool

theorem evalAnd_spec (S : Sig) (Γ : Ctx) (ρ : List (List Value)) : ∀ (args : List PExpr) (ne : Bool) (v : Value),
    (∀ a ∈ args, ∀ w, eval S Γ ρ a = .val w → LogicArg a w) → evalAnd S Γ ρ ne args = .val v → LogicRes ne args v := by
  intro args
  induction args with
  | nil => intro ne v _ h; exact logicRes_nil ne (by rwa [evalAnd] at h)
  | cons a as ih =>
    intro ne v hs h
    have ih := fun ne' => ih ne' v fun b hb => hs b (List.mem_cons_of_mem _ hb)
    rw [evalAnd] at h
    obtain ⟨w, hav, h⟩ := Res.val_of_match h
    rcases hs a List.mem_cons_self w hav with ⟨rfl, han⟩ | ⟨b, rfl⟩
    · exact logicRes_null han (ih true h)
    · cases b
      · cases h; exact Or.inl ⟨_, rfl⟩
      · exact logicRes_cons (ih ne h)

theorem evalOr_spec (S : Sig) (Γ : Ctx) (ρ : List (List Value)) : ∀ (args : List PExpr) (ne : Bool) (v : Value),
    (∀ a ∈ args, ∀ w, eval S Γ ρ a = .val w → LogicArg a w) → evalOr S Γ ρ ne args = .val v → LogicRes ne args v := by
  intro args
  induction args with
  | nil => intro ne v _ h; exact logicRes_nil ne (by rwa [evalOr] at h)
  | cons a as ih =>
    intro ne v hs h
    have ih := fun ne' => ih ne' v fun b hb => hs b (List.mem_cons_of_mem _ hb)
    rw [evalOr] at h
    obtain ⟨w, hav, h⟩ := Res.val_of_match h
    rcases hs a List.mem_cons_self w hav with ⟨rfl, han⟩ | ⟨b, rfl⟩
    · simp only [boolField, isNullV, Bool.or_true, Bool.false_eq_true, if_false] at h
      exact logicRes_null han (ih true h)
    · cases b
      · simp only [boolField, isNullV, Bool.or_false, Bool.false_eq_true, if_false] at h
        exact logicRes_cons (ih ne h)
      · cases h; exact Or.inl ⟨_, rfl⟩

theorem logicTy_wf (l r : PExpr) : wf (logicTy l r) = true := by
  unfold logicTy; split
  · exact boolNull_wf
  · rfl

theorem logicRes_conforms {l r : PExpr} {v : Value} (h : LogicRes false [l, r] v) : conforms (logicTy l r) v = true := by
  unfold logicTy
  rcases h with ⟨b, rfl⟩ | ⟨rfl, h | ⟨a, ha, han⟩⟩
  · split <;> rfl
  · cases h
  · have : (admitsNull l.ty || admitsNull r.ty) = true := by
      rw [List.mem_cons, List.mem_singleton] at ha
      rcases ha with rfl | rfl <;> simp [han]
    rw [if_pos this]; rfl

theorem logicArgs_vals {S : Sig} {Γ : Ctx} {ρ : List (List Value)} {l r : PExpr} (hl : Sound S Γ l ∧ l.ty.is boolNull = .is)
    (hr : Sound S Γ r ∧ r.ty.is boolNull = .is) (hp : coalesceOkList [l, r] = true) (he : EnvConforms Γ ρ) :
    ∀ a ∈ [l, r], ∀ w, eval S Γ ρ a = .val w → LogicArg a w := fun a ha =>
  have hlr : ∀ a ∈ [l, r], Sound S Γ a ∧ a.ty.is boolNull = .is :=
    List.forall_mem_cons.mpr ⟨hl, List.forall_mem_cons.mpr ⟨hr, fun _ h => nomatch h⟩⟩
  logicArg_vals (hlr a ha).1 (hlr a ha).2 ((coalesceOkList_iff _).mp hp a ha) he

theorem and_sound {S : Sig} {Γ : Ctx} {l r : PExpr} (hl : Sound S Γ l ∧ l.ty.is boolNull = .is)
    (hr : Sound S Γ r ∧ r.ty.is boolNull = .is) : Sound S Γ (.and (logicTy l r) [l, r]) := by
  -- the node's type and side condition are computed first: the pair below, elaborated against the folded `Sound`, is
  -- three times as dear to check
  unfold Sound; rw [PExpr.ty, coalesceOk]
  exact ⟨logicTy_wf l r, fun hp ρ v he hv => logicRes_conforms
    (evalAnd_spec S Γ ρ [l, r] false v (logicArgs_vals hl hr hp he) (by rwa [eval] at hv))⟩

theorem or_sound {S : Sig} {Γ : Ctx} {l r : PExpr} (hl : Sound S Γ l ∧ l.ty.is boolNull = .is)
    (hr : Sound S Γ r ∧ r.ty.is boolNull = .is) : Sound S Γ (.or (logicTy l r) [l, r]) := by
  unfold Sound; rw [PExpr.ty, coalesceOk]
  exact ⟨logicTy_wf l r, fun hp ρ v he hv => logicRes_conforms
    (evalOr_spec S Γ ρ [l, r] false v (logicArgs_vals hl hr hp he) (by rwa [eval] at hv))⟩

theorem tuple_sound {S : Sig} {Γ : Ctx} (args : List PExpr) (hargs : ∀ a ∈ args, Sound S Γ a) :
    Sound S Γ (.tuple (.tuple (args.map PExpr.ty)) args) := by
  refine ⟨(wfList_iff _).mpr fun t ht => ?_, fun hp ρ v he hv => ?_⟩
  · obtain ⟨a, ha, rfl⟩ := List.mem_map.mp ht
    exact (hargs a ha).1
  · rw [eval] at hv
    obtain ⟨vs, hea, hv⟩ := evalArgs_val hv
    cases hv
    exact evalArgs_conforms S Γ ρ args vs (sound_vals hargs hp he) hea

theorem const_sound {S : Sig} {Γ : Ctx} {c : Value} {t : Ty} (hok : constOk c = true) (ht : c.typeOf = some t) :
    Sound S Γ (.const t c) := by
  rw [constOk, Bool.and_eq_true] at hok
  refine ⟨c.typeOf_wf hok.2 t ht, fun _ ρ v _ hv => ?_⟩
  rw [eval] at hv; cases hv
  exact c.typeOf_conforms hok.1 t ht

theorem findAltById_spec (tid : Nat) (alts : List Ty) (alt : Ty) : findAltById tid alts = some alt → alt ∈ alts ∧ alt.id = tid := by
  induction alts with
  | nil => intro h; cases h
  | cons a as ih =>
    intro h
    rw [findAltById] at h
    split at h
    · next ha => cases h; exact ⟨List.mem_cons_self, ha⟩
    · exact (ih h).imp_left (List.mem_cons_of_mem _)

theorem conforms_alt_of_rank {alts : List Ty} {alt : Ty} {v : Value} (w : wf (.union alts) = true)
    (hm : alt ∈ alts) (hv : conforms (.union alts) v = true) (hr : v.rank = alt.id) : conforms alt v = true := by
  have ⟨hp, hd, _⟩ := wf_union.mp w
  obtain ⟨a, ha, hav⟩ := (conforms_union_iff alts v).mp hv
  have := rank_of_conforms_plain (hp a ha).1 (hp a ha).2 hav
  rwa [← distinctIds_unique hd ha hm (by rw [← this, hr])]

theorem cast_sound {S : Sig} {Γ : Ctx} {tid : Nat} {p p' : PExpr} (hs : Sound S Γ p) (h : typecheckCast tid p = .ok p') :
    Sound S Γ p' := by
  unfold typecheckCast at h
  split at h
  · next alts hty =>
    split at h
    · cases h
    · next alt hf =>
      split at h <;> cases h
      next t hsum =>
      have ⟨hm, hid⟩ := findAltById_spec tid alts alt hf
      have wp := hs.1; rw [hty] at wp
      refine ⟨typeSum_wf hsum (wf_alt wp hm) wf_null, fun hp ρ v he hv => ?_⟩
      rw [eval] at hv
      obtain ⟨w, hav, hv⟩ := Res.val_of_match hv
      split at hv <;> cases hv
      · exact (typeSum_null_char hsum .null).mpr (Or.inr rfl)
      · next hr =>
        have hcw := hs.2 hp ρ v he hav
        rw [hty] at hcw
        exact (typeSum_null_char hsum v).mpr (Or.inl (conforms_alt_of_rank wp hm hcw (by rw [hid]; exact Decidable.of_not_not hr)))
  · cases h

theorem nonNullable_struct_null (s : Ty) (hs : s.id = 8) : nonNullable (.union [s, .null]) = s := by
  obtain ⟨ns, ts, rfl⟩ := id8_struct hs
  simp [nonNullable, Ty.id]

theorem eval_field_val {S : Sig} {Γ : Ctx} {ρ : List (List Value)} {t : Ty} {name : Name} {e : PExpr} {v : Value}
    (h : eval S Γ ρ (.field t name e) = .val v) :
    ∃ w, eval S Γ ρ e = .val w ∧
      (match w with
        | .null => Res.val .null
        | .struct xs => (match xs[(fieldIndex name (fieldNames e.ty)).getD 0]? with
          | some x => .val x
          | none => .panic)
        | _ => .panic) = .val v := by
  rw [eval] at h
  cases hr : eval S Γ ρ e with
  | val w => rw [hr] at h; exact ⟨w, rfl, by cases w <;> exact h⟩
  | _ => rw [hr] at h; cases h

theorem possiblyNullableStruct_sound {S : Sig} {Γ : Ctx} {p obj : PExpr} (hs : Sound S Γ p)
    (h : possiblyNullableStruct p = .ok obj) : Sound S Γ obj := by
  unfold possiblyNullableStruct at h
  split at h
  · cases h; exact hs
  · next alts hnn =>
    split at h <;> cases h
    next s hf =>
    have ⟨hm, hid⟩ := findAltById_spec 8 alts s hf
    have wnn : wf (.union alts) = true := hnn ▸ nonNullable_wf hs.1
    obtain ⟨ns, ts, rfl⟩ := id8_struct hid
    have ws := wf_alt wnn hm
    -- the asserted type `{…} | NULL`: two plain alternatives with TypeIDs 8 and 0, the first well formed by `ws`
    have wU : wf (.union [.struct ns ts, .null]) = true := by rw [wf, wfList, ws]; rfl
    refine assert_sound_of hs wU fun v hcw hr => ?_
    rw [conforms_union_iff]
    -- the value passed the TypeID test: it is an object or NULL
    obtain ⟨a, ha, hr⟩ := targetIds_union_contains.mp hr
    rcases List.mem_cons.mp ha with rfl | ha
    · have hc' := nonNullable_conforms_of_wf hs.1 hcw (by rintro rfl; cases hr)
      rw [hnn] at hc'
      exact ⟨_, List.mem_cons_self, conforms_alt_of_rank wnn hm hc' hr⟩
    · cases List.mem_singleton.mp ha
      exact ⟨.null, List.mem_cons_of_mem _ List.mem_cons_self, by cases v <;> first | rfl | cases hr⟩
  · cases h

theorem fieldIndex_lt (n : Name) : ∀ (ns : List Name) (i : Nat), fieldIndex n ns = some i → i < ns.length := by
  intro ns
  induction ns with
  | nil => intro _ h; cases h
  | cons m ms ih =>
    intro i h
    rw [fieldIndex] at h
    split at h
    · cases h; exact Nat.zero_lt_succ _
    · obtain ⟨j, hj, rfl⟩ := Option.map_eq_some_iff.mp h
      exact Nat.succ_lt_succ (ih j hj)

theorem isStructTy_cases {t : Ty} (h : isStructTy t = true) : ∃ ns ts, t = .struct ns ts := by
  cases t <;> first | (cases h; done) | exact ⟨_, _, rfl⟩

theorem field_sound {S : Sig} {Γ : Ctx} {name : Name} {obj p : PExpr} (hs : Sound S Γ obj)
    (h : typecheckField name obj = .ok p) : Sound S Γ p := by
  unfold typecheckField at h
  split at h
  · next ns ts hnn =>
    split at h
    · cases h
    · next i hfi =>
      split at h
      · cases h
      · next ft hft =>
        have wnn : wf (.struct ns ts) = true := hnn ▸ nonNullable_wf hs.1
        have wft : wf ft = true := (wfList_iff _).mp ((wf_struct ns ts).mp wnn).2.2 ft (List.mem_of_getElem? hft)
        -- what evaluation yields, whichever of the two types the node gets
        have hval : ∀ t ρ v, coalesceOk obj = true → EnvConforms Γ ρ → eval S Γ ρ (.field t name obj) = .val v →
            (v = .null ∧ conforms obj.ty .null = true) ∨ conforms ft v = true := by
          intro t ρ v hp he hv
          obtain ⟨w, hav, hv⟩ := eval_field_val hv
          have hcw := hs.2 hp ρ w he hav
          cases w with
          | null => cases hv; exact Or.inl ⟨rfl, hcw⟩
          | struct xs =>
            simp only [fieldNames, hnn, hfi, Option.getD_some] at hv
            split at hv <;> cases hv
            next hx =>
            have hc' := nonNullable_conforms_of_wf hs.1 hcw Value.noConfusion
            rw [hnn, conforms] at hc'
            exact Or.inr (conformsZip_get ts xs i ft _ hc' hft hx)
          | _ => cases hv
        split at h
        · next hst =>
          cases h
          refine ⟨wft, fun hp ρ v he hv => (hval _ ρ v hp he hv).elim (fun ⟨_, hn⟩ => ?_) id⟩
          -- an object type has no NULL value
          obtain ⟨_, _, hot⟩ := isStructTy_cases hst
          rw [hot] at hn; cases hn
        · split at h <;> cases h
          next t hsum =>
          refine ⟨typeSum_wf hsum wft wf_null, fun hp ρ v he hv => (typeSum_null_char hsum v).mpr ?_⟩
          exact (hval _ ρ v hp he hv).elim (fun hn => Or.inr hn.1) Or.inl
  · cases h

end Octo.Tc
