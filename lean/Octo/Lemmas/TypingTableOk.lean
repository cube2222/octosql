import Octo.Lemmas.TypingKinds
/-!
  The generated descriptor table satisfies `SigOk` for every body function that respects the extracted result kinds, given
  the decidable facts about the table (`TableFacts`, discharged by `decide` in `Octo.Props.C08` against the table as
  regenerated from /repo on this run).
-/
namespace Octo.Tc
open Octo Octo.Ty Octo.Gen.FuncTable

structure TableFacts : Prop where
  out_wf : ∀ e ∈ table, wf e.out = true
  params : ∀ e ∈ table, e.args.all paramOk = true
  kinds : ∀ e ∈ table, e.hasTypeFn = false → e.kinds.all (kindOk e.args e.out) = true
  tyfn : ∀ e ∈ table, e.hasTypeFn = true →
    (match tyFnOf e.name e.idx with
      | some f => e.kinds.all (tyFnKindOk f)
      | none => false) = true
  indices : ∀ e ∈ table, (table.filter (fun e' => e'.name = e.name)).map (·.idx) =
    List.range (table.filter (fun e' => e'.name = e.name)).length

/-- every entry carries as index the number of earlier entries of its name; `cnt m` is that number for the next entry
    called `m`.  The name of the entry just read is tested first, so within a run of one name a lookup is one comparison. -/
def indicesOk {α} (nm : α → List Nat) (ix : α → Nat) (cnt : List Nat → Nat) : List α → Bool
  | [] => true
  | e :: es => ix e == cnt (nm e) && indicesOk nm ix (fun m => if m = nm e then ix e + 1 else cnt m) es

theorem indicesOk_spec {α} (nm : α → List Nat) (ix : α → Nat) (l : List α) : ∀ (cnt : List Nat → Nat),
    indicesOk nm ix cnt l = true → ∀ m,
      (l.filter (fun e => nm e = m)).map ix = List.range' (cnt m) (l.filter (fun e => nm e = m)).length := by
  induction l with
  | nil => exact fun _ _ _ => rfl
  | cons e es ih =>
    intro cnt h m
    rw [indicesOk, Bool.and_eq_true, beq_iff_eq] at h
    have i := ih _ h.2 m
    by_cases hm : nm e = m
    · subst hm
      rw [if_pos rfl] at i
      rw [List.filter_cons_of_pos (p := fun e' => decide (nm e' = nm e)) (decide_eq_true rfl), List.map_cons,
        List.length_cons, List.range'_succ, ← h.1, i]
    · rw [if_neg (Ne.symm hm)] at i
      rw [List.filter_cons_of_neg (p := fun e' => decide (nm e' = m)) fun h => hm (of_decide_eq_true h)]
      exact i

/-- `probeOk` with the probe taken apart first: the kernel then meets `tyFnOf` on the same literal name and index for
    every probe of a descriptor and evaluates it once -/
def probeOkAt : Probe → Bool
  | ⟨name, idx, args, result⟩ =>
    match tyFnOf name idx with
    | some f =>
      (match applyTyFn f args, result with
       | some (some o), some r => tyBeq o r
       | some none, none => true
       | _, _ => false)
    | none => false

theorem probeOkAt_eq (p : Probe) : probeOkAt p = probeOk p := rfl

theorem tyBeq_null {t : Ty} (h : tyBeq t .null = true) : t = .null := by
  cases t <;> first | rfl | cases h

/-- entry `i` of the descriptors of `name`, in a table that lists the descriptors of every name in index order: it is
    made from the table entry of that name with index `i` -/
theorem filter_map_get {α β} {l : List α} {nm : α → List Nat} {ix : α → Nat} {g : α → β} {name : List Nat} {i : Nat} {d : β}
    (hix : ∀ e ∈ l, (l.filter (fun e' => nm e' = nm e)).map ix = List.range (l.filter (fun e' => nm e' = nm e)).length)
    (h : ((l.filter (fun e => nm e = name)).map g)[i]? = some d) : ∃ e ∈ l, nm e = name ∧ ix e = i ∧ d = g e := by
  rw [List.getElem?_map] at h
  obtain ⟨e, he, rfl⟩ := Option.map_eq_some_iff.mp h
  have ⟨ht, hn⟩ := List.mem_filter.mp (List.mem_of_getElem? he)
  have hn : nm e = name := of_decide_eq_true hn
  -- position `i` of the index list holds `ix e`, and it holds `i`
  have h1 : ((l.filter (fun e => nm e = name)).map ix)[i]? = some (ix e) := by rw [List.getElem?_map, he]; rfl
  have hr := hix e ht
  rw [hn] at hr
  rw [hr, List.getElem?_range (List.getElem?_eq_some_iff.mp he).1] at h1
  exact ⟨e, ht, hn, (Option.some.inj h1).symm, rfl⟩

theorem descrsOf_mem {name : List Nat} {d : Descr} (h : d ∈ descrsOf name) : ∃ e ∈ table, d = descrOf e := by
  obtain ⟨e, he, rfl⟩ := List.mem_map.mp h
  exact ⟨e, (List.mem_filter.mp he).1, rfl⟩

theorem descrOf_cases (F : TableFacts) {e : Entry} (he : e ∈ table) :
    ((descrOf e).typeFn = none ∧ e.kinds.all (kindOk e.args e.out) = true) ∨
    ∃ f, (descrOf e).typeFn = some (applyTyFn f) ∧ e.kinds.all (tyFnKindOk f) = true := by
  cases hh : e.hasTypeFn with
  | false => exact Or.inl ⟨by simp [descrOf, hh], F.kinds e he hh⟩
  | true =>
    have hty := F.tyfn e he hh
    cases hq : tyFnOf e.name e.idx with
    | none => simp [hq] at hty
    | some f => exact Or.inr ⟨f, by simp [descrOf, hh, hq], by simpa [hq] using hty⟩

theorem sigOk_of_facts (F : TableFacts) (body : Name → Nat → List Value → Res)
    (hb : ∀ e ∈ table, RespectsKinds e.kinds (body e.name e.idx)) : SigOk (sigOf body) where
  out_wf := by
    intro name d hd
    obtain ⟨e, he, rfl⟩ := descrsOf_mem hd
    exact F.out_wf e he
  params := by
    intro name d hd p hp
    obtain ⟨e, he, rfl⟩ := descrsOf_mem hd
    exact List.all_eq_true.mp (F.params e he) p hp
  tyfn_wf := by
    intro name d f hd htf tys o hw hf
    obtain ⟨e, he, rfl⟩ := descrsOf_mem hd
    rcases descrOf_cases F he with ⟨hn, _⟩ | ⟨g, hg, _⟩
    · rw [hn] at htf; cases htf
    · rw [hg] at htf; cases htf; exact applyTyFn_wf hw hf
  sound := by
    intro name i d hget
    obtain ⟨e, he, hn, hi, rfl⟩ := filter_map_get F.indices hget
    have hbe := hb e he
    rw [hn, hi] at hbe
    rcases descrOf_cases F he with ⟨hs, hk⟩ | ⟨f, hf, hk⟩
    · exact descrSound_of_kinds hs (List.all_eq_true.mp hk) hbe
    · simp only [DescrSound, hf]
      intro tys o args v hfo hc hv
      obtain ⟨k, hkm, hp⟩ := hbe args v hv
      exact tyFnKindOk_sound (List.all_eq_true.mp hk k hkm) hfo hc hp

end Octo.Tc
