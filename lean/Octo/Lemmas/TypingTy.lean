import Octo.Model.Typing
import Octo.Lemmas.TyNonNull
import Octo.Lemmas.TyInter
import Octo.Lemmas.TyRecFree
import Octo.Lemmas.TyTypeOfWf
/-! What the typing rules of `Octo.Model.Typing` need of the type algebra beyond what C10 states. -/
namespace Octo.Tc
open Octo Octo.Ty

theorem conforms_null_null : conforms .null .null = true := rfl

theorem conforms_nullTy_iff (v : Value) : conforms .null v = true ↔ v = .null := conforms_id0 rfl v

theorem conforms_null_of_admits {t : Ty} (h : admitsNull t = true) : conforms t .null = true := by
  simp only [admitsNull, beq_iff_eq] at h
  exact Ty.is_sound h .null conforms_null_null

theorem conformsZip_get_value {ts : List Ty} {xs : List Value} {i : Nat} {x : Value} (hc : conformsZip ts xs = true)
    (hx : xs[i]? = some x) : ∃ t, ts[i]? = some t ∧ conforms t x = true :=
  have hi : i < ts.length := conformsZip_length ts xs hc ▸ (List.getElem?_eq_some_iff.mp hx).1
  ⟨ts[i], List.getElem?_eq_getElem hi, conformsZip_get ts xs i _ x hc (List.getElem?_eq_getElem hi) hx⟩

theorem id7_cases {l : Ty} (h : l.id = 7) : l = .listNil ∨ ∃ e, l = .list e := by
  have := id_cases l; rwa [h] at this

theorem id8_struct {s : Ty} (h : s.id = 8) : ∃ ns ts, s = .struct ns ts := by
  have := id_cases s; rwa [h] at this

theorem admits_of_conforms_null {t : Ty} (w : wf t = true) (h : conforms t .null = true) : admitsNull t = true := by
  simp only [admitsNull, beq_iff_eq]
  rcases wf_cases w with ⟨alts, rfl, hp, _, _⟩ | hu
  · obtain ⟨a, ha, hv⟩ := (conforms_union_iff alts .null).mp h
    cases id0_eq_null ((conforms_null_iff (hp a ha).1 (hp a ha).2).mp hv)
    exact is_union_of_mem ha
  · by_cases ha : t.isAny = true
    · cases eq_any_of_isAny ha; decide
    · cases id0_eq_null ((conforms_null_iff hu (Bool.eq_false_iff.mpr ha)).mp h); decide

theorem sumF_null_char : ∀ (n : Nat) (a b c : Ty), (a = .null ∨ b = .null) → typeSumF n a b = some c → ∀ v,
    (conforms c v = true ↔ (conforms a v = true ∨ conforms b v = true)) := by
  intro n
  induction n with
  | zero => intro _ _ _ _ h; cases h
  | succ n ih =>
    intro a b c hn h v
    rw [typeSumF] at h
    obtain ⟨_, -, hc⟩ := typeSumStep_cases (fun _ _ => true) h
    cases hc with
    | below h1 => exact ⟨Or.inr, fun hv => hv.elim (Ty.is_sound h1 v) id⟩
    | above h2 => exact ⟨Or.inl, fun hv => hv.elim id (Ty.is_sound h2 v)⟩
    | swap _ hs => exact (ih _ _ _ (hn.symm.imp_left fun e => nomatch e) hs v).trans Or.comm
    | merge _ hid hr =>
      -- the union has a NULL alternative already
      rcases hn with e | rfl
      · cases e
      cases id0_eq_null hid
      -- out of fuel the recursive call fails, against `hr`; with fuel, `Null.Is(Null)` answers at once
      have : typeSumF n .null .null = some .null := by
        cases n with
        | zero => cases hr
        | succ _ => rfl
      cases this.symm.trans hr
      exact ⟨Or.inl, fun hv => hv.elim id (Ty.is_sound (is_union_of_mem (List.mem_append_right _ List.mem_cons_self)) v)⟩
    | add _ _ =>
      simp only [conforms_union_iff, mem_sortById, List.mem_append, List.mem_singleton, or_and_right, exists_or, exists_eq_left]
    | pair _ _ _ =>
      simp only [conforms_union_iff, mem_sortById, List.mem_cons, List.not_mem_nil, or_false, or_and_right, exists_or,
        exists_eq_left]
    | _ => rcases hn with e | e <;> cases e

theorem typeSum_null_char {t c : Ty} (h : typeSum t .null = some c) (v : Value) :
    conforms c v = true ↔ (conforms t v = true ∨ v = .null) := by
  rw [← conforms_nullTy_iff]; exact sumF_null_char _ t .null c (Or.inr rfl) h v

theorem typeSum_null_l_char {e c : Ty} (h : typeSum .null e = some c) (v : Value) :
    conforms c v = true ↔ (v = .null ∨ conforms e v = true) := by
  rw [← conforms_nullTy_iff]; exact sumF_null_char _ .null e c (Or.inl rfl) h v

theorem admits_typeSum_null {t c : Ty} (h : typeSum t .null = some c) (w : wf t = true) : admitsNull c = true :=
  admits_of_conforms_null (typeSum_wf h w (by simp [wf])) ((typeSum_null_char h .null).mpr (Or.inr rfl))

theorem nonNullable_conforms_of_wf {t : Ty} (w : wf t = true) {v : Value} (hv : conforms t v = true) (hn : v ≠ .null) :
    conforms (nonNullable t) v = true := by
  rcases wf_cases w with ⟨alts, rfl, hp, _, _⟩ | hu
  · exact (nonNullable_conforms alts hp v).mpr ⟨hv, hn⟩
  · rw [nonNullable_of_not_union t hu]; exact hv

/-- NULL and the six scalar types -/
def isLeaf (t : Ty) : Bool := decide (t.id ≤ 6)

/-- the targets of run-time assertions: a leaf type or a union of leaf types (`Int`, `NULL | Int`, `NULL | Boolean`, …) -/
def flatTarget : Ty → Bool
  | .union alts => alts.all isLeaf
  | t => isLeaf t

theorem targetIds_of_not_union {t : Ty} (hu : t.isUnion = false) : targetIds t = [t.id] := by
  cases t <;> first | (cases hu; done) | rfl

theorem targetIds_union_contains {alts : List Ty} {r : Nat} :
    (targetIds (.union alts)).contains r = true ↔ ∃ a ∈ alts, r = a.id := by
  simp only [targetIds, List.contains_eq_any_beq, List.any_map, List.any_eq_true, Function.comp, beq_iff_eq]

def leafOf : Nat → Ty
  | 0 => .null | 1 => .int | 2 => .float | 3 => .bool | 4 => .str | 5 => .time | _ => .dur

structure LeafTy (t : Ty) : Prop where
  eq : t = leafOf t.id
  plain : plain t
  noRec : noRec t = true

theorem leaf_spec {t : Ty} (h : isLeaf t = true) : LeafTy t := by
  -- off the leaves `h` computes to `false = true`; `cases h; done` fails where it is `true = true`
  cases t <;> first | (cases h; done) | exact ⟨rfl, ⟨rfl, rfl⟩, rfl⟩

theorem leaf_eq_of_id {p s : Ty} (hs : isLeaf s = true) (h : p.id = s.id) : p = s :=
  have hp : isLeaf p = true := by unfold isLeaf at hs ⊢; rwa [h]
  (leaf_spec hp).eq.trans ((congrArg leafOf h).trans (leaf_spec hs).eq.symm)

theorem leafValue_spec {v : Value} (h : v.rank ≤ 6) : conforms (leafOf v.rank) v = true ∧ v.noRecV = true := by
  cases v <;> first | exact absurd h (of_decide_eq_false rfl) | exact ⟨rfl, rfl⟩

theorem rank_of_conforms_plain {a : Ty} {v : Value} (hu : a.isUnion = false) (ha : a.isAny = false)
    (h : conforms a v = true) : v.rank = a.id := by
  -- one case per equation of `conforms`: a matching pair has the same numeral on both sides; `Any` and unions are
  -- excluded by `ha`, `hu`; in the catch-all `h` is `false = true`
  unfold conforms at h
  split at h <;> first | rfl | (cases ha; done) | (cases hu; done) | cases h

theorem flatTarget_cases {t : Ty} (h : flatTarget t = true) :
    (∃ alts, t = .union alts ∧ ∀ a ∈ alts, isLeaf a = true) ∨ (t.isUnion = false ∧ isLeaf t = true) := by
  cases t
  case union alts => exact Or.inl ⟨alts, rfl, List.all_eq_true.mp h⟩
  all_goals exact Or.inr ⟨rfl, h⟩

theorem prims_flat {t : Ty} (h : flatTarget t = true) : ∀ p ∈ prims t, isLeaf p = true := by
  rcases flatTarget_cases h with ⟨alts, rfl, hl⟩ | ⟨hu, hl⟩
  · rw [prims, primsList_of_not_union (fun a ha => (leaf_spec (hl a ha)).plain.1)]; exact hl
  · rw [prims_of_not_union hu]; intro p hp; rw [List.mem_singleton.mp hp]; exact hl

theorem eq_of_is_leaf {p t : Ty} (hp : p.isUnion = false) (hl : isLeaf t = true) (h : p.is t = .is) : p = t := by
  have ⟨tu, ta⟩ := (leaf_spec hl).plain
  rcases is_plain_inv hp tu ta h with ⟨_, rfl | ⟨_, rfl⟩⟩ | ⟨_, _, _, rfl, _⟩ | ⟨_, _, _, _, _, rfl, _⟩ | ⟨_, _, _, rfl, _⟩ |
    ⟨_, h'⟩
  · cases hl
  · cases hl
  · cases hl
  · cases hl
  · cases hl
  · exact h'

theorem leaf_of_is_flat {p target : Ty} (hp : p.isUnion = false) (ft : flatTarget target = true)
    (h : p.is target = .is) : isLeaf p = true := by
  rcases flatTarget_cases ft with ⟨alts, rfl, hl⟩ | ⟨_, hl⟩
  · obtain ⟨t, ht, hpt⟩ := (is_union_r p alts hp).mp h
    rw [eq_of_is_leaf hp (hl t ht) hpt]; exact hl t ht
  · rw [eq_of_is_leaf hp hl h]; exact hl

/-- `TypeSum` of all members of a list, from the left; `some none` for the empty list (the nil `*Type` of
    `TypeIntersection`), outer `none` = out of fuel -/
def sumAll : List Ty → Option (Option Ty)
  | [] => some none
  | p :: l => (optFoldl typeSum p l).map some

theorem interLoop_eq (target : Ty) (ps : List Ty) : ∀ (out : Option Ty),
    interLoop target out ps = sumAll (out.toList ++ ps.filter fun p => p.is target = .is) := by
  induction ps with
  | nil => intro out; cases out <;> rfl
  | cons p ps ih =>
    intro out
    simp only [interLoop, List.filter_cons]
    by_cases hsel : p.is target = .is
    · rw [if_pos hsel, if_pos (decide_eq_true hsel)]
      cases out with
      | none => exact ih (some p)
      | some o =>
        dsimp only [Option.toList, List.cons_append, List.nil_append, sumAll]
        rw [optFoldl]
        cases typeSum o p with
        | none => rfl
        | some s => exact ih (some s)
    · rw [if_neg hsel, if_neg (by simpa using hsel)]
      exact ih out

theorem sumAll_upper {l : List Ty} {c : Ty} (h : sumAll l = some (some c)) (nl : ∀ x ∈ l, noRec x = true) :
    noRec c = true ∧ ∀ x ∈ l, x.is c = .is := by
  cases l with
  | nil => cases h
  | cons p l =>
    obtain ⟨c', hc, e⟩ := Option.map_eq_some_iff.mp h
    cases e
    have ⟨hok, nc⟩ := optFoldl_recFree recFreeFor_typeSum l p c hc (nl p List.mem_cons_self) fun a ha => nl a (List.mem_cons_of_mem _ ha)
    exact ⟨nc, List.forall_mem_cons.mpr (optFoldl_upper upperFor_typeSum l p c hc hok)⟩

theorem prims_of_wf {a : Ty} (wa : wf a = true) (ha : a.isAny = false) :
    (∀ p ∈ prims a, plain p) ∧
    (∀ v, conforms a v = true → ∃ p ∈ prims a, conforms p v = true) := by
  rcases wf_cases wa with ⟨alts, rfl, hp, _, _⟩ | hu
  · rw [prims, primsList_of_not_union (fun x hx => (hp x hx).1)]
    exact ⟨hp, fun v hv => (conforms_union_iff alts v).mp hv⟩
  · rw [prims_of_not_union hu]
    exact ⟨fun p hp => List.mem_singleton.mp hp ▸ ⟨hu, ha⟩, fun v hv => ⟨a, List.mem_singleton_self a, hv⟩⟩

/-- completeness of `TypeIntersection` for run-time assertions against a flat target -/
theorem inter_complete {target a c : Ty} {v : Value} (wa : wf a = true) (ha : a.isAny = false)
    (ft : flatTarget target = true) (hv : conforms a v = true) (hr : (targetIds target).contains v.rank = true)
    (h : typeInter target a = some (some c)) : conforms c v = true := by
  unfold typeInter at h
  cases h1 : interLoop a none (prims target) with
  | none => simp [h1] at h
  | some out =>
    simp only [h1] at h
    rw [interLoop_eq] at h1 h
    have ⟨hplain, hmem⟩ := prims_of_wf wa ha
    -- all summands are leaves: the selected alternatives of the target, hence the result of the first loop, and the
    -- selected alternatives of `a`
    have n1 : ∀ x ∈ out.toList, noRec x = true := by
      cases out with
      | none => exact fun _ hx => nomatch hx
      | some o =>
        intro x hx
        cases List.mem_singleton.mp hx
        exact (sumAll_upper h1 fun p hp => (leaf_spec (prims_flat ft p (List.mem_filter.mp hp).1)).noRec).1
    have ⟨_, up⟩ := sumAll_upper h fun x hx => (List.mem_append.mp hx).elim (n1 x) fun hx =>
      have ⟨hm, hs⟩ := List.mem_filter.mp hx
      (leaf_spec (leaf_of_is_flat (hplain x hm).1 ft (of_decide_eq_true hs))).noRec
    obtain ⟨p, hp, hpv⟩ := hmem v hv
    have ⟨pu, pa⟩ := hplain p hp
    have hrank := rank_of_conforms_plain pu pa hpv
    have hsel : p.is target = .is := by
      rcases flatTarget_cases ft with ⟨alts, rfl, hl⟩ | ⟨hu, hl⟩
      · obtain ⟨t, ht, hid⟩ := targetIds_union_contains.mp hr
        rw [leaf_eq_of_id (p := p) (hl t ht) (hrank.symm.trans hid)]
        exact is_union_of_mem ht
      · have hid : v.rank = target.id := by
          rw [targetIds_of_not_union hu] at hr
          simpa using hr
        rw [leaf_eq_of_id (p := p) hl (hrank.symm.trans hid)]
        exact Ty.is_refl _
    exact Ty.is_sound (up p (List.mem_append_right _ (List.mem_filter.mpr ⟨hp, decide_eq_true hsel⟩))) v hpv

end Octo.Tc
