import Octo.Model.Changelog
/-! Validity of a changelog relative to what was emitted before it (`ValidFrom`): `ValidLog` is the case of an
    empty past, and validity composes along `::` and `++`. -/
namespace Octo.Ops
open Octo

/-- validity relative to what is already present: no prefix takes a row below zero -/
def ValidFrom (base : Row → Int) (out : List Rec) : Prop := ∀ n y, 0 ≤ base y + net (out.take n) y

theorem validLog_iff_validFrom (out : List Rec) : ValidLog out ↔ ValidFrom (fun _ => 0) out := by
  simp [ValidLog, ValidFrom]

theorem validFrom_nil {b : Row → Int} (hb : ∀ y, 0 ≤ b y) : ValidFrom b [] := by
  intro n y; simpa [net] using hb y

theorem validFrom_base {b : Row → Int} {o : List Rec} (h : ValidFrom b o) (y : Row) : 0 ≤ b y := by
  simpa [net] using h 0 y

theorem validFrom_cons {b : Row → Int} {r : Rec} {o : List Rec} :
    ValidFrom b (r :: o) ↔ (∀ y, 0 ≤ b y) ∧ ValidFrom (fun y => b y + r.weight y) o := by
  constructor
  · intro h
    exact ⟨validFrom_base h, fun n y => by have := h (n + 1) y; rwa [List.take_succ_cons, net, ← Int.add_assoc] at this⟩
  · rintro ⟨h0, h⟩ n y
    cases n with
    | zero => simpa [net] using h0 y
    | succ n => rw [List.take_succ_cons, net, ← Int.add_assoc]; exact h n y

theorem validFrom_append {b : Row → Int} {o1 o2 : List Rec} (h1 : ValidFrom b o1)
    (h2 : ValidFrom (fun y => b y + net o1 y) o2) : ValidFrom b (o1 ++ o2) := by
  intro n y
  rw [List.take_append]
  by_cases hn : n ≤ o1.length
  · have : n - o1.length = 0 := by omega
    rw [this, List.take_zero, List.append_nil]; exact h1 n y
  · rw [List.take_of_length_le (by omega), net_append]
    have : 0 ≤ b y + net o1 y + net (List.take (n - o1.length) o2) y := h2 (n - o1.length) y
    omega

end Octo.Ops
