import Octo.Model.Value
import Octo.Lemmas.CmpOn
/-! The scalar comparisons `cmpInt`, `cmpBool`, `cmpBytes` and `cmpFloatFixed` are comparators (`CmpOn`). -/
namespace Octo

theorem cmpInt_cases (a b : Int) :
    (a < b ∧ cmpInt a b = -1) ∨ (a = b ∧ cmpInt a b = 0) ∨ (b < a ∧ cmpInt a b = 1) := by
  unfold cmpInt; repeat' split
  all_goals omega

theorem cmpInt_le_iff (a b : Int) : cmpInt a b ≤ 0 ↔ a ≤ b := by have := cmpInt_cases a b; omega
theorem cmpInt_eq_iff (a b : Int) : cmpInt a b = 0 ↔ a = b := by have := cmpInt_cases a b; omega
theorem cmpInt_refl (a : Int) : cmpInt a a = 0 := (cmpInt_eq_iff a a).mpr rfl

theorem cmpInt_cmpOn : CmpOn (fun _ : Int => True) cmpInt where
  range a b _ _ := by have := cmpInt_cases a b; omega
  antisymm a b _ _ := by have := cmpInt_cases a b; have := cmpInt_cases b a; omega
  trans a b c _ _ _ h1 h2 :=
    (cmpInt_le_iff a c).mpr (Int.le_trans ((cmpInt_le_iff a b).mp h1) ((cmpInt_le_iff b c).mp h2))

/-- the `Bool` clause of `cmpWith`, which the model writes inline -/
def cmpBool (a b : Bool) : Int := if a == b then 0 else if !a then -1 else 1

/-- the same clause, read as `false < true` -/
theorem bool_cmp_cases (a b : Bool) :
    (if (a == b) = true then (0:Int) else if (!a) = true then -1 else 1) =
      cmpNat a.toNat b.toNat := by
  cases a <;> cases b <;> simp [cmpNat]

theorem cmpBool_eq_iff : ∀ a b, cmpBool a b = 0 ↔ a = b := by decide

theorem cmpBool_cmpOn : CmpOn (fun _ : Bool => True) cmpBool := ⟨by decide, by decide, by decide⟩

theorem cmpBytes_eq_lexList (a b : List UInt8) :
    cmpBytes a b = lexList (fun x y : UInt8 => cmpInt x.toNat y.toNat) a b := by
  induction a generalizing b with
  | nil => cases b <;> rfl
  | cons x xs ih =>
    cases b with
    | nil => rfl
    | cons y ys =>
      rw [lexList_cons, ← ih ys]
      simp only [cmpBytes]
      rcases cmpInt_cases x.toNat y.toNat with ⟨h, e⟩ | ⟨h, e⟩ | ⟨h, e⟩ <;> rw [e]
      · rw [if_pos (by omega)]; rfl
      · rw [if_neg (by omega), if_neg (by omega)]; rfl
      · rw [if_neg (by omega), if_pos (by omega)]; rfl

theorem cmpBytes_cmpOn : CmpOn (fun _ : List UInt8 => True) cmpBytes :=
  ((cmpInt_cmpOn.comap (fun x : UInt8 => (x.toNat : Int)) fun _ _ => trivial).lexList.mono
    fun _ _ _ _ => trivial).congr fun a b _ _ => cmpBytes_eq_lexList a b

theorem cmpBytes_refl (a : List UInt8) : cmpBytes a a = 0 := cmpBytes_cmpOn.refl trivial

theorem cmpBytes_eq_iff : ∀ a b, cmpBytes a b = 0 ↔ a = b
  | [], [] | [], _ :: _ | _ :: _, [] => by simp [cmpBytes]
  | x :: xs, y :: ys => by
    have : cmpBytes (x :: xs) (y :: ys) = 0 ↔ x.toNat = y.toNat ∧ cmpBytes xs ys = 0 := by
      simp only [cmpBytes]
      repeat' split
      all_goals omega
    rw [this, cmpBytes_eq_iff xs ys, List.cons.injEq, UInt8.toNat_inj]

namespace F64

/-- what `cmpFloatFixed` orders by: NaN below every number, numbers by their sign-magnitude key -/
def ordKey (b : Nat) : Int := if isNaN b then -2^63 else key b

theorem neg_lt_key (b : Nat) : -2^63 < key b := by
  unfold key mag signBit; split <;> omega

end F64
open F64

theorem cmpFloatFixed_eq_cmpInt (a b : Nat) : cmpFloatFixed a b = cmpInt (ordKey a) (ordKey b) := by
  have ha := neg_lt_key a
  have hb := neg_lt_key b
  unfold cmpFloatFixed F64.lt ordKey cmpInt
  cases isNaN a <;> cases isNaN b <;> simp <;> omega

theorem cmpFloatFixed_cmpOn : CmpOn (fun _ : Nat => True) cmpFloatFixed :=
  (cmpInt_cmpOn.comap ordKey fun _ _ => trivial).congr fun a b _ _ => cmpFloatFixed_eq_cmpInt a b

theorem cmpFloatFixed_eq_zero_iff (a b : Nat) :
    cmpFloatFixed a b = 0 ↔ (isNaN a = true ∧ isNaN b = true) ∨ (isNaN a = false ∧ isNaN b = false ∧ key a = key b) := by
  have ha := neg_lt_key a
  have hb := neg_lt_key b
  rw [cmpFloatFixed_eq_cmpInt, cmpInt_eq_iff]
  unfold ordKey
  cases isNaN a <;> cases isNaN b <;> simp <;> omega

theorem F64.eq_of_mag_neg {a b : Nat} (ha : a < 2^64) (hb : b < 2^64) (hm : mag a = mag b)
    (hn : neg a = neg b) : a = b := by
  have hn' : 2^63 ≤ a ↔ 2^63 ≤ b := by simpa [neg, signBit] using hn
  simp only [mag, signBit] at hm
  omega

theorem F64.key_eq_cases (x y : Nat) (h : key x = key y) : mag x = mag y ∧ (neg x = neg y ∨ mag x = 0) := by
  unfold key at h
  cases hx : neg x <;> cases hy : neg y <;> rw [hx, hy] at h <;>
    simp only [if_true, Bool.false_eq_true, if_false] at h
  · exact ⟨by omega, Or.inl rfl⟩
  · exact ⟨by omega, Or.inr (by omega)⟩
  · exact ⟨by omega, Or.inr (by omega)⟩
  · exact ⟨by omega, Or.inl rfl⟩

theorem F64.key_eq (a b : Nat) (ha : a < 2^64) (hb : b < 2^64) (h : key a = key b) :
    a = b ∨ (mag a = 0 ∧ mag b = 0) :=
  have ⟨hm, hs⟩ := key_eq_cases a b h
  hs.imp (eq_of_mag_neg ha hb hm) fun h0 => ⟨h0, hm ▸ h0⟩

end Octo
