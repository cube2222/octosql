import Octo.Model.Wire
import Octo.Lemmas.ValueOrder
/-!
  Lemmas for C26: what the two value tables and the two type tables (as regenerated from plugins.go) compute on
  the Go structs built by `octosql.NewX` / on well-formed types, and the library round trips
  (`timestamppb.New`/`AsTime`, `durationpb.New`/`AsDuration`).
-/
namespace Octo.Wire
open Octo

/-- `timestamppb.New` then `AsTime`, with `tsNew (ns, loc)` written out as the message it builds: the encoders match on
    `tsNew _ = some _`, and once that match is reduced this is the form the goals have -/
theorem tsAsTime_tsNew (ns : Int) :
    tsAsTime (some ⟨ns / 1000000000, ns % 1000000000⟩) = (ns, 0) := by
  simp only [tsAsTime]
  congr 1
  omega

theorem wrap32_eq {x : Int} (h : inInt32 x) : wrap32 x = x := by
  unfold inInt32 at h; unfold wrap32; omega

theorem wrap64_eq {x : Int} (h : inInt64 x) : wrap64 x = x := by
  unfold inInt64 minInt64 maxInt64 at h; unfold wrap64; omega

theorem TidConv.apply_eq : ∀ (c : TidConv) {k : Int}, -2147483648 ≤ k ∧ k ≤ 2147483647 → c.apply k = k
  | .int32, _, h => wrap32_eq h
  | .typeID, _, _ => rfl

theorem tdiv9_mul (q : Int) : tdiv9 (q * 1000000000) = q := by
  unfold tdiv9; split <;> omega

theorem tdiv9_rem (d : Int) :
    (0 ≤ d → 0 ≤ d - tdiv9 d * 1000000000 ∧ d - tdiv9 d * 1000000000 < 1000000000 ∧ 0 ≤ tdiv9 d) ∧
    (d < 0 → -1000000000 < d - tdiv9 d * 1000000000 ∧ d - tdiv9 d * 1000000000 ≤ 0 ∧ tdiv9 d ≤ 0) := by
  unfold tdiv9; split <;> omega

/-- `durationpb.New` then `AsDuration` is the identity on every `time.Duration` (an int64); `durNew d` is written out
    as the message it builds, for the same reason as in `tsAsTime_tsNew` -/
theorem dur_roundtrip (d : Int) (h : inInt64 d) :
    durAsDuration (some ⟨tdiv9 d, d - tdiv9 d * 1000000000⟩) = d := by
  have hr := tdiv9_rem d
  have hd := h
  unfold inInt64 minInt64 maxInt64 at hd
  generalize tdiv9 d = q at hr ⊢
  -- neither the seconds nor the sum overflows, so no saturation branch is taken
  have w0 : wrap64 (q * 1000000000) = q * 1000000000 :=
    wrap64_eq (by unfold inInt64 minInt64 maxInt64; omega)
  have w1 : wrap64 (q * 1000000000 + (d - q * 1000000000)) = d := by
    rw [show q * 1000000000 + (d - q * 1000000000) = d by omega]; exact wrap64_eq h
  simp only [durAsDuration, w0, w1, tdiv9_mul, bne_self_eq_false, Bool.false_or]
  refine if_neg fun hc => ?_
  simp only [Bool.or_eq_true, Bool.and_eq_true, decide_eq_true_eq] at hc
  omega

variable {τ δ τ' δ' : Type}

/-- a `case` whose body is the element loop over one sequence field (`hlk` holds by `rfl` for a concrete table) -/
theorem convV_seq {tbl : VTable} {dir : Dir τ δ τ' δ'} {fld : VF} {tid : Int}
    (hf : fld = .list ∨ fld = .struct ∨ fld = .tuple)
    (hlk : lookupV tbl.cases tid = some [⟨fld, fld, .mapSelf⟩]) {i f b s t d} {l st tu : List (RV τ δ)} {ys}
    (hys : pickRec (convVs tbl dir l) (convVs tbl dir st) (convVs tbl dir tu) fld = some ys) :
    convV tbl dir (.mk tid i f b s t d l st tu) =
      (RV.init (tbl.tid.apply tid) dir.zeroTime dir.zeroDur).set fld (.seq ys) := by
  rw [convV, hlk]
  rcases hf with rfl | rfl | rfl
  all_goals
    simp only [pickRec] at hys
    rw [hys]; rfl

theorem convVs_cons {tbl : VTable} {dir : Dir τ δ τ' δ'} {x xs y ys} (h1 : convV tbl dir x = some y)
    (h2 : convVs tbl dir xs = some ys) : convVs tbl dir (x :: xs) = some (y :: ys) := by
  rw [convVs, h1, h2]

mutual
/-- the proto message `NativeValueToProto` builds -/
def encP : Value → PV
  | .null => .mk 0 0 0 false [] none none [] [] []
  | .int i => .mk 1 i 0 false [] none none [] [] []
  | .float f => .mk 2 0 f false [] none none [] [] []
  | .bool b => .mk 3 0 0 b [] none none [] [] []
  | .str s => .mk 4 0 0 false s none none [] [] []
  | .time ns loc => .mk 5 0 0 false [] (tsNew (ns, loc)) none [] [] []
  | .dur d => .mk 6 0 0 false [] none (durNew d) [] [] []
  | .list xs => .mk 7 0 0 false [] none none (encPs xs) [] []
  | .struct xs => .mk 8 0 0 false [] none none [] (encPs xs) []
  | .tuple xs => .mk 9 0 0 false [] none none [] [] (encPs xs)
def encPs : List Value → List PV
  | [] => []
  | x :: xs => encP x :: encPs xs
end

mutual
theorem encode_ofValue : ∀ v, encodeV (ofValue v) = some (encP v)
  | .null | .int _ | .float _ | .bool _ | .str _ | .time _ _ | .dur _ => rfl
  | .list xs => convV_seq (.inl rfl) rfl (encode_ofValues xs)
  | .struct xs => convV_seq (.inr (.inl rfl)) rfl (encode_ofValues xs)
  | .tuple xs => convV_seq (.inr (.inr rfl)) rfl (encode_ofValues xs)
theorem encode_ofValues : ∀ xs, encodeVs (ofValues xs) = some (encPs xs)
  | [] => rfl
  | x :: xs => convVs_cons (encode_ofValue x) (encode_ofValues xs)
end

mutual
/-- every `time.Duration` inside the value is an int64 -/
def durOk : Value → Prop
  | .dur d => inInt64 d
  | .list xs => dursOk xs
  | .struct xs => dursOk xs
  | .tuple xs => dursOk xs
  | _ => True
def dursOk : List Value → Prop
  | [] => True
  | x :: xs => durOk x ∧ dursOk xs
end

mutual
theorem decode_encP : ∀ v, durOk v → decodeV (encP v) = some (ofValue (normLoc v))
  | .null, _ | .int _, _ | .float _, _ | .bool _, _ | .str _, _ => rfl
  | .time ns loc, _ => by
    -- `decodeV (encP (.time ns loc))`, evaluated; likewise for `.dur d` below
    show some (RV.mk 5 0 0 false [] (tsAsTime (some ⟨ns / 1000000000, ns % 1000000000⟩)) 0 [] [] []) = _
    rw [tsAsTime_tsNew]; rfl
  | .dur d, h => by
    show some (RV.mk 6 0 0 false [] zeroTime (durAsDuration (some ⟨tdiv9 d, d - tdiv9 d * 1000000000⟩)) [] [] []) = _
    rw [dur_roundtrip d h]; rfl
  | .list xs, h => convV_seq (.inl rfl) rfl (decode_encPs xs h)
  | .struct xs, h => convV_seq (.inr (.inl rfl)) rfl (decode_encPs xs h)
  | .tuple xs, h => convV_seq (.inr (.inr rfl)) rfl (decode_encPs xs h)
theorem decode_encPs : ∀ xs, dursOk xs → decodeVs (encPs xs) = some (ofValues (normLocs xs))
  | [], _ => rfl
  | x :: xs, h => convVs_cons (decode_encP x h.1) (decode_encPs xs h.2)
end

mutual
theorem toValue_ofValue : ∀ v, toValue (ofValue v) = some v
  | .null | .int _ | .float _ | .bool _ | .str _ | .time _ _ | .dur _ => rfl
  | .list xs | .struct xs | .tuple xs => by simp [ofValue, toValue, toValues_ofValues xs]
theorem toValues_ofValues : ∀ xs, toValues (ofValues xs) = some xs
  | [] => rfl
  | x :: xs => by simp [ofValues, toValues, toValue_ofValue x, toValues_ofValues xs]
end

mutual
theorem cmp_normLoc (cf : Nat → Nat → Int) (hcf : ∀ a, cf a a = 0) : ∀ v, cmpWith cf (normLoc v) v = 0
  | .null => rfl
  | .int i | .time i _ | .dur i => cmpInt_refl i
  | .float f => hcf f
  | .bool b => (cmpBool_eq_iff b b).mpr rfl
  | .str s => cmpBytes_refl s
  | .list xs | .struct xs | .tuple xs => by simp only [normLoc, cmpWith]; exact cmpList_normLocs cf hcf xs
theorem cmpList_normLocs (cf : Nat → Nat → Int) (hcf : ∀ a, cf a a = 0) : ∀ xs, cmpListWith cf (normLocs xs) xs = 0
  | [] => by simp [normLocs, cmpListWith]
  | x :: xs => by simp [normLocs, cmpListWith, cmp_normLoc cf hcf x, cmpList_normLocs cf hcf xs]
end

/-- `lkTE` / `lkTD`: `lookupT` in the type table of the encoder (`NativeTypeToProto`) / the decoder (`ToNativeType`);
    `lkTE7` … `lkTE10` are the encoder's cases for the TypeIDs 7 … 10. The leaf TypeIDs have a case that assigns nothing.
    The two tables have the same `cases` (that is the `rfl` in `decode_ofTy`), so `lkTD` is `lkTE`. -/
theorem lkTE (k : Int) (h : k = 0 ∨ k = 1 ∨ k = 2 ∨ k = 3 ∨ k = 4 ∨ k = 5 ∨ k = 6 ∨ k = 11) :
    lookupT Gen.Wire.nativeTypeToProto.cases k = some [] := by
  rcases h with h | h | h | h | h | h | h | h <;> subst h <;> rfl
theorem lkTD (k : Int) (h : k = 0 ∨ k = 1 ∨ k = 2 ∨ k = 3 ∨ k = 4 ∨ k = 5 ∨ k = 6 ∨ k = 11) :
    lookupT Gen.Wire.toNativeType.cases k = some [] := lkTE k h

theorem lkTE7 : lookupT Gen.Wire.nativeTypeToProto.cases 7 = some [⟨.list, .list, .optSelf⟩] := rfl
theorem lkTE8 : lookupT Gen.Wire.nativeTypeToProto.cases 8 = some [⟨.struct, .struct, .mapFields⟩] := rfl
theorem lkTE9 : lookupT Gen.Wire.nativeTypeToProto.cases 9 = some [⟨.tuple, .tuple, .mapSelf⟩] := rfl
theorem lkTE10 : lookupT Gen.Wire.nativeTypeToProto.cases 10 = some [⟨.union, .union, .mapSelf⟩] := rfl

theorem convT_leaf {tbl : TTable} (hc : tbl.cases = Gen.Wire.nativeTypeToProto.cases) {k : Int} (h : k = 0 ∨ k = 1 ∨ k = 2 ∨ k = 3 ∨ k = 4 ∨ k = 5 ∨ k = 6 ∨ k = 11) :
    convT tbl (.mk k none [] [] [] []) = some (.mk k none [] [] [] []) := by
  rw [convT, hc, lkTE k h]
  simp only [runT, RT.init]
  rw [TidConv.apply_eq _ (by omega)]

mutual
/-- a type table with the cases of `NativeTypeToProto` (`ToNativeType` has the same) maps `ofTy t` to itself:
    the proto message has the same shape as the Go struct -/
theorem convT_ofTy {tbl : TTable} (hc : tbl.cases = Gen.Wire.nativeTypeToProto.cases) :
    ∀ t, convT tbl (ofTy t) = some (ofTy t)
  | .null | .int | .float | .bool | .str | .time | .dur | .any => convT_leaf hc (by decide)
  | .listNil => by
    rw [ofTy, convT, hc, lkTE7]
    simp only [runT, applyT, RT.get, RT.init]
    rw [TidConv.apply_eq _ (by decide)]
  | .list e => by
    rw [ofTy, convT, hc, lkTE7]
    simp only [convTo, convT_ofTy hc e, runT, applyT, RT.get, RT.set, RT.init]
    rw [TidConv.apply_eq _ (by decide)]
  | .struct _ ts | .tuple ts | .union ts => by
    rw [ofTy, convT, hc]
    simp only [lkTE8, lkTE9, lkTE10, convTs_ofTys hc ts, runT, applyT, RT.get, RT.set, RT.init, TRecs.seqOf]
    rw [TidConv.apply_eq _ (by decide)]
theorem convTs_ofTys {tbl : TTable} (hc : tbl.cases = Gen.Wire.nativeTypeToProto.cases) :
    ∀ ts, convTs tbl (ofTys ts) = some (ofTys ts)
  | [] => rfl
  | t :: ts => by rw [ofTys, convTs, convT_ofTy hc t, convTs_ofTys hc ts]
end

theorem encode_ofTy (t : Ty) : encodeT (ofTy t) = some (ofTy t) := convT_ofTy rfl t
theorem decode_ofTy (t : Ty) : decodeT (ofTy t) = some (ofTy t) :=
  convT_ofTy (tbl := Gen.Wire.toNativeType) rfl t
theorem encode_ofTys (ts : List Ty) : encodeTs (ofTys ts) = some (ofTys ts) := convTs_ofTys rfl ts
theorem decode_ofTys (ts : List Ty) : decodeTs (ofTys ts) = some (ofTys ts) :=
  convTs_ofTys (tbl := Gen.Wire.toNativeType) rfl ts

mutual
theorem toTy_ofTy : ∀ t, toTy (ofTy t) = some t
  | .null | .int | .float | .bool | .str | .time | .dur | .any | .listNil => rfl
  | .list e => by simp [ofTy, toTy, toTy_ofTy e]
  | .struct ns ts => by simp [ofTy, toTy, toTys_ofTys ts]
  | .tuple ts | .union ts => by simp [ofTy, toTy, toTys_ofTys ts]
theorem toTys_ofTys : ∀ ts, toTys (ofTys ts) = some ts
  | [] => rfl
  | t :: ts => by simp [ofTys, toTys, toTy_ofTy t, toTys_ofTys ts]
end

theorem encodeFields_ofTys (ns : List Name) (ts : List Ty) : encodeFields ⟨ns, ofTys ts⟩ = some ⟨ns, ofTys ts⟩ := by
  simp [encodeFields, encode_ofTys]
theorem decodeFields_ofTys (ns : List Name) (ts : List Ty) : decodeFields ⟨ns, ofTys ts⟩ = some ⟨ns, ofTys ts⟩ := by
  simp [decodeFields, decode_ofTys]

/-- the frames of a physical variable context as the Go structs hold them -/
def physFrames (frames : List (List Name × List Ty)) : List (Fields RT) := frames.map fun f => ⟨f.1, ofTys f.2⟩

theorem encodePhysCtx_physFrames : ∀ frames, encodePhysCtx (physFrames frames) = some (physFrames frames)
  | [] => rfl
  | f :: fs => by
    have ih : encodePhysCtx (physFrames fs) = _ := encodePhysCtx_physFrames fs
    simp only [physFrames, List.map_cons, encodePhysCtx, encodeFields_ofTys] at ih ⊢
    rw [ih]

theorem decodePhysCtxRev_physFrames : ∀ frames out,
    decodePhysCtxRev (physFrames frames) out = some ((physFrames frames).reverse ++ out)
  | [], out => rfl
  | f :: fs, out => by
    have ih := decodePhysCtxRev_physFrames fs (⟨f.1, ofTys f.2⟩ :: out)
    simp only [physFrames, List.map_cons, decodePhysCtxRev, decodeFields_ofTys, List.reverse_cons,
      List.append_assoc, List.singleton_append] at ih ⊢
    rw [ih]

def framesDursOk : List (List Value) → Prop
  | [] => True
  | f :: fs => dursOk f ∧ framesDursOk fs

theorem framesDursOk_mem : ∀ (fs : List (List Value)), framesDursOk fs → ∀ f ∈ fs, dursOk f
  | [], _, _, hf => nomatch hf
  | _ :: fs, h, f, hf => by
    rcases List.mem_cons.mp hf with rfl | hf
    · exact h.1
    · exact framesDursOk_mem fs h.2 f hf

theorem encodeExecCtx_ofValues : ∀ (fs : List (List Value)), encodeExecCtx (fs.map ofValues) = some (fs.map encPs)
  | [] => by simp [encodeExecCtx]
  | f :: fs => by simp [encodeExecCtx, encode_ofValues f, encodeExecCtx_ofValues fs]

theorem decodeExecCtxRev_encPs : ∀ (fs : List (List Value)) (out : List (List GV)), (∀ f ∈ fs, dursOk f) →
    decodeExecCtxRev (fs.map encPs) out = some ((fs.map fun f => ofValues (normLocs f)).reverse ++ out)
  | [], out, _ => by simp [decodeExecCtxRev]
  | f :: fs, out, h => by
    simp only [List.map_cons, decodeExecCtxRev, decode_encPs f (h f (by simp))]
    rw [decodeExecCtxRev_encPs fs _ (fun g hg => h g (List.mem_cons_of_mem _ hg))]
    simp

end Octo.Wire
