import Octo.Model.WireJson
/-! Lemmas for C26: `encoding/json` (as modelled) leaves JSON-safe values unchanged up to the location of times. -/
namespace Octo.Wire
open Octo

mutual
theorem json_value_ok : ∀ v, jsonSafe v = true → jsonValue v = .ok (normLoc v)
  | .null, _ | .int _, _ | .bool _, _ | .dur _, _ => rfl
  | .float f, h => by simp only [jsonSafe] at h; simp [jsonValue, h, normLoc]
  | .str s, h => by
    simp only [jsonSafe, Utf8.validUtf8, beq_iff_eq] at h
    simp [jsonValue, jsonStr, h, normLoc]
  | .time ns loc, h => by simp only [jsonSafe] at h; simp [jsonValue, h, normLoc]
  | .list xs, h | .struct xs, h | .tuple xs, h => by
    simp only [jsonSafe] at h; simp [jsonValue, json_values_ok xs h, normLoc]
theorem json_values_ok : ∀ xs, jsonSafes xs = true → jsonValues xs = .ok (normLocs xs)
  | [], _ => rfl
  | x :: xs, h => by
    simp only [jsonSafes, Bool.and_eq_true] at h
    simp [jsonValues, json_value_ok x h.1, json_values_ok xs h.2, normLocs]
end

end Octo.Wire
