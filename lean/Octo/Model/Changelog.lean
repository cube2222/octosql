import Octo.Model.Value
/-!
  Octo.Model.Changelog — records, watermarks, streams and the consolidated ("net") view of a
  changelog (DESIGN §2.7).  `execution.Record` = values + retraction flag + event time;
  a zero `time.Time` event time ("no event time") is `et = none`.
-/
namespace Octo

structure Rec where
  vals : List Value
  retr : Bool
  et : Option Int          -- event time in ns since the Unix epoch; none = zero time.Time
  deriving Repr, Inhabited

inductive Msg where
  | data (r : Rec)
  | wm (t : Int)
  deriving Repr, Inhabited

abbrev Row := List Value

/-- rows are identified the way the engine identifies them: pointwise `Compare == 0` -/
def rowEq (a b : Row) : Bool := cmpList a b == 0

/-- +1 for an addition of `row`, −1 for a retraction, 0 for other rows -/
def Rec.weight (r : Rec) (row : Row) : Int :=
  if rowEq r.vals row then (if r.retr then -1 else 1) else 0

/-- signed multiplicity of `row` in a list of records -/
def net : List Rec → Row → Int
  | [], _ => 0
  | r :: rs, row => r.weight row + net rs row

/-- the records of a message stream -/
def recs : List Msg → List Rec
  | [] => []
  | .data r :: ms => r :: recs ms
  | .wm _ :: ms => recs ms

/-- the watermarks of a message stream -/
def wms : List Msg → List Int
  | [] => []
  | .data _ :: ms => wms ms
  | .wm t :: ms => t :: wms ms

/-- a changelog is valid when no prefix retracts a row that is not present -/
def ValidLog (log : List Rec) : Prop := ∀ n row, 0 ≤ net (log.take n) row

/-- executable validity check for finite logs over the rows that occur in them -/
def validLogB (log : List Rec) : Bool :=
  (List.range (log.length + 1)).all fun n => log.all fun r => decide (0 ≤ net (log.take n) r.vals)

theorem net_append (a b : List Rec) (row : Row) : net (a ++ b) row = net a row + net b row := by
  induction a with
  | nil => simp [net]
  | cons r rs ih => simp [net, ih]; omega

theorem net_nil (row : Row) : net [] row = 0 := rfl
theorem net_cons (r : Rec) (rs : List Rec) (row : Row) : net (r :: rs) row = r.weight row + net rs row := rfl

theorem net_perm {l l' : List Rec} (h : l.Perm l') (row : Row) : net l row = net l' row := by
  induction h with
  | nil => rfl
  | cons x _ ih => rw [net, net, ih]
  | swap x y l => simp only [net]; omega
  | trans _ _ ih1 ih2 => exact ih1.trans ih2

theorem recs_append (a b : List Msg) : recs (a ++ b) = recs a ++ recs b := by
  induction a with
  | nil => rfl
  | cons m ms ih => cases m <;> simp [recs, ih]

theorem recs_data_map (f : α → Rec) (l : List α) : recs (l.map fun a => .data (f a)) = l.map f := by
  induction l with
  | nil => rfl
  | cons x xs ih => rw [List.map_cons, recs, ih, List.map_cons]

theorem recs_map_data (l : List Rec) : recs (l.map .data) = l := (recs_data_map id l).trans (List.map_id l)

theorem wms_append (a b : List Msg) : wms (a ++ b) = wms a ++ wms b := by
  induction a with
  | nil => rfl
  | cons m ms ih => cases m <;> simp [wms, ih]

theorem wms_map_data (l : List Rec) : wms (l.map .data) = [] := by
  induction l with
  | nil => rfl
  | cons r rs ih => exact ih

theorem recs_map_wm (ws : List Int) : recs (ws.map .wm) = [] := by
  induction ws with
  | nil => rfl
  | cons w ws ih => exact ih

theorem wms_map_wm (ws : List Int) : wms (ws.map .wm) = ws := by
  induction ws with
  | nil => rfl
  | cons w ws ih => exact congrArg (w :: ·) ih

/-- non-decreasing -/
def Mono : List Int → Prop
  | [] => True
  | [_] => True
  | a :: b :: rest => a ≤ b ∧ Mono (b :: rest)

theorem mono_iff_pairwise (l : List Int) : Mono l ↔ l.Pairwise (· ≤ ·) := by
  induction l with
  | nil => simp [Mono]
  | cons a as ih =>
    cases as with
    | nil => simp [Mono]
    | cons b bs =>
      simp only [Mono, ih, List.pairwise_cons]
      constructor
      · rintro ⟨hab, hb, hbs⟩
        exact ⟨List.forall_mem_cons.mpr ⟨hab, fun c h => Int.le_trans hab (hb c h)⟩, hb, hbs⟩
      · rintro ⟨ha, hb, hbs⟩
        exact ⟨ha b List.mem_cons_self, hb, hbs⟩

theorem mono_sublist {l l' : List Int} (h : l'.Sublist l) (hm : Mono l) : Mono l' := by
  rw [mono_iff_pairwise] at *
  exact List.Pairwise.sublist h hm

end Octo
