import Octo.Props.C05
/-!
# C01 — Single-source SELECT results match relational semantics

`Octo.Sql.denote mode q t` is the model of what the engine does with a (possibly nested) single-source
SELECT on a batch table `t` in output mode `mode` (tied to the real binary by the C01 correspondence:
exact printed row sequence in all five output modes). `Octo.Sql.QueryResult q t out` is the relational
specification ("filter, project, one representative per class of equal rows, a key-sorted
rearrangement, its first n rows").  The theorems say: whatever the engine returns is an allowed result,
for every query of the fragment and every table — any number of rows, any nesting depth.
-/
namespace Octo.C01
open Octo Octo.Sql

/-- the ORDER BY keys evaluate on every row they are applied to (true of well-typed queries: keys are
    columns and total arithmetic); only needed to exhibit the sorted rearrangement when `LIMIT 0` makes the
    engine skip the sort altogether -/
def KeysOk (order : List (SExpr × Bool)) (core : List Row) : Prop :=
  ∀ r ∈ core, (evalAll r (keyExprs order)).isSome

/-- WHERE / SELECT list / DISTINCT as executed = as specified -/
theorem blockCore_spec (b : Block) (inp core : List Row) (h : blockCore b inp = some core) :
    (if b.distinct then IsDistinctOf core (specMap b.proj (specFilter b.whr inp))
     else core = specMap b.proj (specFilter b.whr inp)) := by
  rw [blockCore] at h
  split at h
  · cases h
  · rename_i r1 h1
    split at h
    · cases h
    · rename_i r2 h2
      cases h
      rw [← whereStep_spec h1, ← projStep_spec h2]
      cases b.distinct
      · rfl
      · exact distinctOp_isDistinct r2

/-- ORDER BY / LIMIT of nested blocks and of the eager sinks (csv, json, stream_native) -/
theorem orderLimitEager_spec (b : Block) (core out : List Row) (hk : KeysOk b.order core)
    (h : orderLimitEager b core = some out) :
    ∃ full, SameBag full core ∧ SortedBy b.order full ∧
      out = applyLimit b.limit full := by
  -- `hk : C01.KeysOk …` is accepted as a `C05.KeysOk …`: one predicate under two names
  obtain ⟨full, hb, _, hs, he⟩ := C05.choice_eager b core out hk h
  exact ⟨full, hb, hs, he⟩

theorem block_eager_sound (b : Block) (inp core out : List Row)
    (hc : blockCore b inp = some core) (hk : KeysOk b.order core)
    (ho : orderLimitEager b core = some out) : BlockResult b inp out := by
  obtain ⟨full, h1, h2, h3⟩ := orderLimitEager_spec b core out hk ho
  exact ⟨core, full, blockCore_spec b inp core hc, h1, h2, h3⟩

/-- the table sinks (batch_table, live_table): optional Limit node, then the sorting and limiting printer -/
theorem block_table_sound (b : Block) (inp core out : List Row)
    (hc : blockCore b inp = some core)
    (ho : tableSink b core = some out) : BlockResult b inp out := by
  obtain ⟨full, hb, _, hs, he⟩ := C05.choice_table b core out ho
  exact ⟨core, full, blockCore_spec b inp core hc, hb, hs, he⟩

/-- the ORDER BY keys of every block evaluate on the rows they meet -/
def KeysTotal : Query → List Row → Prop
  | .table, _ => True
  | .sel src b, t => KeysTotal src t ∧
      ∀ mid core, denoteNested src t = some mid → blockCore b mid = some core → KeysOk b.order core

theorem sel_sound (mode : Mode) (src : Query) (b : Block) (t out : List Row)
    (hsrc : ∀ mid, denoteNested src t = some mid → QueryResult src t mid)
    (hk : ∀ mid core, denoteNested src t = some mid → blockCore b mid = some core → KeysOk b.order core)
    (h : denote mode (.sel src b) t = some out) : QueryResult (.sel src b) t out := by
  rw [denote] at h
  split at h
  · cases h
  · rename_i mid h1
    split at h
    · cases h
    · rename_i core h2
      refine ⟨mid, hsrc mid h1, ?_⟩
      cases mode with
      | eager => exact block_eager_sound b mid core out h2 (hk mid core h1 h2) h
      | table => exact block_table_sound b mid core out h2 h

/-- nested queries (subqueries in FROM): a nested block runs as under an eager sink -/
theorem denoteNested_sound (q : Query) (t out : List Row) (hk : KeysTotal q t)
    (h : denoteNested q t = some out) : QueryResult q t out := by
  induction q generalizing out with
  | table => cases h; rfl
  | sel src b ih => exact sel_sound .eager src b t out (fun mid => ih mid hk.1) hk.2 h

/-- **C01**: in every output mode, the rows a SELECT query prints are an allowed result of the query:
    they match as a multiset, and in order when ORDER BY is given (`QueryResult`). -/
theorem C01_denote_sound (mode : Mode) (src : Query) (b : Block) (t out : List Row)
    (hk : KeysTotal (.sel src b) t)
    (h : denote mode (.sel src b) t = some out) : QueryResult (.sel src b) t out :=
  sel_sound mode src b t out (fun mid => denoteNested_sound src t mid hk.1) hk.2 h

/-! ### what `QueryResult` buys: corollaries in plain words -/

/-- without DISTINCT / LIMIT the output is, as a multiset, exactly the filtered and projected input -/
theorem result_bag (b : Block) (inp out : List Row) (hd : b.distinct = false) (hl : b.limit = none)
    (h : BlockResult b inp out) : SameBag out (specMap b.proj (specFilter b.whr inp)) := by
  obtain ⟨core, full, h1, h2, _, h4⟩ := h
  simp only [hd, hl, applyLimit] at h1 h4
  simp at h1
  subst h1; subst h4
  exact h2

/-- with ORDER BY the output is sorted by the keys -/
theorem result_sorted (b : Block) (inp out : List Row) (hl : b.limit = none)
    (h : BlockResult b inp out) : SortedBy b.order out := by
  obtain ⟨core, full, _, _, h3, h4⟩ := h
  simp only [hl, applyLimit] at h4
  subst h4; exact h3

/-! ### non-vacuity: concrete queries, evaluated in the kernel -/

def tbl : List Row := [[.int 2, .str [120]], [.null, .str [121]], [.int 2, .str [120]], [.int 1, .str [122]]]
/-- `SELECT DISTINCT c0 + 1, c1 FROM t WHERE c0 IS NOT NULL ORDER BY 1 DESC LIMIT 1` -/
def q1 : Query := .sel .table
  { whr := some (.isNotNull (.col 0)), proj := some [.bin .add (.col 0) (.lit (.int 1)), .col 1],
    distinct := true, order := [(.col 0, true)], limit := some 1 }

def isSingle (r : Row) : Option (List Row) → Bool
  | some [x] => rowEq x r
  | _ => false

example : isSingle [.int 3, .str [120]] (denote .eager q1 tbl) = true := by decide +kernel
example : isSingle [.int 3, .str [120]] (denote .table q1 tbl) = true := by decide +kernel

end Octo.C01
