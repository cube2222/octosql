import Octo.Lemmas.SqlJoinTop
/-!
# C02 — Join results match relational join semantics (query level)

Property C02: for every inner JOIN, LOOKUP JOIN and LEFT/RIGHT/FULL OUTER JOIN query and every pair of inputs, the
output is the SQL join of the inputs. An equality condition never matches NULL keys, and every unmatched row of an
outer side appears exactly once, padded with NULLs. This holds whichever input finishes first.

* the SQL side is `Octo.SqlJoin.joinSem` (`Octo/Spec/JoinSem.lean`): nested loops, "ON evaluates to TRUE",
  unmatched rows of an outer side once with NULLs, then WHERE, then the SELECT list;
* the engine side is `Octo.SqlJoin.runQuery` (`Octo/Model/SqlJoin.lean`): `ParseJoinTableExpression` + the logical
  join nodes (`planOf`: StreamJoin + Filter, LookupJoin + Filter, OuterJoin with keys taken from the ON clause),
  the optimizer rules that move predicates into join branches and join keys (`optimize`), the execution nodes on
  changelogs — Filter, Map, LookupJoin, and StreamJoin / OuterJoin as the schedule machine of `Octo.Model.Join`
  under an arbitrary scheduler — and the consolidating sink;
* "whichever input finishes first" is the universal quantifier over schedulers: a scheduler is any function that
  interleaves the events of the two inputs of a join node (`ValidSched`).

The node-level half (StreamJoin / OuterJoin against the SQL (outer) join of their two input changelogs, for every
interleaving) is `Octo/Props/C02Nodes.lean`; the theorems below are built on it.
-/
namespace Octo.C02
open Octo Octo.Sql Octo.SqlJoin Octo.Join

/-- **planner**: read relationally, the plan built for a FROM clause computes the SQL semantics of that FROM
    clause — StreamJoin + Filter for JOIN … ON, LookupJoin + Filter for LOOKUP JOIN, and for the outer joins the
    keys taken from the ON clause say exactly "ON is TRUE" (so a NULL key matches nothing). -/
theorem planner_is_sql {db : Db} (hdb : DbOK db) (f : From) (c : Nat) (p : Plan) (ctx : VRow)
    (h : planOf db f c = some p) (hc : ctx.length = c) : planBag db p ctx = fromSem db f ctx :=
  planOf_sound hdb f c p ctx h hc

/-- **optimizer**: any number of rounds of the predicate-moving rules (`MergeFilters`, pushing a filter into the
    branches of a stream join or a lookup join, turning equality conjuncts into join keys) leave the relation a
    plan computes unchanged. -/
theorem optimizer_preserves {db : Db} (hdb : DbOK db) (p : Plan) (h : p.ok = true) :
    planBag db (optimize db p) [] = planBag db p [] :=
  optimize_planBag hdb p h

/-- the loop of `PushDownFilterPredicatesIntoStreamJoinKey` over the conjuncts of a filter: all of them are TRUE iff those
    that stay above are TRUE and the keys taken out of the others match -/
theorem pushIntoJoinKey_sound {c wl wr : Nat} {ctx a b : VRow} (hc : ctx.length = c) (ha : a.length = wl) (hb : b.length = wr)
    (parts : List SExpr) :
    parts.all (isTrue (ctx ++ a ++ b)) =
      ((keyParts c wl wr parts).1.all (isTrue (ctx ++ a ++ b)) &&
        keyMatch (keyParts c wl wr parts).2.1 (keyParts c wl wr parts).2.2 ctx a b) :=
  keyParts_match hc ha hb parts

/-- **execution**: for every scheduler, if the plan runs without error, the changelog it produces consolidates
    to the relation the plan computes: every stream join and outer join node under the interleaving the scheduler
    chose for it, retractions of NULL-padded rows included. -/
theorem execution_is_relational {db : Db} (hdb : DbOK db) {sch : Sched} (hs : ValidSched sch) (p : Plan) (ctx : VRow)
    (out : List Rec) (hok : p.ok = true) (h : denote sch db p ctx = some out) :
    ∀ row, net out row = (countRow row (planBag db p ctx) : Int) := by
  intro row
  rw [denote_sound hs p ctx out hok h row, net_asRecs]

/-- **sink**: the count tree of the table printers / of `OrderSensitiveTransform` ends up holding every row as
    often as the changelog's net content says. -/
theorem sink_consolidates (rs : List Rec) (out : List VRow) (h : consolidate [] rs = some out) :
    ∀ row, (countRow row out : Int) = net rs row :=
  -- `sink .table _ rs` is `consolidate [] rs` by unfolding
  sink_count (m := .table) (nr := false) (fun hnr => nomatch hnr) h

/-- **join_sql**: the engine's result is the SQL join, as a bag -/
theorem join_sql {db : Db} (hdb : DbOK db) {sch : Sched} (hs : ValidSched sch) (opt : Bool) (q : JQuery) (hq : q.ok = true)
    (rows : List VRow) (h : runQuery sch opt q db = some rows) : SameBag rows (joinSem q db) :=
  runQuery_sound hdb hs opt q hq rows h

/-- LOOKUP JOIN (a nested loop that re-runs the joined side per source record): its output is the SQL join -/
theorem lookupJoin_sql {db : Db} (hdb : DbOK db) {sch : Sched} (hs : ValidSched sch) (i j : Nat) (on : SExpr) (hon : predOK on = true)
    (out : List Rec) (h : denote sch db (.filter on (.lookupJoin (.scan i) (.scan j))) [] = some out) :
    ∀ row, net out row = (countRow row (innerPart on [] (tableRows db i) (tableRows db j)) : Int) := by
  have hok : (Plan.filter on (.lookupJoin (.scan i) (.scan j))).ok = true := by simp [Plan.ok, hon]
  have hp : planOf db (.join .lookup (.tbl i) (.tbl j) on) 0 = some (.filter on (.lookupJoin (.scan i) (.scan j))) := rfl
  intro row
  rw [execution_is_relational hdb hs _ [] out hok h row, planOf_sound hdb _ 0 _ [] hp rfl]
  rfl

/-- `Schema.NoRetractions` is sound: a plan that carries the flag produces no retraction under any scheduler —
    the csv/json printers rely on it when they write such a plan's records as they arrive -/
theorem noRetractions_sound {db : Db} {sch : Sched} (hs : ValidSched sch) (p : Plan) (ctx : VRow) (out : List Rec)
    (hflag : p.noRetr = true) (h : denote sch db p ctx = some out) : ∀ r ∈ out, r.retr = false :=
  denote_nr hs p ctx out hflag h

/-- the planner's flag is exact: the plan of a FROM clause is flagged `NoRetractions` iff the clause contains no
    LEFT / RIGHT / FULL OUTER JOIN (stream join and lookup join: left ∧ right; outer join: never). The real
    planner's flags are compared with this node by node (`jf` op lines). -/
theorem planner_flag_exact (db : Db) : ∀ (f : From) (c : Nat) (p : Plan), planOf db f c = some p →
    p.noRetr = !f.mayRetract := by
  refine planOf_ind db (tbl := fun _ _ => rfl) (sub := fun _ _ _ _ _ ih => ih) (proj := fun _ _ _ _ _ ih => ih) (inner := ?inner)
    (lookup := ?lookup) (outer := ?outer)
  case inner =>
    intro l r on c pl pr _ _ ihl ihr
    simp only [Plan.noRetr, From.mayRetract, wantsLeft, wantsRight, ihl, ihr]
    cases l.mayRetract <;> cases r.mayRetract <;> rfl
  case lookup =>
    intro l r on c pl pr _ _ ihl ihr
    simp only [Plan.noRetr, From.mayRetract, wantsLeft, wantsRight, ihl, ihr]
    cases l.mayRetract <;> cases r.mayRetract <;> rfl
  case outer =>
    intro k l r on c pl pr ks _ _ _ _ ihl ihr
    simp only [Plan.noRetr, From.mayRetract, ihl, ihr]
    cases wantsLeft k <;> cases wantsRight k <;> cases l.mayRetract <;> cases r.mayRetract <;> rfl

/-- the same for every kind of sink: table printers (count tree), csv/json (records as they arrive when the plan
    says `NoRetractions`, a count tree in front otherwise), stream_native (the changelog, consolidated by the reader) -/
theorem join_sql_mode {db : Db} (hdb : DbOK db) {sch : Sched} (hs : ValidSched sch) (m : SinkMode) (opt : Bool) (q : JQuery)
    (hq : q.ok = true) (rows : List VRow) (h : runQueryMode m sch opt q db = some rows) : SameBag rows (joinSem q db) :=
  runQueryMode_sound hdb hs m opt q hq rows h

/-- the full-strength statement of C02 for the modelled fragment: every output mode, every scheduler (whichever
    input finishes first), optimizer on or off, every query and all tables -/
def Statement : Prop :=
  ∀ (m : SinkMode) (sch : Sched), ValidSched sch → ∀ (opt : Bool) (db : Db), DbOK db → ∀ (q : JQuery), q.ok = true →
    ∀ rows, runQueryMode m sch opt q db = some rows → SameBag rows (joinSem q db)

theorem C02_full : Statement :=
  fun m _ hs opt _ hdb q hq rows h => join_sql_mode hdb hs m opt q hq rows h

/-- whichever input finishes first: two runs under different schedulers return the same bag -/
theorem schedule_independent {db : Db} (hdb : DbOK db) {s1 s2 : Sched} (h1 : ValidSched s1) (h2 : ValidSched s2)
    (opt : Bool) (q : JQuery) (hq : q.ok = true) (r1 r2 : List VRow)
    (e1 : runQuery s1 opt q db = some r1) (e2 : runQuery s2 opt q db = some r2) : SameBag r1 r2 :=
  fun row => (join_sql hdb h1 opt q hq r1 e1 row).trans (join_sql hdb h2 opt q hq r2 e2 row).symm

/-- `--optimize=false` and the optimized plan return the same bag -/
theorem optimizer_irrelevant {db : Db} (hdb : DbOK db) {s1 s2 : Sched} (h1 : ValidSched s1) (h2 : ValidSched s2)
    (q : JQuery) (hq : q.ok = true) (r1 r2 : List VRow)
    (e1 : runQuery s1 true q db = some r1) (e2 : runQuery s2 false q db = some r2) : SameBag r1 r2 :=
  fun row => (join_sql hdb h1 true q hq r1 e1 row).trans (join_sql hdb h2 false q hq r2 e2 row).symm

/-- inner JOIN: exactly the pairs on which ON is TRUE -/
theorem innerJoin_sql {db : Db} (hdb : DbOK db) {sch : Sched} (hs : ValidSched sch) (m : SinkMode) (opt : Bool)
    (a b : Nat) (on : SExpr) (hon : predOK on = true) (rows : List VRow)
    (h : runQueryMode m sch opt ⟨.join .inner (.tbl a) (.tbl b) on, none, none⟩ db = some rows) :
    SameBag rows (innerPart on [] (tableRows db a) (tableRows db b)) := by
  have hsem : joinSem ⟨.join .inner (.tbl a) (.tbl b) on, none, none⟩ db =
      innerPart on [] (tableRows db a) (tableRows db b) :=
    List.append_nil _ |>.trans (List.append_nil _)
  rw [← hsem]
  exact join_sql_mode hdb hs m opt _ (plainJoin_ok .inner a b hon) rows h

/-- an equality with a NULL side is never TRUE -/
theorem eq_with_null_is_not_true (row : VRow) (x y : SExpr)
    (h : eval row x = some .null ∨ eval row y = some .null) : isTrue row (.bin .eq x y) = false := by
  rw [isTrue_eq_eqKey]
  rcases h with h | h
  · rw [h]; cases eval row y <;> rfl
  · rw [h, eqKey_comm]; cases eval row x <;> rfl

theorem innerPart_true (on : SExpr) (ctx : VRow) (L R : List VRow) :
    ∀ row ∈ innerPart on ctx L R, isTrue (ctx ++ row) on = true := by
  intro row hrow
  -- `innerPart on ctx` is `nlJoin` of the ON test, by unfolding
  obtain ⟨a, _, b, _, ht, rfl⟩ := mem_nlJoin.mp hrow
  rw [← List.append_assoc]
  exact ht

/-- so the SQL join on "column `i` = column `j`" (positions in `ctx ++ a ++ b`) contains no pair whose key is NULL … -/
theorem sql_join_has_no_null_keys (i j : Nat) (ctx : VRow) (L R : List VRow) :
    ∀ row ∈ innerPart (.bin .eq (.col i) (.col j)) ctx L R,
      (ctx ++ row)[i]? ≠ some .null ∧ (ctx ++ row)[j]? ≠ some .null := fun row hrow =>
  have ht := innerPart_true _ ctx L R row hrow
  ⟨fun hn => Bool.false_ne_true ((eq_with_null_is_not_true _ (.col i) (.col j) (Or.inl hn)).symm.trans ht),
    fun hn => Bool.false_ne_true ((eq_with_null_is_not_true _ (.col i) (.col j) (Or.inr hn)).symm.trans ht)⟩

theorem countRow_zero_of_forall (row : VRow) (X : List VRow) (h : ∀ x ∈ X, Sql.rowEq row x = false) : countRow row X = 0 := by
  have := any_rowEq_iff_count row X
  rw [List.any_eq_false.mpr fun x hx => ne_true_of_eq_false (h x hx)] at this
  simpa using this.symm

theorem innerPart_count_zero (on : SExpr) (ctx : VRow) (L R : List VRow) (row : VRow) (hf : isTrue (ctx ++ row) on = false) :
    countRow row (innerPart on ctx L R) = 0 := by
  apply countRow_zero_of_forall
  intro x hx
  cases hre : Sql.rowEq row x with
  | false => rfl
  | true =>
    have hc : cmpList row x = 0 := by simpa [Sql.rowEq] using hre
    -- `row` need not be in the join itself, only equivalent to a row `x` of it: ON does not distinguish the two
    rw [isTrue_congr on (cmpList_append_eq (cmpList_refl ctx) hc), innerPart_true on ctx L R x hx] at hf
    cases hf

/-- … and neither does the engine's result (any scheduler, optimized or not): a row whose `i`-th or `j`-th column
    is NULL occurs zero times in the output of `t JOIN u ON` column `i` = column `j` (positions in the joined row) -/
theorem engine_join_has_no_null_keys {db : Db} (hdb : DbOK db) {sch : Sched} (hs : ValidSched sch) (opt : Bool)
    (a b i j : Nat) (rows : List VRow)
    (h : runQuery sch opt ⟨.join .inner (.tbl a) (.tbl b) (.bin .eq (.col i) (.col j)), none, none⟩ db = some rows)
    (row : VRow) (hnull : row[i]? = some .null ∨ row[j]? = some .null) : countRow row rows = 0 := by
  rw [innerJoin_sql hdb hs .table opt a b _ rfl rows h row]
  exact innerPart_count_zero _ [] _ _ row (eq_with_null_is_not_true row (.col i) (.col j) hnull)

/-- LEFT JOIN: the engine's result is the matching pairs plus every left row without a partner, once, NULL-padded -/
theorem left_join_shape {db : Db} (hdb : DbOK db) {sch : Sched} (hs : ValidSched sch) (opt : Bool)
    (a b : Nat) (on : SExpr) (hon : predOK on = true) (rows : List VRow)
    (h : runQuery sch opt ⟨.join .left (.tbl a) (.tbl b) on, none, none⟩ db = some rows) (row : VRow) :
    countRow row rows =
      countRow row (innerPart on [] (tableRows db a) (tableRows db b)) +
      countRow row (leftPart on [] (tableWidth db b) (tableRows db a) (tableRows db b)) := by
  rw [join_sql hdb hs opt _ (plainJoin_ok .left a b hon) rows h row]
  show countRow row (innerPart on [] (tableRows db a) (tableRows db b) ++
    leftPart on [] (tableWidth db b) (tableRows db a) (tableRows db b) ++ []) = _
  rw [List.append_nil, countRow_append]

/-- RIGHT JOIN: the matching pairs plus every right row without a partner, once, NULL-padded -/
theorem right_join_shape {db : Db} (hdb : DbOK db) {sch : Sched} (hs : ValidSched sch) (m : SinkMode) (opt : Bool)
    (a b : Nat) (on : SExpr) (hon : predOK on = true) (rows : List VRow)
    (h : runQueryMode m sch opt ⟨.join .right (.tbl a) (.tbl b) on, none, none⟩ db = some rows) (row : VRow) :
    countRow row rows =
      countRow row (innerPart on [] (tableRows db a) (tableRows db b)) +
      countRow row (rightPart on [] (tableWidth db a) (tableRows db a) (tableRows db b)) := by
  rw [join_sql_mode hdb hs m opt _ (plainJoin_ok .right a b hon) rows h row]
  show countRow row (innerPart on [] (tableRows db a) (tableRows db b) ++ [] ++
    rightPart on [] (tableWidth db a) (tableRows db a) (tableRows db b)) = _
  rw [List.append_nil, countRow_append]

/-- FULL OUTER JOIN: … plus every right row without a partner, once, NULL-padded -/
theorem full_join_shape {db : Db} (hdb : DbOK db) {sch : Sched} (hs : ValidSched sch) (opt : Bool)
    (a b : Nat) (on : SExpr) (hon : predOK on = true) (rows : List VRow)
    (h : runQuery sch opt ⟨.join .full (.tbl a) (.tbl b) on, none, none⟩ db = some rows) (row : VRow) :
    countRow row rows =
      countRow row (innerPart on [] (tableRows db a) (tableRows db b)) +
      countRow row (leftPart on [] (tableWidth db b) (tableRows db a) (tableRows db b)) +
      countRow row (rightPart on [] (tableWidth db a) (tableRows db a) (tableRows db b)) := by
  rw [join_sql hdb hs opt _ (plainJoin_ok .full a b hon) rows h row]
  show countRow row (innerPart on [] (tableRows db a) (tableRows db b) ++
    leftPart on [] (tableWidth db b) (tableRows db a) (tableRows db b) ++
    rightPart on [] (tableWidth db a) (tableRows db a) (tableRows db b)) = _
  rw [countRow_append, countRow_append]

/-- an unmatched left row: its NULL-padded copy is in the SQL result -/
theorem unmatched_left_row_is_padded (on : SExpr) (ctx : VRow) (nR : Nat) (L R : List VRow) (a : VRow) (ha : a ∈ L)
    (hun : ∀ b ∈ R, isTrue (ctx ++ a ++ b) on = false) : a ++ nullRow nR ∈ leftPart on ctx nR L R := by
  simp only [leftPart, List.mem_map, List.mem_filter]
  refine ⟨a, ⟨ha, ?_⟩, rfl⟩
  simp only [Bool.not_eq_true', List.any_eq_false]
  intro b hb
  rw [hun b hb]; simp

/-! ### the defect that was repaired: the eager sinks printed retractions as rows -/

def tEx : Table := ⟨2, [[.int 1, .int 7], [.int 2, .int 8], [.null, .int 9]]⟩
def uEx : Table := ⟨2, [[.int 1, .int 10], [.null, .int 30], [.int 3, .int 40]]⟩
def dbEx : Db := [tEx, uEx]
def onEq : SExpr := .bin .eq (.col 0) (.col 2)
def qInner : JQuery := ⟨.join .inner (.tbl 0) (.tbl 1) onEq, none, none⟩
def qLeft : JQuery := ⟨.join .left (.tbl 0) (.tbl 1) onEq, none, none⟩
def qFull : JQuery := ⟨.join .full (.tbl 0) (.tbl 1) onEq, none, none⟩

/-- what `-o csv` / `-o json` did before the repair (print every record's values, retractions too) depends on
    which input is served first: 5 lines when the left file is read first, 3 when the right one is -/
def RawSinkStatement : Prop :=
  ∀ (s1 s2 : Sched), ValidSched s1 → ValidSched s2 → ∀ (q : JQuery) (db : Db) (r1 r2 : List VRow),
    runQueryRaw s1 true q db = some r1 → runQueryRaw s2 true q db = some r2 → r1.length = r2.length

theorem eager_sink_before_fix_refuted : ¬ RawSinkStatement := by
  intro h
  have := h leftFirst rightFirst leftFirst_valid rightFirst_valid qLeft dbEx _ _ rfl rfl
  revert this
  decide

/-- the flag rule before `fix: outer join schema must not claim NoRetractions` (both inputs retraction-free) -/
def noRetrOld : Plan → Bool
  | .scan _ => true
  | .filter _ s => noRetrOld s
  | .map _ s => noRetrOld s
  | .streamJoin _ _ l r => noRetrOld l && noRetrOld r
  | .outerJoin _ _ _ _ l r => noRetrOld l && noRetrOld r
  | .lookupJoin s j => noRetrOld s && noRetrOld j

/-- … was not sound: a LEFT JOIN of two files retracts a NULL-padded row when the match arrives later -/
theorem old_noRetractions_flag_refuted :
    ¬ (∀ (sch : Sched), ValidSched sch → ∀ (db : Db) (p : Plan) (out : List Rec), noRetrOld p = true →
        denote sch db p [] = some out → out.all (fun r => !r.retr) = true) := by
  intro h
  have := h leftFirst leftFirst_valid dbEx (.outerJoin true false [.col 0] [.col 0] (.scan 0) (.scan 1)) _ rfl rfl
  revert this
  decide

/-! ### non-vacuity -/
example : DbOK dbEx := by
  intro t ht r hr
  simp only [dbEx, List.mem_cons, List.mem_nil_iff, or_false] at ht
  rcases ht with rfl | rfl <;> simp only [tEx, uEx, List.mem_cons, List.mem_nil_iff, or_false] at hr <;>
    rcases hr with rfl | rfl | rfl <;> rfl
example : qLeft.ok = true := rfl
example : ValidSched alternate := alternate_valid
example : ValidSched leftFirst := leftFirst_valid
example : ValidSched rightFirst := rightFirst_valid
/-- the optimizer turns the ON equality into join keys -/
example : (planQ dbEx qInner).map (optimize dbEx) = some (.streamJoin [.col 0] [.col 0] (.scan 0) (.scan 1)) := rfl
/-- a LEFT JOIN run: the NULL-keyed row and the unmatched row are padded, NULL does not match NULL -/
example : runQuery alternate true qLeft dbEx =
    some [[.int 1, .int 7, .int 1, .int 10], [.int 2, .int 8, .null, .null], [.null, .int 9, .null, .null]] := rfl
example : runQuery leftFirst false qLeft dbEx =
    some [[.int 2, .int 8, .null, .null], [.null, .int 9, .null, .null], [.int 1, .int 7, .int 1, .int 10]] := rfl
example : (runQuery alternate true qFull dbEx).map (·.length) = some 5 := by decide +kernel
/-- the inner join carries the flag (its records are printed as they arrive), the outer joins do not -/
example : (planQ dbEx qInner).map Plan.noRetr = some true := rfl
example : (planQ dbEx qLeft).map Plan.noRetr = some false := rfl
example : runQueryMode .eager rightFirst true qInner dbEx = some [[.int 1, .int 7, .int 1, .int 10]] := rfl
example : (runQueryMode .eager leftFirst true qLeft dbEx).map (·.length) = some 3 := by decide +kernel
example : joinSem qLeft dbEx =
    [[.int 1, .int 7, .int 1, .int 10], [.int 2, .int 8, .null, .null], [.null, .int 9, .null, .null]] := rfl

end Octo.C02
