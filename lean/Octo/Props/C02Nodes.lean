import Octo.Props.C19
/-!
# C02 (node level) — join nodes compute the SQL join under every interleaving

Property C02: for every inner JOIN and LEFT/RIGHT/FULL OUTER JOIN and every pair of inputs, the
output is the SQL join of the inputs; an equality condition never matches NULL keys; every unmatched
row of an outer side appears exactly once, padded with NULLs; whichever input finishes first.

This file is the execution-node half: `StreamJoin` / `OuterJoin` (the planner half — `JOIN … ON`
compiled to StreamJoin + Filter, equalities pushed into the join keys — is in `Props/C02.lean`).
The theorems are corollaries of C19's `final`, which holds for every schedule and needs no
assumption on event times; tables are the special case "no event times, no watermarks".
-/
namespace Octo.C02
open Octo Octo.Join Octo.C19

/-- inner join: for every pair of inputs and every interleaving the node's consolidated output is the
    SQL join (`joinRecs`: pairs whose key columns are pointwise equal and contain no NULL) -/
theorem streamJoin_is_sql_join (keysL keysR : List Nat) {ls rs : List Msg} {σ : List Ev} {out : List Msg}
    (hI : Interleave ls rs σ) (hrun : run (cfgInner keysL keysR) σ = .ok out) :
    SameNet (recs out) (joinRecs (cfgInner keysL keysR) (recs ls) (recs rs)) :=
  streamJoin_final keysL keysR hI hrun

/-- LEFT / RIGHT / FULL OUTER join: the consolidated output is the inner join plus every record of an
    outer side that has no partner, NULL-padded, with its own multiplicity (`outerRecs`) -/
theorem outerJoin_is_sql_outer_join (oL oR : Bool) (nL nR : Nat) (keysL keysR : List Nat)
    {ls rs : List Msg} {σ : List Ev} {out : List Msg}
    (hwL : ∀ x ∈ recs ls, x.vals.length = nL) (hwR : ∀ x ∈ recs rs, x.vals.length = nR)
    (hI : Interleave ls rs σ) (hrun : run (cfgOuter oL oR nL nR keysL keysR) σ = .ok out) :
    SameNet (recs out) (outerRecs (cfgOuter oL oR nL nR keysL keysR) (recs ls) (recs rs)) :=
  outerJoin_final oL oR nL nR keysL keysR hwL hwR hI hrun

/-- the specification never pairs a record whose key contains NULL (left side) … -/
theorem null_key_never_matches_left (cfg : Cfg) (l r : Rec) {k : Row} (hk : keyOf cfg.keysL l.vals = some k)
    (hn : hasNull k = true) : sqlMatch cfg l r = false := by
  unfold sqlMatch; rw [hk]; cases keyOf cfg.keysR r.vals <;> simp [hn]

/-- … nor one on the right side -/
theorem null_key_never_matches_right (cfg : Cfg) (l r : Rec) {k : Row} (hk : keyOf cfg.keysR r.vals = some k)
    (hn : hasNull k = true) : sqlMatch cfg l r = false := by
  unfold sqlMatch; rw [hk]
  cases hkl : keyOf cfg.keysL l.vals with
  | none => rfl
  | some kl =>
    show (!hasNull kl && rowEq kl k) = false
    cases hre : rowEq kl k with
    | false => exact Bool.and_false _
    | true => rw [hasNull_congr (rowEq_iff.mp hre), hn]; rfl

theorem joinRecs_no_match (cfg : Cfg) (L R : List Rec) (h : ∀ l ∈ L, ∀ r ∈ R, sqlMatch cfg l r = false) :
    joinRecs cfg L R = [] := by
  unfold joinRecs
  simp only [List.flatMap_eq_nil_iff, List.map_eq_nil_iff, List.filter_eq_nil_iff]
  intro l hl r hr
  rw [h l hl r hr]
  exact Bool.false_ne_true

/-- an inner join in which every left key contains a NULL produces nothing (consolidated), under every schedule -/
theorem inner_null_keys_no_rows (keysL keysR : List Nat) {ls rs : List Msg} {σ : List Ev} {out : List Msg}
    (hnull : ∀ l ∈ recs ls, ∃ k, keyOf keysL l.vals = some k ∧ hasNull k = true)
    (hI : Interleave ls rs σ) (hrun : run (cfgInner keysL keysR) σ = .ok out) :
    ∀ row, net (recs out) row = 0 := by
  intro row
  rw [streamJoin_final keysL keysR hI hrun row, joinRecs_no_match]
  · rfl
  · intro l hl r _
    obtain ⟨k, hk, hn⟩ := hnull l hl
    exact null_key_never_matches_left (cfgInner keysL keysR) l r hk hn

/-- a LEFT JOIN against an empty right input: every left record appears exactly once, NULL-padded -/
theorem left_join_empty_right (nL nR : Nat) (keysL keysR : List Nat) {ls : List Msg} {σ : List Ev} {out : List Msg}
    (hwL : ∀ x ∈ recs ls, x.vals.length = nL)
    (hI : Interleave ls [] σ) (hrun : run (cfgOuter true false nL nR keysL keysR) σ = .ok out) :
    SameNet (recs out) ((recs ls).map fun l => { l with vals := l.vals ++ nulls nR }) := by
  intro row
  rw [outerJoin_final true false nL nR keysL keysR hwL (by simp [recs]) hI hrun row]
  have h1 : joinRecs (cfgOuter true false nL nR keysL keysR) (recs ls) (recs []) = [] :=
    joinRecs_no_match _ _ _ (by intro l _ r hr; simp [recs] at hr)
  have h2 : padLeftRecs (cfgOuter true false nL nR keysL keysR) (recs ls) (recs []) =
      (recs ls).map fun l => { l with vals := l.vals ++ nulls nR } := by
    unfold padLeftRecs
    rw [List.filter_eq_self.mpr]
    · rfl
    · intro l _; simp [partnersL, recs]
  unfold outerRecs
  rw [h1, h2]
  simp [cfgOuter]

/-! non-vacuity: a FULL OUTER JOIN run in which a padded row is emitted, retracted on the first match and
    re-emitted after the last retraction -/
def l1 (retr : Bool) : Rec := { vals := [.int 1], retr := retr, et := none }
def r1 : Rec := { vals := [.int 1], retr := false, et := none }
def r2 : Rec := { vals := [.int 2], retr := false, et := none }
example : run (cfgOuter true true 1 1 [0] [0])
    [evL (some (.data (l1 false))), evR (some (.data r1)), evL (some (.data (l1 true))), evR (some (.data r2)), evL none, evR none] =
    .ok [.data { vals := [.int 1, .null], retr := false, et := none },
         .data { vals := [.int 1, .null], retr := true, et := none },
         .data { vals := [.int 1, .int 1], retr := false, et := none },
         .data { vals := [.int 1, .int 1], retr := true, et := none },
         .data { vals := [.null, .int 1], retr := false, et := none },
         .data { vals := [.null, .int 2], retr := false, et := none }] := by rfl

end Octo.C02
