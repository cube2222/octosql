import Octo.Lemmas.GroupResolve
import Octo.Lemmas.GroupQuery
import Octo.Props.C01
import Octo.Lemmas.GroupTrigSem
import Octo.Props.C09
/-!
# C03 — GROUP BY and aggregates match relational semantics

Property: for every grouping query and every input, octosql returns one row per distinct key, including a
NULL key; each row holds count / sum / avg / min / max / array_agg and their DISTINCT variants computed over
that group's non-NULL inputs, NULL when a group has no non-NULL input; AVG over Int truncates toward zero,
array_agg lists its elements in ascending order.

* `Octo.Grp.denoteG mode tys q t` is the model of what the engine does with a grouping query (the planner's
  FROM → WHERE → GroupBy → Map → DISTINCT → ORDER BY / LIMIT pipeline, `GroupBy.Typecheck`'s overload resolution
  over the GENERATED aggregate table, `SimpleGroupBy`'s hash map with its `AggregatedSetSize` bookkeeping, C14's
  aggregate models), tied to the real binary by the C03 correspondence run (exact printed rows).
* `Octo.Grp.groupSem` is the specification: the classes of key tuples under `Compare == 0` (NULL is a key), and for
  each class the aggregates computed from scratch (`Octo.Agg.specFull`: length, wrapped sum, `Int.tdiv`, least /
  greatest element, insertion sort, the support for DISTINCT) over the non-NULL argument values, NULL for none.
* `Octo.Grp.GQueryResult` composes it with C01's `QueryResult` / `BlockResult` for the rest of the query.

All theorems quantify over tables of any size and queries of any nesting depth.  Float `sum` / `avg` are stated
in exact arithmetic for finite inputs (C14's caveat, `FiniteArgs`).
-/
namespace Octo.C03
open Octo Octo.Sql Octo.Grp

/-! ## the grouping node -/

/-- **GROUP BY = `groupSem`**: on every input on which the key and aggregate expressions
    evaluate, the engine's group-by neither fails nor panics and emits exactly one row per class of key tuples (a
    NULL key is a class), equal — pointwise `Compare == 0` — to the key followed by the from-scratch aggregates of
    the class's non-NULL inputs (NULL where there is none) -/
theorem groupBy_sql (keys : List SExpr) (aggs : List PAgg) (rows : List Row)
    (hok : evalsOk keys aggs rows = true) (hf : FiniteArgs aggs rows) :
    ∃ out, groupNode keys aggs rows = .ok out ∧ RowsEqv out (groupSem keys aggs rows) :=
  groupNode_sem keys aggs rows hok hf

/-- `groupSem` has one row per distinct key: its keys are one representative per class, pairwise different, and the key
    of every input row is of one of these classes (by `groupBy_sql` the same holds of the node's output) -/
theorem one_row_per_key (keys : List SExpr) (aggs : List PAgg) (rows : List Row) :
    (groupSem keys aggs rows).length = (keyClasses (rows.map (keyOfRow keys))).length ∧
    (keyClasses (rows.map (keyOfRow keys))).Pairwise (fun a b => rowEq b a = false) ∧
    ∀ r ∈ rows, ∃ k ∈ keyClasses (rows.map (keyOfRow keys)), rowEq (keyOfRow keys r) k = true := by
  refine ⟨by simp [groupSem], keyClasses_pairwise _, ?_⟩
  intro r hr
  exact keyClasses_covers _ _ (List.mem_map_of_mem hr)

/-- when does the node fail: exactly when some key / aggregate expression fails on some row -/
theorem groupNode_err_iff (keys : List SExpr) (aggs : List PAgg) (rows : List Row) (hf : FiniteArgs aggs rows) :
    (∃ out, groupNode keys aggs rows = .ok out) ↔ evalsOk keys aggs rows = true :=
  ⟨fun ⟨_, h⟩ => evalsOk_of_groupNode h, fun h => (groupNode_sem keys aggs rows h hf).imp fun _ => And.left⟩

/-! ## what the specification's aggregate values are (the clauses of the property, spelled out) -/

/-- a group without non-NULL input reports NULL — for every aggregate, COUNT included -/
theorem no_input_is_null (p : PAgg) : aggValue p [] = .null := rfl

/-- COUNT counts the non-NULL inputs; COUNT(DISTINCT) their classes -/
theorem count_is_length (M : List Value) (hne : M ≠ []) (d : Bool) (e : SExpr) (a : Option (List Nat)) :
    aggValue ⟨.count, d, e, a⟩ M = .int (if d then (Agg.support M).length else M.length) := by
  rw [aggValue_of_ne_nil _ hne]
  cases d <;> rfl

/-- AVG over Int is the (wrapped) sum divided by the count, truncated toward zero (`Int.tdiv`) -/
theorem avg_int_truncates (M : List Value) (hne : M ≠ []) (e : SExpr) (a : Option (List Nat)) :
    aggValue ⟨.avgInt, false, e, a⟩ M =
      .int (Agg.wrap64 (Int.tdiv (Agg.wrap64 (Agg.sumZ Agg.intField M)) M.length)) :=
  aggValue_of_ne_nil _ hne

example : aggValue ⟨.avgInt, false, .col 0, none⟩ [.int 1, .int (-4)] = .int (-1) := by rfl
example : aggValue ⟨.avgInt, false, .col 0, none⟩ [.int (-1), .int (-4), .int 0] = .int (-1) := by rfl

/-- array_agg lists the group's non-NULL inputs in ascending `Compare` order, each as often as it occurs -/
theorem array_agg_ascending (M : List Value) (hne : M ≠ []) (e : SExpr) (a : Option (List Nat)) :
    ∃ l, aggValue ⟨.array, false, e, a⟩ M = .list l ∧ l.Pairwise (fun x y => cmp x y ≤ 0) ∧
      ∀ v, Agg.cnt l v = Agg.cnt M v :=
  ⟨Agg.sortSpec M, aggValue_of_ne_nil _ hne, Agg.sortSpec_sorted _, Agg.cnt_sortSpec _⟩

/-- the DISTINCT variants aggregate the support: every class of inputs exactly once -/
theorem distinct_over_support (k : Agg.Kind) (M : List Value) (hne : M ≠ []) (e : SExpr) (a : Option (List Nat)) :
    aggValue ⟨k, true, e, a⟩ M = Agg.specOf k (Agg.support M) ∧
      ∀ v, Agg.cnt (Agg.support M) v = if 0 < Agg.cnt M v then 1 else 0 :=
  ⟨aggValue_of_ne_nil _ hne, fun v => Agg.cnt_support _ v⟩

/-- MIN / MAX are least / greatest elements of the inputs -/
theorem min_max_values (M : List Value) (hne : M ≠ []) (e : SExpr) (a : Option (List Nat)) :
    aggValue ⟨.min, false, e, a⟩ M = Agg.specMin M ∧ aggValue ⟨.max, false, e, a⟩ M = Agg.specMax M :=
  ⟨aggValue_of_ne_nil _ hne, aggValue_of_ne_nil _ hne⟩

/-- side conditions of the soundness theorem (all true of the generated, well-typed queries): the ORDER BY keys of
    every block evaluate on the rows they meet, and the float sums see finite floats -/
def GSide (tys : List Ty) : GQuery → List Row → Prop
  | .group src g, t =>
    C01.KeysTotal src t ∧
    (∀ aggs r0, typecheckGroup tys src g = some aggs → denoteNested src t = some r0 →
      FiniteArgs aggs (specFilter g.whr r0)) ∧
    (∀ aggs grouped c, typecheckGroup tys src g = some aggs → groupCore aggs src g t = .ok grouped →
      blockCore g.post grouped = some c → C01.KeysOk g.post.order c)
  | .sel src b, t => GSide tys src t ∧
      ∀ mid c, denoteGNested tys src t = .ok mid → blockCore b mid = some c → C01.KeysOk b.order c

/-- FROM → WHERE → GroupBy -/
theorem groupCore_sound (aggs : List PAgg) (src : Query) (g : GroupBlock) (t grouped : List Row)
    (hk : C01.KeysTotal src t)
    (hf : ∀ r0, denoteNested src t = some r0 → FiniteArgs aggs (specFilter g.whr r0))
    (h : groupCore aggs src g t = .ok grouped) :
    ∃ r0, QueryResult src t r0 ∧ RowsEqv grouped (groupSem g.keys aggs (specFilter g.whr r0)) := by
  simp only [groupCore] at h
  obtain ⟨r0, h0, h⟩ := Res.bind_ok h
  obtain ⟨r1, h1, h⟩ := Res.bind_ok h
  have h0' := Res.ofOption_ok h0
  have h1' := whereStep_spec (Res.ofOption_ok h1)
  subst h1'
  have hok := evalsOk_of_groupNode h
  obtain ⟨out, ho, he⟩ := groupNode_sem g.keys aggs _ hok (hf r0 h0')
  rw [h] at ho
  cases ho
  exact ⟨r0, C01.denoteNested_sound src t r0 hk h0', he⟩

theorem sink_sound (mode : Mode) (b : Block) (inp c out : List Row) (hc : blockCore b inp = some c)
    (hk : C01.KeysOk b.order c) (h : sink mode b c = .ok out) : BlockResult b inp out := by
  cases mode with
  | eager => exact C01.block_eager_sound b inp c out hc hk (Res.ofOption_ok h)
  | table => exact C01.block_table_sound b inp c out hc (Res.ofOption_ok h)

/-- **C03 for SimpleGroupBy plans**: in every output mode, whatever a grouping query prints is an allowed
    result of the query: FROM per C01, WHERE keeps the TRUE rows, GROUP BY is `groupSem`, then select list,
    DISTINCT, ORDER BY and LIMIT (and the HAVING-like outer blocks) per C01 / C05 -/
theorem C03_denote_sound (mode : Mode) (tys : List Ty) (q : GQuery) (t out : List Row) (hs : GSide tys q t)
    (hl : q.hasLimit0 = false) (h : denoteG mode tys q t = .ok out) : GQueryResult tys q t out := by
  induction q generalizing mode out with
  | group src g =>
    rw [GQuery.hasLimit0] at hl
    have hskip : skipsSource mode g.post = false := by simp [skipsSource, GroupBlock.post, hl]
    rw [denoteG, hskip] at h
    split at h
    · cases h
    · rename_i aggs htc
      obtain ⟨grouped, hg, h⟩ := Res.bind_ok h
      obtain ⟨c, hc, h⟩ := Res.bind_ok h
      obtain ⟨cols, hcols, haggs⟩ := typecheckGroup_some htc
      obtain ⟨r0, hq, he⟩ := groupCore_sound aggs src g t grouped hs.1 (fun r0 hr0 => hs.2.1 aggs r0 htc hr0) hg
      exact ⟨cols, aggs, r0, grouped, hcols, haggs, hq, he, sink_sound mode g.post grouped c out
        (Res.ofOption_ok hc) (hs.2.2 aggs grouped c htc hg (Res.ofOption_ok hc)) h⟩
  | sel src b ih =>
    simp only [GQuery.hasLimit0, Bool.or_eq_false_iff] at hl
    have hskip : skipsSource mode b = false := by simp [skipsSource, hl.1]
    rw [denoteG, hskip] at h
    obtain ⟨mid, hm, h⟩ := Res.bind_ok h
    obtain ⟨c, hc, h⟩ := Res.bind_ok h
    exact ⟨mid, ih .eager mid hs.1 hl.2 (denoteGNested_eq tys src t ▸ hm),
      sink_sound mode b mid c out (Res.ofOption_ok hc) (hs.2 mid c hm (Res.ofOption_ok hc)) h⟩

/-- nested grouping queries (the HAVING-like outer blocks, subqueries in FROM) -/
theorem denoteGNested_sound (tys : List Ty) (q : GQuery) (t out : List Row) (hs : GSide tys q t)
    (hl : q.hasLimit0 = false) (h : denoteGNested tys q t = .ok out) : GQueryResult tys q t out :=
  C03_denote_sound .eager tys q t out hs hl (denoteGNested_eq tys q t ▸ h)

/-- `LIMIT 0` at the top: the engine returns no rows without running anything (which is what LIMIT 0 asks for) -/
theorem limit0_returns_nothing (mode : Mode) (tys : List Ty) (src : Query) (g : GroupBlock) (t out : List Row)
    (h0 : skipsSource mode g.post = true) (h : denoteG mode tys (.group src g) t = .ok out) : out = [] := by
  rw [denoteG] at h
  split at h
  · cases h
  · rw [if_pos h0] at h; cases h; rfl

/-! ## both group-by nodes -/

/-- **the TRIGGER clause does not change the final result** (C16 at the SQL level): for the node configuration the
    planner builds from a grouping block and any trigger that selects `CustomTriggerGroupBy` (`COUNTING k`, with or
    without `ON END OF STREAM`), on every batch input on which the expressions evaluate the node does not panic and
    its changelog — retractions included — consolidates, row for row, to the output of `SimpleGroupBy` (C16's model
    of it, `Octo.Trig.simpleRun`) for the same block -/
theorem trigger_same_final_result (keys : List SExpr) (aggs : List PAgg) (t : Trig) (rows : List Row)
    (hok : evalsOk keys aggs rows = true) :
    ∃ out, Trig.run Trig.wlessFixed (gbConf keys aggs t) (toMsgs rows) = some out ∧
      ∀ row, net (recs out) row = net (recs (Trig.simpleRun (gbConf keys aggs t) (toMsgs rows))) row := by
  obtain ⟨out, hrun, hnet⟩ := run_gbConf keys aggs t rows hok
  refine ⟨out, hrun, fun row => ?_⟩
  -- both nodes consolidate to C16's `groupSpec` of the batch input
  rw [hnet, Trig.simple_eq_table _ _ (gbConf_keyLen keys aggs t), recs_toMsgs,
    Trig.table_eq_spec_adds _ _ _ (mkRec_adds rows)]

/-- **`CustomTriggerGroupBy` = `groupSem`**: for every grouping block and every trigger that selects the node, on
    every batch input on which the expressions evaluate: no panic, and the changelog the node emits — with all its
    retractions — consolidates to exactly the rows of `groupSem` (for every row, its net multiplicity in the output
    is its multiplicity in `groupSem`).  Together with `groupBy_sql`: both group-by nodes compute the same relation. -/
theorem customTrigger_groupBy_sql (keys : List SExpr) (aggs : List PAgg) (t : Trig) (rows : List Row)
    (hok : evalsOk keys aggs rows = true) (hf : FiniteArgs aggs rows) :
    ∃ out, Trig.run Trig.wlessFixed (gbConf keys aggs t) (toMsgs rows) = some out ∧
      ∀ row, net (recs out) row = (countRow row (groupSem keys aggs rows) : Int) :=
  custom_trigger_groupSem keys aggs t rows hok hf

/-- the grouping keys are found through `HashManyValues`: key tuples the node treats as one group
    (`Compare == 0` pointwise) hash equally, so the hash map cannot split a group (C09) -/
theorem group_keys_hash_equally (a b : Row) (wa : Value.wfList a = true) (wb : Value.wfList b = true)
    (h : rowEq a b = true) : hashMany a = hashMany b :=
  C09.hashMany_congr a b wa wb (by simpa [rowEq] using h)

/-! ## aggregate overload resolution (`GroupBy.Typecheck`) over the generated table -/

/-- **overload resolution picks the first overload that admits the argument type**: for every list of
    descriptors and every argument type, if `resolve` chooses descriptor `i` without a type assertion then `i` is the
    first descriptor accepting the type outright; if it chooses `i` with an assertion then no descriptor accepts
    outright and `i` is the first whose `ArgumentType` may fit the type's non-nullable part; if it fails, no
    descriptor does either -/
theorem resolve_first_fit (descs : List Gen.Agg.Desc) (t : Ty) :
    match resolve descs t with
    | some ch =>
      descs[ch.idx]? = some ch.desc ∧
      (match ch.assertIds with
       | none => Accepts t ch.desc ∧ ∀ j d, j < ch.idx → descs[j]? = some d → ¬ Accepts t d
       | some ids => (∀ d ∈ descs, ¬ Accepts t d) ∧ MayFit t ch.desc ∧
                     (∀ j d, j < ch.idx → descs[j]? = some d → ¬ MayFit t d) ∧
                     ids = typeIds (addNull (Desc.argTy ch.desc)))
    | none => ∀ d ∈ descs, ¬ Accepts t d ∧ ¬ MayFit t d :=
  resolve_spec descs t

/-- the assertion inserted around a "maybe" argument lets NULL through (NULL inputs are skipped by the group-by
    nodes, they must not be run-time errors): over the generated table, for every overload with a declared scalar
    `ArgumentType` (`Any`, TypeID 11, never needs an assertion) -/
theorem assertion_admits_null :
    (Gen.Agg.table.all fun e => e.2.all fun d =>
      match d.arg with
      | some a => a.id == 11 || (typeIds (addNull a)).contains 0
      | none => true) = true := by
  decide +kernel

/-- the generated table agrees with the table C14's theorems are stated over (`Octo.Agg.table`): same names, same
    number of overloads, same aggregate (and `Distinct` wrapper) behind each of them -/
theorem table_matches_c14 :
    Gen.Agg.table.map (fun e => (e.1, e.2.map descKind)) =
      Agg.table.map (fun e => (e.1, e.2.map fun d => some (d.2.2.1, d.2.2.2))) := by
  decide +kernel

/-- every descriptor of the generated table is one of the aggregates C14 models (possibly behind `Distinct`) -/
theorem table_modelled : (Gen.Agg.table.all fun e => e.2.all fun d => (descKind d).isSome) = true := by
  have h := congrArg (List.all · fun e => e.2.all Option.isSome) table_matches_c14
  simp only [List.all_map, Function.comp_def, Option.isSome_some] at h
  rw [h]
  simp

/-- signature of a descriptor: TypeIDs of argument / output type, the wrapped aggregate -/
def descSig (d : Gen.Agg.Desc) : Option Nat × Option Nat × Option Agg.Kind :=
  (d.arg.map Ty.id, d.out.map Ty.id, (descKind d).map (·.1))

/-- the `_distinct` variants differ from the plain ones by the `Distinct` wrapper only -/
theorem distinct_variants_wrap :
    (["array_agg", "avg", "count", "sum"].all fun n =>
      (lookupDescs (n ++ "_distinct")).map (·.map descSig) == (lookupDescs n).map (·.map descSig) &&
      (lookupDescs (n ++ "_distinct")).map (·.all fun d => (descKind d).map (·.2) == some true) == some true &&
      (lookupDescs n).map (·.all fun d => (descKind d).map (·.2) == some false) == some true) = true := by
  decide +kernel

/-- the witness of the defect: a column of type `NULL | Float | String` -/
def nfs : Ty := .union [.null, .float, .str]

def sumDescs : List Gen.Agg.Desc := (lookupDescs "sum").getD []

/-- before the fix the NULL alternative alone made every overload "maybe": `SUM(c)` over `NULL | Float | String`
    chose the *Int* overload (index 0) and asserted `Int` (TypeID 1) — without NULL … -/
theorem raw_resolution_picks_int :
    ((resolveRaw sumDescs nfs).map fun ch => (ch.idx, ch.assertIds)) = some (0, some [1]) := by
  decide +kernel

/-- … although `Int` admits none of the column's non-NULL alternatives: the statement "an overload chosen with an
    assertion may fit the non-nullable part of the type" fails for the code as shipped -/
theorem raw_resolution_refuted :
    ¬ (∀ (descs : List Gen.Agg.Desc) (t : Ty) (ch : Choice), resolveRaw descs t = some ch →
        ch.assertIds.isSome = true → MayFit t ch.desc) := by
  intro h
  obtain ⟨ch, hch, hb⟩ := (Option.any_eq_true _ _).mp
    (by decide +kernel : ((resolveRaw sumDescs nfs).any fun ch => ch.assertIds.isSome && !MayFitB nfs ch.desc) = true)
  rw [Bool.and_eq_true, Bool.not_eq_true'] at hb
  exact not_mayFit hb.2 (h sumDescs nfs ch hch hb.1)

/-- after the fix: every overload chosen with an assertion may fit the non-nullable part of the type (all descriptor
    lists, all types) … -/
theorem fixed_resolution_fits (descs : List Gen.Agg.Desc) (t : Ty) (ch : Choice)
    (h : resolve descs t = some ch) (ha : ch.assertIds.isSome = true) : MayFit t ch.desc := by
  have := resolve_spec descs t
  obtain ⟨ids, hi⟩ := Option.isSome_iff_exists.mp ha
  simp only [h, hi] at this
  obtain ⟨_, _, hfit, _⟩ := this
  exact hfit

/-- … and on the witness it chooses the Float overload (index 1) and asserts `NULL | Float` (TypeIDs 0 and 2) -/
theorem fixed_resolution_picks_float :
    ((resolve sumDescs nfs).map fun ch => (ch.idx, ch.assertIds)) = some (1, some [0, 2]) := by
  decide +kernel

/-! ## the full-strength statement -/

/-- C03 for an engine `run`: every grouping query's output is an allowed result per `GQueryResult` -/
def Statement (run : Mode → List Ty → GQuery → List Row → Res (List Row)) : Prop :=
  ∀ (mode : Mode) (tys : List Ty) (q : GQuery) (t out : List Row),
    GSide tys q t → q.hasLimit0 = false → run mode tys q t = .ok out → GQueryResult tys q t out

/-- **C03 holds for the SimpleGroupBy pipeline** (no TRIGGER clause, or `ON END OF STREAM`) -/
theorem C03_full : Statement denoteG :=
  fun mode tys q t out hs hl h => C03_denote_sound mode tys q t out hs hl h

/-- on plans without a custom trigger the engine (`denoteGT`) is that pipeline -/
theorem C03_engine_on_simple_plans (mode : Mode) (tys : List Ty) (q : GQuery) (t out : List Row) (hq : q.simple = true)
    (hs : GSide tys q t) (hl : q.hasLimit0 = false) (h : denoteGT mode tys q t = .ok out) :
    GQueryResult tys q t out := by
  simp only [denoteGT, hq, if_true] at h
  exact C03_full mode tys q t out hs hl h

/-! ## non-vacuity: a concrete table and query, evaluated in the kernel -/

/-- k | a :  (1,1) (1,NULL) (NULL,3) (NULL,4) (2,NULL) (1,-4) -/
def tbl : List Row :=
  [[.int 1, .int 1], [.int 1, .null], [.null, .int 3], [.null, .int 4], [.int 2, .null], [.int 1, .int (-4)]]
def tys2 : List Ty := tableTys 2 tbl

/-- `SELECT c0, count(c1), sum(c1), avg(c1), array_agg(c1), count(*) FROM t GROUP BY c0` -/
def q1 : GQuery := .group .table
  { whr := none, keys := [.col 0],
    aggs := [⟨"count", some (.col 1)⟩, ⟨"sum", some (.col 1)⟩, ⟨"avg", some (.col 1)⟩, ⟨"array_agg", some (.col 1)⟩, ⟨"count", none⟩],
    sel := [0, 1, 2, 3, 4, 5], distinct := false, order := [], limit := none, trig := .none }

def isRows (want : List Row) : Res (List Row) → Bool
  | .ok rows => rowsEqvB rows want
  | _ => false

/-- three groups incl. the NULL key; AVG(1, -4) = -3/2 truncates to -1; the all-NULL group reports NULL also for COUNT -/
example : isRows [[.int 1, .int 2, .int (-3), .int (-1), .list [.int (-4), .int 1], .int 3],
                  [.null, .int 2, .int 7, .int 3, .list [.int 3, .int 4], .int 2],
                  [.int 2, .null, .null, .null, .null, .int 1]] (denoteG .eager tys2 q1 tbl) = true := by decide +kernel

example : tys2.map Ty.id = [10, 10] ∧ tys2.map (fun t => typeIds t) = [[0, 1], [0, 1]] := by decide +kernel
/-- the hypotheses of `groupBy_sql` hold for this table -/
example : ∃ aggs, typecheckGroup tys2 .table (match q1 with | .group _ g => g | _ => default) = some aggs ∧
    evalsOk [.col 0] aggs tbl = true :=
  -- `∃ a, o = some a ∧ p a = true` is `o.any p = true`, which the kernel evaluates
  (Option.any_eq_true _ _).mp (by decide +kernel)

/-- `SELECT * FROM (q1) WHERE count(c1) > 1 ORDER BY c0` — the HAVING-like outer block -/
def q2 : GQuery := .sel q1
  { whr := some (.bin .gt (.col 1) (.lit (.int 1))), proj := none, distinct := false, order := [(.col 0, false)], limit := none }

example : isRows [[.null, .int 2, .int 7, .int 3, .list [.int 3, .int 4], .int 2],
                  [.int 1, .int 2, .int (-3), .int (-1), .list [.int (-4), .int 1], .int 3]]
    (denoteG .eager tys2 q2 tbl) = true := by decide +kernel

/-- `q1` with `TRIGGER COUNTING 1` (every record fires its key: five retractions on this table), through the
    changelog pipeline and the table printer -/
def q3 : GQuery := match q1 with
  | .group src g => .group src { g with trig := .counting 1 }
  | q => q

example : isRows [[.null, .int 2, .int 7, .int 3, .list [.int 3, .int 4], .int 2],
                  [.int 1, .int 2, .int (-3), .int (-1), .list [.int (-4), .int 1], .int 3],
                  [.int 2, .null, .null, .null, .null, .int 1]]
    (denoteGT .table tys2 q3 tbl) = true := by decide +kernel

/-- the side conditions of `C03_full` hold for it: no float sums, no ORDER BY keys -/
example : GSide tys2 q1 tbl := by
  refine ⟨trivial, ?_, ?_⟩
  · intro aggs r0 h1 _ p hp r _ v _
    -- none of the overloads chosen is a float sum or average
    have hk : ((typecheckGroup tys2 .table (match q1 with | .group _ g => g | _ => default)).all fun aggs =>
        aggs.all fun p => p.kind != .sumFloat && p.kind != .avgFloat) = true := by decide +kernel
    have := List.all_eq_true.mp ((Option.all_eq_true _ _).mp hk aggs h1) p hp
    generalize p.kind = k at this ⊢
    cases k with
    | sumFloat | avgFloat => exact absurd this (by decide)
    | _ => exact True.intro
  · intro aggs grouped c _ _ _ r _
    rfl

end Octo.C03
