import Octo.Lemmas.PlanExamples
/-!
  C04 — Query optimization never changes results.

  `Octo.Plan.denote` is what a physical plan computes on batch input (a list of records in one of the orders the
  engine may produce); `Octo.Plan.optimize` is `optimizer.Optimize` over the rule list the translator reads from
  optimizer/optimize.go (`Octo.Gen.OptimizerRules.rules`).  The theorems below are about every plan, every
  database and every bound on the number of optimizer passes; the hypotheses are

  * `WellFormed db p` (= `Good db p []`, "WellScoped ∧ TotalExprs"): field names of a schema are unique, the
    declared schemas of filters / joins / pass-through nodes agree with their inputs, every expression refers to
    fields of its input (or of an enclosing lookup-join record) and cannot fail, `=` has two arguments, the
    datasources can deliver their declared fields, the right side of a lookup join cannot fail;
  * `MapRemovable p` / `DatasourceRemovable p` / `GroupByRemovable p` (for the three removal rules): no field of a Map
    node / a datasource / no aggregate of a group-by reaches an ORDER BY / LIMIT node, a table valued function
    schema, a group-by key or the source side of a lookup join, and no two kinds of node declare the same name;
  * `Prunable p` (for the whole optimizer): all three, for all fields of those nodes.
  Group-by nodes must in addition not be able to fail (e.g. no `sum` over a column that may hold a String).

  The results are compared as bags (`bagEq`); in fact the model's nested-loop order makes them equal as lists.
-/
namespace Octo.C04
open Octo Octo.Plan

/-- equal as multisets of records, or both failing -/
def bagEq : Option (List Row) → Option (List Row) → Prop
  | some a, some b => a.Perm b
  | none, none => True
  | _, _ => False

/-- `WellScoped ∧ TotalExprs` for a whole query (no enclosing record) -/
abbrev WellFormed (db : Db) (p : Plan) : Prop := Good db p []

/-- a rule never changes what a well-formed plan computes, and keeps it well-formed -/
def Sound (db : Db) (r : Rule) : Prop :=
  ∀ (p p' : Plan) (c : Bool), WellFormed db p → r p = some (p', c) →
    WellFormed db p' ∧ p'.schema = p.schema ∧ bagEq (denote db p' []) (denote db p [])

/-- a sound step, read at a whole query: no enclosing record, and equal results are equal bags -/
theorem top_of_step {db : Db} {p p' : Plan} (h : StepOK db [] p p') :
    WellFormed db p' ∧ p'.schema = p.schema ∧ bagEq (denote db p' []) (denote db p []) := by
  refine ⟨h.good, h.schema, ?_⟩
  rw [h.sim [] fun _ hx => nomatch hx]
  cases denote db p [] with
  | none => trivial
  | some rows => exact List.Perm.refl rows

theorem sound_of_ruleOK {db : Db} {r : Rule} (h : RuleOK db r) : Sound db r :=
  fun p p' c hg hr => top_of_step (h [] p p' c hg hr)

theorem all_rules_modelled : defaultRules.isSome = true := by rw [defaultRules_eq]; rfl

/-- `MergeFilters`: two stacked filters are the filter of the conjunction -/
theorem mergeFilters_sound (db : Db) : Sound db mergeFilters := sound_of_ruleOK (mergeFilters_ok db)

/-- `PushDownFilterPredicatesIntoStreamJoinBranch`: conjuncts that read one join input only are evaluated below the join -/
theorem pushIntoStreamJoinBranch_sound (db : Db) : Sound db pushDownFilterPredicatesIntoStreamJoinBranch :=
  sound_of_ruleOK (pushIntoStreamJoinBranch_ok db)

/-- `PushDownFilterPredicatesIntoStreamJoinKey`: `l = r` conjuncts become join keys (NULL keys never match, keys are
    compared with `Compare`, `Compare = 0` is symmetric — C09) -/
theorem pushIntoStreamJoinKey_sound (db : Db) : Sound db pushDownFilterPredicatesIntoStreamJoinKey :=
  sound_of_ruleOK (pushIntoStreamJoinKey_ok db)

theorem pushIntoLookupJoinBranch_sound (db : Db) : Sound db pushDownFilterPredicatesIntoLookupJoinBranch :=
  sound_of_ruleOK (pushIntoLookupJoin_ok db)

/-- `PushDownFilterPredicatesToDatasource`, for datasources that reject every predicate (the built-in file formats)
    and for datasources that accept `column = constant` (the contract: a datasource applies what it accepted) -/
theorem pushToDatasource_sound (db : Db) : Sound db pushDownFilterPredicatesToDatasource :=
  sound_of_ruleOK (pushToDatasource_ok db)

/-- `RemoveUnusedMapFields`: the whole loop over the collected fields -/
theorem removeUnusedMapFields_sound (db : Db) (p p' : Plan) (c : Bool)
    (hw : WellFormed db p) (hr : MapRemovable p) (h : removeUnusedMapFields p = some (p', c)) :
    WellFormed db p' ∧ p'.schema = p.schema ∧ bagEq (denote db p' []) (denote db p []) :=
  top_of_step (removeUnusedMapFields_ok db [] p p' c hw hr h).1

theorem removeUnusedDatasourceFields_sound (db : Db) (p p' : Plan) (c : Bool)
    (hw : WellFormed db p) (hr : DatasourceRemovable p) (h : removeUnusedDatasourceFields p = some (p', c)) :
    WellFormed db p' ∧ p'.schema = p.schema ∧ bagEq (denote db p' []) (denote db p []) :=
  top_of_step (removeUnusedDatasourceFields_ok db [] p p' c hw hr h).1

theorem removeUnusedGroupByNonKeyFields_sound (db : Db) (p p' : Plan) (c : Bool)
    (hw : WellFormed db p) (hr : GroupByRemovable p) (h : removeUnusedGroupByNonKeyFields p = some (p', c)) :
    WellFormed db p' ∧ p'.schema = p.schema ∧ bagEq (denote db p' []) (denote db p []) :=
  top_of_step (removeUnusedGroupByNonKeyFields_ok db [] p p' c hw hr h).1

/-- one removal step erases the field from every record the plan computes (the simulation behind the rule) -/
theorem removeField_simulation (db : Db) (f : String) (p p' : Plan) (outer : List String) (ctx : Ctx)
    (hg : Good db p outer) (hu : usedBelow f p = false) (hr : Removable f p) (h : rmPlan f p = some p')
    (hb : Binds outer ctx) :
    denote db p' ctx = (denote db p ctx).map (List.map (eraseKey f)) :=
  (rm_sim db f p outer p' hg hu hr h).sim ctx hb

/-- the two `TransformNode` passes of one removal step compute `rmPlan` -/
theorem removal_passes_eq (f : String) (p : Plan) (h : AllNodup p) (hg : NoGroupByHas f p) :
    (match mapNodes (removeMapFieldLocal f) p with
     | some p1 => removeFieldFromPassers f p1
     | none => none) = rmPlan f p := twoPass_map f p h hg

/-- the optimizer's loop over any list of sound rules, for every bound on the number of passes -/
theorem optimizeWith_sound (db : Db) (rules : List Rule) (hr : ∀ r ∈ rules, RuleOK db r) (fuel : Nat)
    (p p' : Plan) (hw : WellFormed db p) (h : optimizeWith rules fuel p = .ok p') :
    WellFormed db p' ∧ p'.schema = p.schema ∧ bagEq (denote db p' []) (denote db p []) :=
  top_of_step (optimizeWith_ok hr fuel [] p p' hw h)

/-- the rules of the generated list that move filters (everything but the three `RemoveUnused…` rules), in the
    generated order -/
def filterRuleNames : List String :=
  Octo.Gen.OptimizerRules.rules.filter fun n =>
    !(n == "RemoveUnusedMapFields" || n == "RemoveUnusedGroupByNonKeyFields" || n == "RemoveUnusedDatasourceFields")

def filterRuleList : List Rule :=
  [pushDownFilterPredicatesToDatasource, pushDownFilterPredicatesIntoLookupJoinBranch,
   pushDownFilterPredicatesIntoStreamJoinBranch, pushDownFilterPredicatesIntoStreamJoinKey, mergeFilters]

theorem filterRules_ok (db : Db) :
    rulesOfNames filterRuleNames = some filterRuleList ∧ ∀ r ∈ filterRuleList, RuleOK db r := by
  refine ⟨?_, fun r hr => ?_⟩
  · simp only [filterRuleNames, Gen.OptimizerRules.rules, List.filter_cons, String.reduceBEq, Bool.or_self, Bool.or_true,
      Bool.true_or, Bool.not_true, Bool.not_false, Bool.false_eq_true, ↓reduceIte, rulesOfNames, ruleOfName, filterRuleList,
      List.filter_nil]
  simp only [filterRuleList, List.mem_cons, List.not_mem_nil, or_false] at hr
  rcases hr with rfl | rfl | rfl | rfl | rfl
  · exact pushToDatasource_ok db
  · exact pushIntoLookupJoin_ok db
  · exact pushIntoStreamJoinBranch_ok db
  · exact pushIntoStreamJoinKey_ok db
  · exact mergeFilters_ok db

/-- `Optimize` restricted to the filter rules of the generated list never changes the result -/
theorem optimize_filter_rules_sound (db : Db) (rs : List Rule) (hrs : rulesOfNames filterRuleNames = some rs)
    (fuel : Nat) (p p' : Plan) (hw : WellFormed db p) (h : optimizeWith rs fuel p = .ok p') :
    WellFormed db p' ∧ p'.schema = p.schema ∧ bagEq (denote db p' []) (denote db p []) := by
  obtain rfl : filterRuleList = rs := Option.some.inj ((filterRules_ok db).1.symm.trans hrs)
  exact optimizeWith_sound db _ (filterRules_ok db).2 fuel p p' hw h

/-- `optimizer.Optimize` itself — the rule list the translator read from optimizer/optimize.go, all eight rules, any
    number of passes — never changes the result of a well-formed plan whose Map, datasource and aggregate fields are
    removable; the optimized plan is again well-formed and prunable -/
theorem optimize_sound (db : Db) (fuel : Nat) (p p' : Plan) (hw : WellFormed db p) (hp : Prunable p)
    (h : optimize fuel p = .ok p') :
    WellFormed db p' ∧ Prunable p' ∧ p'.schema = p.schema ∧ bagEq (denote db p' []) (denote db p []) := by
  obtain ⟨hstep, h4⟩ := optimize_ok db fuel [] p p' hw hp h
  exact ⟨hstep.good, h4, (top_of_step hstep).2⟩

/-- C04 at full strength: on every well-formed plan and every database, whatever the real rule list makes of the plan
    computes the same bag of records -/
def Statement : Prop :=
  ∀ (db : Db) (p p' : Plan) (fuel : Nat), WellFormed db p → optimize fuel p = .ok p' →
    bagEq (denote db p' []) (denote db p [])

/-- It does not hold: `SELECT a FROM (SELECT b, a, k FROM t ORDER BY k LIMIT 1) q` over the rows
    `(a,b,k) = (2,1,0), (1,2,0)`.  The two rows tie on `k`; `OrderSensitiveTransform` breaks the tie by the record's
    values, so with `b` first it keeps `(b,a,k) = (1,2,0)` (a = 2); `RemoveUnusedMapFields` removes the unused `b`,
    after which the tie is broken by `a` and `(a,k) = (1,0)` survives (a = 1).
    (known finding `orderby-limit-tiebreak-pruning`; both answers are legal SQL) -/
theorem C04_refuted : ¬ Statement := by
  intro h
  have h1 := h Examples.db0 Examples.p0 Examples.p1 64 Examples.p0_wellFormed Examples.p0_optimized
  rw [Examples.p0_result, Examples.p1_result] at h1
  simp only [bagEq] at h1
  have := List.singleton_perm_singleton.mp h1
  simp at this

/-- What does hold (for every plan, database and pass bound):
    1. every rule of the generated list has a model, and the five filter-moving rules are sound one by one;
    2. `Optimize` restricted to them (in the generated order) never changes the result;
    3. the three removal rules are sound on plans whose Map / datasource / aggregate fields are removable (`Removable`
       excludes the shape of `C04_refuted` — a field that reaches an ORDER BY / LIMIT — and the shapes the proof
       does not cover: table valued functions, group-by keys, the source side of a lookup join);
    4. the real `Optimize` (all eight rules) never changes the result of a well-formed prunable plan. -/
theorem C04_partial (db : Db) :
    defaultRules.isSome = true ∧
    Sound db pushDownFilterPredicatesToDatasource ∧ Sound db pushDownFilterPredicatesIntoLookupJoinBranch ∧
    Sound db pushDownFilterPredicatesIntoStreamJoinBranch ∧ Sound db pushDownFilterPredicatesIntoStreamJoinKey ∧
    Sound db mergeFilters ∧
    (∀ rs, rulesOfNames filterRuleNames = some rs → ∀ (fuel : Nat) (p p' : Plan), WellFormed db p →
      optimizeWith rs fuel p = .ok p' →
      WellFormed db p' ∧ p'.schema = p.schema ∧ bagEq (denote db p' []) (denote db p [])) ∧
    (∀ (p p' : Plan) (c : Bool), WellFormed db p → MapRemovable p → removeUnusedMapFields p = some (p', c) →
      WellFormed db p' ∧ p'.schema = p.schema ∧ bagEq (denote db p' []) (denote db p [])) ∧
    (∀ (p p' : Plan) (c : Bool), WellFormed db p → DatasourceRemovable p → removeUnusedDatasourceFields p = some (p', c) →
      WellFormed db p' ∧ p'.schema = p.schema ∧ bagEq (denote db p' []) (denote db p [])) ∧
    (∀ (p p' : Plan) (c : Bool), WellFormed db p → GroupByRemovable p → removeUnusedGroupByNonKeyFields p = some (p', c) →
      WellFormed db p' ∧ p'.schema = p.schema ∧ bagEq (denote db p' []) (denote db p [])) ∧
    (∀ (fuel : Nat) (p p' : Plan), WellFormed db p → Prunable p → optimize fuel p = .ok p' →
      WellFormed db p' ∧ Prunable p' ∧ p'.schema = p.schema ∧ bagEq (denote db p' []) (denote db p [])) :=
  ⟨all_rules_modelled, pushToDatasource_sound db, pushIntoLookupJoinBranch_sound db, pushIntoStreamJoinBranch_sound db,
   pushIntoStreamJoinKey_sound db, mergeFilters_sound db,
   fun rs hrs fuel p p' hw h => optimize_filter_rules_sound db rs hrs fuel p p' hw h,
   fun p p' c hw hr h => removeUnusedMapFields_sound db p p' c hw hr h,
   fun p p' c hw hr h => removeUnusedDatasourceFields_sound db p p' c hw hr h,
   fun p p' c hw hr h => removeUnusedGroupByNonKeyFields_sound db p p' c hw hr h,
   fun fuel p p' hw hp h => optimize_sound db fuel p p' hw hp h⟩

-- a join with a WHERE that has left-only, right-only and key conjuncts is well-formed …
example : WellFormed Examples.dbJ Examples.pJ := Examples.pJ_wellFormed
-- … the rules fire on it …
example : ∃ q, pushDownFilterPredicatesIntoStreamJoinBranch Examples.pJ = some (q, true) :=
  exists_changed (by decide +kernel)
example : ∃ q, pushDownFilterPredicatesIntoStreamJoinKey Examples.pJ = some (q, true) :=
  exists_changed (by decide +kernel)
-- … and the filter-rule fixpoint changes the plan while (by the theorem) keeping its two result rows
example : ∃ rs q, rulesOfNames filterRuleNames = some rs ∧ optimizeWith rs 64 Examples.pJ = .ok q ∧
    (denote Examples.dbJ q []).map List.length = some 2 := by
  have ⟨q, h⟩ : ∃ q, optimizeWith filterRuleList 64 Examples.pJ = .ok q ∧
      (denote Examples.dbJ q []).map List.length = some 2 := exists_ok_of_decide (by decide +kernel)
  exact ⟨_, q, (filterRules_ok Examples.dbJ).1, h⟩
example : (denote Examples.dbJ Examples.pJ []).map List.length = some 2 := by decide +kernel
-- a plan with an unused Map field that is removable: the rule removes it
example : MapRemovable Examples.pM := Examples.pM_removable
example : WellFormed Examples.db0 Examples.pM := Examples.pM_wellFormed
example : ∃ q, removeUnusedMapFields Examples.pM = some (q, true) := exists_changed (by decide +kernel)

-- the real optimizer on a well-formed, prunable join query: filters pushed, key extracted, columns pruned
example : WellFormed Examples.dbJ Examples.pJ2 ∧ Prunable Examples.pJ2 := ⟨Examples.pJ2_wellFormed, Examples.pJ2_prunable⟩
example : ∃ q, optimize 64 Examples.pJ2 = .ok q ∧ (denote Examples.dbJ q []).map List.length = some 2 ∧
    q.fields = ["q.b_0", "q.c_0"] := by
  rw [optimize_eq]
  exact exists_ok_of_decide (by decide +kernel)
-- … and on a group-by whose aggregates are unused: they are removed, the two groups stay
example : WellFormed Examples.db0 Examples.pG ∧ Prunable Examples.pG := ⟨Examples.pG_wellFormed, Examples.pG_prunable⟩
example : ∃ q, optimize 64 Examples.pG = .ok q ∧
    (match q with | .un _ _ g => g.fields | _ => []) = ["g.k_0"] ∧
    (denote Examples.db0 q []).map List.length = (denote Examples.db0 Examples.pG []).map List.length := by
  rw [optimize_eq]
  exact exists_ok_of_decide (by decide +kernel)
-- (the refutation witness is well-formed but not prunable: its Map fields reach the ORDER BY … LIMIT node)

end Octo.C04
