import Octo.Lemmas.SqlOrderLimit
/-!
# C05 — LIMIT and ORDER BY behave identically in every output mode and nesting

Three pieces of code implement LIMIT / ORDER BY: `nodes.Limit`, `nodes.OrderSensitiveTransform`
(`ostOp`) and the table printer (`printerOp`); `cmd/root.go` and `physical/nodes.go` choose among
them (`orderLimitEager`: nested blocks and csv/json/stream_native; `tableSink`: batch_table/live_table).
The theorems: whichever is chosen, `LIMIT n` yields exactly `min n N` rows, and they are the first
`n` rows of a key-sorted rearrangement of the `N` input rows, duplicates counted individually.
-/
namespace Octo.C05
open Octo Octo.Sql

/-- ORDER BY keys evaluate on the rows: true of well-typed queries, and needed only to exhibit the sorted rearrangement
    when `LIMIT 0` makes the engine skip the sort (`C01.KeysOk` is the same predicate) -/
def KeysOk (order : List (SExpr × Bool)) (core : List Row) : Prop :=
  ∀ r ∈ core, (evalAll r (keyExprs order)).isSome

/-- what every implementation must deliver -/
def LimitSpec (order : List (SExpr × Bool)) (limit : Option Nat) (core out : List Row) : Prop :=
  ∃ full, SameBag full core ∧ full.length = core.length ∧ SortedBy order full ∧ out = applyLimit limit full

theorem limitSpec_length (order : List (SExpr × Bool)) (n : Nat) (core out : List Row)
    (h : LimitSpec order (some n) core out) : out.length = min n core.length := by
  obtain ⟨full, _, hl, _, rfl⟩ := h
  simp [applyLimit, hl]

/-- the Limit node: the first n rows, for every n ≥ 0 -/
theorem limit_node (n : Nat) (rows : List Row) : LimitSpec [] (some n) rows (limitOp n rows) :=
  ⟨rows, fun _ => rfl, rfl, sortedBy_no_keys _, rfl⟩

theorem printer_spec (order : List (SExpr × Bool)) (limit : Option Nat) (rows out : List Row)
    (h : printerOp order limit rows = some out) : LimitSpec order limit rows out := by
  simp only [printerOp, mults_eq, keyExprs_eq, Option.map_eq_some_iff] at h
  obtain ⟨t, hbt, rfl⟩ := h
  exact emit_buildTree_spec order limit rows t hbt

/-- OrderSensitiveTransform: the printer's tree behind an early return for `LIMIT 0` -/
theorem ost_spec (order : List (SExpr × Bool)) (limit : Option Nat) (rows out : List Row)
    (hk : KeysOk order rows) (h : ostOp order limit rows = some out) : LimitSpec order limit rows out := by
  rw [ostOp] at h
  split at h
  · -- LIMIT 0: nothing is read; a sorted rearrangement exists because the keys evaluate
    rename_i h0
    obtain ⟨t, ht⟩ := buildTree_full_exists (mults order) (keyExprs order) rows [] hk
    obtain ⟨full, hb, hl, hs, _⟩ := emit_buildTree_spec order none rows t ht
    cases h
    exact ⟨full, hb, hl, hs, by rw [h0]; rfl⟩
  · exact printer_spec order limit rows out h

/-- nested blocks and the eager sinks (csv, json, stream_native): the choice of `physical/nodes.go` /
    `cmd/root.go` meets the specification in each of its branches: OrderSensitiveTransform under ORDER BY,
    else the Limit node, or nothing -/
theorem choice_eager (b : Block) (core out : List Row) (hk : KeysOk b.order core)
    (h : orderLimitEager b core = some out) : LimitSpec b.order b.limit core out := by
  rw [orderLimitEager] at h
  split at h
  · exact ost_spec b.order b.limit core out hk h
  · rename_i he
    rw [Decidable.not_not.mp he]
    refine ⟨core, fun _ => rfl, rfl, sortedBy_no_keys _, ?_⟩
    cases hl : b.limit with
    | none => rw [hl] at h; cases h; rfl
    | some n =>
      simp only [hl] at h
      -- the Limit node returns `core.take n`; for `n = 0` through its early return
      cases n with
      | zero => cases h; rfl
      | succ n => cases h; rfl

/-- the table sinks (batch_table, live_table): optional Limit node, then the printer. Without ORDER BY the
    Limit node cuts first and the printer sorts what is left by value — any order is a sorted one then, so the
    cut rows are put back behind it -/
theorem choice_table (b : Block) (core out : List Row) (h : tableSink b core = some out) :
    LimitSpec b.order b.limit core out := by
  rw [tableSink] at h
  cases hl : b.limit with
  | none => rw [hl] at h; exact printer_spec b.order none core out h
  | some n =>
    simp only [hl] at h
    split at h
    · rename_i hord
      have hc : (if n = 0 then [] else limitOp n core) = core.take n := by cases n <;> rfl
      rw [hc, hord] at h
      obtain ⟨full', hb, hlen, _, he⟩ := printer_spec [] (some n) (core.take n) out h
      rw [hord]
      refine ⟨full' ++ core.drop n, fun r => ?_, ?_, sortedBy_no_keys _, ?_⟩
      · rw [countRow_append, hb r, ← countRow_append, List.take_append_drop]
      · rw [List.length_append, hlen, ← List.length_append, List.take_append_drop]
      · rw [he, applyLimit, applyLimit, List.take_append]
        by_cases hlt : core.length ≤ n
        · simp [List.drop_of_length_le hlt]
        · have : full'.length = n := by rw [hlen, List.length_take]; omega
          simp [this]
    · exact printer_spec b.order (some n) core out h

/-- **C05**: for every n ≥ 0, in every output mode and at every nesting level, LIMIT n returns exactly
    `min n N` rows … -/
theorem C05_count (mode : Mode) (b : Block) (n : Nat) (core out : List Row) (hl : b.limit = some n)
    (hk : KeysOk b.order core)
    (h : (match mode with | .eager => orderLimitEager b core | .table => tableSink b core) = some out) :
    out.length = min n core.length := by
  cases mode with
  | eager => exact limitSpec_length b.order n core out (hl ▸ choice_eager b core out hk h)
  | table => exact limitSpec_length b.order n core out (hl ▸ choice_table b core out h)

/-- … and they are the first n of the sort order, duplicates counted individually. -/
theorem C05_first_n (mode : Mode) (b : Block) (core out : List Row) (hk : KeysOk b.order core)
    (h : (match mode with | .eager => orderLimitEager b core | .table => tableSink b core) = some out) :
    LimitSpec b.order b.limit core out := by
  cases mode with
  | eager => exact choice_eager b core out hk h
  | table => exact choice_table b core out h

/-! ### the code before the two repairs, refuted (kept for the violation search) -/

/-- `nodes.Limit` before `fix: LIMIT 0 …`: `i == limit` is tested after the first increment -/
def limitOpRaw (n : Nat) (rows : List Row) : List Row := if n = 0 then rows else rows.take n

theorem limit_zero_raw_refuted : ¬ (∀ rows, (limitOpRaw 0 rows).length = min 0 rows.length) := by
  intro h
  have := h [[.int 1]]
  simp [limitOpRaw] at this

/-- `produceOrderByItems` before the repair: the limit counted distinct items, each emitted `count` times -/
def emitRaw (limit : Option Nat) (t : List Item) : List Row :=
  match limit with
  | some n => flatten (t.take n)
  | none => flatten t

theorem order_limit_raw_refuted :
    (emitRaw (some 1) [⟨[.int 2], [.int 2], 2⟩, ⟨[.int 1], [.int 1], 1⟩]).length = 2 := by decide

/-! ### non-vacuity -/
example : (ostOp [(.col 0, true)] (some 1) [[.int 2], [.int 2], [.int 1]]).map List.length = some 1 := by decide +kernel
example : (tableSink { whr := none, proj := none, distinct := false, order := [], limit := some 0 } [[.int 2], [.int 1]]).map List.length = some 0 := by decide
example : (orderLimitEager { whr := none, proj := none, distinct := false, order := [], limit := some 0 } [[.int 2], [.int 1]]).map List.length = some 0 := by decide

end Octo.C05
