import Octo.Model.ErrFlow
/-!
# C06 — Runtime errors are never swallowed

`Octo.ErrFlow.runQuery` models how an error travels through a plan; `Octo.Gen.ErrorFlow.sites` is
regenerated from `/repo`'s sources on every run (every call of a child's `Run`/`Evaluate`/scanner `Err()`
inside a node's `Run`/`Evaluate`, and whether its error is used). The theorems: on the current tree
every such error is used, hence for **every** plan (any nesting of DISTINCT, ORDER BY, GROUP BY, joins,
subquery expressions) a failure anywhere makes the query fail.
-/
namespace Octo.C06
open Octo.ErrFlow Octo.Gen.ErrorFlow

/-- every recorded call site uses the error it is handed (re-proved against the generated table) -/
theorem all_sites_used : sites.all (·.used) = true := by decide

theorem propagates_all (k : Kind) : propagates k = true :=
  List.all_eq_true.mpr fun s hs => List.all_eq_true.mp all_sites_used s (List.mem_filter.mp hs).1

theorem all_kinds_propagate : ∀ k ∈ allKinds, propagates k = true := fun k _ => propagates_all k

/-- with error-using nodes everywhere `run` is a plain disjunction: the flag from above, or a failure below -/
theorem run_of_flow (flow : Kind → Bool) (hf : ∀ k, flow k = true) (p : Plan) (above : Bool) :
    run flow above p = if above || hasFailure p then .err else .ok := by
  induction p generalizing above with
  | source k f => rw [run, hf, hasFailure]; cases above <;> cases f <;> rfl
  | unary k ef c ih =>
    rw [run, ih, hf, hasFailure, ← Bool.or_assoc]
    cases above || ef || hasFailure c <;> rfl
  | binary k ef l r ihl ihr =>
    rw [run, ihl, ihr, hf, hasFailure, ← Bool.or_assoc, ← Bool.or_assoc]
    cases (above || ef) <;> cases hasFailure l <;> cases hasFailure r <;> rfl
  | withSub k ef qk c s ihc ihs =>
    rw [run, ihc, ihs, hf, hf, hasFailure, ← Bool.or_assoc, ← Bool.or_assoc]
    cases (above || ef) <;> cases hasFailure c <;> cases hasFailure s <;> rfl

theorem run_err_of_failure (flow : Kind → Bool) (hf : ∀ k, flow k = true) (p : Plan) (above : Bool)
    (h : (above || hasFailure p) = true) : run flow above p = .err :=
  (run_of_flow flow hf p above).trans (if_pos h)

theorem run_ok_of_no_failure (flow : Kind → Bool) (p : Plan) (h : hasFailure p = false) :
    run flow false p = .ok := by
  induction p with
  | source k f => simp only [hasFailure] at h; simp [run, h]
  | unary k ef c ih =>
    simp only [hasFailure, Bool.or_eq_false_iff] at h
    simp [run, h.1, ih h.2]
  | binary k ef l r ihl ihr =>
    simp only [hasFailure, Bool.or_eq_false_iff] at h
    simp [run, h.1.1, ihl h.1.2, ihr h.2]
  | withSub k ef qk c s ihc ihs =>
    simp only [hasFailure, Bool.or_eq_false_iff] at h
    simp [run, h.1.1, ihc h.1.2, ihs h.2]

/-- the full-strength statement for a flow table -/
def Statement (flow : Kind → Bool) : Prop :=
  ∀ (sink : Kind) (p : Plan), (hasFailure p = true → runQuery flow sink p = .err) ∧
                               (hasFailure p = false → runQuery flow sink p = .ok)

/-- **C06** on the current tree: a runtime failure anywhere in any plan fails the query, and a
    zero exit means nothing failed. -/
theorem C06_full : Statement propagates := by
  intro sink p
  constructor
  · intro h
    rw [runQuery, run_err_of_failure propagates propagates_all p false h, propagates_all]
    rfl
  · intro h
    rw [runQuery, run_ok_of_no_failure propagates p h]

/-- the flow table of the shipped code: Distinct, OrderSensitiveTransform, the two query
    expressions and the lines datasource dropped the error -/
def shippedFlow : Kind → Bool
  | .distinct | .orderBy | .singleColQuery | .multiColQuery | .linesSource => false
  | _ => true

/-- `SELECT DISTINCT panic(b) …`: exit 0 -/
theorem shipped_refuted : ¬ Statement shippedFlow := by
  intro h
  have := (h .eagerSink (.unary .distinct false (.unary .map true (.source .csvSource false)))).1 (by decide)
  exact absurd this (by decide)

example : hasFailure (.withSub .filter false .singleColQuery (.source .csvSource false)
    (.unary .filter true (.source .jsonSource false))) = true := by decide
example : runQuery propagates .eagerSink (.withSub .filter false .singleColQuery (.source .csvSource false)
    (.unary .filter true (.source .jsonSource false))) = .err := by decide +kernel
example : runQuery propagates .batchSink (.binary .streamJoin false (.source .csvSource false)
    (.unary .orderBy false (.source .linesSource true))) = .err := by decide +kernel

end Octo.C06
