import Octo.Gen.ExprKinds
import Octo.Props.C12
import Octo.Props.C13
/-!
# C07 — No query or input crashes the process

The provable part of a whole-program claim (the rest is the fuzzing search of the C07 check, notes/C07.md):
the switches over expression kinds that end in `panic("unexhaustive …")` handle every kind, over a table
generated from /repo's sources on every check run; and the scalar functions modelled for C12 and C13 never
reach the `.panic` outcome the models use wherever the Go code would panic.
-/
namespace Octo.C07
open Octo Octo.Num Octo.Str Octo.Utf8 Octo.Gen.ExprKinds

/-- every `switch expr.ExpressionType` that panics on an unhandled kind handles all kinds -/
theorem exhaustive_switches :
    switches.all (fun s => !s.panicsIfUnhandled || allKinds.all (fun k => s.cases.contains k)) = true := by decide

theorem allKinds_complete (k : EKind) : k ∈ allKinds := by cases k <;> decide

/-- the two switches the optimizer and the planner depend on are among the recorded ones -/
theorem switches_found :
    (switches.any fun s => s.fn == "expression.go:variablesUsed") = true ∧
    (switches.any fun s => s.fn == "expression.go:Materialize") = true := by decide

/-- numeric / conversion / list / IN functions never panic on arguments of their declared types (C13) -/
theorem numeric_functions_never_panic (name : String) (idx : Nat) (args : List Value) (h : ArgsOk args) :
    callFn name idx args ≠ Outcome.panic := Octo.C13.fn_never_panics name idx args h

/-- substr reports negative arguments as errors and never panics (C12) -/
theorem substr_never_panics (s : Utf8.Bytes) (start length : Int) :
    substr3 s start length ≠ Out.panic ∧ substr2 s start ≠ Out.panic :=
  ⟨(Octo.C12.substr_total s start length).2.2.1, (Octo.C12.substr_total s start length).2.2.2⟩

end Octo.C07
