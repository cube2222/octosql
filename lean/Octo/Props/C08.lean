import Octo.Lemmas.TypingMain
import Octo.Lemmas.TypingTableOk
import Octo.Lemmas.TypingAgg
/-!
# C08 — Static types are sound

Property: for every well-typed query over sources whose values match their schemas, every value the query produces matches
the type octosql reports for that column; a column shows NULL only if its type admits NULL, and functions whose declared
result is non-nullable never return NULL.

Proved, with no bound on expression depth, number of arguments or values: (ii) the typing rules are sound for any function
environment that meets the per-descriptor obligation `SigOk` (`typing_sound`; `typecheck`/`run` mirror
`logical.*.Typecheck`, `physical.Expression.Materialize` and `execution.*.Evaluate` and are compared with them, typed
tree and value of every node, by the C08 correspondence run); (i) the table `Octo.Gen.FuncTable`, generated from /repo on
every check run, meets that obligation for all bodies that respect the extracted result kinds (`descriptor_obligation`);
(iii) aggregates (`aggregate_sound`).

Hypotheses: `constsOk e`, false only for list constants mixing structs of different shapes (C10 finding
`typeof-list-shape-mismatch`) or struct constants with ≥ 2 fields, neither denotable in SQL text (`scalar_consts_ok`);
without it the statement is false (`C08_refuted`).  `coalesceOk p`, a decidable side condition on every COALESCE node
(`coalesceArgsOk`).  That `TypeSum` of normal-form types always covers its operands is NOT proved; the `judge` evaluates
`coalesceOk` on every typed tree the implementation produces and annotates the lines where it fails (notes/C08.md).
-/
namespace Octo.C08
open Octo Octo.Ty Octo.Tc Octo.Gen.FuncTable

/-- the descriptors of a function are listed in index order -/
theorem table_indices : ∀ e ∈ table, (table.filter (fun e' => e'.name = e.name)).map (·.idx) =
    List.range (table.filter (fun e' => e'.name = e.name)).length :=
  fun e _ => List.range_eq_range' ▸ indicesOk_spec Entry.name Entry.idx table (fun _ => 0) (by decide +kernel) e.name

/-- every declared output type is well formed (one alternative per TypeID, no nested union) -/
theorem table_out_wf : ∀ e ∈ table, wf e.out = true := by decide +kernel

/-- every declared parameter type is one of the six scalar types or `Any` (so the targets of inserted assertions are flat) -/
theorem table_params : ∀ e ∈ table, e.args.all paramOk = true := by decide +kernel

/-- **obligation (i), static descriptors**: every `return` of every body yields something within the declared output type
    (a constructed scalar of a type that `Is` it, NULL only if it admits NULL, an argument whose parameter type `Is` it) -/
theorem table_kinds_within : ∀ e ∈ table, e.hasTypeFn = false → e.kinds.all (kindOk e.args e.out) = true := by decide +kernel

/-- **obligation (i), `TypeFn` descriptors**: the returns are what the modelled `TypeFn` accounts for -/
theorem table_tyfn_kinds : ∀ e ∈ table, e.hasTypeFn = true →
    (match tyFnOf e.name e.idx with
      | some f => e.kinds.all (tyFnKindOk f)
      | none => false) = true := by decide +kernel

/-- **a function whose declared result type does not admit NULL has no `return octosql.NewNull()`**
    (the `int('x')` defect: `int(String)` declared `Int` and returned NULL; fixed by declaring `NULL | Int`) -/
theorem nonnull_output_never_returns_null :
    ∀ e ∈ table, e.hasTypeFn = false → admitsNull e.out = false → e.returnsNull = false := by decide +kernel

/-- … and what that check would have said about the shipped `int(String)` descriptor -/
theorem shipped_int_of_string_refuted :
    let e : Entry := ⟨[105, 110, 116], 3, [.str], .int, true, false, true, [.ctor 1, .null]⟩
    admitsNull e.out = false ∧ e.returnsNull = true ∧ e.kinds.all (kindOk e.args e.out) = false := by decide

/-- the hand-written models of the `TypeFn` closures (`applyTyFn ∘ tyFnOf`) answer every probe exactly as the real closure
    did when `vh extract functable` called it -/
theorem typeFn_probes_agree : probes.all probeOk = true := by
  have h : probes.all probeOkAt = true := by decide +kernel
  rwa [funext probeOkAt_eq] at h

theorem aggTypeFn_probes_agree : aggProbes.all aggProbeOk = true := by decide +kernel

theorem table_facts : TableFacts :=
  ⟨table_out_wf, table_params, table_kinds_within, table_tyfn_kinds, table_indices⟩

/-- `TypeSum(Boolean, Null)`, the type AND/OR check their operands against, is the model's constant `boolNull` -/
theorem boolNull_is_typeSum : typeSum .bool .null = some boolNull := rfl

/-- for every assignment of bodies that respect the result kinds extracted from the Go source, the generated function
    environment satisfies the per-descriptor obligation (`SigOk.sound`: `DescrSound`) and the side conditions -/
theorem descriptor_obligation (body : Name → Nat → List Value → Res)
    (hb : ∀ e ∈ table, RespectsKinds e.kinds (body e.name e.idx)) : SigOk (sigOf body) :=
  sigOk_of_facts table_facts body hb

/-- non-vacuity: bodies that respect the kinds exist and return values, e.g. one that always builds an Int for `+`/0 -/
example : RespectsKinds [.ctor 1] (fun _ => .val (.int 0)) := by
  intro args v h; cases h; exact ⟨.ctor 1, by simp, rfl⟩

/-- **soundness**: parametric in the function environment -/
theorem typing_sound (S : Sig) (hS : SigOk S) (Γ : Ctx) (hΓ : CtxWf Γ) (e : LExpr) (hc : constsOk e = true) (p : PExpr)
    (h : typecheck S Γ e = .ok p) :
    wf p.ty = true ∧
    (coalesceOk p = true → ∀ ρ v, EnvConforms Γ ρ → run S Γ ρ p = .val v → conforms p.ty v = true) :=
  have hs := typecheck_sound hS hΓ e p hc h
  ⟨hs.1, fun hp ρ v he hv => hs.2 hp ρ v he (run_val hv)⟩

/-- … over the generated table, for all bodies that respect the extracted result kinds -/
theorem typing_sound_generated (body : Name → Nat → List Value → Res)
    (hb : ∀ e ∈ table, RespectsKinds e.kinds (body e.name e.idx)) (Γ : Ctx) (hΓ : CtxWf Γ) (e : LExpr)
    (hc : constsOk e = true) (p : PExpr) (h : typecheck (sigOf body) Γ e = .ok p) (hp : coalesceOk p = true)
    (ρ : List (List Value)) (v : Value) (he : EnvConforms Γ ρ) (hv : run (sigOf body) Γ ρ p = .val v) :
    conforms p.ty v = true :=
  (typing_sound _ (descriptor_obligation body hb) Γ hΓ e hc p h).2 hp ρ v he hv

/-- **a column shows NULL only if its type admits NULL** -/
theorem null_only_if_admitted (S : Sig) (hS : SigOk S) (Γ : Ctx) (hΓ : CtxWf Γ) (e : LExpr) (hc : constsOk e = true)
    (p : PExpr) (h : typecheck S Γ e = .ok p) (hp : coalesceOk p = true) (ρ : List (List Value))
    (he : EnvConforms Γ ρ) (hv : run S Γ ρ p = .val .null) : admitsNull p.ty = true :=
  have ⟨w, hs⟩ := typing_sound S hS Γ hΓ e hc p h
  admits_of_conforms_null w (hs hp ρ .null he hv)

/-- SQL text denotes scalar constants only, and every scalar constant is admissible -/
theorem scalar_consts_ok (v : Value) (h : v.noRecV = true) (hl : ∀ xs, v ≠ .list xs) : constOk v = true := by
  cases v <;> simp [Value.noRecV] at h <;> first | rfl | exact absurd rfl (hl _)

/-- the COALESCE side condition at work: when the (normal-form) result type covers the (normal-form) type of an argument,
    the value that `ObjectLayoutFixer` produces for a value of the argument type (C13: `fixLayout ∘ calculateMapping =
    relayout`) is a value of the result type — objects by field name with NULL for the fields the source lacks, tuples
    padded with NULL, through lists and unions of any nesting -/
theorem covered_relayout_conforms (t s : Ty) (v : Value) (nt : normB t = true) (ns : normB s = true)
    (hc : coversB t s = true) (hv : conforms s v = true) :
    conforms t (Spec13.relayout (Value.size v + 1) t s v) = true :=
  covers_conforms (coversB_sound hc) (normB_sound t nt) (normB_sound s ns) v _ (Nat.lt_succ_self _) hv

/-- non-vacuity: `{x: Int} ⊔ {y: Int} = {x: NULL | Int; y: NULL | Int}` is not an upper bound under `Is` (C10,
    `sum_upper_refuted`) but it covers both operands: `{x: 1}` is re-laid-out as `{x: 1, y: NULL}` -/
example : coversB (.struct [[120], [121]] [.union [.null, .int], .union [.null, .int]]) (.struct [[120]] [.int]) = true ∧
    normB (.struct [[120], [121]] [.union [.null, .int], .union [.null, .int]]) = true ∧
    Spec13.relayout 3 (.struct [[120], [121]] [.union [.null, .int], .union [.null, .int]]) (.struct [[120]] [.int])
      (.struct [.int 1]) = .struct [.int 1, .null] := by
  refine ⟨by decide, by decide, rfl⟩

/-- the run-time assertion mechanism: a value of the asserted expression's static type that passes the TypeID test is a value
    of the type the typechecker gives the assertion (`TypeIntersection(target, type)`), for flat targets -/
theorem assertion_complete {target a c : Ty} {v : Value} (wa : wf a = true) (ha : a.isAny = false)
    (ft : flatTarget target = true) (hv : conforms a v = true) (hr : (targetIds target).contains v.rank = true)
    (h : typeInter target a = some (some c)) : conforms c v = true := inter_complete wa ha ft hv hr h

/-- a body for the examples: `int`/3 (String → NULL | Int) parses nothing and returns NULL, everything else fails -/
def exBody : Name → Nat → List Value → Res := fun name idx _ => if name = [105, 110, 116] ∧ idx = 3 then .val .null else .err

def ΓEx : Ctx := [[(0, .union [.null, .float, .str]), (1, .union [.str, .struct [[120], [121]] [.int, .str]]), (2, .int)]]

/-- `int(c0)` over `c0 : NULL | Float | String`: the maybe pass picks `int(Float)` (first overload that may fit), wraps the
    argument in an assertion to `NULL | Float`, and the call is typed `NULL | Int` -/
example : typecheck (sigOf exBody) ΓEx (.call [105, 110, 116] [.var 0]) =
    .ok (.call (.union [.null, .int]) [105, 110, 116] 2 true
      [.assert (.union [.null, .float]) (.union [.null, .float]) (.var (.union [.null, .float, .str]) 0)]) := rfl

/-- `c1 -> y` over `c1 : String | {x: Int, y: String}`: assertion to `{…} | NULL`, typed `NULL | String`;
    on the object `{1, "a"}` it yields `"a"` (field 1), on a string the assertion fails -/
example : (typecheck (sigOf exBody) ΓEx (.field [121] (.var 1))).map PExpr.ty = .ok (.union [.null, .str]) := rfl
example : (typecheck (sigOf exBody) ΓEx (.field [121] (.var 1))).map
    (run (sigOf exBody) ΓEx [[.null, .struct [.int 1, .str [97]], .int 5]]) = .ok (.val (.str [97])) := rfl
example : (typecheck (sigOf exBody) ΓEx (.field [121] (.var 1))).map
    (run (sigOf exBody) ΓEx [[.null, .str [98], .int 5]]) = .ok .err := rfl

/-- the hypotheses of `typing_sound` are satisfiable by that context and environment -/
example : CtxWf ΓEx := by
  unfold CtxWf; decide
example : EnvConforms ΓEx [[.null, .struct [.int 1, .str [97]], .int 5]] :=
  ⟨rfl, trivial⟩

theorem aggTable_indices : ∀ e ∈ aggTable, (aggTable.filter (fun e' => e'.name = e.name)).map (·.idx) =
    List.range (aggTable.filter (fun e' => e'.name = e.name)).length :=
  fun e _ => List.range_eq_range' ▸ indicesOk_spec AggEntry.name AggEntry.idx aggTable (fun _ => 0) (by decide +kernel) e.name

/-- declared argument types are scalars or `Any` and outputs well formed; a `TypeFn` aggregate has the zero ArgumentType -/
theorem aggTable_shape : ∀ e ∈ aggTable,
    (e.hasTypeFn = false → paramOk e.arg = true ∧ wf e.out = true) ∧ (e.hasTypeFn = true → tyBeq e.arg .null = true) := by
  decide +kernel

/-- **per-descriptor obligation for aggregates**: what `Trigger()` yields is within the declared output type
    (a constructed scalar of that type; one of the inputs, whose type is the declared argument type);
    the `TypeFn` aggregates (`array_agg`) yield the list of their inputs -/
theorem aggTable_kinds : ∀ e ∈ aggTable,
    (e.hasTypeFn = false → aggKindOk e.arg e.out e.kind = true) ∧ (e.hasTypeFn = true → e.kind = .inputs) := by decide +kernel

theorem aggTable_ok (name : List Nat) : AggTableOk (aggDescrsOf name) := by
  intro d hd
  obtain ⟨e, he, rfl⟩ := List.mem_map.mp hd
  have he := (List.mem_filter.mp he).1
  have ⟨h1, h2⟩ := aggTable_shape e he
  unfold aggDescrOf
  cases hh : e.hasTypeFn
  · exact ⟨fun _ => (h1 hh).1, fun _ => (h1 hh).2, fun f htf => (by cases htf), fun f htf => (by cases htf)⟩
  · exact ⟨fun htf => (by cases htf), fun htf => (by cases htf), fun _ _ => tyBeq_null (h2 hh),
      fun f htf t o wt hf => by cases htf; cases hf; exact wt⟩

/-- the obligation `AggSound` for a generated entry, from the extracted kind of its `Trigger` -/
theorem aggregate_obligation (e : AggEntry) (he : e ∈ aggTable) (trigger : List Value → Res)
    (hr : AggRespects e.kind trigger) : AggSound (aggDescrOf e) trigger := by
  have ⟨k1, k2⟩ := aggTable_kinds e he
  cases hh : e.hasTypeFn with
  | false => exact aggSound_static (by simp [aggDescrOf, hh]) (k1 hh) hr
  | true =>
    rw [k2 hh] at hr
    exact aggSound_array (by simp [aggDescrOf, hh]) hr

/-- **aggregates**: for the aggregate `name` of the generated table over a soundly typed argument expression `p`:
    the reported column type `o` is well formed, and whatever one group yields over at least one conforming record
    (the argument `p'` as the typechecker left it, possibly asserted) matches `o` — for every family of `Trigger`s
    that respect the extracted kinds -/
theorem aggregate_sound (S : Sig) (Γ : Ctx) (name : List Nat) (p p' : PExpr) (i : Nat) (o : Ty) (hp : Sound S Γ p)
    (h : aggTypecheck (aggDescrsOf name) p = .ok (i, p', o))
    (trig : Nat → List Value → Res) (ht : ∀ e ∈ aggTable, e.name = name → AggRespects e.kind (trig e.idx)) :
    wf o = true ∧ (coalesceOk p' = true →
      ∀ (ρs : List (List (List Value))), ρs ≠ [] → (∀ ρ ∈ ρs, EnvConforms Γ ρ) →
        ∀ v, aggRun (trig i) (ρs.map (fun ρ => eval S Γ ρ p')) [] = .val v → conforms o v = true) := by
  obtain ⟨_, wo, d, hget, hrun⟩ := agg_sound hp (aggTable_ok name) h
  obtain ⟨e, he, hn, hi, rfl⟩ := filter_map_get aggTable_indices hget
  refine ⟨wo, ?_⟩
  intro hpl ρs hne hρ v hv
  have := ht e he hn
  rw [hi] at this
  exact hrun (trig i) (aggregate_obligation e he _ this) hpl ρs hne hρ v hv

/-- non-vacuity: `SUM(c)` over `c : NULL | Float | String` resolves to `sum(Float)` (index 1), asserts `NULL | Float`
    and reports `NULL | Float` -/
example : aggTypecheck (aggDescrsOf [115, 117, 109]) (.var (.union [.null, .float, .str]) 0) =
    .ok (1, .assert (.union [.null, .float]) (.union [.null, .float]) (.var (.union [.null, .float, .str]) 0),
      .union [.null, .float]) := rfl

/-- C08 for a function environment `S`: whatever a well-typed expression evaluates to, on records that match the schema,
    matches the type the typechecker reports -/
def Statement (S : Sig) : Prop :=
  ∀ (Γ : Ctx) (e : LExpr) (p : PExpr) (ρ : List (List Value)) (v : Value),
    CtxWf Γ → typecheck S Γ e = .ok p → EnvConforms Γ ρ → run S Γ ρ p = .val v → conforms p.ty v = true

/-- … for expressions whose constants match their reported types and whose COALESCE nodes meet the decidable side condition -/
def StatementPartial (S : Sig) : Prop :=
  ∀ (Γ : Ctx) (e : LExpr) (p : PExpr) (ρ : List (List Value)) (v : Value),
    CtxWf Γ → constsOk e = true → typecheck S Γ e = .ok p → coalesceOk p = true → EnvConforms Γ ρ →
    run S Γ ρ p = .val v → conforms p.ty v = true

/-- the list constant `[ {0, 0}, {NULL, 1} ]` (not denotable in SQL text): `Value.Type()` reports `[{: Int}]` -/
def badConst : Value := .list [.struct [.int 0, .int 0], .struct [.null, .int 1]]

/-- **the full statement is false for every function environment**: `Constant.Typecheck` trusts `Value.Type()`, which
    mistypes lists of differently shaped structs (C10, known finding `typeof-list-shape-mismatch`) -/
theorem C08_refuted (S : Sig) : ¬ Statement S := by
  intro hst
  have := hst [] (.const badConst) (.const (.list (.struct [[]] [.int])) badConst) [] badConst
    (by intro c hc; cases hc) rfl trivial rfl
  exact absurd this (by decide)

/-- **C08 with exactly those two hypotheses**, for every function environment that meets the per-descriptor obligation … -/
theorem C08_partial (S : Sig) (hS : SigOk S) : StatementPartial S :=
  fun Γ e p ρ v hΓ hc h hp he hv => (typing_sound S hS Γ hΓ e hc p h).2 hp ρ v he hv

/-- … in particular for the generated table with any bodies that respect the extracted result kinds -/
theorem C08_partial_generated (body : Name → Nat → List Value → Res)
    (hb : ∀ e ∈ table, RespectsKinds e.kinds (body e.name e.idx)) : StatementPartial (sigOf body) :=
  C08_partial _ (descriptor_obligation body hb)

/-! ## The two defects of the shipped code that this property exposed (both fixed; the model mirrors the fixed code) -/

/-- `obj -> y` over `String | {x: Int, y: String}` as shipped: `Materialize` looked for the object type at
    `Alternatives[1]` of the union `[{x, y}, NULL]` that `TypecheckPossiblyNullableStruct` builds, found NULL there, no
    fields, hence field index 0: the expression typed `NULL | String` returned the Int of field `x` -/
theorem shipped_field_access_unsound :
    let objTy : Ty := .union [.struct [[120], [121]] [.int, .str], .null]
    fieldNamesRaw objTy = some [] ∧ (fieldIndex [121] []).getD 0 = 0 ∧
    fieldNames objTy = [[120], [121]] ∧ fieldIndex [121] (fieldNames objTy) = some 1 ∧
    conforms (.union [.null, .str]) (.int 1) = false := by
  refine ⟨rfl, rfl, rfl, rfl, by decide⟩

def sumDescrs : List AggDescr := [⟨.int, .int, none⟩, ⟨.float, .float, none⟩, ⟨.dur, .dur, none⟩]

/-- `SUM(c)` over `c : NULL | Float | String` as shipped: the NULL alternative alone makes `sum(Int)` "maybe" fit, so the
    FIRST overload wins, the argument is asserted to be `Int` (every Float and every NULL fails at run time) and typed NULL;
    the current code picks `sum(Float)` and asserts `NULL | Float` -/
theorem shipped_aggregate_overload_refuted :
    let c : PExpr := .var (.union [.null, .float, .str]) 0
    aggTypecheckRaw sumDescrs c = .ok (0, .assert .null .int c, .union [.null, .int]) ∧
    aggTypecheck sumDescrs c = .ok (1, .assert (.union [.null, .float]) (.union [.null, .float]) c, .union [.null, .float]) ∧
    eval (sigOf exBody) [[(0, .union [.null, .float, .str])]] [[.float 0]] (.assert .null .int c) = .err ∧
    eval (sigOf exBody) [[(0, .union [.null, .float, .str])]] [[.null]] (.assert .null .int c) = .err := by
  refine ⟨rfl, rfl, rfl, rfl⟩

end Octo.C08
