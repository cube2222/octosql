import Octo.Lemmas.HashCongr
import Octo.Lemmas.Comparator
/-!
# C09 — Value ordering, equality and hashing agree

Property: over all values (NaN, signed zeros, infinities, nested lists/objects/tuples) the
value comparison is a total preorder and values that compare equal hash equally.

`cmp`/`hashV` are the models of `Value.Compare`/`Value.hash` of `octosql/values.go`
(tied to the code by the C09 correspondence run on every check).
All theorems quantify over values of **any** nesting depth.
-/
namespace Octo.C09
open Octo

theorem cmp_refl (a : Value) : cmp a a = 0 := Octo.cmp_refl a
/-- antisymmetric in the sense of a comparator: swapping the arguments negates the result -/
theorem cmp_antisymm (a b : Value) : cmp a b = - cmp b a := Octo.cmp_antisymm a b
theorem cmp_trans (a b c : Value) : cmp a b ≤ 0 → cmp b c ≤ 0 → cmp a c ≤ 0 :=
  Octo.cmp_trans a b c
/-- total: any two values are comparable (the result is one of −1, 0, 1) -/
theorem cmp_total (a b : Value) : cmp a b = -1 ∨ cmp a b = 0 ∨ cmp a b = 1 :=
  cmp_range a b
/-- "compares equal" is an equivalence (with `cmp_refl`, `cmp_antisymm`) -/
theorem cmp_eq_trans (a b c : Value) : cmp a b = 0 → cmp b c = 0 → cmp a c = 0 :=
  Octo.cmp_eq_trans
/-- strict part is transitive (what the btrees' `Less` needs) -/
theorem cmp_lt_trans (a b c : Value) (h1 : cmp a b < 0) (h2 : cmp b c < 0) : cmp a c < 0 :=
  cmp_lt_of_lt_of_le h1 (Int.le_of_lt h2)

/-- values that compare equal hash equally, from any running hash state -/
theorem hash_congr (a b : Value) (wa : a.wf = true) (wb : b.wf = true)
    (h : cmp a b = 0) (s : UInt64) : hashV s a = hashV s b :=
  hashWith_congr floatHashOk_fixed false a b wa wb h s

/-- the same for `Value.hash`, which is `hashV` started from the FNV-1a offset basis -/
theorem hash_congr' (a b : Value) (wa : a.wf = true) (wb : b.wf = true)
    (h : cmp a b = 0) : a.hash = b.hash := hash_congr a b wa wb h _

/-- rows (`[]Value`, `GroupKey`): pointwise-equal rows hash equally under `HashManyValues` -/
theorem hashMany_congr (xs ys : List Value) (wx : Value.wfList xs = true) (wy : Value.wfList ys = true)
    (h : cmpList xs ys = 0) : hashMany xs = hashMany ys :=
  hashListWith_congr floatHashOk_fixed false xs ys wx wy h _

/-- `Equal` (the `=` operator on non-NULL values) agrees with `Compare == 0` -/
theorem equal_iff (a b : Value) (h : a ≠ .null ∨ b ≠ .null) : a.equal b = true ↔ cmp a b = 0 := by
  unfold Value.equal
  split
  · simp at h
  · simp

/-- the btrees' `Less` on rows (GROUP BY keys, ORDER BY items, MIN/MAX/array_agg) is exactly the strict part of
    the row order — it relies on `Compare` returning −1 (not just a negative number) for "less" -/
theorem lessRows_iff (a b : List Value) : lessRows a b = true ↔ cmpList a b < 0 := by
  have r := cmpList_range a b
  rw [lessRows_eq, beq_iff_eq]
  omega

/-- the full-strength statement of the property for a comparison/hash pair -/
def Statement (c : Value → Value → Int) (hsh : UInt64 → Value → UInt64) : Prop :=
  (∀ a, c a a = 0) ∧ (∀ a b, c a b = - c b a) ∧
  (∀ a b d, c a b ≤ 0 → c b d ≤ 0 → c a d ≤ 0) ∧
  (∀ a b, a.wf = true → b.wf = true → c a b = 0 → ∀ s, hsh s a = hsh s b)

/-- **C09, full strength, on the current tree.** -/
theorem C09_full : Statement cmp hashV :=
  ⟨cmp_refl, cmp_antisymm, cmp_trans, fun a b wa wb h s => hash_congr a b wa wb h s⟩

def f1 : Value := .float 0x3FF0000000000000   -- 1.0
def f2 : Value := .float 0x4000000000000000   -- 2.0
def nan : Value := .float 0x7FF8000000000001
def nan2 : Value := .float 0xFFF8000000000123
def pz : Value := .float 0
def nz : Value := .float F64.negZero

/-- the hypotheses of `hash_congr` are met by non-identical values -/
example : pz.wf = true ∧ nz.wf = true ∧ cmp pz nz = 0 := by decide
example : pz ≠ nz := by simp [pz, nz, F64.negZero, F64.signBit]
example : cmp (.list [nan, .str [97]]) (.list [nan2, .str [97]]) = 0 := by decide
example : cmp nan f1 = -1 ∧ cmp f1 nan = 1 ∧ cmp nan nan2 = 0 := by decide

/-- the code before the repair: transitivity fails at 1.0, NaN, 2.0 … -/
theorem raw_not_transitive : cmpRaw f1 nan ≤ 0 ∧ cmpRaw nan f2 ≤ 0 ∧ ¬ cmpRaw f2 f1 ≤ 0 ∧ cmpRaw f1 nan = 0 ∧ cmpRaw nan f2 = 0 ∧ cmpRaw f1 f2 ≠ 0 := by decide
/-- … and equal values hash differently (+0 / −0). -/
theorem raw_hash_not_congr : cmpRaw pz nz = 0 ∧ hashRaw Fnv.offset64 pz ≠ hashRaw Fnv.offset64 nz := by decide
theorem raw_refuted : ¬ Statement cmpRaw hashRaw := by
  intro ⟨_, _, _, h4⟩
  have := h4 pz nz (by decide) (by decide) (by decide) Fnv.offset64
  exact absurd this (by decide)

end Octo.C09
