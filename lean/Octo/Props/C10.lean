import Octo.Lemmas.TyTypeOf
import Octo.Lemmas.TyNonNull
import Octo.Lemmas.TyInter
import Octo.Lemmas.TyRecFree
import Octo.Lemmas.TyTypeOfWf
import Octo.Gen.C10Consts
/-!
# C10 — Type algebra laws hold

Property: for all types the subtype relation is reflexive; `TypeSum(a, b)` is an upper bound of both `a` and
`b`, commutative and idempotent up to type equality; `TypeIntersection(a, b)` is contained in both;
`NonNullable` removes exactly the NULL alternative; every value matches the type it reports for itself.

`Ty.is`, `Ty.typeSumF`/`Ty.typeSum`, `Ty.typeInter`, `Ty.nonNullable`, `Value.typeOf` (`Octo.Model.TyAlgebra`)
model `Type.Is`, `TypeSum`, `TypeIntersection`, `NonNullable` of `octosql/types.go` and `Value.Type` of
`octosql/values.go` **after** the two `fix:` commits (loop-variable aliasing in `TypeIntersection`;
`range value.Tuple` in the Struct case of `Value.Type`); the C10 correspondence run ties them to the code on
every check.  `TypeSum` is modelled with fuel (`none` = exhausted): its theorems hold for every fuel, and on
well-formed types the default fuel suffices (`sum_total`; likewise `inter_total`, `typeOf_total`), so
`sum_lub` states the laws as "there **is** a result and it is …".

Hypotheses:
* `wf t` — *well formed*: hereditarily, union alternatives are plain (no nested union, no `Any`) with pairwise
  distinct `TypeID`s, struct field names are strictly sorted.  `TypeSum` preserves it (`sum_wf`); type literals
  such as `Union[List Int, List Str]` violate the union laws and are outside the domain.
* `shapeOkF n a b` — *ShapeCompatible*: computing `TypeSum(a, b)` never merges two structs with different
  (or unsorted) field-name lists nor two tuples of different lengths.  Without it the sum is **not** an upper
  bound under `Is` (`sum_upper_refuted`, known finding `typesum-shape-mismatch`).
-/
namespace Octo.C10
open Octo Octo.Ty

/-- the name of the `TypeID` constant of each model constructor -/
def idName : Ty → String
  | .null => "TypeIDNull" | .int => "TypeIDInt" | .float => "TypeIDFloat" | .bool => "TypeIDBoolean"
  | .str => "TypeIDString" | .time => "TypeIDTime" | .dur => "TypeIDDuration" | .listNil => "TypeIDList"
  | .list _ => "TypeIDList" | .struct _ _ => "TypeIDStruct" | .tuple _ => "TypeIDTuple" | .union _ => "TypeIDUnion"
  | .any => "TypeIDAny"

/-- `Ty.id` (the sort key of union alternatives) is the position of the constructor's `TypeID` constant in the
    const block of `octosql/types.go` (`Octo.Gen.C10.typeIds` is rewritten from /repo by `vh extract` on every check run) -/
theorem typeIds_tie (t : Ty) : Gen.C10.typeIds[t.id]? = some (idName t) := by
  cases t <;> rfl

/-- `Rel.toNat` is the iota value of the corresponding `TypeRelation` constant -/
theorem typeRelations_tie :
    Gen.C10.typeRelations[Rel.isnt.toNat]? = some "TypeRelationIsnt" ∧
    Gen.C10.typeRelations[Rel.maybe.toNat]? = some "TypeRelationMaybe" ∧
    Gen.C10.typeRelations[Rel.is.toNat]? = some "TypeRelationIs" ∧ Gen.C10.typeRelations.length = 3 := by
  decide +kernel

/-- the subtype relation is reflexive (all types) -/
theorem is_refl (t : Ty) : t.is t = .is := Ty.is_refl t

/-- … transitive (all types) -/
theorem is_trans (a b c : Ty) (h1 : a.is b = .is) (h2 : b.is c = .is) : a.is c = .is := Ty.is_trans h1 h2

/-- … and sound for "value matches type" (all types, all values) — the bridge used by C08 -/
theorem is_sound (a b : Ty) (h : a.is b = .is) (v : Value) (hv : conforms a v = true) : conforms b v = true :=
  Ty.is_sound h v hv

/-- `Equals` is an equivalence relation -/
theorem equals_refl (t : Ty) : t.equals t = true := (equals_iff t t).mpr ⟨Ty.is_refl t, Ty.is_refl t⟩
theorem equals_symm (a b : Ty) (h : a.equals b = true) : b.equals a = true :=
  (equals_iff b a).mpr ((equals_iff a b).mp h).symm
theorem equals_trans (a b c : Ty) (h1 : a.equals b = true) (h2 : b.equals c = true) : a.equals c = true := by
  rw [equals_iff] at h1 h2 ⊢
  exact ⟨Ty.is_trans h1.1 h2.1, Ty.is_trans h2.2 h1.2⟩

/-- the fuel of `Is` does not matter once it covers the two sizes -/
theorem is_fuel_irrelevant (n : Nat) (a b : Ty) (h : a.size + b.size ≤ n) : isF n a b = a.is b :=
  isF_fuel n _ a b h (Nat.le_refl _)

/-- more fuel never changes a result -/
theorem sum_fuel_mono (n m : Nat) (h : n ≤ m) (a b c : Ty) (hc : typeSumF n a b = some c) :
    typeSumF m a b = some c := typeSumF_mono h hc

/-- `TypeSum(a, a) = a` exactly (all types) -/
theorem sum_idem (a : Ty) (n : Nat) : typeSumF (n + 1) a a = some a := by
  rw [typeSumF]
  unfold typeSumStep
  exact if_pos (Ty.is_refl a)

/-- `TypeSum(a, b)` is an upper bound of `a` and of `b` — for shape-compatible operands (all types) -/
theorem sum_upper_partial (n : Nat) (a b c : Ty) (h : typeSumF n a b = some c) (hok : shapeOkF n a b = true) :
    a.is c = .is ∧ b.is c = .is := upperFor_F n a b c h hok

theorem sum_upper_l (n : Nat) (a b c : Ty) (h : typeSumF n a b = some c) (hok : shapeOkF n a b = true) :
    a.is c = .is := (sum_upper_partial n a b c h hok).1
theorem sum_upper_r (n : Nat) (a b c : Ty) (h : typeSumF n a b = some c) (hok : shapeOkF n a b = true) :
    b.is c = .is := (sum_upper_partial n a b c h hok).2

/-- every value of `a` (and of `b`) is a value of `TypeSum(a, b)` -/
theorem sum_sound (n : Nat) (a b c : Ty) (h : typeSumF n a b = some c) (hok : shapeOkF n a b = true) (v : Value)
    (hv : conforms a v = true ∨ conforms b v = true) : conforms c v = true := by
  have ⟨h1, h2⟩ := sum_upper_partial n a b c h hok
  rcases hv with hv | hv
  · exact Ty.is_sound h1 v hv
  · exact Ty.is_sound h2 v hv

/-- a declarative sufficient condition: types without structs and tuples (scalars, lists, unions of those) are
    always shape compatible — for them the sum is an upper bound without further hypothesis -/
theorem sum_upper_recfree (n : Nat) (a b c : Ty) (h : typeSumF n a b = some c) (na : noRec a = true)
    (nb : noRec b = true) : a.is c = .is ∧ b.is c = .is ∧ noRec c = true :=
  have ⟨hok, nc⟩ := recFreeFor_F n a b c h na nb
  have ⟨h1, h2⟩ := sum_upper_partial n a b c h hok
  ⟨h1, h2, nc⟩

/-- `TypeSum` of well-formed types is well formed -/
theorem sum_wf (n : Nat) (a b c : Ty) (h : typeSumF n a b = some c) (wa : wf a = true) (wb : wf b = true) :
    wf c = true := (wfFor_F n a b c h wa wb).1

/-- `TypeSum(a, b)` is below every well-formed upper bound of `a` and `b`: it is the *least* upper bound -/
theorem sum_least (n : Nat) (a b c t : Ty) (h : typeSumF n a b = some c) (wa : wf a = true) (wb : wf b = true)
    (wt : wf t = true) (ha : a.is t = .is) (hb : b.is t = .is) : c.is t = .is :=
  leastFor_F n a b c t h wa wb wt ha hb

/-- **termination**: on well-formed operands `TypeSum` needs at most fuel `2·(size a + size b)` -/
theorem sum_terminates (a b : Ty) (wa : wf a = true) (wb : wf b = true) (n : Nat) (hn : 2 * (a.size + b.size) ≤ n) :
    (typeSumF n a b).isSome = true := Ty.sum_terminates wa wb hn

/-- … hence the model's `typeSum` (default fuel) is total on well-formed types -/
theorem sum_total (a b : Ty) (wa : wf a = true) (wb : wf b = true) : (typeSum a b).isSome = true :=
  typeSum_total wa wb

/-- the laws of `TypeSum` in one statement, without fuel: for well-formed `a`, `b` there is a result `c`; it is well
    formed, below every well-formed upper bound of `a` and `b`, and — when the operands are shape compatible — an
    upper bound of both -/
theorem sum_lub (a b : Ty) (wa : wf a = true) (wb : wf b = true) :
    ∃ c, typeSum a b = some c ∧ wf c = true ∧
      (∀ t, wf t = true → a.is t = .is → b.is t = .is → c.is t = .is) ∧
      (shapeOk a b = true → a.is c = .is ∧ b.is c = .is) := by
  obtain ⟨c, h⟩ := Option.isSome_iff_exists.mp (sum_total a b wa wb)
  exact ⟨c, h, sum_wf _ a b c h wa wb, fun t wt ha hb => sum_least _ a b c t h wa wb wt ha hb,
    sum_upper_partial _ a b c h⟩

/-- `TypeSum` is commutative up to `Equals` (well-formed, shape-compatible operands; unions inside lists, structs and tuples included) -/
theorem sum_comm (n m : Nat) (a b s s' : Ty) (wa : wf a = true) (wb : wf b = true)
    (h : typeSumF n a b = some s) (h' : typeSumF m b a = some s')
    (hok : shapeOkF n a b = true) (hok' : shapeOkF m b a = true) : s.equals s' = true := by
  have ⟨u1, u2⟩ := sum_upper_partial n a b s h hok
  have ⟨u3, u4⟩ := sum_upper_partial m b a s' h' hok'
  exact (equals_iff s s').mpr ⟨sum_least n a b s s' h wa wb (sum_wf m b a s' h' wb wa) u4 u3,
    sum_least m b a s' s h' wb wa (sum_wf n a b s h wa wb) u2 u1⟩

/-- `TypeIntersection(a, b)` is contained in `a` and in `b` (well-formed operands) -/
theorem inter_sub (a b c : Ty) (wa : wf a = true) (wb : wf b = true) (h : typeInter a b = some (some c)) :
    c.is a = .is ∧ c.is b = .is := (typeInter_sub wa wb h).2
/-- … and well formed -/
theorem inter_wf (a b c : Ty) (wa : wf a = true) (wb : wf b = true) (h : typeInter a b = some (some c)) :
    wf c = true := (typeInter_sub wa wb h).1
theorem inter_sub_l (a b c : Ty) (wa : wf a = true) (wb : wf b = true) (h : typeInter a b = some (some c)) :
    c.is a = .is := (inter_sub a b c wa wb h).1
theorem inter_sub_r (a b c : Ty) (wa : wf a = true) (wb : wf b = true) (h : typeInter a b = some (some c)) :
    c.is b = .is := (inter_sub a b c wa wb h).2

/-- `TypeIntersection` of well-formed operands never runs out of fuel -/
theorem inter_total (a b : Ty) (wa : wf a = true) (wb : wf b = true) : (typeInter a b).isSome = true :=
  typeInter_total wa wb

/-- identity on non-unions -/
theorem nonNullable_non_union (t : Ty) (h : t.isUnion = false) : nonNullable t = t := nonNullable_of_not_union t h
/-- the result is contained in the argument (all types) -/
theorem nonNullable_sub (t : Ty) : (nonNullable t).is t = .is := nonNullable_is t
/-- `NonNullable` removes exactly NULL: a value matches the result iff it matches the union and is not NULL -/
theorem nonNullable_spec (alts : List Ty) (w : wf (.union alts) = true) (v : Value) :
    conforms (nonNullable (.union alts)) v = true ↔ (conforms (.union alts) v = true ∧ v ≠ .null) :=
  nonNullable_conforms alts (wf_union.mp w).1 v
/-- … syntactically: the alternatives kept are exactly the non-NULL ones (a single one is unwrapped) -/
theorem nonNullable_alts (alts : List Ty) :
    nonNullable (.union alts) = (match alts.filter (fun a => a.id ≠ 0) with | [x] => x | out => .union out) := rfl

/-- every value matches the type it reports, provided the element chains of its lists are shape compatible -/
theorem typeOf_conforms (v : Value) (hok : v.typeOfShapeOk = true) (t : Ty) (ht : v.typeOf = some t) :
    conforms t v = true := v.typeOf_conforms hok t ht

/-- … unconditionally for values without struct and tuple parts (any nesting of lists of scalars) -/
theorem typeOf_conforms_recfree (v : Value) (hv : v.noRecV = true) (t : Ty) (ht : v.typeOf = some t) :
    conforms t v = true :=
  typeOf_conforms v (v.typeOf_recFree hv t ht).1 t ht

/-- the type a value reports is well formed (i.e. inside the domain of the binary laws) when no struct value
    inside has two or more fields -/
theorem typeOf_wf (v : Value) (hv : v.narrowStructs = true) (t : Ty) (ht : v.typeOf = some t) : wf t = true :=
  v.typeOf_wf hv t ht

/-- … and `Value.Type` never runs out of fuel on such values -/
theorem typeOf_total (v : Value) (hv : v.narrowStructs = true) : (v.typeOf).isSome = true :=
  v.typeOf_total hv

/-- … and a struct value with two fields is reported with the field name `""` twice, which is not well formed
    (struct values carry no names; same root cause as finding `typeof-list-shape-mismatch`) -/
theorem typeOf_wide_struct_not_wf :
    (Value.struct [.int 5, .str [120]]).typeOf = some (.struct [[], []] [.int, .str]) ∧
    wf (.struct [[], []] [.int, .str]) = false := ⟨rfl, by decide +kernel⟩

/-- C10 as stated, for an implementation `(is, sum, inter, nonNull, typeOf)` of the type algebra.
    The domain of the binary laws is the well-formed types (see the header). -/
def Statement (is : Ty → Ty → Rel) (sum : Ty → Ty → Option Ty) (inter : Ty → Ty → Option (Option Ty))
    (nonNull : Ty → Ty) (typeOf : Value → Option Ty) : Prop :=
  (∀ t, is t t = .is) ∧
  (∀ a b s, wf a = true → wf b = true → sum a b = some s → is a s = .is ∧ is b s = .is) ∧
  (∀ a b s s', wf a = true → wf b = true → sum a b = some s → sum b a = some s' → is s s' = .is ∧ is s' s = .is) ∧
  (∀ a, sum a a = some a) ∧
  (∀ a b c, wf a = true → wf b = true → inter a b = some (some c) → is c a = .is ∧ is c b = .is) ∧
  (∀ t, t.isUnion = false → nonNull t = t) ∧
  (∀ alts v, wf (.union alts) = true →
    (conforms (nonNull (.union alts)) v = true ↔ (conforms (.union alts) v = true ∧ v ≠ .null))) ∧
  (∀ v t, typeOf v = some t → conforms t v = true)

/-- the same with the two hypotheses that exclude the known findings -/
def StatementPartial (is : Ty → Ty → Rel) (sum : Ty → Ty → Option Ty) (ok : Ty → Ty → Bool)
    (inter : Ty → Ty → Option (Option Ty)) (nonNull : Ty → Ty) (typeOf : Value → Option Ty)
    (vok : Value → Bool) : Prop :=
  (∀ t, is t t = .is) ∧
  (∀ a b s, sum a b = some s → ok a b = true → is a s = .is ∧ is b s = .is) ∧
  (∀ a b s s', wf a = true → wf b = true → sum a b = some s → sum b a = some s' → ok a b = true → ok b a = true →
    is s s' = .is ∧ is s' s = .is) ∧
  (∀ a, sum a a = some a) ∧
  (∀ a b c, wf a = true → wf b = true → inter a b = some (some c) → is c a = .is ∧ is c b = .is) ∧
  (∀ t, t.isUnion = false → nonNull t = t) ∧
  (∀ alts v, wf (.union alts) = true →
    (conforms (nonNull (.union alts)) v = true ↔ (conforms (.union alts) v = true ∧ v ≠ .null))) ∧
  (∀ v t, vok v = true → typeOf v = some t → conforms t v = true)

def sx : Ty := .struct [[120]] [.int]            -- {x: Int}
def sy : Ty := .struct [[121]] [.int]            -- {y: Int}
def sxy : Ty := .struct [[120], [121]] [.union [.null, .int], .union [.null, .int]]
def intStr : Ty := .union [.int, .str]
def nullInt : Ty := .union [.null, .int]
/-- `[ {0, 0}, {NULL, 1} ]` -/
def vStructs : Value := .list [.struct [.int 0, .int 0], .struct [.null, .int 1]]
/-- `[ (1), (1, 2) ]` -/
def vTuples : Value := .list [.tuple [.int 1], .tuple [.int 1, .int 2]]

/-- `TypeSum({x:Int}, {y:Int}) = {x: NULL|Int; y: NULL|Int}` and neither operand `Is` it
    (known finding `typesum-shape-mismatch`) -/
theorem sum_upper_refuted :
    typeSum sx sy = some sxy ∧ sx.is sxy = .isnt ∧ sy.is sxy = .isnt ∧ wf sx = true ∧ wf sy = true ∧
      shapeOk sx sy = false := by
  refine ⟨rfl, ?_, ?_, ?_, ?_, ?_⟩ <;> decide +kernel

/-- `[ {0,0}, {NULL,1} ].Type() = [{: Int}]`, `[ (1), (1,2) ].Type() = [(Int, NULL|Int)]`: the value does not match
    the type it reports (known finding `typeof-list-shape-mismatch`) -/
theorem typeOf_refuted :
    vStructs.typeOf = some (.list (.struct [[]] [.int])) ∧ conforms (.list (.struct [[]] [.int])) vStructs = false ∧
    vTuples.typeOf = some (.list (.tuple [.int, .union [.null, .int]])) ∧
    conforms (.list (.tuple [.int, .union [.null, .int]])) vTuples = false ∧
    vStructs.typeOfShapeOk = false ∧ vTuples.typeOfShapeOk = false := by
  refine ⟨rfl, ?_, rfl, ?_, ?_, ?_⟩ <;> decide +kernel

/-- **C10, full strength, is false on the current tree** (upper bound and `Value.Type`, both by design of
    `Is`/`TypeSum` on shape-mismatched structs and tuples) -/
theorem C10_refuted : ¬ Statement Ty.is typeSum typeInter nonNullable Value.typeOf := by
  intro ⟨_, h2, _⟩
  have ⟨hs, h1, _, wx, wy, _⟩ := sum_upper_refuted
  have := (h2 sx sy sxy wx wy hs).1
  rw [h1] at this
  cases this

/-- **C10 with exactly the hypotheses that exclude the two known findings** -/
theorem C10_partial :
    StatementPartial Ty.is typeSum shapeOk typeInter nonNullable Value.typeOf Value.typeOfShapeOk :=
  ⟨is_refl,
   fun a b s h hok => sum_upper_partial _ a b s h hok,
   fun a b s s' wa wb h h' hok hok' => (equals_iff s s').mp (sum_comm _ _ a b s s' wa wb h h' hok hok'),
   fun a => sum_idem a _,
   inter_sub,
   nonNullable_non_union,
   fun alts v w => nonNullable_spec alts w v,
   fun v t hok ht => typeOf_conforms v hok t ht⟩

/-! ## The code before the two repairs (models `typeInterRaw`, `typeOfRaw`) -/

/-- go 1.18 loop-variable aliasing: `TypeIntersection(Int|String, Int) = Int|String`, which is not contained in
    `Int`; `TypeIntersection(NULL|Int, NULL) = NULL|Int` -/
theorem raw_inter_refuted :
    typeInterRaw intStr .int = some (some intStr) ∧ intStr.is .int ≠ .is ∧
    typeInterRaw nullInt .null = some (some nullInt) ∧ nullInt.is .null ≠ .is ∧
    wf intStr = true ∧ wf nullInt = true := by
  refine ⟨rfl, ?_, rfl, ?_, ?_, ?_⟩ <;> decide +kernel

/-- the repaired code on the same inputs -/
theorem fixed_inter_witness :
    typeInter intStr .int = some (some .int) ∧ typeInter nullInt .null = some (some .null) := ⟨rfl, rfl⟩

/-- `range value.Tuple` in the Struct case: `NewStruct([5, "x"]).Type() = {: NULL; : NULL}` -/
theorem raw_typeOf_refuted :
    (Value.struct [.int 5, .str [120]]).typeOfRaw = some (.struct [[], []] [.null, .null]) ∧
    conforms (.struct [[], []] [.null, .null]) (.struct [.int 5, .str [120]]) = false ∧
    (Value.struct [.int 5, .str [120]]).typeOfShapeOk = true := by
  refine ⟨rfl, ?_, ?_⟩ <;> decide +kernel

/-! ## Non-vacuity: the hypotheses are met by non-trivial instances -/

-- shape-compatible, well-formed, genuinely merging operands (nested unions, struct fields, tuples)
def ex1 : Ty := .struct [[120], [121]] [.int, .list (.union [.null, .str])]
def ex2 : Ty := .struct [[120], [121]] [.union [.null, .float], .list .int]
example : wf ex1 = true ∧ wf ex2 = true ∧ shapeOk ex1 ex2 = true ∧ shapeOk ex2 ex1 = true := by decide +kernel
example : typeSum ex1 ex2 =
    some (.struct [[120], [121]] [.union [.null, .int, .float], .list (.union [.null, .int, .str])]) := rfl
example : ex1.is ex2 = .isnt ∧ ex2.is ex1 = .isnt := by decide +kernel
-- unions with a common TypeID whose alternatives must be merged
def ex3 : Ty := .union [.null, .list .int, .tuple [.int, .str]]
def ex4 : Ty := .union [.list .str, .tuple [.float, .str]]
example : wf ex3 = true ∧ wf ex4 = true ∧ shapeOk ex3 ex4 = true ∧ shapeOk ex4 ex3 = true := by decide +kernel
example : typeSum ex3 ex4 = some (.union [.null, .list (.union [.int, .str]), .tuple [.union [.int, .float], .str]]) := rfl
example : (typeSum ex3 ex4).map (fun s => (typeSum ex4 ex3).map (fun s' => s.equals s')) = some (some true) := by decide +kernel
-- intersection of overlapping unions
example : typeInter (.union [.null, .int, .str]) (.union [.int, .float, .str]) = some (some (.union [.int, .str])) := rfl
example : typeInter ex3 (.union [.null, .list (.union [.int, .str])]) = some (some (.union [.null, .list .int])) := rfl
example : nonNullable (.union [.null, .int]) = .int ∧ nonNullable (.union [.null, .int, .str]) = .union [.int, .str] :=
  ⟨rfl, rfl⟩
/-- `NonNullable` of the malformed one-alternative union `[NULL]` is the empty union (matches nothing);
    the comment in the code promises `Null` only for the *type* `Null` -/
example : nonNullable (.union [.null]) = .union [] ∧ nonNullable .null = .null := ⟨rfl, rfl⟩
-- Value.Type on a list whose elements need a sum, shape compatible
def vOk : Value := .list [.tuple [.int 1, .null], .tuple [.float 0, .str [97]]]
example : vOk.typeOfShapeOk = true := by decide +kernel
example : vOk.typeOf = some (.list (.tuple [.union [.int, .float], .union [.null, .str]])) := rfl
-- record-free operands / values: no side condition at all
example : noRec (.union [.null, .list (.union [.int, .str])]) = true ∧ noRec (.list (.list .float)) = true := by decide +kernel
example : (Value.list [.list [.int 1, .null], .list [], .list [.str [97]]]).noRecV = true := by decide +kernel
example : (Value.list [.list [.int 1, .null], .list [], .list [.str [97]]]).typeOf =
    some (.list (.list (.union [.null, .int, .str]))) := rfl
-- the default fuel of `typeSum` is ample for these (the driver would print `fuel` otherwise)
example : (typeSum ex3 ex4).isSome = true ∧ (typeSum sx sy).isSome = true := by decide +kernel

end Octo.C10
