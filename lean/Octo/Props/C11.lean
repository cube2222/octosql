import Octo.Lemmas.Logic
import Octo.Lemmas.ValueOrder
/-!
# C11 — Three-valued logic and NULL propagation

Property: AND, OR and NOT follow Kleene three-valued logic over TRUE, FALSE and NULL for every combination of
operands. Comparisons and other strict functions return NULL whenever an argument is NULL, and IS [NOT] NULL never
returns NULL. WHERE keeps exactly the rows whose predicate is TRUE.

`eval`, `materialize`, `filterRun`, `nullIs`, `fnNot`, … (Octo.Model.Logic) are the models of
`execution.{And,Or,FunctionCall,Variable,Constant}.Evaluate`, `physical.Expression.Materialize`,
`nodes.Filter.Run`, `octosql.Null.Is` and the bodies in `functions/functions.go`; they are tied to the code by the
C11 correspondence run on every check.  `Octo.Gen.Strict.table` is regenerated from `functions/functions.go`
on every check.  The reference semantics (`kAnd`, `kOr`, `not3`, `TTree.den`, `conforms`) is Octo.Spec.Kleene.

No theorem below has a bound on the number of operands, the depth of a tree or the length of a stream.
-/
namespace Octo.C11
open Octo Octo.Logic

/-- `And.Evaluate` on operand *expressions* that evaluate to truth values `ts` is the Kleene conjunction of `ts` -/
theorem and_kleene_exprs (env : List (List Value)) (args : List Expr) (ts : List Tri)
    (h : evalList env args = ts.map fun t => Res.val t.toValue) :
    eval env (.and args) = .val (kAnd ts).toValue := by
  simp only [eval]
  rw [evalAnd_eq, h, andLoop_eq, jLoop_tri]
  rfl

/-- `Or.Evaluate` on operand expressions that evaluate to truth values `ts` is the Kleene disjunction of `ts` -/
theorem or_kleene_exprs (env : List (List Value)) (args : List Expr) (ts : List Tri)
    (h : evalList env args = ts.map fun t => Res.val t.toValue) :
    eval env (.or args) = .val (kOr ts).toValue := by
  simp only [eval]
  rw [evalOr_eq, h, orLoop_eq, jLoop_tri]
  rfl

theorem and_kleene (env : List (List Value)) (ts : List Tri) :
    eval env (.and (ts.map fun t => .const t.toValue)) = .val (kAnd ts).toValue :=
  and_kleene_exprs env _ ts (evalList_tris env ts)

theorem or_kleene (env : List (List Value)) (ts : List Tri) :
    eval env (.or (ts.map fun t => .const t.toValue)) = .val (kOr ts).toValue :=
  or_kleene_exprs env _ ts (evalList_tris env ts)

/-- the binary tables, spelled out (what `kAnd`/`kOr` fold) -/
theorem and_table :
    and3 (some true) (some true) = some true ∧ and3 (some true) (some false) = some false ∧
    and3 (some true) none = none ∧ and3 (some false) (some true) = some false ∧
    and3 (some false) (some false) = some false ∧ and3 (some false) none = some false ∧
    and3 none (some true) = none ∧ and3 none (some false) = some false ∧ and3 none none = none := by decide
theorem or_table :
    or3 (some true) (some true) = some true ∧ or3 (some true) (some false) = some true ∧
    or3 (some true) none = some true ∧ or3 (some false) (some true) = some true ∧
    or3 (some false) (some false) = some false ∧ or3 (some false) none = none ∧
    or3 none (some true) = some true ∧ or3 none (some false) = none ∧ or3 none none = none := by decide

/-- AND: operands before position `pre.length` are TRUE or NULL, the operand there fails ⇒ that error (wrapped
    with its position) is the result, whatever follows -/
theorem and_error_reached (pre : List Tri) (hpre : ∀ t ∈ pre, t ≠ some false) (e : Err) (post : List Res) :
    ∀ i ne, andLoop i ne ((pre.map fun t => Res.val t.toValue) ++ .err e :: post) =
      .err (e.wrap (.andArg (i + pre.length))) := by
  intro i ne
  rw [andLoop_eq, jLoop_skip false pre hpre]; rfl

/-- AND: a FALSE operand that is reached decides the result; later errors (and panics) are never seen -/
theorem and_false_shortcircuit (pre : List Tri) (hpre : ∀ t ∈ pre, t ≠ some false) (post : List Res) :
    ∀ i ne, andLoop i ne ((pre.map fun t => Res.val t.toValue) ++ .val (.bool false) :: post) =
      .val (.bool false) := by
  intro i ne
  rw [andLoop_eq, jLoop_skip false pre hpre]; rfl

theorem or_error_reached (pre : List Tri) (hpre : ∀ t ∈ pre, t ≠ some true) (e : Err) (post : List Res) :
    ∀ i ne, orLoop i ne ((pre.map fun t => Res.val t.toValue) ++ .err e :: post) =
      .err (e.wrap (.orArg (i + pre.length))) := by
  intro i ne
  rw [orLoop_eq, jLoop_skip true pre hpre]; rfl

theorem or_true_shortcircuit (pre : List Tri) (hpre : ∀ t ∈ pre, t ≠ some true) (post : List Res) :
    ∀ i ne, orLoop i ne ((pre.map fun t => Res.val t.toValue) ++ .val (.bool true) :: post) =
      .val (.bool true) := by
  intro i ne
  rw [orLoop_eq, jLoop_skip true pre hpre]; rfl

/-- conversely, an error result of AND comes from an operand that failed (nothing is invented) -/
theorem and_error_origin (rs : List Res) : ∀ i ne e, andLoop i ne rs = .err e →
    ∃ (j : Nat) (e' : Err), rs[j]? = some (Res.err e') ∧ e = e'.wrap (.andArg (i + j)) := by
  intro i ne e h
  exact jLoop_err false rs i ne e (andLoop_eq rs i ne ▸ h)

theorem or_error_origin (rs : List Res) : ∀ i ne e, orLoop i ne rs = .err e →
    ∃ (j : Nat) (e' : Err), rs[j]? = some (Res.err e') ∧ e = e'.wrap (.orArg (i + j)) := by
  intro i ne e h
  exact jLoop_err true rs i ne e (orLoop_eq rs i ne ▸ h)

/-- function calls are *not* short-circuiting: all arguments are evaluated before the NULL checks, so the first
    failing argument's error is the result even when an earlier argument is NULL -/
theorem call_error_reached (fn : List Value → Res) (ncs : List Nat) (env : List (List Value)) (args : List Expr)
    (pre : List Value) (e : Err) (post : List Res)
    (h : evalList env args = pre.map Res.val ++ .err e :: post) :
    eval env (.call fn ncs args) = .err (e.wrap (.fnArg pre.length)) := by
  simp only [eval]
  rw [evalArgs_eq, h, argLoop_err]
  simp

-- the generated table: `not` is strict, the six comparisons are strict, `is null` / `is not null` are not
theorem not_strict : strictOf nmNot 0 = some true := by decide +kernel
theorem comparisons_strict :
    strictOf nmLt 0 = some true ∧ strictOf nmLe 0 = some true ∧ strictOf nmEq 0 = some true ∧
    strictOf nmNe 0 = some true ∧ strictOf nmGe 0 = some true ∧ strictOf nmGt 0 = some true := by decide +kernel
theorem is_null_not_strict : strictOf nmIsNull 0 = some false ∧ strictOf nmIsNotNull 0 = some false := by decide +kernel

/-- every descriptor of `FunctionMap()` is strict, except those of `is null`, `is not null`, `string`, `panic` -/
theorem table_strict_except_null_handlers :
    ∀ e ∈ Octo.Gen.Strict.table, e.strict = true ∨
      e.name = nmIsNull ∨ e.name = nmIsNotNull ∨ e.name = nmString ∨ e.name = nmPanic := by decide +kernel

/-- **Strict call, checked NULL.** For a `Strict` descriptor — whatever its body —, if all arguments evaluate and
    the argument at a position whose static type admits NULL is NULL, the call is NULL. -/
theorem strict_null (env : List (List Value)) (schema : List (List Nat)) (ty : Ty) (d : Desc) (args : List PExpr)
    (vs : List Value) (hstrict : d.strict = true)
    (hvals : evalList env (materializeList schema args) = vs.map Res.val)
    (i : Nat) (a : PExpr) (ha : args[i]? = some a) (hty : nullIs a.ty = true) (hnull : vs[i]? = some .null) :
    eval env (materialize schema (.call ty d args)) = .val .null := by
  have hrange : ∀ j ∈ nullCheckIndices d args, j < vs.length :=
    fun j hj => evalList_vals_length hvals ▸ nullCheckIndices_lt hj
  -- position `i` is among the checked ones and holds NULL
  have hhit : (nullCheckIndices d args).any (fun j => vs[j]?.any isNull) = true :=
    List.any_eq_true.2 ⟨i, (mem_nullCheckIndices d args i).2 ⟨hstrict, a, ha, hty⟩, by rw [hnull]; rfl⟩
  rw [eval_call env schema ty d args vs hvals, applyFn, nullCheck_eq vs _ hrange, if_pos hhit]

/-- If an argument value conforms to the argument's static type (spec notion) and is
    NULL, its position is in `nullCheckIndices` of a strict call. -/
theorem nullcheck_complete (d : Desc) (args : List PExpr) (hstrict : d.strict = true)
    (i : Nat) (a : PExpr) (ha : args[i]? = some a) (hconf : conforms a.ty .null = true) :
    i ∈ nullCheckIndices d args :=
  (mem_nullCheckIndices d args i).2 ⟨hstrict, a, ha, (conforms_null_iff a.ty).1 hconf⟩

/-- and nothing else is checked: a checked position has a static type NULL conforms to -/
theorem nullcheck_exact (d : Desc) (args : List PExpr) (i : Nat) (h : i ∈ nullCheckIndices d args) :
    d.strict = true ∧ ∃ a, args[i]? = some a ∧ conforms a.ty .null = true := by
  obtain ⟨hs, a, ha, hn⟩ := (mem_nullCheckIndices d args i).1 h
  exact ⟨hs, a, ha, (conforms_null_iff a.ty).2 hn⟩

/-- **Strict functions return NULL whenever an argument is NULL** (well-typed calls): every argument value
    conforms to its static type, some argument is NULL ⇒ the call is NULL, for every strict descriptor and body. -/
theorem strict_null_welltyped (env : List (List Value)) (schema : List (List Nat)) (ty : Ty) (d : Desc)
    (args : List PExpr) (vs : List Value) (hstrict : d.strict = true)
    (hvals : evalList env (materializeList schema args) = vs.map Res.val)
    (hconf : ∀ (i : Nat) (a : PExpr) (v : Value), args[i]? = some a → vs[i]? = some v → conforms a.ty v = true)
    (i : Nat) (hnull : vs[i]? = some .null) :
    eval env (materialize schema (.call ty d args)) = .val .null := by
  have hi : i < args.length := evalList_vals_length hvals ▸ (List.getElem?_eq_some_iff.1 hnull).1
  have ha : args[i]? = some args[i] := List.getElem?_eq_getElem hi
  exact strict_null env schema ty d args vs hstrict hvals i args[i] ha
    ((conforms_null_iff _).1 (hconf i args[i] .null ha hnull)) hnull

/-- the same, stated over the generated table: any descriptor that `functions.go` marks `Strict` -/
theorem table_strict_null (env : List (List Value)) (schema : List (List Nat)) (ty : Ty)
    (name : List Nat) (idx : Nat) (body : List Value → Res) (hs : strictOf name idx = some true)
    (args : List PExpr) (vs : List Value)
    (hvals : evalList env (materializeList schema args) = vs.map Res.val)
    (hconf : ∀ (i : Nat) (a : PExpr) (v : Value), args[i]? = some a → vs[i]? = some v → conforms a.ty v = true)
    (i : Nat) (hnull : vs[i]? = some .null) :
    eval env (materialize schema (.call ty (tableDesc name idx body) args)) = .val .null :=
  strict_null_welltyped env schema ty _ args vs (tableDesc_strict body hs) hvals hconf i hnull

/-- strict call without NULL arguments: the body's result (an error of the body is wrapped once) -/
theorem strict_nonnull (env : List (List Value)) (schema : List (List Nat)) (ty : Ty) (d : Desc) (args : List PExpr)
    (vs : List Value) (hvals : evalList env (materializeList schema args) = vs.map Res.val)
    (hnn : ∀ v ∈ vs, isNull v = false) :
    eval env (materialize schema (.call ty d args)) = wrapBody (d.fn vs) := by
  have hrange : ∀ j ∈ nullCheckIndices d args, j < vs.length :=
    fun j hj => evalList_vals_length hvals ▸ nullCheckIndices_lt hj
  rw [eval_call env schema ty d args vs hvals, applyFn, nullCheck_eq vs _ hrange, if_neg]
  simp only [List.any_eq_true, Option.any_eq_true, not_exists, not_and]
  intro j _ v hv
  exact Bool.eq_false_iff.1 (hnn v (List.mem_of_getElem? hv))

/-- NOT's table on a nullable operand: NULL ↦ NULL, TRUE ↦ FALSE, FALSE ↦ TRUE -/
theorem not_table (env : List (List Value)) (schema : List (List Nat)) (ty aty : Ty) (h : nullIs aty = true) (t : Tri) :
    eval env (materialize schema (.call ty (tableDesc nmNot 0 fnNot) [.const aty t.toValue])) =
      .val (not3 t).toValue :=
  eval_not env schema ty (.const aty t.toValue) t rfl (fun _ => h)

/-- the six comparisons (`=` / `!=` among them) on a NULL operand of nullable static type are NULL, on either side -/
theorem comparison_null (env : List (List Value)) (schema : List (List Nat)) (ty aty bty : Ty) (name : List Nat)
    (body : List Value → Res)
    (hname : name = nmLt ∨ name = nmLe ∨ name = nmEq ∨ name = nmNe ∨ name = nmGe ∨ name = nmGt)
    (a b : Value) (hca : conforms aty a = true) (hcb : conforms bty b = true)
    (hnull : a = .null ∨ b = .null) :
    eval env (materialize schema (.call ty (tableDesc name 0 body) [.const aty a, .const bty b])) = .val .null := by
  have hs : strictOf name 0 = some true := by
    obtain ⟨h1, h2, h3, h4, h5, h6⟩ := comparisons_strict
    rcases hname with rfl | rfl | rfl | rfl | rfl | rfl <;> simp only [h1, h2, h3, h4, h5, h6]
  have hv : evalList env (materializeList schema [.const aty a, .const bty b]) = [a, b].map Res.val := rfl
  have hconf : ∀ (i : Nat) (x : PExpr) (v : Value), [PExpr.const aty a, .const bty b][i]? = some x →
      [a, b][i]? = some v → conforms x.ty v = true := forall_getElem?_pair hca hcb
  rcases hnull with rfl | rfl
  · exact table_strict_null env schema ty name 0 body hs _ _ hv hconf 0 rfl
  · exact table_strict_null env schema ty name 0 body hs _ _ hv hconf 1 rfl

theorem is_null_never_null (env : List (List Value)) (schema : List (List Nat)) (ty : Ty) (a : PExpr) (v : Value)
    (hv : eval env (materialize schema a) = .val v) :
    eval env (materialize schema (.call ty (tableDesc nmIsNull 0 fnIsNull) [a])) = .val (.bool (isNull v)) ∧
    eval env (materialize schema (.call ty (tableDesc nmIsNotNull 0 fnIsNotNull) [a])) = .val (.bool (!isNull v)) := by
  have hl := evalList_singleton hv
  constructor
  · rw [eval_call env schema ty _ [a] [v] hl]
    simp only [nullCheckIndices, tableDesc_strict fnIsNull is_null_not_strict.1, tableDesc_fn, applyFn]
    simp only [Bool.false_eq_true, if_false, fnIsNull]
    cases isNull v <;> rfl
  · rw [eval_call env schema ty _ [a] [v] hl]
    simp only [nullCheckIndices, tableDesc_strict fnIsNotNull is_null_not_strict.2, tableDesc_fn, applyFn]
    simp only [Bool.false_eq_true, if_false, fnIsNotNull]
    cases isNull v <;> rfl

/-- outcome of the AND loop in terms of the reference result of the remaining operands -/
def andRes (ne : Bool) : Sem → Res
  | .error e => .err e
  | .ok r => .val (if ne then and3 none r else r).toValue
def orRes (ne : Bool) : Sem → Res
  | .error e => .err e
  | .ok r => .val (if ne then or3 none r else r).toValue

theorem andRes_eq (ne : Bool) (s : Sem) : andRes ne s = jRes false ne s := rfl
theorem orRes_eq (ne : Bool) (s : Sem) : orRes ne s = jRes true ne s := rfl

mutual
/-- **Tree soundness.** For a typed boolean tree whose variables are bound and whose static types are sound,
    evaluating the materialized expression gives the reference result (value or the error reached first), and a
    NULL result is admitted by the node's static type. -/
theorem den_sound (names : List Nat) (tris : List Tri) (outer : List (List Value)) (souter : List (List Nat))
    (hlen : names.length = tris.length) (t : TTree)
    (hb : t.bound names = true) (hok : t.ok (envOf names tris) = true) :
    eval (tris.map Tri.toValue :: outer) (materialize (names :: souter) t.toP) = (t.den (envOf names tris)).toRes
    ∧ (t.den (envOf names tris) = .ok none → nullIs t.ty = true) := by
  refine ⟨?_, den_null_ty _ t hok⟩
  cases t with
  | const ty t => rfl
  | var ty n => exact eval_var names tris outer souter hlen ty n hb
  | fail ty tag =>
    simp only [TTree.toP]
    rw [strict_nonnull _ _ ty _ [.const .str (.str tag)] [.str tag] (evalList_singleton rfl) (by simp [isNull])]
    simp [tableDesc, fnPanic, wrapBody, TTree.den, Sem.toRes, Err.wrap]
  | and ty args =>
    simp only [TTree.ok, Bool.and_eq_true] at hok
    simp only [TTree.toP, materialize, eval, TTree.den]
    rw [evalAnd_eq, evalList_sound names tris outer souter hlen args hb hok.1, andLoop_eq, jLoop_sem, ← denAnd_eq,
      jRes_ne_false]
  | or ty args =>
    simp only [TTree.ok, Bool.and_eq_true] at hok
    simp only [TTree.toP, materialize, eval, TTree.den]
    rw [evalOr_eq, evalList_sound names tris outer souter hlen args hb hok.1, orLoop_eq, jLoop_sem, ← denOr_eq,
      jRes_ne_false]
  | not ty a =>
    simp only [TTree.ok, Bool.and_eq_true] at hok
    have h1 := (den_sound names tris outer souter hlen a hb hok.1).1
    simp only [TTree.toP, TTree.den]
    cases hd : a.den (envOf names tris) with
    | error e => rw [hd] at h1; exact eval_call1_err _ _ _ _ h1
    | ok r =>
      rw [hd] at h1
      exact eval_not _ _ ty a.toP r h1 (fun hr => by rw [toP_ty]; exact den_null_ty _ a hok.1 (by rw [hd, hr]))
  | isNull ty a | isNotNull ty a =>
    have h1 := (den_sound names tris outer souter hlen a hb hok).1
    simp only [TTree.toP, TTree.den]
    cases hd : a.den (envOf names tris) with
    | error e => rw [hd] at h1; exact eval_call1_err _ _ _ _ h1
    | ok r =>
      rw [hd] at h1
      have h2 := is_null_never_null _ _ ty a.toP r.toValue h1
      simp only [h2.1, h2.2]
      rcases r with _ | _ | _ <;> rfl
theorem evalList_sound (names : List Nat) (tris : List Tri) (outer : List (List Value)) (souter : List (List Nat))
    (hlen : names.length = tris.length) (args : List TTree)
    (hb : TTree.boundList names args = true) (hok : TTree.okList (envOf names tris) args = true) :
    evalList (tris.map Tri.toValue :: outer) (materializeList (names :: souter) (TTree.toPList args)) =
      (args.map (TTree.den (envOf names tris))).map Sem.toRes := by
  cases args with
  | nil => rfl
  | cons a rest =>
    simp only [TTree.boundList, Bool.and_eq_true] at hb
    simp only [TTree.okList, Bool.and_eq_true] at hok
    simp only [TTree.toPList, materializeList, evalList, List.map_cons]
    rw [(den_sound names tris outer souter hlen a hb.1 hok.1).1,
      evalList_sound names tris outer souter hlen rest hb.2 hok.2]
end

theorem denAnd_sound (names : List Nat) (tris : List Tri) (outer : List (List Value)) (souter : List (List Nat))
    (hlen : names.length = tris.length) (args : List TTree)
    (hb : TTree.boundList names args = true) (hok : TTree.okList (envOf names tris) args = true) :
    ∀ i ne, evalAnd (tris.map Tri.toValue :: outer) i ne (materializeList (names :: souter) (TTree.toPList args)) =
        andRes ne (TTree.denAnd (envOf names tris) i args)
      ∧ (TTree.denAnd (envOf names tris) i args = .ok none → anyNullable args = true) := by
  intro i ne
  refine ⟨?_, fun h => denList_null _ args hok (semJ_none false _ i (denAnd_eq _ args i ▸ h))⟩
  rw [evalAnd_eq, evalList_sound names tris outer souter hlen args hb hok, andLoop_eq, jLoop_sem, ← denAnd_eq, andRes_eq]

theorem denOr_sound (names : List Nat) (tris : List Tri) (outer : List (List Value)) (souter : List (List Nat))
    (hlen : names.length = tris.length) (args : List TTree)
    (hb : TTree.boundList names args = true) (hok : TTree.okList (envOf names tris) args = true) :
    ∀ i ne, evalOr (tris.map Tri.toValue :: outer) i ne (materializeList (names :: souter) (TTree.toPList args)) =
        orRes ne (TTree.denOr (envOf names tris) i args)
      ∧ (TTree.denOr (envOf names tris) i args = .ok none → anyNullable args = true) := by
  intro i ne
  refine ⟨?_, fun h => denList_null _ args hok (semJ_none true _ i (denOr_eq _ args i ▸ h))⟩
  rw [evalOr_eq, evalList_sound names tris outer souter hlen args hb hok, orLoop_eq, jLoop_sem, ← denOr_eq, orRes_eq]

mutual
/-- on error-free trees the order-aware reference result is the order-free Kleene value -/
theorem den_errorFree (ρ : Nat → Tri) (t : TTree) (h : t.errorFree = true) : t.den ρ = .ok (t.kleene ρ) := by
  cases t with
  | const ty t | var ty n => rfl
  | fail ty tag => simp [TTree.errorFree] at h
  | and ty args => simp only [TTree.errorFree] at h; simpa [TTree.den, TTree.kleene] using denAnd_errorFree ρ args h 0
  | or ty args => simp only [TTree.errorFree] at h; simpa [TTree.den, TTree.kleene] using denOr_errorFree ρ args h 0
  | not ty a | isNull ty a | isNotNull ty a =>
    simp only [TTree.errorFree] at h; simp [TTree.den, TTree.kleene, den_errorFree ρ a h]
theorem denAnd_errorFree (ρ : Nat → Tri) (args : List TTree) (h : TTree.errorFreeList args = true) :
    ∀ i, TTree.denAnd ρ i args = .ok (TTree.kleeneAnd ρ args) := by
  cases args with
  | nil => intro i; rfl
  | cons a rest =>
    intro i
    simp only [TTree.errorFreeList, Bool.and_eq_true] at h
    simp only [TTree.denAnd, TTree.kleeneAnd, den_errorFree ρ a h.1, denAnd_errorFree ρ rest h.2 (i + 1)]
    rcases a.kleene ρ with _ | _ | _ <;> rfl
theorem denOr_errorFree (ρ : Nat → Tri) (args : List TTree) (h : TTree.errorFreeList args = true) :
    ∀ i, TTree.denOr ρ i args = .ok (TTree.kleeneOr ρ args) := by
  cases args with
  | nil => intro i; rfl
  | cons a rest =>
    intro i
    simp only [TTree.errorFreeList, Bool.and_eq_true] at h
    simp only [TTree.denOr, TTree.kleeneOr, den_errorFree ρ a h.1, denOr_errorFree ρ rest h.2 (i + 1)]
    rcases a.kleene ρ with _ | _ | _ <;> rfl
end

/-- **Boolean trees follow Kleene logic**, any depth, any arity: AND / OR / NOT / IS [NOT] NULL over constants and
    columns, built as `physical.Expression` with sound static types, materialized and evaluated on a record. -/
theorem tree_kleene (names : List Nat) (tris : List Tri) (outer : List (List Value)) (souter : List (List Nat))
    (hlen : names.length = tris.length) (t : TTree) (hef : t.errorFree = true)
    (hb : t.bound names = true) (hok : t.ok (envOf names tris) = true) :
    eval (tris.map Tri.toValue :: outer) (materialize (names :: souter) t.toP) =
      .val (t.kleene (envOf names tris)).toValue := by
  rw [(den_sound names tris outer souter hlen t hb hok).1, den_errorFree _ t hef]
  rfl

/-- the rows Filter must keep: predicate evaluates to the Boolean TRUE; watermarks pass -/
def keepMsg (pred : Expr) (outer : List (List Value)) : Msg → Bool
  | .wm _ => true
  | .data r => isTrueRes (eval (r.vals :: outer) pred)

/-- When no predicate evaluation fails, the output is exactly the input with the records whose
    predicate is not TRUE removed: order, retraction flags, event times and watermarks untouched. -/
theorem filter_spec (pred : Expr) (outer : List (List Value)) (msgs : List Msg)
    (hne : ∀ r, Msg.data r ∈ msgs → ∃ v, eval (r.vals :: outer) pred = .val v) :
    filterRun pred outer msgs = (msgs.filter (keepMsg pred outer), .ok) := by
  have := filterRun_append pred outer (keep := keepMsg pred outer) (fun _ => rfl) (fun _ => rfl) msgs [] hne
  simpa [filterRun] using this

/-- the first evaluation error that is reached ends the run: what was produced before it is the filtered prefix -/
theorem filter_error (pred : Expr) (outer : List (List Value)) (pre : List Msg) (r : Rec) (post : List Msg) (e : Err)
    (hne : ∀ r, Msg.data r ∈ pre → ∃ v, eval (r.vals :: outer) pred = .val v)
    (he : eval (r.vals :: outer) pred = .err e) :
    filterRun pred outer (pre ++ .data r :: post) = (pre.filter (keepMsg pred outer), .err e) := by
  rw [filterRun_append pred outer (keep := keepMsg pred outer) (fun _ => rfl) (fun _ => rfl) pre _ hne]
  simp [filterRun, he]

/-- the records of the output are the records of the input whose predicate is TRUE; the watermarks are all there -/
theorem filter_recs_wms (pred : Expr) (outer : List (List Value)) (msgs : List Msg)
    (hne : ∀ r, Msg.data r ∈ msgs → ∃ v, eval (r.vals :: outer) pred = .val v) :
    recs (filterRun pred outer msgs).1 = (recs msgs).filter (fun r => isTrueRes (eval (r.vals :: outer) pred)) ∧
    wms (filterRun pred outer msgs).1 = wms msgs := by
  rw [filter_spec pred outer msgs hne]
  clear hne
  induction msgs with
  | nil => exact ⟨rfl, rfl⟩
  | cons m rest ih =>
    cases m with
    | wm t => simp [List.filter, keepMsg, recs, wms, ih.1, ih.2]
    | data r =>
      simp only [List.filter, keepMsg, recs, wms]
      cases isTrueRes (eval (r.vals :: outer) pred) <;> simp [recs, wms, ih.1, ih.2]

/-- **WHERE with a boolean predicate tree**: over records of truth values, with sound static types, the Filter
    node keeps exactly the records on which the predicate's Kleene value is TRUE (NULL and FALSE rows are dropped). -/
theorem filter_kleene (names : List Nat) (souter : List (List Nat)) (outer : List (List Value)) (t : TTree)
    (hef : t.errorFree = true) (hb : t.bound names = true) (msgs : List Msg)
    (hrows : ∀ r, Msg.data r ∈ msgs → ∃ tris : List Tri, r.vals = tris.map Tri.toValue ∧
      names.length = tris.length ∧ t.ok (envOf names tris) = true) :
    filterRun (materialize (names :: souter) t.toP) outer msgs =
      (msgs.filter (fun m => match m with
        | .wm _ => true
        | .data r => t.kleene (envOf names (r.vals.map triOf)) == some true), .ok) := by
  have hev : ∀ r, Msg.data r ∈ msgs → eval (r.vals :: outer) (materialize (names :: souter) t.toP) =
      .val (t.kleene (envOf names (r.vals.map triOf))).toValue := by
    intro r hr
    obtain ⟨tris, hv, hlen, hok⟩ := hrows r hr
    have : r.vals.map triOf = tris := by simp [hv, Function.comp_def, triOf_toValue]
    rw [this, hv]
    exact tree_kleene names tris outer souter hlen t hef hb hok
  rw [filter_spec _ outer msgs (fun r hr => ⟨_, hev r hr⟩)]
  congr 1
  apply List.filter_congr
  intro m hm
  cases m with
  | wm w => rfl
  | data r =>
    simp only [keepMsg, hev r hm]
    rcases t.kleene (envOf names (r.vals.map triOf)) with _ | _ | _ <;> rfl

/-- the record conforms to the column types: a NULL only in a column whose type admits NULL -/
def rowConforms (Γ : List BTy) (ρ : Nat → Tri) : Prop :=
  ∀ (n : Nat) (ty : BTy), Γ[n]? = some ty → ρ n = none → ty.nullable = true

/-- **The typechecker's output is well typed** (`typecheckU` mirrors `logical.*.Typecheck` on the boolean fragment):
    the typed tree it produces has the reported type, is error-free, binds its variables in the schema, its static
    types are sound on every conforming record, and it denotes the same Kleene function as the source expression. -/
theorem typecheckU_sound (Γ : List BTy) (u : UTree) : ∀ (t : TTree) (bt : BTy), typecheckU Γ u = some (t, bt) →
    t.ty = bt.toTy ∧ t.errorFree = true ∧ t.bound (List.range Γ.length) = true ∧
    (∀ ρ, rowConforms Γ ρ → t.ok ρ = true) ∧ (∀ ρ, t.kleene ρ = u.kleene ρ) := by
  intro t bt h
  induction u generalizing t bt with
  | const c =>
    simp only [typecheckU, Option.some.injEq, Prod.mk.injEq] at h
    obtain ⟨rfl, rfl⟩ := h
    refine ⟨rfl, rfl, rfl, fun ρ _ => ?_, fun ρ => rfl⟩
    rcases c with _ | _ | _ <;> rfl
  | var n =>
    simp only [typecheckU] at h
    split at h
    · rename_i ty hg
      cases h
      have hn : n < Γ.length := (List.getElem?_eq_some_iff.1 hg).1
      refine ⟨rfl, rfl, by simp [TTree.bound, findField_of_range n _ hn], fun ρ hρ => ?_, fun ρ => rfl⟩
      simp only [TTree.ok, Bool.or_eq_true, nullIs_BTy_toTy]
      cases hr : ρ n with
      | none => exact Or.inr (hρ n _ hg hr)
      | some _ => exact Or.inl rfl
    · cases h
  | and l r ihl ihr | or l r ihl ihr =>
    simp only [typecheckU] at h
    split at h
    · rename_i tl bl tr br hl hr
      cases h
      obtain ⟨lty, lef, lbound, lok, lk⟩ := ihl tl bl hl
      obtain ⟨rty, ref, rbound, rok, rk⟩ := ihr tr br hr
      refine ⟨rfl, by simp [TTree.errorFree, TTree.errorFreeList, lef, ref],
        by simp [TTree.bound, TTree.boundList, lbound, rbound], fun ρ hρ => ?_, fun ρ => ?_⟩
      · simp only [TTree.ok, TTree.okList, lok ρ hρ, rok ρ hρ, anyNullable, lty, rty, nullIs_BTy_toTy]
        cases bl <;> cases br <;> rfl
      · simp [TTree.kleene, TTree.kleeneAnd, TTree.kleeneOr, UTree.kleene, lk, rk, and3_true_right, or3_false_right]
    · cases h
  | not a iha =>
    simp only [typecheckU] at h
    split at h
    · cases h
    · rename_i ta ba _ ha
      cases h
      obtain ⟨aty, aef, abound, aok, ak⟩ := iha ta _ ha
      exact ⟨rfl, by simpa [TTree.errorFree] using aef, by simpa [TTree.bound] using abound,
        fun ρ hρ => by simp [TTree.ok, aok ρ hρ, aty], fun ρ => by simp [TTree.kleene, UTree.kleene, ak]⟩
    · cases h
  | isNull a iha | isNotNull a iha =>
    simp only [typecheckU] at h
    split at h
    · rename_i ta ba ha
      cases h
      obtain ⟨aty, aef, abound, aok, ak⟩ := iha ta ba ha
      exact ⟨rfl, by simpa [TTree.errorFree] using aef, by simpa [TTree.bound] using abound,
        fun ρ hρ => by simpa [TTree.ok] using aok ρ hρ, fun ρ => by simp [TTree.kleene, UTree.kleene, ak]⟩
    · cases h

/-- **End to end for boolean SQL expressions** (any depth): typecheck → materialize → evaluate on a record that
    conforms to the column types gives the Kleene value of the source expression.  No typing hypothesis. -/
theorem sql_tree_kleene (Γ : List BTy) (u : UTree) (t : TTree) (bt : BTy) (h : typecheckU Γ u = some (t, bt))
    (tris : List Tri) (hlen : tris.length = Γ.length)
    (hrow : ∀ (n : Nat) (ty : BTy), Γ[n]? = some ty → tris[n]? = some none → ty.nullable = true)
    (outer : List (List Value)) (souter : List (List Nat)) :
    eval (tris.map Tri.toValue :: outer) (materialize (List.range Γ.length :: souter) t.toP) =
      .val (u.kleene (fun n => (tris[n]?).getD none)).toValue := by
  obtain ⟨_, hef, hbound, hok, hk⟩ := typecheckU_sound Γ u t bt h
  have henv := envOf_range Γ.length tris hlen
  have hconf : rowConforms Γ (envOf (List.range Γ.length) tris) := by
    intro n cty hb hn
    have hlt : n < tris.length := hlen ▸ (List.getElem?_eq_some_iff.1 hb).1
    rw [henv] at hn
    simp only at hn
    refine hrow n cty hb ?_
    rw [List.getElem?_eq_getElem hlt] at hn ⊢
    exact congrArg some hn
  rw [tree_kleene (List.range Γ.length) tris outer souter (by simp [hlen]) t hef hbound (hok _ hconf), hk, henv]

/-! ## What the typechecker rejects (finding `null-typed-operand-rejected`) -/

/-- the SQL-level reading "every boolean expression over the columns has a value": the typechecker accepts it -/
def StatementSQL : Prop :=
  ∀ (Γ : List BTy) (u : UTree), u.bound Γ.length = true → (typecheckU Γ u).isSome = true

/-- **refuted**: `NOT NULL` is rejected ("unknown function: not(NULL)") -/
theorem C11_sql_refuted : ¬ StatementSQL := by
  intro h
  have := h [] (.not (.const none)) rfl
  exact absurd this (by decide)

/-- **partial**: that is the only rejection — an expression over the columns without a `NOT` over a NULL-typed
    operand typechecks, with the type SQL gives it (and then `sql_tree_kleene` gives its value) -/
theorem C11_sql_partial (Γ : List BTy) (u : UTree) (hb : u.bound Γ.length = true)
    (hn : u.notOverNull Γ = false) : ∃ t, typecheckU Γ u = some (t, u.sqlType Γ) := by
  induction u with
  | const c => exact ⟨_, rfl⟩
  | var n =>
    simp only [UTree.bound, decide_eq_true_eq] at hb
    have : Γ[n]? = some Γ[n] := by simp [hb]
    simp only [typecheckU, UTree.sqlType, this, Option.getD_some]; exact ⟨_, rfl⟩
  | and l r ihl ihr | or l r ihl ihr =>
    simp only [UTree.bound, Bool.and_eq_true] at hb
    simp only [UTree.notOverNull, Bool.or_eq_false_iff] at hn
    obtain ⟨tl, hl⟩ := ihl hb.1 hn.1
    obtain ⟨tr, hr⟩ := ihr hb.2 hn.2
    simp only [typecheckU, UTree.sqlType, hl, hr]; exact ⟨_, rfl⟩
  | not a iha =>
    simp only [UTree.bound] at hb
    simp only [UTree.notOverNull, Bool.or_eq_false_iff, beq_eq_false_iff_ne, ne_eq] at hn
    obtain ⟨ta, ha⟩ := iha hb hn.1
    cases hty : a.sqlType Γ with
    | n => exact absurd hty hn.2
    | b | bn => rw [hty] at ha; simp only [typecheckU, UTree.sqlType, ha, hty]; exact ⟨_, rfl⟩
  | isNull a iha | isNotNull a iha =>
    simp only [UTree.bound] at hb
    simp only [UTree.notOverNull] at hn
    obtain ⟨ta, ha⟩ := iha hb hn
    simp only [typecheckU, UTree.sqlType, ha]; exact ⟨_, rfl⟩

/-- the same rejection for ordering comparisons with a NULL-typed operand; `=` / `!=` accept it -/
theorem cmp_null_operand_rejected :
    typecheckCmp .lt .i .n = none ∧ typecheckCmp .ge .n .ni = none ∧
    typecheckCmp .eq .i .n = some .bn ∧ typecheckCmp .ne .n .ni = some .bn ∧ typecheckCmp .lt .n .n = some .bn := by
  decide

theorem cmpOp_strict (op : CmpOp) : strictOf op.name 0 = some true := by
  obtain ⟨h1, h2, h3, h4, h5, h6⟩ := comparisons_strict
  cases op <;> simp only [CmpOp.name, h1, h2, h3, h4, h5, h6]

/-- **Comparisons return NULL whenever an argument is NULL**, with the static types the real typechecker assigns
    (`typecheckCmp` mirrors `FunctionExpression.Typecheck` for `<`, `<=`, `=`, `!=`, `>=`, `>` on Int / NULL operands):
    the result is NULL and the node's type admits NULL. -/
theorem cmp_typed_null (env : List (List Value)) (schema : List (List Nat)) (op : CmpOp) (l r : ITy) (bt : BTy)
    (h : typecheckCmp op l r = some bt) (pa pb : PExpr) (hta : pa.ty = l.toTy) (htb : pb.ty = r.toTy) (a b : Value)
    (hev : evalList env (materializeList schema [pa, pb]) = [a, b].map Res.val)
    (hca : conforms l.toTy a = true) (hcb : conforms r.toTy b = true) (hnull : a = .null ∨ b = .null) :
    eval env (materialize schema (.call bt.toTy (tableDesc op.name 0 op.fn) [pa, pb])) = .val .null ∧
    bt.nullable = true := by
  have hconf : ∀ (i : Nat) (x : PExpr) (v : Value), [pa, pb][i]? = some x → [a, b][i]? = some v →
      conforms x.ty v = true := forall_getElem?_pair (hta ▸ hca) (htb ▸ hcb)
  constructor
  · rcases hnull with rfl | rfl
    · exact table_strict_null env schema _ op.name 0 op.fn (cmpOp_strict op) _ _ hev hconf 0 rfl
    · exact table_strict_null env schema _ op.name 0 op.fn (cmpOp_strict op) _ _ hev hconf 1 rfl
  · have hn : l.nullable = true ∨ r.nullable = true := by
      rcases hnull with rfl | rfl
      · exact Or.inl (nullIs_ITy_toTy l ▸ (conforms_null_iff _).1 hca)
      · exact Or.inr (nullIs_ITy_toTy r ▸ (conforms_null_iff _).1 hcb)
    exact typecheckCmp_nullable op l r bt h hn

/-- … and on two integers they return what the operator says (no NULL, no error) -/
theorem cmp_typed_value (env : List (List Value)) (schema : List (List Nat)) (op : CmpOp) (ty : Ty)
    (pa pb : PExpr) (x y : Int)
    (hev : evalList env (materializeList schema [pa, pb]) = [Value.int x, Value.int y].map Res.val) :
    eval env (materialize schema (.call ty (tableDesc op.name 0 op.fn) [pa, pb])) = .val (.bool (op.holds x y)) := by
  rw [strict_nonnull env schema ty _ [pa, pb] [.int x, .int y] hev (by simp [isNull])]
  have hc : cmp (.int x) (.int y) = cmpInt x y := rfl
  have hs := cmpInt_cases x y
  cases op <;>
    simp only [tableDesc, CmpOp.fn, CmpOp.holds, fnLt, fnLe, fnGe, fnGt, fnEq, fnNe, fnCmp, wrapBody, Value.equal, hc,
      Res.val.injEq, Value.bool.injEq]
  · exact decide_eq_decide.2 (by omega)
  · exact decide_eq_decide.2 (by omega)
  · exact decide_eq_decide.2 (by omega)
  · rw [decide_not]; exact congrArg (!·) (decide_eq_decide.2 (by omega))
  · exact decide_eq_decide.2 (by omega)
  · exact decide_eq_decide.2 (by omega)

/-- no descriptor of `FunctionMap()` declares a parameter of type NULL (generated table) -/
theorem table_params_nonnull : ∀ e ∈ Octo.Gen.Strict.table, ∀ p ∈ e.params, p ≠ 0 := by decide +kernel

/-- the column holding NULL, passed through the Maybe pass's assertion (or bare), evaluates to NULL: the assertion's
    target is `declared | NULL`, so NULL is one of the expected TypeIDs -/
theorem eval_argP_null (p : Nat) (s : FTy) (i : Nat) (hp0 : p ≠ 0) (names : List Nat) (vals : List Value)
    (outer : List (List Value)) (souter : List (List Nat))
    (hv : eval (vals :: outer) (materialize (names :: souter) (.var s.toTy i)) = .val .null) :
    eval (vals :: outer) (materialize (names :: souter) (argP true p s i)) = .val .null := by
  unfold argP
  split
  · rename_i hm
    simp only [materialize] at hv ⊢
    simp only [eval] at hv ⊢
    rw [hv]
    have hc := expectedIds_target_null p (ne_anyId_of_maybe hm) hp0
    simp only [List.contains_iff_mem] at hc
    simp [Value.rank, hc]
  · exact hv

/-- **Strict call through the Maybe pass.** For a strict descriptor with declared parameter types `ps`, applied to
    columns of flat static types `ss` (e.g. `NULL | Boolean | String`) — each argument passed bare or wrapped in the
    assertion `FunctionExpression.Typecheck` builds, whose static type is `TypeIntersection(declared | NULL, column type)` —
    if the arguments evaluate (all assertions hold) and a column whose type admits NULL holds NULL, the call is NULL.
    Whatever the body, whichever overload was picked. -/
theorem maybe_pass_strict_null (env : List (List Value)) (schema : List (List Nat)) (ty : Ty) (d : Desc)
    (hstrict : d.strict = true) (ps : List Nat) (ss : List FTy) (vs : List Value)
    (hvals : evalList env (materializeList schema (buildArgs true ps ss 0)) = vs.map Res.val)
    (i : Nat) (p : Nat) (s : FTy) (hp : ps[i]? = some p) (hs : ss[i]? = some s) (hp0 : p ≠ 0) (h0 : 0 ∈ s)
    (hnull : vs[i]? = some .null) :
    eval env (materialize schema (.call ty d (buildArgs true ps ss 0))) = .val .null := by
  have hget := buildArgs_get true ps ss 0 i p s hp hs
  exact strict_null env schema ty d _ vs hstrict hvals i _ hget (argP_nullable p s (0 + i) hp0 h0) hnull

/-- `NOT c0` over a column of static type `NULL | Boolean | String` holding NULL / TRUE / 'x', with the expression the
    typechecker builds (assertion of static type `NULL | Boolean`, target `NULL | Boolean`): NULL, FALSE, the assertion's error -/
example :
    let e := materialize [[0]] (.call .any (tableDesc nmNot 0 fnNot) (buildArgs true [3] [[0, 3, 4]] 0))
    eval [[.null]] e = .val .null ∧ eval [[.bool true]] e = .val (.bool false) ∧
    eval [[.str [120]]] e = .err ⟨[.fnArg 0], invalidTypeTag⟩ := by
  exact ⟨rfl, rfl, rfl⟩

/-- **what the bare intersection would do** (the assertion typed `TypeIntersection(declared, column type)` = `Boolean`,
    NULL dropped): the NULL check is elided and `NOT NULL` comes out TRUE -/
example : eval [[.null]] (materialize [[0]] (.call .any ⟨true, fnNot⟩
    [.assert (FTy.toTy [3]) (FTy.toTy [0, 3]) (.var (FTy.toTy [0, 3, 4]) 0)])) = .val (.bool true) := by
  rfl

/-- resolution of `not(NULL|Boolean|String)`: descriptor 0, strict, one argument whose static type admits NULL;
    `<` over a mixed union has no overload -/
example : ((typecheckCall nmNot [[0, 3, 4]]).map fun r => (r.1.idx, r.1.strict, r.2.map fun a => nullIs a.ty)) =
    some (0, true, [true]) := by decide +kernel
example : (typecheckCall nmLt [[0, 1, 4], [1]]).isNone = true ∧ (typecheckCall nmLt [[0, 1], [1]]).isSome = true := by
  decide +kernel

/-- **C11**, as stated, conjunct by conjunct: (1) AND / OR are the Kleene folds for every operand list; (2) NOT's
    table; (3) every descriptor that `functions.go` marks `Strict` returns NULL whenever a (well-typed) argument is
    NULL; (4) that is every descriptor except those of `is null`, `is not null`, `string` and `panic`; (5) the six
    comparisons are among them; (6) IS [NOT] NULL return a Boolean; (7) boolean expression trees of any depth evaluate
    to their Kleene value; (8) Filter keeps exactly the rows whose predicate is TRUE; (9) for logical (SQL-level)
    boolean expressions the types the typechecker assigns are sound, so typecheck → materialize → evaluate is the
    Kleene value with no typing hypothesis. -/
def Statement : Prop :=
  (∀ (env : List (List Value)) (ts : List Tri),
      eval env (.and (ts.map fun t => .const t.toValue)) = .val (kAnd ts).toValue ∧
      eval env (.or (ts.map fun t => .const t.toValue)) = .val (kOr ts).toValue) ∧
  (∀ (env : List (List Value)) (schema : List (List Nat)) (ty aty : Ty), nullIs aty = true → ∀ t : Tri,
      eval env (materialize schema (.call ty (tableDesc nmNot 0 fnNot) [.const aty t.toValue])) = .val (not3 t).toValue) ∧
  (∀ (env : List (List Value)) (schema : List (List Nat)) (ty : Ty) (name : List Nat) (idx : Nat)
      (body : List Value → Res), strictOf name idx = some true →
      ∀ (args : List PExpr) (vs : List Value),
        evalList env (materializeList schema args) = vs.map Res.val →
        (∀ (i : Nat) (a : PExpr) (v : Value), args[i]? = some a → vs[i]? = some v → conforms a.ty v = true) →
        ∀ i : Nat, vs[i]? = some .null →
          eval env (materialize schema (.call ty (tableDesc name idx body) args)) = .val .null) ∧
  (∀ e ∈ Octo.Gen.Strict.table, e.strict = true ∨
      e.name = nmIsNull ∨ e.name = nmIsNotNull ∨ e.name = nmString ∨ e.name = nmPanic) ∧
  (strictOf nmLt 0 = some true ∧ strictOf nmLe 0 = some true ∧ strictOf nmEq 0 = some true ∧
      strictOf nmNe 0 = some true ∧ strictOf nmGe 0 = some true ∧ strictOf nmGt 0 = some true) ∧
  (∀ (env : List (List Value)) (schema : List (List Nat)) (ty : Ty) (a : PExpr) (v : Value),
      eval env (materialize schema a) = .val v →
      eval env (materialize schema (.call ty (tableDesc nmIsNull 0 fnIsNull) [a])) = .val (.bool (isNull v)) ∧
      eval env (materialize schema (.call ty (tableDesc nmIsNotNull 0 fnIsNotNull) [a])) = .val (.bool (!isNull v))) ∧
  (∀ (names : List Nat) (tris : List Tri) (outer : List (List Value)) (souter : List (List Nat)),
      names.length = tris.length → ∀ t : TTree, t.errorFree = true → t.bound names = true →
      t.ok (envOf names tris) = true →
      eval (tris.map Tri.toValue :: outer) (materialize (names :: souter) t.toP) =
        .val (t.kleene (envOf names tris)).toValue) ∧
  (∀ (pred : Expr) (outer : List (List Value)) (msgs : List Msg),
      (∀ r, Msg.data r ∈ msgs → ∃ v, eval (r.vals :: outer) pred = .val v) →
      filterRun pred outer msgs = (msgs.filter (keepMsg pred outer), .ok)) ∧
  (∀ (Γ : List BTy) (u : UTree) (t : TTree) (bt : BTy), typecheckU Γ u = some (t, bt) →
      ∀ (tris : List Tri), tris.length = Γ.length →
      (∀ (n : Nat) (ty : BTy), Γ[n]? = some ty → tris[n]? = some none → ty.nullable = true) →
      ∀ (outer : List (List Value)) (souter : List (List Nat)),
        eval (tris.map Tri.toValue :: outer) (materialize (List.range Γ.length :: souter) t.toP) =
          .val (u.kleene (fun n => (tris[n]?).getD none)).toValue)

/-- **C11, full strength, on the current tree.** -/
theorem C11_full : Statement :=
  ⟨fun env ts => ⟨and_kleene env ts, or_kleene env ts⟩, not_table, table_strict_null,
   table_strict_except_null_handlers, comparisons_strict, is_null_never_null, tree_kleene, filter_spec,
   sql_tree_kleene⟩

def tBN : Ty := .union [.null, .bool]

/-- TRUE AND NULL AND TRUE = NULL;  FALSE OR NULL OR TRUE = TRUE;  NULL AND FALSE = FALSE (evaluated by the model) -/
example : eval [] (.and [.const (.bool true), .const .null, .const (.bool true)]) = .val .null := by
  rfl
example : eval [] (.or [.const (.bool false), .const .null, .const (.bool true)]) = .val (.bool true) := by
  rfl
example : kAnd [some true, none, some true] = none ∧ kOr [some false, none, some true] = some true ∧
    kAnd [none, some false] = some false ∧ kOr [none, some false] = none := by decide +kernel

/-- an error behind a FALSE is never reached, an error before it is -/
example : andLoop 0 false [.val (.bool true), .val (.bool false), .err ⟨[], []⟩] = .val (.bool false) := by
  rfl
example : andLoop 0 false [.val .null, .err ⟨[], [1]⟩, .val (.bool false)] = .err ⟨[.andArg 1], [1]⟩ := by
  rfl

/-- the hypotheses of `strict_null_welltyped` are met by a call `f(NULL : NULL|Int, 1 : Int)` of a strict `f` -/
example : nullIs (.union [.null, .int]) = true ∧ conforms (.union [.null, .int]) .null = true ∧
    conforms .int (.int 1) = true ∧ nullIs .int = false := by decide +kernel
example : eval [] (materialize [] (.call .int ⟨true, fun _ => .val (.int 42)⟩
    [.const (.union [.null, .int]) .null, .const .int (.int 1)])) = .val .null := by
  apply strict_null_welltyped [] [] .int _ _ [.null, .int 1] rfl
  · rfl
  · exact forall_getElem?_pair (by decide) (by decide)
  · exact (rfl : [Value.null, Value.int 1][0]? = some Value.null)

/-- **why the static types matter** (mirrors the code): the same NULL under a static type that does not admit
    NULL is *not* checked, the body runs on it, and `not` of NULL comes out TRUE.  `TTree.ok` excludes exactly this;
    in the engine it can only arise from an unsound output type upstream (C08, e.g. `int('x')` typed Int). -/
theorem unchecked_null_reaches_body :
    eval [] (materialize [] (.call .bool (tableDesc nmNot 0 fnNot) [.const .bool .null])) = .val (.bool true) := by
  rfl

/-- a non-trivial tree meets the hypotheses of `tree_kleene`: NOT (c0 AND TRUE) over the record (NULL) -/
def exTree : TTree := .not tBN (.and tBN [.var tBN 0, .const .bool (some true)])
example : exTree.errorFree = true ∧ exTree.bound [0] = true ∧ exTree.ok (envOf [0] [none]) = true ∧
    exTree.kleene (envOf [0] [none]) = none ∧ exTree.kleene (envOf [0] [some true]) = some false := by decide +kernel

/-- the typechecker accepts NOT (c0 AND TRUE) over a nullable column and types it NULL|Boolean; it rejects NOT NULL -/
example : ((typecheckU [.bn] (.not (.and (.var 0) (.const (some true))))).map (·.2)) = some .bn := by decide +kernel
example : (typecheckU [.bn] (.not (.const none))).isNone = true := by decide +kernel

/-- `c0 < c1` over (NULL|Int, Int) is typed NULL|Boolean; `c0 < NULL` has no overload, `c0 = NULL` has -/
example : typecheckCmp .lt .ni .i = some .bn ∧ typecheckCmp .lt .i .n = none ∧ typecheckCmp .eq .i .n = some .bn ∧
    conforms ITy.ni.toTy .null = true ∧ conforms ITy.ni.toTy (.int 3) = true := by decide +kernel

/-- Filter on a three-row stream with a watermark: only the TRUE row and the watermark remain -/
example : filterRun (.var 0 0) []
    [.data ⟨[.bool true], false, none⟩, .wm 5, .data ⟨[.null], false, none⟩, .data ⟨[.bool false], true, some 3⟩] =
    ([.data ⟨[.bool true], false, none⟩, .wm 5], .ok) := by
  rfl

end Octo.C11
