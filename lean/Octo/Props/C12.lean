import Octo.Lemmas.Strings
import Octo.Lemmas.Like
import Octo.Gen.LikeEscapes
/-!
# C12 — String and pattern functions meet their specification

Property: for all strings (multibyte UTF-8, regexp metacharacters, malformed UTF-8 included)
`upper/lower/reverse/substr/replace/position/len` return what their descriptions state; LIKE matches exactly
when the string matches the pattern (`_` any character, `%` any run, backslash escapes, everything else
literal); `~` / `~*` agree with Go regular-expression matching, `~*` ignoring case.

The functions of `Octo.Str` / `Octo.Like` are the models of the descriptors of `functions/functions.go`
(after the C12 `fix:` commits), tied to the code by the C12 correspondence run on every check; the
`…Raw` versions are the bodies before the repair.

Trusted parameters (not modelled): Go's `regexp` engine — it appears as the argument `engine`; statements
about LIKE hold for every engine that agrees with the mini semantics `Octo.Rx` on the sub-language that
semantics covers (`ReAgrees`), which the correspondence run samples; `strings.ToUpper/ToLower` outside ASCII.
All theorems quantify over strings of any length.
-/
namespace Octo.C12
open Octo Octo.Utf8 Octo.Str Octo.Rx Octo.Like

/-- `len` is the number of bytes -/
theorem len_spec (s : Bytes) : len s = s.length := rfl

/-- on all arguments: a negative one is an error, else what `substr_spec` below states -/
theorem substr3_eq (s : Bytes) (start length : Int) :
    substr3 s start length =
      if start < 0 ∨ length < 0 then .err else .ok ((s.drop start.toNat).take length.toNat) := by
  unfold substr3
  by_cases h1 : start < 0
  · rw [if_pos h1, if_pos (.inl h1)]
  by_cases h2 : length < 0
  · rw [if_neg h1, if_pos h2, if_pos (.inr h2)]
  rw [if_neg h1, if_neg h2, if_neg (show ¬(start < 0 ∨ length < 0) by omega)]
  by_cases h3 : (s.length : Int) ≤ start
  · rw [if_pos h3, List.drop_eq_nil_of_le (by omega), List.take_nil]
  · rw [if_neg h3]
    simp only [slice]
    by_cases h4 : length < (s.length : Int) - start
    · rw [if_pos h4]
      have : (start + length).toNat - start.toNat = length.toNat := by omega
      rw [this]
    · -- both sides take at least as many bytes as are left
      rw [if_neg h4, Int.toNat_natCast, List.take_of_length_le (by rw [List.length_drop]; omega),
        List.take_of_length_le (by rw [List.length_drop]; omega)]

theorem substr2_eq (s : Bytes) (start : Int) :
    substr2 s start = if start < 0 then .err else .ok (s.drop start.toNat) := by
  unfold substr2
  by_cases h1 : start < 0
  · rw [if_pos h1, if_pos h1]
  rw [if_neg h1, if_neg h1]
  by_cases h3 : (s.length : Int) ≤ start
  · rw [if_pos h3, List.drop_eq_nil_of_le (by omega)]
  · rw [if_neg h3]

/-- `substr(s, start, length)`: for non-negative arguments the `length` bytes from byte offset `start`
    (fewer at the end of the string) -/
theorem substr_spec (s : Bytes) (start length : Int) (h1 : 0 ≤ start) (h2 : 0 ≤ length) :
    substr3 s start length = .ok ((s.drop start.toNat).take length.toNat) := by
  rw [substr3_eq, if_neg (by omega)]

/-- `substr(s, start)`: the bytes from byte offset `start` -/
theorem substr2_spec (s : Bytes) (start : Int) (h1 : 0 ≤ start) :
    substr2 s start = .ok (s.drop start.toNat) := by
  rw [substr2_eq, if_neg (by omega)]

/-- a negative argument is an error, and no argument makes `substr` panic -/
theorem substr_total (s : Bytes) (start length : Int) :
    ((start < 0 ∨ length < 0) → substr3 s start length = .err) ∧ (start < 0 → substr2 s start = .err) ∧
    substr3 s start length ≠ .panic ∧ substr2 s start ≠ .panic := by
  rw [substr3_eq, substr2_eq]
  refine ⟨fun h => if_pos h, fun h => if_pos h, ?_, ?_⟩ <;> split <;> nofun

example : substr3 [97, 98, 99, 100] 1 2 = .ok [98, 99] := by decide +kernel
example : substr3 [97, 98, 99] 1 9223372036854775807 = .ok [98, 99] := by decide +kernel

/-- `position(s, sub)`: a non-NULL result is the byte offset of an occurrence and no occurrence starts
    earlier; NULL exactly when `sub` does not occur -/
theorem position_spec (s sub : Bytes) :
    match position s sub with
    | some i => 0 ≤ i ∧ i.toNat ≤ s.length ∧ sub <+: s.drop i.toNat ∧ ∀ j, j < i.toNat → ¬ sub <+: s.drop j
    | none => ∀ j, ¬ sub <+: s.drop j := by
  have hspec := indexOf_spec sub s
  unfold position
  cases h : indexOf sub s with
  | none => rw [h] at hspec; exact hspec
  | some i =>
    rw [h] at hspec
    obtain ⟨h1, h2, h3⟩ := hspec
    simp only [Option.map_some]
    exact ⟨Int.natCast_nonneg i, by simpa using h1, by simpa using h2, by simpa using h3⟩

/-- `position` and `substr` use the same byte offsets: cutting at the reported position gives the needle back -/
theorem position_substr (s sub : Bytes) (i : Int) (h : position s sub = some i) :
    substr3 s i sub.length = .ok sub := by
  have hp := position_spec s sub
  rw [h] at hp
  obtain ⟨h0, _, ⟨t, ht⟩, _⟩ := hp
  rw [substr_spec s i sub.length h0 (Int.natCast_nonneg _), ← ht]
  simp

example : position [97, 195, 169, 98] [98] = some 3 := by decide +kernel
example : position [97, 98] [99] = none := by decide +kernel

/-- `replace(s, old, new)` for a non-empty `old`: all occurrences, left to right, non-overlapping
    (`Octo.Str.Replaced` is the declarative reading) -/
theorem replace_spec (s old new : Bytes) (hold : old ≠ []) : Replaced old new s (replace s old new) := by
  unfold replace
  have : old.isEmpty = false := by cases old <;> simp_all
  rw [this]
  exact replaceLoop_spec old new hold _ s (Nat.lt_succ_self _)

/-- the specification leaves no freedom: any two results meeting it are equal -/
theorem replace_unique (s old new o1 o2 : Bytes) (h1 : Replaced old new s o1) (h2 : Replaced old new s o2) :
    o1 = o2 := Replaced.unique h1 h2

/-- the single-scan formulation used by the run-time oracle meets the same specification, hence equals `replace` -/
theorem replace_eq_scan (s old new : Bytes) (hold : old ≠ []) : replace s old new = replaceScan old new 0 s :=
  Replaced.unique (replace_spec s old new hold) (replaceScan_spec old new hold _ s (Nat.lt_succ_self _))

theorem replace_no_occurrence (s old new : Bytes) (hold : old ≠ []) (h : ∀ j, ¬ old <+: s.drop j) :
    replace s old new = s := Replaced.unique (replace_spec s old new hold) (.done h)

/-- empty `old` on valid UTF-8 text: `new` before every character and at the end -/
theorem replace_empty_spec (rs : List Rune) (hv : ∀ r ∈ rs, validRune r = true) (new : Bytes) :
    replace (encodeAll rs) [] new = new ++ rs.flatMap (fun r => encodeRune r ++ new) := by
  simp only [replace, List.isEmpty_nil, if_true]
  induction rs with
  | nil => simp [encodeAll, replaceEmptySkip]
  | cons r rs ih =>
    simp only [encodeAll, List.flatMap_cons]
    rw [replaceEmpty_encodeRune new r (hv r (by simp))]
    have := ih (fun x hx => hv x (by simp [hx]))
    simp only [encodeAll] at this
    rw [this]
    simp

example : replace [97, 97, 97] [97, 97] [98] = [98, 97] := by decide +kernel
example : replace [97, 195, 169] [] [45] = [45, 97, 45, 195, 169, 45] := by decide +kernel

/-- `reverse` of valid UTF-8 text is the text of the reversed character sequence -/
theorem reverse_spec (rs : List Rune) (hv : ∀ r ∈ rs, validRune r = true) :
    reverse (encodeAll rs) = encodeAll rs.reverse := by
  unfold reverse
  rw [decodeAll_encodeAll rs hv]

/-- for every string, malformed or not: the characters of the result (as Go decodes them) are the characters
    of the argument in reverse order -/
theorem reverse_chars (s : Bytes) : decodeAll (reverse s) = (decodeAll s).reverse := by
  unfold reverse
  apply decodeAll_encodeAll
  intro r hr
  exact decodeAll_valid s r (by simpa using hr)

theorem reverse_involutive (s : Bytes) (h : validUtf8 s = true) : reverse (reverse s) = s := by
  have hs : encodeAll (decodeAll s) = s := by simpa [validUtf8] using h
  have : reverse (reverse s) = encodeAll (decodeAll (reverse s)).reverse := rfl
  rw [this, reverse_chars, List.reverse_reverse, hs]

/-- the codec facts behind it: `[]rune(string(rs)) = rs` on scalar values, and `range` yields only scalar values -/
theorem utf8_roundtrip (rs : List Rune) (hv : ∀ r ∈ rs, validRune r = true) : decodeAll (encodeAll rs) = rs :=
  decodeAll_encodeAll rs hv

theorem utf8_decode_valid (s : Bytes) : ∀ r ∈ decodeAll s, validRune r = true := decodeAll_valid s

-- żółw  →  włóż
example : reverse [0xC5, 0xBC, 0xC3, 0xB3, 0xC5, 0x82, 0x77] = [0x77, 0xC5, 0x82, 0xC3, 0xB3, 0xC5, 0xBC] := by
  decide +kernel
example : ∀ r ∈ [0x17C, 0xF3, 0x142, 0x77, 0x1F600], validRune r = true := by decide +kernel

/-- on ASCII text `upper` maps exactly the bytes `a`–`z` to `A`–`Z` and nothing else, byte by byte -/
theorem upper_ascii_spec (s : Bytes) (h : isAscii s = true) :
    ∃ r, upper s = some r ∧ r.length = s.length ∧
      ∀ i (hi : i < s.length) (hr : i < r.length),
        r[i].toNat = if 97 ≤ s[i].toNat ∧ s[i].toNat ≤ 122 then s[i].toNat - 32 else s[i].toNat := by
  refine ⟨s.map upperByte, by simp [upper, h], by simp, ?_⟩
  intro i hi hr
  simp only [List.getElem_map, upperByte]
  split
  · rename_i hc
    have := UInt8.toNat_lt s[i]
    simp; omega
  · rfl

theorem lower_ascii_spec (s : Bytes) (h : isAscii s = true) :
    ∃ r, lower s = some r ∧ r.length = s.length ∧
      ∀ i (hi : i < s.length) (hr : i < r.length),
        r[i].toNat = if 65 ≤ s[i].toNat ∧ s[i].toNat ≤ 90 then s[i].toNat + 32 else s[i].toNat := by
  refine ⟨s.map lowerByte, by simp [lower, h], by simp, ?_⟩
  intro i hi hr
  simp only [List.getElem_map, lowerByte]
  split
  · rename_i hc
    simp; omega
  · rfl

example : upper [97, 122, 64, 91, 96, 123, 65] = some [65, 90, 64, 91, 96, 123, 65] := by decide +kernel
example : lower [65, 90, 64, 91, 96, 123, 97] = some [97, 122, 64, 91, 96, 123, 97] := by decide +kernel

theorem re_accepts_iff_lang (r : Re) (s : List Rune) : Re.accepts r s = true ↔ Re.Lang r s := Re.accepts_iff r s

/-- the direct LIKE matcher means: the string splits into one piece per pattern element
    (a literal: that character; `_`: any one character; `%`: anything) -/
theorem likeSpec_meaning (toks : List Tok) (s : List Rune) : tokMatch toks s = true ↔ Matches toks s :=
  tokMatch_iff toks s

/-- a malformed pattern (`\` before something else than `_ % \`, or at the end) is exactly what the translation rejects -/
theorem like_error_iff (p : List Rune) : (∃ e, likeRegex p = .error e) ↔ likeTokens p = none := by
  constructor
  · intro ⟨e, he⟩
    cases ht : likeTokens p with
    | none => rfl
    | some toks => rw [likeRegex_of_tokens ht] at he; cases he
  · exact likeRegex_of_malformed

/-- **the translation is correct for all patterns and all strings**: the regexp text built for a well-formed
    pattern, read by the regexp syntax `parseRegex`, matches (`MatchString`) exactly the strings the direct
    matcher accepts -/
theorem like_spec (p : List Rune) (toks : List Tok) (h : likeTokens p = some toks) :
    ∃ rx pat, likeRegex p = .ok rx ∧ parseRegex rx = some pat ∧ ∀ s, pat.search s = tokMatch toks s := by
  refine ⟨_, _, likeRegex_of_tokens h, parseRegex_emitted toks, ?_⟩
  intro s
  rw [search_anchored, accepts_bodyRe]

/-- tie to the source, regenerated on every run (`vh extract likeescapes` parses functions/functions.go): the
    model's `needsEscaping` answers true for exactly the characters the Go closure lists … -/
theorem source_needsEscaping (r : Rune) :
    needsEscaping r = Gen.LikeEscapes.needsEscaping.contains r := by
  -- same characters in the same order: only the bracketing of `||` differs
  simp only [needsEscaping, Gen.LikeEscapes.needsEscaping, List.contains_cons, List.contains_nil, Bool.or_false,
    Bool.or_assoc]

/-- … and the text written before and after the loop and the three LIKE special characters are the source's -/
theorem source_texts :
    prefixFixed = Gen.LikeEscapes.prefixText ∧ [cDollar] = Gen.LikeEscapes.suffixText ∧
    cBackslash = Gen.LikeEscapes.likeEscape ∧ cUnderscore = Gen.LikeEscapes.likeAny ∧
    cPercent = Gen.LikeEscapes.likeAll := by decide +kernel

/-- sanity of the specification: a pattern without `%`, `_`, `\` matches exactly itself … -/
theorem like_literal_is_equality (p s : List Rune)
    (h : ∀ c ∈ p, c ≠ cBackslash ∧ c ≠ cUnderscore ∧ c ≠ cPercent) : likeSpecRunes p s = some (p == s) := by
  simp [likeSpecRunes, likeTokens_eq_lits p h, tokMatch_lits]

/-- … `%` matches every string … -/
theorem like_percent_matches_all (s : List Rune) : likeSpecRunes [cPercent] s = some true := by
  have : likeTokens [cPercent] = some [.many] := by decide
  simp [likeSpecRunes, this, tokMatch_many_all]

/-- … and `MatchString` of an unanchored regexp means "some substring is in the language" -/
theorem search_unanchored (body : Re) (s : List Rune) :
    Pat.search [⟨false, body, false⟩] s = true ↔ ∃ s1 m s2, s = s1 ++ m ++ s2 ∧ Re.Lang body m := by
  simp only [Pat.search, List.any_cons, List.any_nil, Bool.or_false, Branch.search_iff, Bool.false_eq_true,
    false_imp_iff, true_and, and_true]

/-- the outcome the specification demands of `like(s, p)` on Go strings -/
def likeOracle (s p : Bytes) : RxOut :=
  match likeSpec s p with
  | none => .err
  | some b => .ok b

/-- an engine agrees with the mini semantics wherever the latter is defined -/
def ReAgrees (engine : Bytes → Bytes → RxOut) : Prop :=
  ∀ rx s, miniEngine rx s ≠ .unmodelled → engine rx s = miniEngine rx s

/-- **LIKE end to end on Go strings** (UTF-8 decoding of pattern and subject, encoding of the regexp text and
    its decoding by `regexp.Compile` included), for every engine that agrees with the mini semantics -/
theorem like_spec_bytes (engine : Bytes → Bytes → RxOut) (ha : ReAgrees engine) (s p : Bytes) :
    likeWith engine s p = likeOracle s p :=
  likeWith_eq_spec engine ha s p

example : ReAgrees miniEngine := fun _ _ _ => rfl

-- 'a*' LIKE 'a*', 'aaa' NOT LIKE 'a*', 'a' NOT LIKE 'a|b', newline matched by _ and %, escapes, malformed patterns
example : like [97, 42] [97, 42] = .ok true := by decide +kernel
example : like [97, 97, 97] [97, 42] = .ok false := by decide +kernel
example : like [97] [97, 124, 98] = .ok false := by decide +kernel
example : like [97, 10, 98] [97, 95, 98] = .ok true := by decide +kernel
example : like [97, 10, 98] [37] = .ok true := by decide +kernel
example : like [49, 48, 48, 37] [37, 92, 37] = .ok true := by decide +kernel
example : like [97] [92, 97] = .err := by decide +kernel
example : like [97] [97, 92] = .err := by decide +kernel
example : like [0xC5, 0xBC, 98] [95, 98] = .ok true := by decide +kernel
example : likeTokens [37, 92, 95, 95, 46] = some [.many, .lit 95, .one, .lit 46] := by decide +kernel

/-- `~` hands pattern and subject to the regexp engine unchanged -/
theorem tilde_spec (engine : Bytes → Bytes → RxOut) (s p : Bytes) : tildeWith engine s p = engine p s := rfl

/-- `~*` is the engine's own case-insensitive matching (`(?i)`) of the unchanged pattern on the unchanged subject -/
theorem tildeStar_spec (engine : Bytes → Bytes → RxOut) (s p : Bytes) :
    tildeStarWith engine s p = engine (flagI ++ p) s := rfl

-- 'AbC' ~* 'b' ; ' ' ~* '\S' is false and 'ab' ~* '\S' is true ; 'A' ~* '^a$'
example : tildeStarWith miniEngine [65, 98, 67] [66] = .ok true := by decide +kernel
example : tildeStarWith miniEngine [32] [92, 83] = .ok false := by decide +kernel
example : tildeStarWith miniEngine [97, 98] [92, 83] = .ok true := by decide +kernel
example : tildeStarWith miniEngine [65] [94, 97, 36] = .ok true := by decide +kernel
example : tildeWith miniEngine [65] [94, 97, 36] = .ok false := by decide +kernel

/-- an implementation of the C12 functions (pattern functions take the regexp engine as a parameter) -/
structure Impl where
  reverse : Bytes → Bytes
  substr2 : Bytes → Int → Out Bytes
  substr3 : Bytes → Int → Int → Out Bytes
  replace : Bytes → Bytes → Bytes → Bytes
  position : Bytes → Bytes → Option Int
  len : Bytes → Int
  upper : Bytes → Option Bytes
  lower : Bytes → Option Bytes
  like : (Bytes → Bytes → RxOut) → Bytes → Bytes → RxOut
  tilde : (Bytes → Bytes → RxOut) → Bytes → Bytes → RxOut
  tildeStar : (Bytes → Bytes → RxOut) → Bytes → Bytes → RxOut

def Statement (I : Impl) : Prop :=
  (∀ rs : List Rune, (∀ r ∈ rs, validRune r = true) → I.reverse (encodeAll rs) = encodeAll rs.reverse) ∧
  (∀ s start length, (0 ≤ start → 0 ≤ length → I.substr3 s start length = .ok ((s.drop start.toNat).take length.toNat)) ∧
      I.substr3 s start length ≠ .panic) ∧
  (∀ s start, (0 ≤ start → I.substr2 s start = .ok (s.drop start.toNat)) ∧ I.substr2 s start ≠ .panic) ∧
  (∀ s old new, old ≠ [] → Replaced old new s (I.replace s old new)) ∧
  (∀ s sub, match I.position s sub with
      | some i => 0 ≤ i ∧ i.toNat ≤ s.length ∧ sub <+: s.drop i.toNat ∧ ∀ j, j < i.toNat → ¬ sub <+: s.drop j
      | none => ∀ j, ¬ sub <+: s.drop j) ∧
  (∀ s, I.len s = s.length) ∧
  (∀ s, isAscii s = true → I.upper s = some (s.map upperByte) ∧ I.lower s = some (s.map lowerByte)) ∧
  (∀ engine, ReAgrees engine → ∀ s p, I.like engine s p = likeOracle s p) ∧
  (∀ engine s p, I.tilde engine s p = engine p s) ∧
  (∀ engine s p, I.tildeStar engine s p = engine (flagI ++ p) s)

/-- the functions as they are after the C12 repairs -/
def fixedImpl : Impl where
  reverse := Str.reverse
  substr2 := Str.substr2
  substr3 := Str.substr3
  replace := Str.replace
  position := Str.position
  len := Str.len
  upper := Str.upper
  lower := Str.lower
  like := likeWith
  tilde := tildeWith
  tildeStar := tildeStarWith

/-- **C12, full strength, on the current tree.** -/
theorem C12_full : Statement fixedImpl := by
  refine ⟨reverse_spec, ?_, ?_, replace_spec, position_spec, len_spec, ?_, like_spec_bytes, tilde_spec, tildeStar_spec⟩
  · intro s start length
    obtain ⟨_, _, hnopanic, _⟩ := substr_total s start length
    exact ⟨substr_spec s start length, hnopanic⟩
  · intro s start
    obtain ⟨_, _, _, hnopanic⟩ := substr_total s start 0
    exact ⟨substr2_spec s start, hnopanic⟩
  · intro s h
    simp [fixedImpl, upper, lower, h]

/-- ASCII action of `strings.ToLower` (all the witnesses below need) -/
def asciiLower (s : Bytes) : Bytes := s.map lowerByte

def rawImpl : Impl where
  reverse := Str.reverseRaw
  substr2 := Str.substr2Raw
  substr3 := Str.substr3Raw
  replace := Str.replace
  position := Str.position
  len := Str.len
  upper := Str.upper
  lower := Str.lower
  like := fun engine s p => match likeRegexTextRaw p with
    | .error _ => .err
    | .ok rx => engine rx s
  tilde := tildeWith
  tildeStar := fun engine s p => tildeStarRawWith engine asciiLower s p

/-- `reverse('żółw')` = `"w\x00ł\x00ó\x00ż"` -/
theorem raw_reverse_witness :
    reverseRaw [0xC5, 0xBC, 0xC3, 0xB3, 0xC5, 0x82, 0x77] = [0x77, 0, 0xC5, 0x82, 0, 0xC3, 0xB3, 0, 0xC5, 0xBC] := by
  decide

/-- `'aaa' LIKE 'a*'` and `'a' LIKE 'a|b'` hold, `'a*' LIKE 'a*'` does not, `_` and `%` miss a newline -/
theorem raw_like_witnesses :
    likeRaw [97, 97, 97] [97, 42] = .ok true ∧ likeOracle [97, 97, 97] [97, 42] = .ok false ∧
    likeRaw [97] [97, 124, 98] = .ok true ∧ likeOracle [97] [97, 124, 98] = .ok false ∧
    likeRaw [97, 42] [97, 42] = .ok false ∧ likeOracle [97, 42] [97, 42] = .ok true ∧
    likeRaw [10] [95] = .ok false ∧ likeOracle [10] [95] = .ok true ∧
    likeRaw [97, 10] [37] = .ok false ∧ likeOracle [97, 10] [37] = .ok true := by decide

/-- `' ' ~* '\S'` holds and `'ab' ~* '\S'` does not: lower-casing the pattern turned `\S` into `\s` -/
theorem raw_tildeStar_witness :
    tildeStarRawWith miniEngine asciiLower [32] [92, 83] = .ok true ∧ miniEngine (flagI ++ [92, 83]) [32] = .ok false ∧
    tildeStarRawWith miniEngine asciiLower [97, 98] [92, 83] = .ok false ∧
    miniEngine (flagI ++ [92, 83]) [97, 98] = .ok true := by decide

/-- `substr('abc', -1)`, `substr('abc', 1, -1)` and `substr('abc', 1, MaxInt64)` panic -/
theorem raw_substr_witnesses :
    substr2Raw [97, 98, 99] (-1) = .panic ∧ substr3Raw [97, 98, 99] 1 (-1) = .panic ∧
    substr3Raw [97, 98, 99] 1 9223372036854775807 = .panic := by decide

/-- the unrepaired code violates the statement (here through `reverse`; the theorems above give the others) -/
theorem raw_refuted : ¬ Statement rawImpl := by
  intro h
  have := h.1 [0x17C, 0xF3, 0x142, 0x77] (by decide)
  exact absurd this (by decide)

end Octo.C12
