import Octo.Lemmas.NumFuncs
import Octo.Lemmas.Coalesce
import Octo.Lemmas.Overload
/-!
# C13 — Numeric, time and conversion functions meet their specification

Property: for all argument values, the arithmetic operators on Int/Float/Duration/Time, abs/ceil/floor/sqrt/log/pow,
int()/float()/string(), time_from_unix/time_to_unix, IN/NOT IN, COALESCE and list indexing return what their definitions
state.  Failed parses yield NULL, time_to_unix(time_from_unix(x)) = x, and COALESCE yields its first non-NULL argument.

* `Octo.Num.callFn` is the model of the descriptors of `functions/functions.go` (one definition per entry of
  `FunctionMap()`, one arm per overload), `Octo.Coal.coalesce` / `calcMapping` / `fixLayout` the model of
  `Coalesce` + `ObjectLayoutFixer` of `execution/expressions.go`, `Octo.Ovl.resolve` the model of the overload
  resolution of `logical/function.go` — all tied to the code by the C13 correspondence run on every check.
* `Octo.Spec13.specFn` / `coalesceSpec` / `relayout` / `parseIntSpec` say what the property demands, in mathematical
  integers with one explicit `wrap64`, `List.any`, "the field of that name", the grammar `[+-]?[0-9]+`.
* Float arithmetic, `math.*`, `strconv.ParseFloat`, float→int and int→float conversion, and the text form of floats,
  times and durations are Go runtime/library behaviour and are NOT modelled (the model returns `.opaque TypeID`, the
  specification `.unspecified`/`.someOf`); the correspondence run checks "no panic, TypeID as declared" for them.

All theorems quantify over ALL arguments (no size bound).
-/
namespace Octo.C13
open Octo Octo.Num Octo.Coal Octo.Ovl Octo.Spec13

/-- wrapping lands in the int64 range and is the identity on it -/
theorem wrap_range (x : Int) : InI64 (wrap64 x) := inI64_wrap64 x
theorem wrap_id (x : Int) (h : InI64 x) : wrap64 x = x := wrap64_of_inI64 h

/-- `+`, `-`, `*`, unary `-` on Int and Duration: the exact result, wrapped -/
theorem add_wraps (a b : Int) : addI64 a b = wrap64 (a + b) := addI64_eq a b
theorem sub_wraps (a b : Int) : subI64 a b = wrap64 (a - b) := subI64_eq a b
theorem mul_wraps (a b : Int) : mulI64 a b = wrap64 (a * b) := mulI64_eq a b
theorem neg_wraps (a : Int) : negI64 a = wrap64 (-a) := negI64_eq a

/-- … hence exact whenever the exact result fits -/
theorem add_exact (a b : Int) (h : InI64 (a + b)) : addI64 a b = a + b := by rw [addI64_eq, wrap64_of_inI64 h]
theorem sub_exact (a b : Int) (h : InI64 (a - b)) : subI64 a b = a - b := by rw [subI64_eq, wrap64_of_inI64 h]
theorem mul_exact (a b : Int) (h : InI64 (a * b)) : mulI64 a b = a * b := by rw [mulI64_eq, wrap64_of_inI64 h]

/-- `/` on int64 operands is the quotient truncated toward zero (`Int.tdiv`), wrapped … -/
theorem div_wraps (a b : Int) (ha : InI64 a) (hb : InI64 b) : quoI64 a b = wrap64 (Int.tdiv a b) := quoI64_eq ha hb

/-- … the truncated quotient of two int64 fits int64 except for `MinInt64 / -1` … -/
theorem tdiv_in_range (a b : Int) (ha : InI64 a) (hb : InI64 b) (hx : ¬ (a = minI64 ∧ b = -1)) : InI64 (Int.tdiv a b) := by
  rw [inI64_iff] at *
  unfold minI64 at hx
  by_cases hb1 : b = 1
  · rw [hb1, Int.tdiv_one]; exact ha
  by_cases hbm : b = -1
  · rw [hbm, Int.tdiv_neg, Int.tdiv_one]; omega
  -- otherwise `|b| = 0` or `|b| ≥ 2`, so the quotient is at most half of `|a|`
  have hq : (a.tdiv b).natAbs ≤ a.natAbs / 2 := by
    rw [Int.natAbs_tdiv]
    show a.natAbs / b.natAbs ≤ _
    by_cases hb0 : b.natAbs = 0
    · rw [hb0, Nat.div_zero]; exact Nat.zero_le _
    · exact Nat.div_le_div_left (by omega) (by decide)
  clear hx hb hb1 hbm
  omega

/-- … so division truncates toward zero exactly, `MinInt64 / -1` wraps to `MinInt64` … -/
theorem div_truncates (a b : Int) (ha : InI64 a) (hb : InI64 b) (hx : ¬ (a = minI64 ∧ b = -1)) :
    quoI64 a b = Int.tdiv a b := by
  rw [quoI64_eq ha hb, wrap64_of_inI64 (tdiv_in_range a b ha hb hx)]
theorem div_min_neg_one : quoI64 minI64 (-1) = minI64 := by decide

/-- … and a zero divisor is an error, not a panic (repaired code). -/
theorem div_zero_is_error (a : Int) : fnDiv 0 [.int a, .int 0] = .err ∧ fnDiv 2 [.dur a, .int 0] = .err := ⟨rfl, rfl⟩

example : InI64 7 ∧ InI64 (-2) ∧ ¬ ((7 : Int) = minI64 ∧ (-2 : Int) = -1) ∧ quoI64 7 (-2) = -3 ∧ quoI64 (-7) 2 = -3 := by decide
example : addI64 maxI64 1 = minI64 ∧ mulI64 minI64 (-1) = minI64 ∧ negI64 minI64 = minI64 := by decide

/-- **`time_to_unix(time_from_unix(x)) = x` for every int64 `x`** (both internal additions wrap, and cancel) -/
theorem time_roundtrip (x : Int) (h : InI64 x) : timeToUnix (timeUnix x 0) = x :=
  timeToUnix_timeUnix x 0 h (by decide) (by decide)

/-- the same through the descriptors -/
theorem time_roundtrip_fn (x : Int) (h : InI64 x) :
    ∃ t l, callFn "tfu" 0 [.int x] = .val (.time t l) ∧ callFn "ttu" 0 [.time t l] = .val (.int x) :=
  ⟨timeUnix x 0, 0, callFn_tfu _ _, by
    rw [callFn_ttu]
    exact congrArg (fun i => Outcome.val (.int i)) (time_roundtrip x h)⟩

/-- `time_from_unix(x)` is the instant `x` seconds after the epoch whenever Go's `time.Time` can represent it -/
theorem time_from_unix_exact (x : Int) (h : InI64 (x + unixToInternal)) : timeUnix x 0 = x * nsPerSec := timeUnix_exact x h
/-- `time_to_unix` is the floor of the instant in seconds -/
theorem time_to_unix_floor (ns : Int) : timeToUnix ns = wrap64 (ns / nsPerSec) := timeToUnix_eq ns
/-- `Time + Duration` is exact whenever the result is representable (Go saturates otherwise) -/
theorem time_add_exact (t d : Int) (h : InI64 (timeExt (t + d))) : timeAdd t d = t + d := timeAdd_exact t d h
/-- … so adding and subtracting the same duration gives the time back -/
theorem time_add_sub (t d : Int) (hd : InI64 d) (hm : d ≠ minI64) (h1 : InI64 (timeExt (t + d))) (h2 : InI64 (timeExt t)) :
    timeAdd (timeAdd t d) (negI64 d) = t := by
  rw [timeAdd_exact t d h1, negI64_exact hd hm, timeAdd_exact (t + d) (-d) (by rw [Int.add_neg_cancel_right]; exact h2)]
  omega

example : InI64 maxI64 ∧ timeToUnix (timeUnix maxI64 0) = maxI64 := by decide
example : InI64 (timeExt (5 + 7)) ∧ timeAdd 5 7 = 12 := by decide

/-- **`int(s)` is the integer denoted by `s` iff `s` matches `[+-]?[0-9]+` and the value fits int64; otherwise NULL** -/
theorem parseInt_spec (s : List UInt8) : parseInt s = parseIntSpec s := parseInt_eq_spec s

/-- **parsing the decimal rendering of an int64 gives it back** -/
theorem parseInt_format (i : Int) (h : InI64 i) : parseInt (formatInt i) = some i := by
  obtain ⟨hall, hval, hne⟩ := natDigits_spec i.natAbs
  rw [parseInt_eq_spec]
  unfold formatInt
  by_cases hneg : i < 0
  · rw [if_pos hneg]
    exact parseIntSpec_digits true rfl hne hall (by rw [hval]; show -(i.natAbs : Int) = i; omega) h
  · rw [if_neg hneg]
    exact parseIntSpec_digits false (signBody_of_digits _ hall) hne hall
      (by rw [hval]; show (i.natAbs : Int) = i; omega) h

/-- `int(string(i)) = i` through the descriptors -/
theorem int_of_string_of_int (i : Int) (h : InI64 i) :
    callFn "string" 0 [.int i] = .val (.str (formatInt i)) ∧ callFn "int" 3 [.str (formatInt i)] = .val (.int i) := by
  refine ⟨callFn_string _ _, ?_⟩
  rw [callFn_int]
  show (match parseInt (formatInt i) with | some i => Outcome.val (.int i) | none => .val .null) = _
  rw [parseInt_format i h]

/-- a failed parse yields NULL (never an error, never a panic) -/
theorem int_of_unparsable (s : List UInt8) (h : parseIntSpec s = none) : callFn "int" 3 [.str s] = .val .null := by
  rw [callFn_int]
  show (match parseInt s with | some i => Outcome.val (.int i) | none => .val .null) = _
  rw [parseInt_eq_spec, h]

example : parseInt [45, 48, 48, 55] = some (-7) ∧ parseInt [43] = none ∧ parseInt [49, 95, 48] = none := by decide
example : parseIntSpec [57, 50, 50, 51, 51, 55, 50, 48, 51, 54, 56, 53, 52, 55, 55, 53, 56, 48, 56] = none := by decide  -- 2^63

theorem in_spec (x : Value) (xs : List Value) : memLoop x xs = xs.any fun y => x.equal y := memLoop_eq_any x xs
theorem not_in_spec (x : Value) (xs : List Value) : (!memLoop x xs) = xs.all fun y => !x.equal y := not_memLoop_eq_all x xs

/-- `l[i]` is the `i`-th element for `0 ≤ i < len(l)` and NULL otherwise (repaired: also for negative `i`) -/
theorem index_spec (xs : List Value) (i : Int) :
    indexFn xs i = .val (if 0 ≤ i ∧ i < (xs.length : Int) then xs[i.toNat]?.getD .null else .null) :=
  indexFn_eq xs i

/-- `s * n`: `n` copies of `s`; an error for negative `n` or more than 2^30 result bytes (repaired) -/
theorem repeat_spec (s : List UInt8) (n : Int) : Meets (repeatString s n) (repeatSpec s n) := repeatString_meets s n

/-- **for all arguments (ints/durations in int64, times representable) every modelled overload of
    `+ - * / abs len time_from_unix time_to_unix int float string [] in "not in"` returns what the specification says** -/
theorem fn_meets_spec (name : String) (idx : Nat) (args : List Value) (h : ArgsOk args) :
    Meets (callFn name idx args) (specFn name idx args) := by
  unfold callFn specFn
  refine meets_ite (fun _ => fnAdd_meets _ _) fun _ => meets_ite (fun _ => fnSub_meets _ _ h) fun _ =>
    meets_ite (fun _ => fnMul_meets _ _) fun _ => meets_ite (fun _ => fnDiv_meets _ _ h) fun _ =>
    meets_ite (fun _ => fnAbs_meets _ _ h) fun _ => ?_
  -- `sqrt … log10` and `pow` have no entry in the specification, whose remaining names all differ from them
  by_cases h6 : name = "sqrt" ∨ name = "ceil" ∨ name = "floor" ∨ name = "log2" ∨ name = "log" ∨ name = "log10"
  · rw [if_pos h6]
    rcases h6 with rfl | rfl | rfl | rfl | rfl | rfl <;> simp only [String.reduceEq, reduceIte] <;>
      exact fnMath1_meets _ _
  rw [if_neg h6]
  by_cases h7 : name = "pow"
  · subst h7; simp only [String.reduceEq, reduceIte]; exact fnPow_meets _ _
  rw [if_neg h7]
  exact meets_ite (fun _ => fnLen_meets _ _) fun _ => meets_ite (fun _ => fnTimeFromUnix_meets _ _) fun _ =>
    meets_ite (fun _ => fnTimeToUnix_meets _ _) fun _ => meets_ite (fun _ => fnInt_meets _ _) fun _ =>
    meets_ite (fun _ => fnFloat_meets _ _) fun _ => meets_ite (fun _ => fnString_meets _ _) fun _ =>
    meets_ite (fun _ => fnIndex_meets _ _) fun _ => meets_ite (fun _ => fnIn_meets _ _) fun _ =>
    meets_ite (fun _ => fnNotIn_meets _ _) fun _ => meets_illTyped _

/-- in particular no modelled function panics -/
theorem fn_never_panics (name : String) (idx : Nat) (args : List Value) (h : ArgsOk args) : callFn name idx args ≠ .panic := by
  intro hp
  have := fn_meets_spec name idx args h
  rw [hp] at this
  cases hs : specFn name idx args <;> simp [Meets] at this

theorem argsOk_example : ArgsOk [.int 1, .int 0] := ⟨(by decide : InI64 1), (by decide : InI64 0), trivial⟩
example : ArgsOk [.int 1, .int 0] ∧ Meets (callFn "div" 0 [.int 1, .int 0]) .error := ⟨argsOk_example, by
  rw [callFn_div]; trivial⟩

/-- **`fixLayout` with the mapping of `calculateMapping(target, source)` re-lays a value of the source type out as the
    specification `relayout` says** — object fields go where their name is in the target, missing ones are NULL, tuples
    are padded, through any nesting of lists, objects, tuples and unions — and neither function panics. Whether the result
    is a value of the target type is not claimed here (`Fits` pairs any scalar source with any concrete target). -/
theorem fixLayout_relayout (t s : Ty) (v : Value) (ht : NormTy t) (hs : NormTy s) (hfit : Fits t s)
    (hv : conforms s v = true) :
    ∃ m, calcMapping (Ty.size t + Ty.size s + 1) t s = some m ∧
      fixLayout (fuelFor v) m v = some (relayout (Value.size v + 1) t s v) :=
  fixLayout_calcMapping t s v ht hs hfit hv

/-- **COALESCE yields its first non-NULL argument (re-laid-out for the result type), NULL when all are NULL** -/
theorem coalesce_first_non_null (target : Ty) (ht : NormTy target) (args : List (Ty × Value)) (h : ArgsFit target args) :
    coalesce target args = .val (coalesceSpec target args) := coalesce_spec target ht args h

/-- a value that is not an object/list/tuple is returned unchanged (DESIGN.md's `fixLayout_id` on scalar types) -/
theorem relayout_id_leaf (fr : Nat) (t s : Ty) (v : Value) (h : IsLeaf v) : relayout fr t s v = v := relayout_leaf fr t s v h

/-- object fields are permuted into the order of the target type, fields the source lacks are NULL (DESIGN.md's `fixLayout_perm`) -/
theorem relayout_perm (f : Nat) (tn : List Name) (tt : List Ty) (sn : List Name) (st : List Ty) (xs : List Value) :
    relayout (f + 1) (.struct tn tt) (.struct sn st) (.struct xs)
      = .struct ((tn.zip tt).map (relayoutField (relayout f) sn st xs)) := rfl

/-- non-vacuity: COALESCE of `{b: 2, a: 1}` into the type `{a, b, c?}`: fields permuted, `c` NULL -/
example : coalesce (.struct [[97], [98], [99]] [.int, .int, .union [.null, .int]])
    [(.union [.null, .struct [[98], [97]] [.int, .int]], .null),
     (.struct [[98], [97]] [.int, .int], .struct [.int 2, .int 1])]
    = .val (.struct [.int 1, .int 2, .null]) := by rfl
example : coalesceSpec (.struct [[97], [98], [99]] [.int, .int, .union [.null, .int]])
    [(.union [.null, .struct [[98], [97]] [.int, .int]], .null),
     (.struct [[98], [97]] [.int, .int], .struct [.int 2, .int 1])]
    = .struct [.int 1, .int 2, .null] := by rfl
/-- the hypotheses of `coalesce_first_non_null` are met by that call -/
example : NormTy (.struct [[97], [98], [99]] [.int, .int, .union [.null, .int]]) ∧
    ArgsFit (.struct [[97], [98], [99]] [.int, .int, .union [.null, .int]])
      [(.struct [[98], [97]] [.int, .int], .struct [.int 2, .int 1])] := by
  have hint : NormTy .int := .scalar _ (by decide)
  have hcI : Concrete .int := ⟨nofun, nofun⟩
  have hu : NormTy (.union [.null, .int]) := .union _
    (List.forall_mem_cons.2 ⟨⟨nofun, nofun⟩, List.forall_mem_cons.2 ⟨hcI, nofun⟩⟩)
    (List.forall_mem_cons.2 ⟨.scalar _ (by decide), List.forall_mem_cons.2 ⟨hint, nofun⟩⟩) (by decide)
  have htgt : NormTy (.struct [[97], [98], [99]] [.int, .int, .union [.null, .int]]) := .struct _ _ (by decide) rfl
    (List.forall_mem_cons.2 ⟨hint, List.forall_mem_cons.2 ⟨hint, List.forall_mem_cons.2 ⟨hu, nofun⟩⟩⟩)
  have hsrc : NormTy (.struct [[98], [97]] [.int, .int]) := .struct _ _ (by decide) rfl
    (List.forall_mem_cons.2 ⟨hint, List.forall_mem_cons.2 ⟨hint, nofun⟩⟩)
  -- the one argument: its type is normal, the target fits it (shown below), its value conforms
  refine ⟨htgt, List.forall_mem_cons.2 ⟨⟨hsrc, .struct _ _ _ _ ?_, rfl⟩, nofun⟩⟩
  -- fields `a`, `b` are Int on both sides; the source has no field `c`
  intro n ft j sj hmem hl hsj
  obtain rfl : sj = .int := by
    rcases List.mem_cons.1 (List.mem_of_getElem? hsj) with h | h
    · exact h
    · exact List.mem_singleton.1 h
  rcases List.mem_cons.1 hmem with h | h
  · cases h; exact .scalar _ _ hcI (by decide)
  rcases List.mem_cons.1 h with h | h
  · cases h; exact .scalar _ _ hcI (by decide)
  · cases List.mem_singleton.1 h; cases hl

theorem typeAssert_spec (ids : List Nat) (v : Value) :
    typeAssert ids v = if ids.contains v.rank then .val v else .err := rfl
theorem typeCast_spec (id : Nat) (v : Value) : typeCast id v = .val (if v.rank = id then v else .null) := by
  unfold typeCast
  by_cases h : v.rank = id <;> simp [h]

/-- **the repaired resolution wraps every argument in at most one run-time type assertion** -/
theorem resolve_one_assertion (name : String) (argTys : List Ty) (r : Resolved) (h : resolve name argTys = some r) :
    ∀ a, a ∈ r.asserts → a.length ≤ 1 := resolve_asserts_le_one name argTys r h

/-- the shipped loop had no `break`: `int(c)` for `c : Float | String` wrapped `c` in the assertions of BOTH candidate
    overloads (which can never both hold) -/
theorem raw_resolve_two_assertions :
    (resolveRaw "int" [.union [.float, .str]]).map (·.asserts) = some [[.union [.null, .float], .union [.null, .str]]] := by rfl
example : (resolve "int" [.union [.float, .str]]).map (fun r => (r.idx, r.asserts)) = some (2, [[.union [.null, .float]]]) := by rfl

/-- an implementation of the three anchored mechanisms -/
structure Impl where
  fn : String → Nat → List Value → Outcome
  coalesce : Ty → List (Ty × Value) → Outcome
  resolve : String → List Ty → Option Resolved

/-- C13 for an implementation: every function call on well-formed arguments meets the specification (so: no panic,
    failed parses yield NULL, division truncates, …), the two round trips hold, COALESCE yields its first non-NULL
    argument re-laid-out for its result type, and a resolved call asserts each argument's type at most once. -/
def Statement (I : Impl) : Prop :=
  (∀ name idx args, ArgsOk args → Meets (I.fn name idx args) (specFn name idx args)) ∧
  (∀ x, InI64 x → ∃ t l, I.fn "tfu" 0 [.int x] = .val (.time t l) ∧ I.fn "ttu" 0 [.time t l] = .val (.int x)) ∧
  (∀ i, InI64 i → ∃ s, I.fn "string" 0 [.int i] = .val (.str s) ∧ I.fn "int" 3 [.str s] = .val (.int i)) ∧
  (∀ target args, NormTy target → ArgsFit target args → I.coalesce target args = .val (coalesceSpec target args)) ∧
  (∀ name argTys r, I.resolve name argTys = some r → ∀ a, a ∈ r.asserts → a.length ≤ 1)

/-- the code as it stands in /repo (after the C13 `fix:` commits) -/
def current : Impl := { fn := callFn, coalesce := Coal.coalesce, resolve := Ovl.resolve }
/-- the code as shipped -/
def shipped : Impl := { fn := callFnRaw, coalesce := coalesceRaw, resolve := resolveRaw }

/-- **C13, full strength, on the current tree** -/
theorem C13_full : Statement current := by
  -- reduce `current.fn` to `callFn` first: left to the unifier, it evaluates `callFn "tfu" …` instead
  dsimp only [Statement, current]
  exact ⟨fn_meets_spec, time_roundtrip_fn, fun i h => ⟨formatInt i, int_of_string_of_int i h⟩,
    fun target args ht h => coalesce_first_non_null target ht args h, resolve_one_assertion⟩

/-! ### the shipped code violated it: four panics and the doubled assertion -/

theorem shipped_div_zero_panics : callFnRaw "div" 0 [.int 1, .int 0] = .panic := by rfl
theorem shipped_repeat_negative_panics : callFnRaw "mul" 4 [.str [97], .int (-1)] = .panic := by rfl
theorem shipped_index_negative_panics : callFnRaw "idx" 0 [.list [.int 1], .int (-1)] = .panic := by rfl
theorem shipped_coalesce_tuple_panics :
    coalesceRaw (.tuple [.int, .int]) [(.tuple [.int, .int], .tuple [.int 1, .int 2])] = .panic := by rfl

theorem C13_shipped_refuted : ¬ Statement shipped := by
  intro ⟨h1, _⟩
  have := h1 "div" 0 [.int 1, .int 0] argsOk_example
  have e : shipped.fn "div" 0 [.int 1, .int 0] = .panic := shipped_div_zero_panics
  rw [e] at this
  exact this

end Octo.C13
