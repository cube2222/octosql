import Octo.Lemmas.AggArray
import Octo.Lemmas.AggDistinct
import Octo.Lemmas.AggFloat
import Octo.Lemmas.AggEmpty
/-!
# C14 — Aggregates are invariant under retraction histories

Property: for every aggregate (count, sum, avg, min, max, array_agg and the DISTINCT variants) and
every interleaving of additions and retractions whose net multiset `M` is non-empty, the value
reported equals the aggregate of `M` computed from scratch. Float sums are compared within
rounding error.

`mkAgg k d` is the model of the entry of `aggregates.Aggregates` (`aggregates/*.go`): state, `Add`,
`Trigger`, with the `Distinct` wrapper when `d` (tied to the code by the C14 correspondence run on
every check). `specFull k d M` is the aggregate computed from scratch on a list `M`.
All theorems quantify over histories of **any** length and values of any nesting depth; `M` is
**any** list representing the net multiset (`IsNet`), equality of values is `cmp = 0`.

Float `sum`/`avg` are stated in exact arithmetic (the sum is an exact integer number of units of
2^-1074, rounded once when reported): IEEE-754 rounding of the intermediate sums is outside the
model. The special values are inside it, and there the property is *false* for the code:
`C14_refuted` (+Inf added and retracted leaves NaN); `C14_partial` is the statement for histories
whose float inputs are finite; for all other aggregates it is unconditional (`C14_full_nonfloat`).
-/
namespace Octo.C14
open Octo Octo.Agg

/-- the inputs a history may contain: any value, except that the float sums need finite floats -/
def Admissible (k : Kind) : Value → Prop :=
  match k with
  | .sumFloat => FiniteF
  | .avgFloat => FiniteF
  | _ => fun _ => True

def baseProof : (k : Kind) → AggProof (baseAgg k) (Admissible k) (specOf k)
  | .count => countProof
  | .sumInt => sumIntProof
  | .sumFloat => sumFloatProof
  | .sumDur => sumDurProof
  | .avgInt => avgIntProof
  | .avgFloat => avgFloatProof
  | .avgDur => avgDurProof
  | .min => minProof
  | .max => maxProof
  | .array => arrayProof

def fullProof (k : Kind) : (d : Bool) → AggProof (mkAgg k d) (Admissible k) (specFull k d)
  | false => baseProof k
  | true => distinctProof (baseProof k)

/-- **the reported value**: after any valid history (inputs admissible), `Trigger` does not panic and
    returns a value equal to the aggregate, computed from scratch, of any list representing the
    non-empty net multiset -/
theorem aggregate_correct (k : Kind) (d : Bool) (h : Hist) (hv : ValidHist h)
    (hP : ∀ e ∈ h, Admissible k e.2) (M : List Value) (hM : IsNet M h) (hne : M ≠ []) :
    ∃ r, (mkAgg k d).trigger ((mkAgg k d).run h).1 = .val r ∧ cmp r (specFull k d M) = 0 :=
  ((fullProof k d).main h hv hP M hM).2 hne

/-- **the returned flag**: the last `Add` of a valid history returned `true` iff the net multiset is empty -/
theorem add_reports_emptiness (k : Kind) (d : Bool) (h : Hist) (hv : ValidHist h)
    (hP : ∀ e ∈ h, Admissible k e.2) (M : List Value) (hM : IsNet M h) :
    ((mkAgg k d).run h).2 = M.isEmpty :=
  ((fullProof k d).main h hv hP M hM).1

/-- … after every step, not only the last one -/
theorem add_reports_emptiness_every_step (k : Kind) (d : Bool) (h : Hist) (hv : ValidHist h)
    (hP : ∀ e ∈ h, Admissible k e.2) (n : Nat) :
    ((mkAgg k d).run (h.take n)).2 = (bagRun [] (h.take n)).isEmpty :=
  add_reports_emptiness k d (h.take n) (validHist_take hv n)
    (fun e he => hP e (List.mem_of_mem_take he)) _ (bagRun_isNet (validHist_take hv n))

theorem admissible_of_nonfloat {k : Kind} (hk1 : k ≠ .sumFloat) (hk2 : k ≠ .avgFloat) (v : Value) : Admissible k v := by
  cases k <;> first | trivial | contradiction

/-- **the returned flag, unconditionally**: for every aggregate (float sums fed with ±Inf/NaN included) and
    every valid history, the last `Add` returned `true` iff the net multiset is empty -/
theorem add_reports_emptiness_all_inputs (k : Kind) (d : Bool) (h : Hist) (hv : ValidHist h)
    (M : List Value) (hM : IsNet M h) : ((mkAgg k d).run h).2 = M.isEmpty := by
  cases d
  · -- the float sums keep their element counter on all inputs; the others admit all inputs anyway
    by_cases h1 : k = .sumFloat
    · subst h1; exact sumFloat_keeps.flag rfl h hv M hM
    · by_cases h2 : k = .avgFloat
      · subst h2; exact avgFloat_keeps.flag rfl h hv M hM
      · exact add_reports_emptiness k false h hv (fun e _ => admissible_of_nonfloat h1 h2 e.2) M hM
  · exact KeepsInv.flag (@distinct_keeps (baseAgg k)) hinv_init h hv M hM

/-- every valid history has a net multiset (the hypotheses `IsNet M h` are satisfiable) -/
theorem net_multiset_exists (h : Hist) (hv : ValidHist h) : ∃ M, IsNet M h :=
  ⟨bagRun [] h, bagRun_isNet hv⟩

theorem spec_representation_independent (k : Kind) (d : Bool) (L M : List Value)
    (hL : ∀ x ∈ L, Admissible k x) (hM : ∀ x ∈ M, Admissible k x) (h : ∀ v, cnt L v = cnt M v) :
    cmp (specFull k d L) (specFull k d M) = 0 :=
  (fullProof k d).congr hL hM h

/-- the oracle of the check (`bagsOf`, used by `Octo.Drv.C14.judge`) accepts exactly the valid
    histories … -/
theorem oracle_accepts_iff_valid (h : Hist) : (bagsOf [] h).isSome = true ↔ ValidHist h :=
  (bagsOf_isSome_iff h []).trans (validFrom_nil_iff h)

/-- … and the multiset it aggregates after step `i+1` represents the net multiset of that prefix -/
theorem oracle_multiset_is_net (h : Hist) (bags : List (List Value)) (hb : bagsOf [] h = some bags)
    (i : Nat) (hi : i < h.length) : ∃ M, bags[i]? = some M ∧ IsNet M (h.take (i + 1)) := by
  have hv : ValidHist h := (oracle_accepts_iff_valid h).mp (by rw [hb]; rfl)
  exact ⟨_, bagsOf_get h [] bags hb i hi, bagRun_isNet (validHist_take hv _)⟩

/-- why the property needs `M ≠ ∅`: after a valid history with an *empty* net multiset, `Trigger` of
    min, max and avg over Int/Duration panics (nil interface conversion / integer division by zero),
    also behind the `Distinct` wrapper — the group-by nodes must not call it then -/
theorem trigger_panics_on_empty (k : Kind) (hk : k = .min ∨ k = .max ∨ k = .avgInt ∨ k = .avgDur) (d : Bool)
    (h : Hist) (hv : ValidHist h) (hM : IsNet [] h) :
    (mkAgg k d).trigger ((mkAgg k d).run h).1 = .panic := by
  obtain ⟨hp, hadm⟩ : PanicsOnEmpty (baseProof k) ∧ ∀ v, Admissible k v := by
    rcases hk with rfl | rfl | rfl | rfl
    · exact ⟨minProof_panics, fun _ => trivial⟩
    · exact ⟨maxProof_panics, fun _ => trivial⟩
    · exact ⟨avgProof_panics _ intField_congr _, fun _ => trivial⟩
    · exact ⟨avgProof_panics _ durField_congr _, fun _ => trivial⟩
  cases d
  · exact (fullProof k false).empty_panics hp h hv (fun e _ => hadm e.2) hM
  · exact (fullProof k true).empty_panics (distinct_panics _ hp) h hv (fun e _ => hadm e.2) hM

/-- C14 as stated, for a table of aggregates `agg` -/
def Statement (agg : Kind → Bool → Agg) : Prop :=
  ∀ (k : Kind) (d : Bool) (h : Hist), ValidHist h → ∀ M, IsNet M h → M ≠ [] →
    ∃ r, (agg k d).trigger ((agg k d).run h).1 = .val r ∧ cmp r (specFull k d M) = 0

/-- C14 restricted to histories whose inputs are admissible (finite floats for the float sums) -/
def StatementAdmissible (agg : Kind → Bool → Agg) : Prop :=
  ∀ (k : Kind) (d : Bool) (h : Hist), ValidHist h → (∀ e ∈ h, Admissible k e.2) → ∀ M, IsNet M h → M ≠ [] →
    ∃ r, (agg k d).trigger ((agg k d).run h).1 = .val r ∧ cmp r (specFull k d M) = 0

/-- **C14 for the code as it is**, in exact arithmetic, for histories with finite float inputs -/
theorem C14_partial : StatementAdmissible mkAgg :=
  fun k d h hv hP M hM hne => aggregate_correct k d h hv hP M hM hne

/-- for every aggregate other than the float sums/averages the statement holds without restriction -/
theorem C14_full_nonfloat (k : Kind) (hk1 : k ≠ .sumFloat) (hk2 : k ≠ .avgFloat) (d : Bool) (h : Hist)
    (hv : ValidHist h) (M : List Value) (hM : IsNet M h) (hne : M ≠ []) :
    ∃ r, (mkAgg k d).trigger ((mkAgg k d).run h).1 = .val r ∧ cmp r (specFull k d M) = 0 :=
  aggregate_correct k d h hv (fun e _ => admissible_of_nonfloat hk1 hk2 e.2) M hM hne

/-! ### the refutation: a float sum is poisoned by an infinity that was retracted again -/
def pInf : Value := .float 0x7FF0000000000000
def one : Value := .float 0x3FF0000000000000
/-- `+Inf` added, `+Inf` retracted, `1.0` added: the net multiset is `{1.0}` -/
def poisonHist : Hist := [(false, pInf), (true, pInf), (false, one)]

theorem poisonHist_valid : ValidHist poisonHist :=
  (oracle_accepts_iff_valid poisonHist).mp (by decide)

theorem poisonHist_net : IsNet [one] poisonHist := bagRun_isNet poisonHist_valid

/-- the model of `SumFloat` reports NaN on it … -/
theorem poison_reports_nan :
    (mkAgg .sumFloat false).trigger ((mkAgg .sumFloat false).run poisonHist).1 = .val (.float F64.outNaN) := by
  rfl

/-- … where the sum of the net multiset `{1.0}` is a finite float (no evaluation of the rounding needed) -/
theorem poison_spec_finite : ∃ k, specFull .sumFloat false [one] = .float (F64.ofScaled k) := by
  have hfin : ∀ x ∈ [one], FiniteF x := by
    intro x hx; simp only [List.mem_singleton] at hx; subst hx
    show F64.isFinite (floatField one) = true
    decide
  exact ⟨sumZ finScaled [one], by
    show Value.float (specFSum [one]).toBits = _
    rw [specFSum_finite hfin]; rfl⟩

theorem C14_refuted : ¬ Statement mkAgg := by
  intro H
  obtain ⟨r, hr, hc⟩ := H .sumFloat false poisonHist poisonHist_valid [one] poisonHist_net (by simp)
  rw [poison_reports_nan] at hr
  cases hr
  obtain ⟨k, hk⟩ := poison_spec_finite
  rw [hk] at hc
  -- a NaN is `≃` only to a NaN, and a finite exact sum is not reported as one
  rcases (cmpFloatFixed_eq_zero_iff _ _).mp (fields_congr hc).2.2 with ⟨_, h⟩ | ⟨h, _⟩
  · exact Bool.noConfusion ((ofScaled_not_nan k).symm.trans h)
  · exact absurd h (by decide)

/-! ### the flag before the repair (`return c.sum == 0`) -/
/-- `SumInt.Add(false, 0)` on a fresh aggregate claimed "empty" although the multiset is `{0}` -/
theorem raw_sum_flag_refuted :
    ∃ h M, ValidHist h ∧ IsNet M h ∧ (sumIntAggRaw.run h).2 ≠ M.isEmpty := by
  have ⟨hv, hn⟩ := valid_net_of_bagsOf (h := [(false, .int 0)]) (by decide)
  exact ⟨_, [.int 0], hv, hn, by decide⟩

def i1 : Value := .int 1
def i2 : Value := .int 2
def pz : Value := .float 0
def nz : Value := .float F64.negZero
/-- a history with retractions, one of them through an *equal but different* value (−0 retracts +0) -/
def sample : Hist := [(false, pz), (false, i2), (true, nz), (false, i1), (false, i2), (true, i1)]

example : ValidHist sample := (oracle_accepts_iff_valid sample).mp (by decide)
example : bagRun [] sample = [i2, i2] := by rfl
/-- the hypotheses of `aggregate_correct` are met by a non-trivial history, for every aggregate that
    takes these values -/
example : ValidHist sample ∧ IsNet [i2, i2] sample ∧ ([i2, i2] : List Value) ≠ [] ∧ ∀ e ∈ sample, Admissible .array e.2 :=
  have ⟨hv, hn⟩ := valid_net_of_bagsOf (h := sample) (by decide)
  ⟨hv, hn, by simp, fun _ _ => trivial⟩
example : (mkAgg .array false).trigger ((mkAgg .array false).run sample).1 = .val (.list [i2, i2]) := by rfl
example : (mkAgg .array true).trigger ((mkAgg .array true).run sample).1 = .val (.list [i2]) := by rfl
example : (mkAgg .count true).trigger ((mkAgg .count true).run sample).1 = .val (.int 1) := by rfl
example : (mkAgg .avgInt false).trigger ((mkAgg .avgInt false).run [(false, .int (-1)), (false, .int 0)]).1 = .val (.int 0) := by rfl
example : Admissible .sumFloat one ∧ ¬ Admissible .sumFloat pInf := by
  constructor <;> simp [Admissible, FiniteF, one, pInf, floatField, F64.isFinite, F64.mag, F64.signBit, F64.expMask]
/-- an `int64` sum wraps around -/
example : (mkAgg .sumInt false).trigger ((mkAgg .sumInt false).run [(false, .int 9223372036854775807), (false, .int 1)]).1
    = .val (.int (-9223372036854775808)) := by rfl
/-- the hypotheses of `trigger_panics_on_empty` are met: add then retract leaves the empty multiset -/
example : ValidHist [(false, i1), (true, i1)] ∧ IsNet [] [(false, i1), (true, i1)] :=
  valid_net_of_bagsOf (h := [(false, i1), (true, i1)]) (by decide)
example : ¬ ValidHist [(false, i1), (true, i2)] := by
  rw [← oracle_accepts_iff_valid]; decide

end Octo.C14
