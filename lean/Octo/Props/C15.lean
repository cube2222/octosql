import Octo.Lemmas.OpsLinear
import Octo.Lemmas.OpsSort
import Octo.Lemmas.OpsShape
import Octo.Lemmas.OpsBufferProps
import Octo.Lemmas.OpsCtgb
import Octo.Lemmas.OpsExamples
/-!
# C15 — Operators keep a valid changelog and compute incrementally what batch computes

For every valid input changelog (additions and retractions in any order, never retracting an absent
row) each operator's output never retracts a row that is not currently present (`…_valid_out`), and
its consolidated output equals the batch operator of `Octo.Model.OpSpec` applied to the consolidated
input (`…_net_commutes`).  All theorems quantify over message streams of **any** length, with
watermarks and event times; rows are identified by `Compare == 0` (`rowEq`).

The operator models (`Octo.Model.Ops`) are tied to `execution/nodes/*.go` by the exact-sequence
correspondence run of every check.
-/
namespace Octo.C15
open Octo Octo.Ops

/-- the records a node emits for a message stream (source ends normally) -/
abbrev outRecs (op : Op σ) (ms : List Msg) : List Rec := recs (op.run ms).1

/-- every valid changelog has a consolidation (so the hypotheses `Consolidates rows …` below are
    satisfiable exactly for the changelogs the property talks about) -/
theorem valid_has_consolidation (log : List Rec) (h : ValidLog log) : Consolidates (consolidate log) log :=
  consolidate_correct h

/-! ## Filter (the sub-multiset) -/
theorem filter_valid_out (p : Row → Value) (hp : PredCongr p) (ms : List Msg) (hv : ValidLog (recs ms)) :
    ValidLog (outRecs (filterOp fun x => .ok (p x)) ms) := by
  simp only [outRecs, filter_run, recs_emitOf]; exact linear_valid (rows_linear _ (filterRows_congr p hp)) hv

theorem filter_net_commutes (p : Row → Value) (hp : PredCongr p) (ms : List Msg) (rows : List Row)
    (hc : Consolidates rows (recs ms)) (y : Row) :
    net (outRecs (filterOp fun x => .ok (p x)) ms) y = cnt (filterB p rows) y := by
  simp only [outRecs, filter_run, recs_emitOf]
  rw [rows_net (filterRows_congr p hp) hc, filterB_eq]

/-! ## Map (the image multiset) -/
theorem map_valid_out (f : Row → Row) (hf : RowCongr f) (ms : List Msg) (hv : ValidLog (recs ms)) :
    ValidLog (outRecs (mapOp fun x => .ok (f x)) ms) := by
  simp only [outRecs, map_run, recs_emitOf]; exact linear_valid (rows_linear _ (mapRows_congr f hf)) hv

theorem map_net_commutes (f : Row → Row) (hf : RowCongr f) (ms : List Msg) (rows : List Row)
    (hc : Consolidates rows (recs ms)) (y : Row) :
    net (outRecs (mapOp fun x => .ok (f x)) ms) y = cnt (mapB f rows) y := by
  simp only [outRecs, map_run, recs_emitOf]
  rw [rows_net (mapRows_congr f hf) hc, mapB, List.map_eq_flatMap]

/-! ## Unnest (every row replaced by one row per element of its list) -/
theorem unnest_valid_out (idx : Nat) (ms : List Msg) (hi : ∀ r ∈ recs ms, idx < r.vals.length)
    (hv : ValidLog (recs ms)) : ValidLog (outRecs (unnestOp idx) ms) := by
  simp only [outRecs, unnest_run idx ms hi, recs_emitOf]; exact linear_valid (rows_linear _ (unnestRow_congr idx)) hv

theorem unnest_net_commutes (idx : Nat) (ms : List Msg) (hi : ∀ r ∈ recs ms, idx < r.vals.length)
    (rows : List Row) (hc : Consolidates rows (recs ms)) (y : Row) :
    net (outRecs (unnestOp idx) ms) y = cnt (unnestB idx rows) y := by
  simp only [outRecs, unnest_run idx ms hi, recs_emitOf]
  rw [rows_net (unnestRow_congr idx) hc, unnestB]

/-! ## Distinct (indicator of positive multiplicity) -/
theorem distinct_valid_out (ms : List Msg) (hv : ValidLog (recs ms)) : ValidLog (outRecs distinctOp ms) := by
  obtain ⟨_, _, hvalid⟩ := distinct_run ms hv
  exact hvalid

theorem distinct_net_commutes (ms : List Msg) (hv : ValidLog (recs ms)) (rows : List Row)
    (hc : Consolidates rows (recs ms)) (y : Row) :
    net (outRecs distinctOp ms) y = distinctSpec rows y := by
  obtain ⟨_, hnet, _⟩ := distinct_run ms hv
  rw [outRecs, hnet y, hc y]; rfl

/-! ## LookupJoin (every row joined with the changelog its joined side yields for it) -/
/-- net_commutes holds for any (error-free, row-congruent) joined side, also one that retracts -/
theorem lookup_net_commutes (J : Row → List Msg) (hJ : ∀ y, Congr (fun x => lookupK J x y)) (ms : List Msg)
    (rows : List Row) (hc : Consolidates rows (recs ms)) (y : Row) :
    net (outRecs (lookupOp fun x => (J x, none)) ms) y = lookupSpec (fun x => recs (J x)) rows y := by
  simp only [outRecs, lookup_recs]
  rw [linear_net (lookup_net_block J) hJ hc, sumBy_lookupK]

/-- valid_out needs the joined side to emit additions only (see `lookup_refuted`) -/
theorem lookup_valid_out (J : Row → List Msg) (hJ : ∀ y, Congr (fun x => lookupK J x y))
    (hadd : ∀ x, ∀ j ∈ recs (J x), j.retr = false) (ms : List Msg) (hv : ValidLog (recs ms)) :
    ValidLog (outRecs (lookupOp fun x => (J x, none)) ms) := by
  simp only [outRecs, lookup_recs]; exact linear_valid (lookup_linear J hJ hadd) hv

/-! ## SimpleGroupBy, with abstract aggregates satisfying the C14 contract `GAggOK` -/
theorem sgroup_net_commutes (agg : GAgg α) (spec : List Row → Row) (hagg : GAggOK agg spec) (kf inf : Row → Row)
    (hk : RowCongr kf) (hi : RowCongr inf) (ms : List Msg) (hv : ValidLog (recs ms)) (rows : List Row)
    (hc : Consolidates rows (recs ms)) (y : Row) :
    net (outRecs (simpleGroupOp agg (fun x => .ok (kf x)) (fun x => .ok (inf x))) ms) y
      = cnt (groupB spec kf inf rows) y := by
  obtain ⟨g, hg, hrun⟩ := sgroup_run agg spec hagg kf inf hk hi ms hv
  simp only [outRecs, hrun, recs_append, recs_wmMsgs, List.nil_append, recs_map_data, net_adds]
  exact (ginv_result hagg hk hi hg hc).2 y

/-- the output consists of additions only (and the node does not fail) -/
theorem sgroup_valid_out (agg : GAgg α) (spec : List Row → Row) (hagg : GAggOK agg spec) (kf inf : Row → Row)
    (hk : RowCongr kf) (hi : RowCongr inf) (ms : List Msg) (hv : ValidLog (recs ms)) :
    ValidLog (outRecs (simpleGroupOp agg (fun x => .ok (kf x)) (fun x => .ok (inf x))) ms) ∧
    ((simpleGroupOp agg (fun x => .ok (kf x)) (fun x => .ok (inf x))).run ms).2 = none := by
  obtain ⟨g, _, hrun⟩ := sgroup_run agg spec hagg kf inf hk hi ms hv
  simp only [outRecs, hrun, recs_append, recs_wmMsgs, List.nil_append, recs_map_data, and_true]
  exact validLog_of_adds _ (List.forall_mem_map.mpr fun _ _ => rfl)

/-! ## Limit: the output is a prefix of the input, hence valid -/
theorem limit_valid_out (n : Int) (ms : List Msg) (f : Bool) (hv : ValidLog (recs ms)) :
    ValidLog (recs (limitNode n ms f).1) := by
  obtain ⟨t, ht⟩ := limitNode_prefix n ms f
  rw [← ht, recs_append] at hv; exact validLog_prefix hv

/-! ## ORDER BY (OrderSensitiveTransform) and the batch printer: the sorted consolidated input -/
/-- the batch ORDER BY (`sortB`): the node ends with `limit`-many rows of a list that is sorted by the node's `Less`
    and has exactly the net multiplicities of the input (which determines it up to `Compare == 0`) -/
theorem order_spec (c : SortCfg) (limit : Option Int) (noRetr : Bool) (hlim : limit = none ∨ noRetr = false)
    (ms : List Msg) (hv : ValidLog (recs ms)) (hw : ∀ r ∈ recs ms, r.vals.length = c.w) :
    ∃ full : List Row,
      (orderOp c.dirs (fun x => .ok (c.kf x)) limit noRetr).run ms = ((takeOpt limit full).map addRec, none) ∧
      full.Pairwise (fun x y => lessRow c.dirs c.kf y x = false) ∧ ∀ y, cnt full y = net (recs ms) y := by
  obtain ⟨t, inv, hrun⟩ := order_run c limit noRetr hlim ms hv hw
  exact ⟨treeRows t, hrun, sinv_rows c t (recs ms) inv hw⟩

theorem order_net_commutes (c : SortCfg) (noRetr : Bool) (ms : List Msg) (hv : ValidLog (recs ms))
    (hw : ∀ r ∈ recs ms, r.vals.length = c.w) (rows : List Row) (hc : Consolidates rows (recs ms)) (y : Row) :
    net (outRecs (orderOp c.dirs (fun x => .ok (c.kf x)) none noRetr) ms) y = cnt rows y := by
  obtain ⟨full, hrun, _, hcnt⟩ := order_spec c none noRetr (Or.inl rfl) ms hv hw
  simp only [outRecs, hrun, takeOpt, recs_map_addRec, net_adds, hcnt, hc y]

/-- ORDER BY never emits a retraction -/
theorem order_valid_out (c : SortCfg) (limit : Option Int) (noRetr : Bool) (ms : List Msg) :
    ValidLog (outRecs (orderOp c.dirs (fun x => .ok (c.kf x)) limit noRetr) ms) := by
  obtain ⟨l, hl, h⟩ := order_shape c.dirs c.kf limit noRetr ms
  rw [outRecs, hl, recs_map_data]
  exact validLog_of_adds l fun r hr => (h r hr).2

/-- the batch printer's multiset bookkeeping: it panics ("received retraction before value")
    exactly on invalid changelogs, and otherwise prints the sorted consolidated input -/
theorem printer_panics_iff_invalid (c : SortCfg) (limit : Option Int) (noRetr : Bool)
    (hlim : limit = none ∨ noRetr = false) (ms : List Msg) (hw : ∀ r ∈ recs ms, r.vals.length = c.w) :
    ((printerOp c.dirs (fun x => .ok (c.kf x)) limit noRetr).run ms).2 = some .panic ↔ ¬ ValidLog (recs ms) := by
  obtain ⟨h1, h2⟩ := printer_runFrom c limit noRetr hlim ms [] [] (sinv_init c) validLog_nil hw
  refine ⟨fun hp hv => ?_, fun hv => congrArg Prod.snd (h2 hv)⟩
  obtain ⟨t, _, hrun⟩ := h1 hv
  exact nomatch (congrArg Prod.snd hrun).symm.trans hp

theorem printer_spec (c : SortCfg) (limit : Option Int) (noRetr : Bool) (hlim : limit = none ∨ noRetr = false)
    (ms : List Msg) (hv : ValidLog (recs ms)) (hw : ∀ r ∈ recs ms, r.vals.length = c.w) :
    ∃ full : List Row,
      (printerOp c.dirs (fun x => .ok (c.kf x)) limit noRetr).run ms = ((takeOpt limit full).map addRec, none) ∧
      full.Pairwise (fun x y => lessRow c.dirs c.kf y x = false) ∧ ∀ y, cnt full y = net (recs ms) y := by
  obtain ⟨t, inv, hrun⟩ := (printer_runFrom c limit noRetr hlim ms [] [] (sinv_init c) validLog_nil hw).1 hv
  exact ⟨treeRows t, hrun, sinv_rows c t (recs ms) inv hw⟩

/-! ## EventTimeBuffer: the content is unchanged -/
theorem etb_net_commutes (ms : List Msg) (hr : InRange ms) (rows : List Row) (hc : Consolidates rows (recs ms))
    (y : Row) : net (outRecs etbOp ms) y = cnt rows y := by
  rw [outRecs, etb_run, net_recs_bufSpec ms hr]; exact hc y

/-- the buffer keeps the changelog valid when the event time is a function of the row
    (see `etb_refuted` for what happens otherwise) -/
theorem etb_valid_out (ms : List Msg) (hr : InRange ms) (he : EtByRow (recs ms)) (hv : ValidLog (recs ms)) :
    ValidLog (outRecs etbOp ms) := by
  rw [outRecs, etb_run]
  exact validLog_bufSpec ms hr he hv

/-! ## CustomTriggerGroupBy with the end-of-stream trigger, behind its EventTimeBuffer -/
/-- `hEt`: the event-time column exists in every row the flush can emit (key of an input row, then aggregate columns);
    otherwise `ctgbEventTime` ends the node with `Err.panic` -/
theorem ctgb_spec (agg : GAgg α) (spec : List Row → Row) (hagg : GAggOK agg spec) (kf inf : Row → Row)
    (hk : RowCongr kf) (hi : RowCongr inf) (etIdx : Option Nat)
    (hEt : ∀ x out, ∃ et, ctgbEventTime etIdx (kf x ++ out) = .ok et)
    (ms : List Msg) (hr : InRange ms) (he : EtByRow (recs ms)) (hv : ValidLog (recs ms)) (rows : List Row)
    (hc : Consolidates rows (recs ms)) :
    let o := ctgbNode agg (fun x => .ok (kf x)) (fun x => .ok (inf x)) etIdx ms false
    o.2 = none ∧ (∀ q ∈ recs o.1, q.retr = false) ∧ ∀ y, net (recs o.1) y = cnt (groupB spec kf inf rows) y := by
  -- what the group-by core receives is again a valid changelog with the same content
  have hv' : ValidLog (recs (bufSpec [] ms)) := by
    have := etb_valid_out ms hr he hv
    rwa [outRecs, etb_run] at this
  have hc' : Consolidates rows (recs (bufSpec [] ms)) := fun y => (net_recs_bufSpec ms hr y).trans (hc y)
  obtain ⟨s', inv, hcore⟩ := ctgb_run agg kf inf hk hi etIdx (bufSpec [] ms) hv'
  obtain ⟨htrig, hcnt⟩ := cinv_result agg spec hagg kf inf hk hi _ s' inv rows hc'
  obtain ⟨l, hfl, hvals, hadd⟩ := ctgbFlush_ok agg etIdx s'.groups s'.keys htrig
    (by intro k hkm out; obtain ⟨x, rfl⟩ := inv.isKey k hkm; exact hEt x out)
  have hend : (ctgbOp agg (fun x => .ok (kf x)) (fun x => .ok (inf x)) etIdx).onEnd s' = (l.map .data, none) := by
    simp only [ctgbOp, hfl]
  simp only [ctgbNode_run]
  rw [hcore, hend, recs_append, recs_wmMsgs, List.nil_append, recs_map_data]
  exact ⟨rfl, hadd, fun y => by rw [net_of_adds l hadd, hvals, hcnt y]⟩

/-- what C15 demands of one operator: on every valid changelog (satisfying the operator's structural
    side conditions `Side`) the output is a valid changelog and its consolidation is `spec` of the
    consolidated input -/
def Holds (run : List Msg → Out) (spec : List Row → Row → Int) (Side : List Msg → Prop) : Prop :=
  ∀ ms, Side ms → ValidLog (recs ms) →
    ValidLog (recs (run ms).1) ∧ ∀ rows, Consolidates rows (recs ms) → ∀ y, net (recs (run ms).1) y = spec rows y

/-- **C15 at full strength**: every valid changelog, for each operator listed (Limit, the batch printer and ORDER BY
    with a limit have theorems of their own above).  `extraLookup` / `extraTime` are the hypotheses that the current
    tree needs in addition (`fun _ => True` = none). -/
structure StatementWith (extraLookup : (Row → List Msg) → Prop) (extraTime : List Msg → Prop) : Prop where
  filter : ∀ p, PredCongr p → Holds (filterOp fun x => .ok (p x)).run (fun rows => cnt (filterB p rows)) (fun _ => True)
  map : ∀ f, RowCongr f → Holds (mapOp fun x => .ok (f x)).run (fun rows => cnt (mapB f rows)) (fun _ => True)
  distinct : Holds distinctOp.run distinctSpec (fun _ => True)
  unnest : ∀ idx, Holds (unnestOp idx).run (fun rows => cnt (unnestB idx rows)) (fun ms => ∀ r ∈ recs ms, idx < r.vals.length)
  groupBy : ∀ (α : Type) (agg : GAgg α) (spec : List Row → Row) (kf inf : Row → Row), GAggOK agg spec → RowCongr kf →
    RowCongr inf →
    Holds (simpleGroupOp agg (fun x => .ok (kf x)) (fun x => .ok (inf x))).run (fun rows => cnt (groupB spec kf inf rows)) (fun _ => True)
  groupByCustom : ∀ (α : Type) (agg : GAgg α) (spec : List Row → Row) (kf inf : Row → Row) (etIdx : Option Nat),
    GAggOK agg spec → RowCongr kf → RowCongr inf → (∀ x out, ∃ et, ctgbEventTime etIdx (kf x ++ out) = .ok et) →
    Holds (fun ms => ctgbNode agg (fun x => .ok (kf x)) (fun x => .ok (inf x)) etIdx ms false)
      (fun rows => cnt (groupB spec kf inf rows)) (fun ms => InRange ms ∧ extraTime ms)
  lookupJoin : ∀ J : Row → List Msg, (∀ y, Congr (fun x => lookupK J x y)) → extraLookup J →
    Holds (lookupOp fun x => (J x, none)).run (lookupSpec fun x => recs (J x)) (fun _ => True)
  orderBy : ∀ (c : SortCfg) (noRetr : Bool),
    Holds (orderOp c.dirs (fun x => .ok (c.kf x)) none noRetr).run (fun rows => cnt rows) (fun ms => ∀ r ∈ recs ms, r.vals.length = c.w)
  eventTimeBuffer : Holds etbOp.run (fun rows => cnt rows) (fun ms => InRange ms ∧ extraTime ms)

/-- the property as stated: no extra hypotheses -/
def Statement : Prop := StatementWith (fun _ => True) (fun _ => True)

def r1 : Row := [.int 1]
/-- joined side that adds a row and takes it back -/
def Jflip : Row → List Msg := fun _ =>
  [.data { vals := r1, retr := false, et := none }, .data { vals := r1, retr := true, et := none }]
def srcFlip : List Msg := Jflip []

/-- a retraction (zero event time) whose addition carries event time 11 -/
def srcOvertake : List Msg :=
  [.data { vals := r1, retr := false, et := some 11 }, .wm 9, .data { vals := r1, retr := true, et := none }]

example : ValidLog (recs srcFlip) := validLog_of_validLogB _ (by decide)
example : ValidLog (recs srcOvertake) := validLog_of_validLogB _ (by decide)

/-- LookupJoin re-emits the joined changelog with flipped signs in the same order: the third
    message retracts an absent row -/
theorem lookup_refuted : ¬ (∀ J : Row → List Msg, (∀ y, Congr (fun x => lookupK J x y)) →
    Holds (lookupOp fun x => (J x, none)).run (lookupSpec fun x => recs (J x)) (fun _ => True)) := by
  intro h
  have hv : ValidLog (recs srcFlip) := validLog_of_validLogB _ (by decide)
  have hJ : ∀ y, Congr (fun x => lookupK Jflip x y) := by
    intro y x x' hx
    simp only [lookupK, lookupRecs, Jflip, recs, List.map, net, weight_eq,
      rowEq_congr_left (rowEq_append hx (rowEq_refl r1)) y, sgn]
  have := (h Jflip hJ srcFlip trivial hv).1 3 (r1 ++ r1)
  revert this; decide

/-- the EventTimeBuffer releases the zero-time retraction before its buffered addition -/
theorem etb_refuted : ¬ Holds etbOp.run (fun rows => cnt rows) (fun ms => InRange ms ∧ True) := by
  intro h
  have hv : ValidLog (recs srcOvertake) := validLog_of_validLogB _ (by decide)
  have hr : InRange srcOvertake := by
    intro r hr t ht
    simp only [srcOvertake, recs, List.mem_cons, List.not_mem_nil, or_false] at hr
    rcases hr with rfl | rfl <;> simp at ht
    subst ht; decide
  have := (h srcOvertake ⟨hr, trivial⟩ hv).1 1 r1
  revert this; decide

/-- **C15 is refuted on the current tree** (two independent witnesses; both reproduced on the real
    nodes: known findings `lookup-join-retracting-joined-side`, `event-time-buffer-reorders-retraction`) -/
theorem C15_refuted : ¬ Statement := by
  intro h
  exact lookup_refuted (fun J hJ => h.lookupJoin J hJ trivial)

/-- **What holds**: the full statement for every operator, with exactly two extra hypotheses —
    the joined side of a lookup join emits additions only; for the event-time buffer (alone and in
    front of CustomTriggerGroupBy) the event time is a function of the row. -/
theorem C15_partial :
    StatementWith (fun J => ∀ x, ∀ j ∈ recs (J x), j.retr = false) (fun ms => EtByRow (recs ms)) where
  filter p hp ms _ hv := ⟨filter_valid_out p hp ms hv, fun rows hc y => filter_net_commutes p hp ms rows hc y⟩
  map f hf ms _ hv := ⟨map_valid_out f hf ms hv, fun rows hc y => map_net_commutes f hf ms rows hc y⟩
  distinct ms _ hv := ⟨distinct_valid_out ms hv, fun rows hc y => distinct_net_commutes ms hv rows hc y⟩
  unnest idx ms hi hv := ⟨unnest_valid_out idx ms hi hv, fun rows hc y => unnest_net_commutes idx ms hi rows hc y⟩
  groupBy _ agg spec kf inf hagg hk hi ms _ hv :=
    ⟨(sgroup_valid_out agg spec hagg kf inf hk hi ms hv).1, fun rows hc y => sgroup_net_commutes agg spec hagg kf inf hk hi ms hv rows hc y⟩
  groupByCustom _ agg spec kf inf etIdx hagg hk hi hEt ms hside hv := by
    have hcons := consolidate_correct hv
    have h := ctgb_spec agg spec hagg kf inf hk hi etIdx hEt ms hside.1 hside.2 hv
    constructor
    · exact validLog_of_adds _ (h _ hcons).2.1
    · intro rows hc y; exact (h rows hc).2.2 y
  lookupJoin J hJ hadd ms _ hv := ⟨lookup_valid_out J hJ hadd ms hv, fun rows hc y => lookup_net_commutes J hJ ms rows hc y⟩
  orderBy c noRetr ms hw hv := ⟨order_valid_out c none noRetr ms, fun rows hc y => order_net_commutes c noRetr ms hv hw rows hc y⟩
  eventTimeBuffer ms hside hv := ⟨etb_valid_out ms hside.1 hside.2 hv, fun rows hc y => etb_net_commutes ms hside.1 rows hc y⟩

/-! ### the hypotheses are satisfiable by non-trivial instances -/
example : PredCongr (fun x => Value.bool (rowEq x [Value.int 1])) := by
  intro x x' h; simp only [rowEq_congr_left h]
example : RowCongr (fun x => x ++ [.int 5]) := fun _ _ h => rowEq_append h (rowEq_refl _)
example : GAggOK countAgg countSpec := countAgg_ok
/-- ORDER BY a constant key, descending: rows are ordered by their values -/
def exampleCfg : SortCfg :=
  { dirs := [-1], w := 2, kf := fun _ => [.int 0], hd := by intro d hd; simp at hd; simp [hd], hkl := fun _ => rfl,
    hk := fun _ _ _ => rowEq_refl _ }
example : EtByRow (recs [.data { vals := r1, retr := false, et := some 3 }, .wm 5, .data { vals := r1, retr := true, et := some 3 }]) := by
  intro a ha b hb _
  simp only [recs, List.mem_cons, List.not_mem_nil, or_false] at ha hb
  rcases ha with rfl | rfl <;> rcases hb with rfl | rfl <;> rfl
/-- the theorems are about runs that really emit retractions: Distinct on `+a +a -a -a` -/
example : (outRecs distinctOp [.data ⟨r1, false, none⟩, .data ⟨r1, false, none⟩, .data ⟨r1, true, none⟩,
    .data ⟨r1, true, none⟩]).map (·.retr) = [false, true] := by decide

end Octo.C15
