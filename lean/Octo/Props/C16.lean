import Octo.Lemmas.TrigSimple
import Octo.Lemmas.TrigBuffer
/-!
# C16 — Triggers change when results appear, never what the final result is

Property: for every GROUP BY, every input stream and every TRIGGER combination (COUNTING n, ON WATERMARK,
ON END OF STREAM, in any combination) the consolidated output at end of stream equals the plain batch
grouping of the input.

Model: `Octo.Model.Triggers` (`execution/triggers.go`, `physical/triggers.go`) and
`Octo.Model.TriggerGroupBy` (`execution/nodes/custom_trigger_group_by.go` behind the `EventTimeBuffer`),
tied to the code by the exact-output correspondence run of every check.  `wl` is
`watermarkTriggerKey.Less`: `wlessFixed` is the code as it stands (after the `fix:` commit), `wlessRaw`
the code as it was shipped.  `groupSpec` is the reference semantics: the row of a group is its key followed by
the aggregates of its non-NULL inputs, present iff the group's net record count is not zero.
-/
namespace Octo.C16
open Octo Octo.Trig Octo.TMap

/-- **Triggers are transparent.**  For every trigger configuration containing at least one primitive trigger
    (any nesting of `MultiTrigger`, any `n`), every aggregate list, every key/argument expressions with keys
    of a fixed length and *every* message list `B` handed to the node (valid or not): the consolidated
    output at end of stream is the table the node holds — one row per key present in the `aggregates` tree —
    which does not depend on the trigger. -/
theorem trigger_transparent (C : GBConf) (nk : Nat) (hK : KeyLen C nk) (hlive : C.cfg.live = true)
    (B : List Msg) (row : Row) :
    net (recs (gbRun wlessFixed C B)) row = tableOf C nk (aggsAfter C (recs B)) row :=
  out_eq_table wlessFixed_laws hK hlive B row

/-- **Two trigger clauses, one result.**  Replacing the trigger configuration by any other one changes
    nothing in the consolidated output — in particular every TRIGGER clause gives what the default
    (ON END OF STREAM) gives. -/
theorem trigger_independent (C : GBConf) (nk : Nat) (hK : KeyLen C nk) (cfg₁ cfg₂ : TCfg)
    (h₁ : cfg₁.live = true) (h₂ : cfg₂.live = true) (B : List Msg) (row : Row) :
    net (recs (gbRun wlessFixed { C with cfg := cfg₁ } B)) row =
      net (recs (gbRun wlessFixed { C with cfg := cfg₂ } B)) row := by
  rw [trigger_transparent { C with cfg := cfg₁ } nk hK h₁, trigger_transparent { C with cfg := cfg₂ } nk hK h₂]
  rfl

/-- **The table is the batch grouping.**  For valid changelogs and aggregates that satisfy the C14
    contract, what the node holds after the records `rs` is the reference GROUP BY of `rs`. -/
theorem table_is_groupSpec (C : GBConf) (nk : Nat) (hC : ConfGood C nk) (rs : List Rec) (hv : ValidLog rs)
    (row : Row) : tableOf C nk (aggsAfter C rs) row = groupSpec C nk rs row :=
  table_eq_spec C nk hC rs hv row

/-- **The event-time buffer only reorders.** -/
theorem buffer_preserves_net (s : List Msg) (hs : EtInRange s) (row : Row) :
    net (recs (buffer s)) row = net (recs s) row := net_buffer s hs row

/-- the inputs the property speaks about: a valid watermarked changelog -/
structure ValidInput (C : GBConf) (s : List Msg) : Prop where
  /-- no prefix retracts a row that is not present … -/
  valid : ValidLog (recs s)
  /-- … also in the order in which the event-time buffer releases the records (automatic when a
      retraction carries the event time of the row it retracts, e.g. when event time is a column) -/
  validBuffered : ValidLog (recs (buffer s))
  /-- event times are `time.Time`s of int64 nanoseconds -/
  etRange : EtInRange s
  /-- the expressions can be evaluated on every record and the time indices are within the key -/
  noPanic : ∀ r ∈ recs s, stepOk C r.vals = true

/-- the full-strength statement of the property, for a given `watermarkTriggerKey.Less` -/
def Statement (wl : WKey → WKey → Bool) : Prop :=
  ∀ (C : GBConf) (nk : Nat), ConfGood C nk → C.cfg.live = true → ∀ s : List Msg, ValidInput C s →
    ∃ out, run wl C s = some out ∧ ∀ row, net (recs out) row = groupSpec C nk (recs s) row

/-- the statement holds for every `watermarkTriggerKey.Less` that identifies exactly the entries of one instant and
    one group and orders by instant first -/
theorem statement_of_laws {wl : WKey → WKey → Bool} (W : WLaws wl) : Statement wl := by
  intro C nk hC hlive s hs
  refine ⟨gbRun wl C (buffer s), if_pos (List.all_eq_true.mpr hs.noPanic), fun row => ?_⟩
  rw [out_eq_table W hC.keyLen hlive, table_eq_spec C nk hC _ hs.validBuffered]
  exact groupSpec_congr C nk hC _ _ (net_buffer s hs.etRange) hs.validBuffered hs.valid row

/-- **C16, full strength, on the current tree**: every trigger configuration (any nesting, any `n`), every
    aggregate list satisfying the C14 contract, every valid watermarked input of any length: the node does
    not panic and its consolidated output at end of stream is the batch grouping of the input. -/
theorem C16_full : Statement wlessFixed := statement_of_laws wlessFixed_laws

/-- **The second validity hypothesis is automatic when the event time is a function of the row** (a record's
    event time is one of its columns, as it is whenever the stream is grouped by its time field; or no record
    has an event time): the event-time buffer keeps the order of the records of one event time, so a valid
    changelog is still valid in the order in which it is released. -/
theorem validBuffered_of_etByRow (s : List Msg) (hs : EtInRange s) (hE : EtByRow (recs s))
    (hv : ValidLog (recs s)) : ValidLog (recs (buffer s)) :=
  validLog_buffer s hs hE hv

/-- C16 for streams whose event time is determined by the row: one validity hypothesis, on the input as given. -/
theorem C16_event_time_column (C : GBConf) (nk : Nat) (hC : ConfGood C nk) (hlive : C.cfg.live = true)
    (s : List Msg) (hv : ValidLog (recs s)) (hE : EtByRow (recs s)) (hr : EtInRange s)
    (hp : ∀ r ∈ recs s, stepOk C r.vals = true) :
    ∃ out, run wlessFixed C s = some out ∧ ∀ row, net (recs out) row = groupSpec C nk (recs s) row :=
  C16_full C nk hC hlive s ⟨hv, validLog_buffer s hr hE hv, hr, hp⟩

/-- **`SimpleGroupBy` — the node the planner picks for the default trigger — computes the batch grouping.** -/
theorem simple_is_groupSpec (C : GBConf) (nk : Nat) (hC : ConfGood C nk) (s : List Msg) (hv : ValidLog (recs s))
    (row : Row) : net (recs (simpleRun C s)) row = groupSpec C nk (recs s) row := by
  rw [simple_eq_table C nk hC.keyLen, table_eq_spec C nk hC _ hv]

/-- **Any TRIGGER clause gives what no TRIGGER clause gives**: the custom-trigger node (any configuration,
    behind its event-time buffer) and `SimpleGroupBy` agree on the consolidated result of every valid input. -/
theorem custom_eq_simple (C : GBConf) (nk : Nat) (hC : ConfGood C nk) (hlive : C.cfg.live = true) (s : List Msg)
    (hs : ValidInput C s) (row : Row) :
    net (recs (gbRun wlessFixed C (buffer s))) row = net (recs (simpleRun C s)) row := by
  obtain ⟨out, hrun, hnet⟩ := C16_full C nk hC hlive s hs
  have hall : (recs s).all (fun r => stepOk C r.vals) = true := by
    rw [List.all_eq_true]; exact hs.noPanic
  simp only [run, hall, if_true, Option.some.injEq] at hrun
  rw [hrun, hnet row, simple_is_groupSpec C nk hC s hs.valid]

/-! ## Non-vacuity, and the refutation of the code as shipped -/

/-- GROUP BY (column 0, column 1), count(column 2), event time = key column 0 -/
def exConf (cfg : TCfg) : GBConf where
  keyOf := fun v => [v.getD 0 .null, v.getD 1 .null]
  aggs := [⟨aggCount, fun v => v.getD 2 .null⟩]
  ket := some 0
  cfg := cfg
  recOk := fun v => decide (3 ≤ v.length)

/-- `count` satisfies the C14 contract: it is the signed size of the history, a function of the net multiset -/
theorem aggCount_ok : AggOK aggCount := by
  intro h₁ h₂ _ _ hnet
  rw [aggCount_eq, aggCount_eq, histSize_congr h₁ h₂ hnet]
  exact cmp_refl _

/-- the hypotheses of `C16_full` on the configuration are satisfiable -/
theorem exConf_good (cfg : TCfg) : ConfGood (exConf cfg) 2 where
  keyLen := fun _ => rfl
  keyCongr := by
    intro a b h
    have h0 := cmpList_getD (rowEq_iff.mp h) 0
    have h1 := cmpList_getD (rowEq_iff.mp h) 1
    simp only [exConf, keq, cmpListWith, h0, h1]
    simp
  aggs := by
    intro x hx
    simp only [exConf, List.mem_singleton] at hx
    subst hx
    exact ⟨aggCount_ok, fun a b h => cmpList_getD (rowEq_iff.mp h) 2⟩

/-- two groups with the same instant in two locations (`GROUP BY time, id` on timestamps with a +00:30 offset) -/
def wS : List Msg :=
  [.data ⟨[.time 1000 0, .int 0, .int 1], false, some 1000⟩,
   .data ⟨[.time 1000 101, .int 1, .int 1], false, some 1000⟩]
def wRow : Row := [.time 1000 0, .int 0, .int 1]

theorem wS_valid (cfg : TCfg) (hcfg : cfg.init.idxOk 2 = true) : ValidInput (exConf cfg) wS where
  valid := Ops.validLog_of_adds _ (by decide)
  validBuffered := Ops.validLog_of_adds _ (by decide)
  etRange := by
    have : ∀ r ∈ recs wS, r.et = some 1000 := by decide
    intro r hr t ht
    rw [this r hr] at ht
    cases ht
    decide
  noPanic := by
    have : ∀ r ∈ recs wS, r.vals.length = 3 := by decide
    intro r hr
    simp only [stepOk, exConf, this r hr, List.length_cons, List.length_nil, hcfg]
    rfl

/-- on this input the batch grouping has the row of group `(1000, 0)` … -/
example : groupSpec (exConf (.watermark 0)) 2 (recs wS) wRow = 1 := by decide
/-- … the current code emits it (for every configuration, by `C16_full`; here three of them, evaluated) … -/
example : (run wlessFixed (exConf (.watermark 0)) wS).map (fun o => net (recs o) wRow) = some 1 := by decide
example : (run wlessFixed (exConf (.multi [.counting 2, .watermark 0])) wS).map (fun o => net (recs o) wRow) = some 1 := by
  decide
example : (run wlessFixed (exConf (.counting 3)) wS).map (fun o => net (recs o) wRow) = some 1 := by decide
/-- … and the code as shipped loses it: the second key replaces the first in the trigger's tree. -/
theorem raw_loses_key : (run wlessRaw (exConf (.watermark 0)) wS).map (fun o => net (recs o) wRow) = some 0 := by
  decide

/-- **the code before the repair violates C16** (`TRIGGER ON WATERMARK`, two keys with one instant in two locations) -/
theorem C16_refuted_raw : ¬ Statement wlessRaw := by
  intro h
  obtain ⟨out, hrun, hnet⟩ := h (exConf (.watermark 0)) 2 (exConf_good _) rfl wS (wS_valid _ (by decide))
  have h1 := raw_loses_key
  rw [hrun] at h1
  simp only [Option.map_some, Option.some.injEq] at h1
  have h2 : groupSpec (exConf (.watermark 0)) 2 (recs wS) wRow = 1 := by decide
  rw [hnet wRow, h2] at h1
  exact absurd h1 (by decide)

end Octo.C16
