import Octo.Lemmas.TrigWatermark
/-!
# C17 — Triggers fire exactly when specified

Property: COUNTING n emits a key's current result after every n-th record for that key and ON END OF STREAM
emits every remaining key once at the end.  With ON WATERMARK, once a watermark W has been forwarded the
output already holds the current result of every key whose event time is at or below W.  No key beyond W
has been emitted unless another trigger fired it.

The trigger machines (`Octo.Model.Triggers`) are driven the way the group-by node drives them: `Poll`
right after every `KeyReceived` / `WatermarkReceived` (`Leaf.stepEv`, `Leaf.drive`); the node-level theorems
are about `Octo.Model.TriggerGroupBy` (`gbFold` = the node while its source runs, `gbRun` = the whole run).
All theorems are for the code as it stands (`wlessFixed`); event lists, message lists, keys, `n` are arbitrary.
-/
namespace Octo.C17
open Octo Octo.Trig Octo.TMap

abbrev wl := wlessFixed

/-- **COUNTING n fires after every n-th record of a key, and only then.**  After any events `es` (records of
    any keys — additions and retractions alike — and watermarks), a further record of group `k'` makes the
    trigger fire iff it is the group's `n`-th, `2n`-th, … record; what fires is that group, once. -/
theorem counting_fires (n : Nat) (hn : 0 < n) (es : List TEv) (k' : Key) :
    let fired := (((Leaf.counting n [] false []).drive wl es).stepEv wl (.key k')).1
    (∀ k ∈ fired, keq k k' = true) ∧ fired.length = if (occ k' es + 1) % n = 0 then 1 else 0 := by
  have := counting_step (wl := wl) n hn ([] ++ es) _ (counting_drive (wl := wl) n hn [] _ (countInv_init n) es) k'
  rw [List.nil_append] at this
  exact this.2

/-- a watermark never makes COUNTING n fire -/
theorem counting_ignores_watermarks (n : Nat) (hn : 0 < n) (es : List TEv) (w : Int) :
    (((Leaf.counting n [] false []).drive wl es).stepEv wl (.wm w)).1 = [] :=
  (counting_step_wm (wl := wl) n ([] ++ es) _ (counting_drive (wl := wl) n hn [] _ (countInv_init n) es) w).2

/-- **At end of stream every trigger returns every pending key exactly once.**  For a primitive trigger in
    any state the node can bring it to, the `Poll` after `EndOfStreamReached` is duplicate-free (no two keys
    of the same group) and lists exactly the keys that were received and not yet fired. -/
theorem eos_once (l₀ : Leaf) (h₀ : l₀.isInit) (es : List TEv) :
    let l := l₀.drive wl es
    ((l.endOfStream.poll wl).1.Pairwise fun a b => keq a b = false) ∧
    ∀ k, (l.endOfStream.poll wl).1.any (keq k) = l.pend wl k := by
  have := Leaf.Idle.drive_init wlessFixed_laws l₀ h₀ es
  exact Leaf.eos_once wlessFixed_laws _ this.nodup this.wf

/-- ON END OF STREAM fires nothing while the source runs … -/
theorem eos_trigger_silent (es : List TEv) (e : TEv) :
    (((Leaf.eos [] false).drive wl es).stepEv wl e).1 = [] := by
  obtain ⟨ks', h⟩ := Leaf.drive_eos (wl := wl) [] es
  rw [h]
  exact Leaf.eos_silent ks' e

def received (k : Key) (es : List TEv) : Bool :=
  es.any fun e => match e with
    | .key k' => keq k' k
    | .wm _ => false

theorem eos_trigger_pending (ks : List (Key × Unit)) (es : List TEv) (k : Key) :
    ((Leaf.eos ks false).drive wl es).pend wl k = (has keyLess k ks || received k es) := by
  induction es generalizing ks with
  | nil => exact (Bool.or_false _).symm
  | cons e es ih =>
    cases e with
    | key x =>
      simp only [Leaf.drive, Leaf.stepEv, Leaf.keyReceived, Leaf.poll, ih, has_insert keyLaws, eqv_keyLess,
        received, List.any_cons]
      rw [Bool.or_left_comm, Bool.or_assoc]
    | wm w => exact ih ks

/-- **ON END OF STREAM emits every key once at the end**: the `Poll` after `EndOfStreamReached` lists
    exactly the groups of which a record was received, each once. -/
theorem eos_trigger_spec (es : List TEv) :
    let p := (((Leaf.eos [] false).drive wl es).endOfStream.poll wl).1
    (p.Pairwise fun a b => keq a b = false) ∧ ∀ k, p.any (keq k) = received k es := by
  have h := eos_once (.eos [] false) (by simp [Leaf.isInit]) es
  refine ⟨h.1, fun k => ?_⟩
  rw [h.2 k, eos_trigger_pending]
  rfl

/-- before the end of the stream ON WATERMARK returns only keys whose instant is at or below the watermark … -/
theorem watermark_upto (idx : Nat) (es : List TEv) (w : Int) :
    ∀ k ∈ (((Leaf.watermark idx [] false zeroNs).drive wl es).stepEv wl (.wm w)).1, (timeAt idx k).ns ≤ w := by
  have hinv := Leaf.Idle.drive_init wlessFixed_laws (.watermark idx [] false zeroNs) ⟨rfl, rfl⟩ es
  obtain ⟨tks', w', h⟩ := Leaf.drive_watermark (wl := wl) idx [] zeroNs es
  rw [h] at hinv ⊢
  exact Leaf.watermark_upto idx tks' w hinv.wf

/-- … and returns every pending key whose instant is at or below the watermark -/
theorem watermark_all (idx : Nat) (es : List TEv) (w : Int) (k : Key)
    (hp : ((Leaf.watermark idx [] false zeroNs).drive wl es).pend wl k = true) (ht : (timeAt idx k).ns ≤ w) :
    (((Leaf.watermark idx [] false zeroNs).drive wl es).stepEv wl (.wm w)).1.any (keq k) = true := by
  have hinv := Leaf.Idle.drive_init wlessFixed_laws (.watermark idx [] false zeroNs) ⟨rfl, rfl⟩ es
  obtain ⟨tks', w', h⟩ := Leaf.drive_watermark (wl := wl) idx [] zeroNs es
  rw [h] at hinv hp ⊢
  exact Leaf.watermark_all wlessFixed_laws idx tks' w hinv.sorted k hp ht

/-- **Once a watermark has been forwarded the output holds the current result of every key at or below it.**
    For every configuration containing ON WATERMARK (on key column `idx`; alone or in any combination and
    nesting), any messages `B₁` followed by a watermark `w`: what the node has emitted when it forwards
    `wm w` (the emitted list ends with it — the node triggers *before* forwarding) consolidates, on every row
    whose key instant is at or below `w`, to the table of the records received so far. -/
theorem watermark_complete (C : GBConf) (nk : Nat) (hK : KeyLen C nk) (idx : Nat) (hwm : C.cfg.hasWm idx = true)
    (B₁ : List Msg) (w : Int) :
    (∃ o, (gbFold wl C (gbInit C) (B₁ ++ [.wm w])).2 = o ++ [.wm w]) ∧
    ∀ row, (timeAt idx (row.take nk)).ns ≤ w →
      net (recs (gbFold wl C (gbInit C) (B₁ ++ [.wm w])).2) row = tableOf C nk (aggsAfter C (recs B₁)) row := by
  have hinv := run_inv wlessFixed_laws hK B₁
  have hex := fold_hasWm (wl := wl) (C := C) idx (gbInit C) B₁ (hasWm_leaves idx C.cfg hwm)
  -- the state after the watermark is the state after `B₁` stepped once
  have hst : (gbFold wl C (gbInit C) (B₁ ++ [.wm w])).1 = (gbStep wl C (gbFold wl C (gbInit C) B₁).1 (.wm w)).1 := by
    rw [gbFold_append]; rfl
  constructor
  · rw [gbFold_append]
    simp only [gbFold, gbStep, List.append_nil]
    exact ⟨_, (List.append_assoc _ _ _).symm⟩
  · intro row ht
    have hclean := wm_step_clean wlessFixed_laws idx _ w hinv hex (row.take nk) ht
    rw [run_net wlessFixed_laws hK (B₁ ++ [Msg.wm w]) row, hst, sentOf_eq_tableOf C nk row hclean]
    -- a watermark step leaves the `aggregates` tree alone
    exact congrArg (tableOf C nk · row) (run_aggs B₁)

/-- **No key beyond the watermark is emitted early.**  With ON WATERMARK alone (on key column `idx`), while
    the source runs, every record the node emits (new rows and retractions alike) belongs to a key whose
    instant is at or below the highest watermark received so far (`zeroNs`, the zero time, before the first
    one).  Applied to a prefix of the input that ends with `wm W`: when `W` is forwarded nothing beyond `W`
    has been emitted.  (With other triggers in the combination, whatever else is emitted was returned by
    their `Poll`: see `watermark_upto` for what the ON WATERMARK member itself returns.) -/
theorem no_early (C : GBConf) (nk : Nat) (hK : KeyLen C nk) (idx : Nat) (honly : C.cfg.onlyWm idx = true)
    (B : List Msg) :
    ∀ r ∈ recs (gbFold wl C (gbInit C) B).2, (timeAt idx (r.vals.take nk)).ns ≤ (wms B).foldl max zeroNs :=
  fold_no_early wlessFixed_laws hK idx zeroNs (gbInit C) B (init_inv (C := C) (nk := nk) (wl := wl))
    (onlyWm_leaves idx C.cfg honly)

/-- the trigger object right before the node polls it for message `m` -/
def polledTrigger (C : GBConf) (st : NState) : Msg → TState
  | .data r => st.trig.keyReceived wl (C.keyOf r.vals)
  | .wm w => st.trig.watermarkReceived w

/-- **Nothing is emitted unless a trigger fired it.**  For every configuration, at every point of the run:
    each record the node emits for a message (a new row or a retraction) belongs to a key that one of the
    primitive triggers returned from the `Poll` made for that message.  What each kind of primitive trigger
    returns is determined by `counting_fires`, `watermark_upto` and `eos_trigger_silent`; in particular a key
    beyond the watermark can only have been emitted because a COUNTING member fired it. -/
theorem emitted_was_polled (C : GBConf) (nk : Nat) (hK : KeyLen C nk) (B : List Msg) (m : Msg) :
    let st := (gbFold wl C (gbInit C) B).1
    ∀ r ∈ recs (gbStep wl C st m).2,
      ∃ l ∈ (polledTrigger C st m).leaves, ∃ k ∈ (l.poll wl).1, keq k (r.vals.take nk) = true := by
  intro st r hr
  have hinv := run_inv wlessFixed_laws hK B
  cases m with
  | data rec =>
    exact fire_emitted_polled (wl := wl) _ (etNs rec.et) (pre_inv_data wlessFixed_laws hK st rec hinv) r hr
  | wm w =>
    simp only [gbStep, recs_append, List.mem_append, recs, List.not_mem_nil, or_false] at hr
    exact fire_emitted_polled (wl := wl) _ w (pre_inv_wm st w hinv) r hr

/-- the output of the whole run starts with what was emitted while the source ran -/
theorem run_prefix (C : GBConf) (B₁ B₂ : List Msg) :
    ∃ rest, gbRun wl C (B₁ ++ B₂) = (gbFold wl C (gbInit C) B₁).2 ++ rest := by
  rw [gbRun, gbFold_append, List.append_assoc]
  exact ⟨_, rfl⟩

/-- the full-strength statement of the property, for a given `watermarkTriggerKey.Less` -/
def Statement (wl : WKey → WKey → Bool) : Prop :=
  -- COUNTING n: after every n-th record for the key, and only then
  (∀ (n : Nat), 0 < n → ∀ (es : List TEv) (k' : Key),
    let fired := (((Leaf.counting n [] false []).drive wl es).stepEv wl (.key k')).1
    (∀ k ∈ fired, keq k k' = true) ∧ fired.length = if (occ k' es + 1) % n = 0 then 1 else 0) ∧
  -- end of stream: every remaining key once (every primitive trigger; ON END OF STREAM: nothing before)
  (∀ (l₀ : Leaf), l₀.isInit → ∀ es : List TEv,
    let l := l₀.drive wl es
    ((l.endOfStream.poll wl).1.Pairwise fun a b => keq a b = false) ∧
    ∀ k, (l.endOfStream.poll wl).1.any (keq k) = l.pend wl k) ∧
  (∀ (es : List TEv) (e : TEv), (((Leaf.eos [] false).drive wl es).stepEv wl e).1 = []) ∧
  -- ON WATERMARK: once W has been forwarded the output holds the current result of every key at or below W
  (∀ (C : GBConf) (nk : Nat), KeyLen C nk → ∀ idx, C.cfg.hasWm idx = true → ∀ (B₁ : List Msg) (w : Int),
    (∃ o, (gbFold wl C (gbInit C) (B₁ ++ [.wm w])).2 = o ++ [.wm w]) ∧
    ∀ row, (timeAt idx (row.take nk)).ns ≤ w →
      net (recs (gbFold wl C (gbInit C) (B₁ ++ [.wm w])).2) row = tableOf C nk (aggsAfter C (recs B₁)) row) ∧
  -- … and no key beyond W has been emitted (ON WATERMARK alone)
  (∀ (C : GBConf) (nk : Nat), KeyLen C nk → ∀ idx, C.cfg.onlyWm idx = true → ∀ B : List Msg,
    ∀ r ∈ recs (gbFold wl C (gbInit C) B).2, (timeAt idx (r.vals.take nk)).ns ≤ (wms B).foldl max zeroNs)

/-- **C17, full strength, on the current tree.** -/
theorem C17_full : Statement wlessFixed :=
  ⟨counting_fires, eos_once, eos_trigger_silent, watermark_complete, no_early⟩

/-! ## Non-vacuity, and the refutation of the code as shipped -/

def ka : Key := [.time 1000 0, .int 0]
def kb : Key := [.time 1000 101, .int 1]
def kc : Key := [.time 2000 0, .int 0]

/-- COUNTING 2: the second record of a key fires it, the first and third do not; other keys do not interfere -/
example : (((Leaf.counting 2 [] false []).drive wl [.key ka, .key kb]).stepEv wl (.key ka)).1 = [ka] := by rfl
example : (((Leaf.counting 2 [] false []).drive wl [.key kb]).stepEv wl (.key ka)).1 = [] := by decide
example : (((Leaf.counting 2 [] false []).drive wl [.key ka, .key ka, .wm 5]).stepEv wl (.key ka)).1 = [] := by decide
/-- ON WATERMARK: both keys of instant 1000 fire at watermark 1000, the key of instant 2000 does not -/
example : (((Leaf.watermark 0 [] false zeroNs).drive wl [.key ka, .key kc, .key kb]).stepEv wl (.wm 1000)).1 = [ka, kb] := by
  rfl
/-- end of stream returns what is left, once -/
example : (((Leaf.watermark 0 [] false zeroNs).drive wl [.key ka, .key kc, .key ka, .wm 1500]).endOfStream.poll wl).1 = [kc] := by
  rfl

/-- GROUP BY (column 0, column 1), count(column 2) TRIGGER ON WATERMARK -/
def exConf : GBConf where
  keyOf := fun v => [v.getD 0 .null, v.getD 1 .null]
  aggs := [⟨aggCount, fun v => v.getD 2 .null⟩]
  ket := some 0
  cfg := .watermark 0
  recOk := fun v => decide (3 ≤ v.length)

def wB : List Msg :=
  [.data ⟨[.time 1000 0, .int 0, .int 1], false, some 1000⟩,
   .data ⟨[.time 1000 101, .int 1, .int 1], false, some 1000⟩]
def wRow : Row := [.time 1000 0, .int 0, .int 1]

/-- two keys with one instant in two locations, then watermark 1000: the current code has emitted both rows
    when it forwards the watermark, the code as shipped has lost the first key -/
example : net (recs (gbFold wlessFixed exConf (gbInit exConf) (wB ++ [.wm 1000])).2) wRow = 1 := by decide
theorem raw_incomplete : net (recs (gbFold wlessRaw exConf (gbInit exConf) (wB ++ [.wm 1000])).2) wRow = 0 := by decide

/-- **the code before the repair violates C17** (the watermark is forwarded without the result of a key at or below it) -/
theorem C17_refuted_raw : ¬ Statement wlessRaw := by
  intro h
  have h4 := h.2.2.2.1 exConf 2 (fun _ => rfl) 0 rfl wB 1000
  have := h4.2 wRow (by decide)
  rw [raw_incomplete] at this
  exact absurd this (by decide)

end Octo.C17
