import Octo.Lemmas.OpsLinear
import Octo.Lemmas.OpsShape
import Octo.Lemmas.OpsBufferProps
import Octo.Lemmas.OpsExamples
/-!
# C18 — Watermarks never go backwards and operators do not create late data (single-input half)

For every single-input execution node: monotone input watermarks give monotone output watermarks
(`…_wm_mono`), and an input without late records gives an output without late records
(`…_no_late`; `NoLate`: no record with a non-zero event time at or below a watermark emitted before
it).  For the event-time buffer: the node equals the naive specification `bufSpec`
(`buffer_spec`) — zero-time records pass at once, at a watermark `w` every pending record with
event time ≤ w is released, unchanged, in (event time, arrival) order (`buffer_sorted`,
`buffer_stable`), then `w`; the rest at end of stream — and nothing is lost (`buffer_complete`).

Stream/outer joins and the table-valued functions are outside this file (C19, C20, C21).
All theorems are for message streams of any length.
-/
namespace Octo.C18
open Octo Octo.Ops

/-- the messages a node emits when its source ends normally -/
abbrev out (op : Op σ) (ms : List Msg) : List Msg := (op.run ms).1

/-! ## Filter (a record-wise rewrite, as Map below); nodes whose output is a sublist of their input: Distinct, Limit -/
theorem sublist_wm_mono {ms ms' : List Msg} (h : ms'.Sublist ms) (hm : Mono (wms ms)) : Mono (wms ms') :=
  mono_sublist (wms_sublist h) hm
theorem sublist_no_late {ms ms' : List Msg} (h : ms'.Sublist ms) (hn : NoLate ms) : NoLate ms' :=
  noLateFrom_sublist h hn

theorem filter_wm_mono (p : Row → Value) (ms : List Msg) (hm : Mono (wms ms)) :
    Mono (wms (out (filterOp fun x => .ok (p x)) ms)) := by
  rw [out, filter_run, wms_emitOf]; exact hm
theorem filter_no_late (p : Row → Value) (ms : List Msg) (hn : NoLate ms) :
    NoLate (out (filterOp fun x => .ok (p x)) ms) := by
  rw [out, filter_run]
  exact noLateFrom_emitOf _ (fun r q hq => (mem_rowBlock hq).2) ms [] hn

/-- Distinct (it forwards no watermark at all) -/
theorem distinct_wm_mono (ms : List Msg) (hm : Mono (wms ms)) : Mono (wms (out distinctOp ms)) :=
  sublist_wm_mono (distinct_out_sublist ms [] false) hm
theorem distinct_no_late (ms : List Msg) (hn : NoLate ms) : NoLate (out distinctOp ms) :=
  sublist_no_late (distinct_out_sublist ms [] false) hn

theorem limitNode_sublist (n : Int) (ms : List Msg) : (limitNode n ms false).1.Sublist ms :=
  (limitNode_prefix n ms false).sublist
theorem limit_wm_mono (n : Int) (ms : List Msg) (hm : Mono (wms ms)) : Mono (wms (limitNode n ms false).1) :=
  sublist_wm_mono (limitNode_sublist n ms) hm
theorem limit_no_late (n : Int) (ms : List Msg) (hn : NoLate ms) : NoLate (limitNode n ms false).1 :=
  sublist_no_late (limitNode_sublist n ms) hn

/-! ## record-wise rewrites that keep event times: Map, Unnest, LookupJoin -/
theorem map_wm_mono (f : Row → Row) (ms : List Msg) (hm : Mono (wms ms)) :
    Mono (wms (out (mapOp fun x => .ok (f x)) ms)) := by
  rw [out, map_run, wms_emitOf]; exact hm
theorem map_no_late (f : Row → Row) (ms : List Msg) (hn : NoLate ms) :
    NoLate (out (mapOp fun x => .ok (f x)) ms) := by
  rw [out, map_run]
  exact noLateFrom_emitOf _ (fun r q hq => (mem_rowBlock hq).2) ms [] hn

theorem unnest_wm_mono (idx : Nat) (ms : List Msg) (h : ∀ r ∈ recs ms, idx < r.vals.length) (hm : Mono (wms ms)) :
    Mono (wms (out (unnestOp idx) ms)) := by
  rw [out, unnest_run idx ms h, wms_emitOf]; exact hm
theorem unnest_no_late (idx : Nat) (ms : List Msg) (h : ∀ r ∈ recs ms, idx < r.vals.length) (hn : NoLate ms) :
    NoLate (out (unnestOp idx) ms) := by
  rw [out, unnest_run idx ms h]
  exact noLateFrom_emitOf _ (fun r q hq => (mem_rowBlock hq).2) ms [] hn

/-- LookupJoin, for a joined side that emits no watermarks (it is handed `metaSend`: see `lookup_wm_refuted`) -/
theorem lookup_wm_mono (J : Row → List Msg) (hJ : ∀ x, wms (J x) = []) (ms : List Msg) (hm : Mono (wms ms)) :
    Mono (wms (out (lookupOp fun x => (J x, none)) ms)) := by
  rw [out, lookup_run, funext (lookupEmitAll_eq J hJ), wms_emitOf]; exact hm
theorem lookup_no_late (J : Row → List Msg) (hJ : ∀ x, wms (J x) = []) (ms : List Msg) (hn : NoLate ms) :
    NoLate (out (lookupOp fun x => (J x, none)) ms) := by
  rw [out, lookup_run, funext (lookupEmitAll_eq J hJ)]
  exact noLateFrom_emitOf _ (fun r q hq => by obtain ⟨_, _, rfl⟩ := List.mem_map.mp hq; rfl) ms [] hn

/-- the joined side's watermarks are forwarded once per source record: not monotone -/
theorem lookup_wm_refuted :
    ¬ (∀ (J : Row → List Msg) (ms : List Msg), (∀ x, Mono (wms (J x))) → Mono (wms ms) →
        Mono (wms (out (lookupOp fun x => (J x, none)) ms))) := by
  intro h
  have := h (fun _ => [.wm 10]) [.data { vals := [], retr := false, et := none }, .wm 5]
    (by intro _; simp [wms, Mono]) (by simp [wms, Mono])
  simp [out, Op.run, Op.runFrom, lookupOp, lookupEmit, wms, Mono] at this

/-! ## watermarks, then a final batch without event times: SimpleGroupBy; final batch only: ORDER BY -/
theorem sgroup_wm_mono (agg : GAgg α) (kf inf : Row → Row) (ms : List Msg) (hm : Mono (wms ms)) :
    Mono (wms (out (simpleGroupOp agg (fun x => .ok (kf x)) (fun x => .ok (inf x))) ms)) := by
  obtain ⟨l, hl, _⟩ := sgroup_shape agg kf inf ms
  rw [out, hl, wms_wm_then]; exact hm
theorem sgroup_no_late (agg : GAgg α) (kf inf : Row → Row) (ms : List Msg) :
    NoLate (out (simpleGroupOp agg (fun x => .ok (kf x)) (fun x => .ok (inf x))) ms) := by
  obtain ⟨l, hl, het⟩ := sgroup_shape agg kf inf ms
  rw [out, hl]
  exact noLate_wm_then ms l fun q hq e he => by rw [het q hq] at he; cases he

theorem order_wm_mono (dirs : List Int) (kf : Row → Row) (limit : Option Int) (noRetr : Bool) (ms : List Msg) :
    Mono (wms (out (orderOp dirs (fun x => .ok (kf x)) limit noRetr) ms)) := by
  obtain ⟨l, hl, _⟩ := order_shape dirs kf limit noRetr ms
  rw [out, hl, wms_map_data]; trivial
theorem order_no_late (dirs : List Int) (kf : Row → Row) (limit : Option Int) (noRetr : Bool) (ms : List Msg) :
    NoLate (out (orderOp dirs (fun x => .ok (kf x)) limit noRetr) ms) := by
  obtain ⟨l, hl, het⟩ := order_shape dirs kf limit noRetr ms
  rw [out, hl, NoLate, noLateFrom_data]
  intro r hr e he; rw [(het r hr).1] at he; cases he

/-- **buffer_spec**: `EventTimeBuffer` over `RecordEventTimeBuffer` (buckets in a btree) emits exactly
    what the naive specification says, message for message, and never fails by itself -/
theorem buffer_spec (ms : List Msg) : etbOp.run ms = (bufSpec [] ms, none) :=
  etb_run ms

/-- a released batch is in event-time order … -/
theorem buffer_sorted (pending : List (Int × Rec)) (w : Int) :
    ((sortByEt pending).filter fun p => decide (p.1 ≤ w)).Pairwise fun a b => a.1 ≤ b.1 :=
  List.Pairwise.filter _ (sortByEt_sorted pending)
/-- … records with equal event times in arrival order … -/
theorem buffer_stable (pending : List (Int × Rec)) (u : Int) :
    (sortByEt pending).filter (fun a => a.1 == u) = pending.filter (fun a => a.1 == u) :=
  sortByEt_stable pending u
/-- … and it contains exactly the pending records at or below the watermark -/
theorem buffer_release_mem (pending : List (Int × Rec)) (w : Int) (q : Int × Rec) :
    q ∈ (sortByEt pending).filter (fun p => decide (p.1 ≤ w)) ↔ q ∈ pending ∧ q.1 ≤ w := by
  simp [List.mem_filter, mem_sortByEt]

/-- every record comes out exactly once, unchanged (event times within the Int64 nanosecond range) -/
theorem buffer_complete (ms : List Msg) (hr : InRange ms) : (recs (out etbOp ms)).Perm (recs ms) := by
  rw [out, buffer_spec]
  exact recs_bufSpec_perm ms [] (fun _ h => nomatch h) hr

theorem etb_wm_eq (ms : List Msg) : wms (out etbOp ms) = wms ms := by
  simp only [out, buffer_spec, wms_bufSpec]
theorem etb_wm_mono (ms : List Msg) (hm : Mono (wms ms)) : Mono (wms (out etbOp ms)) := by
  rw [etb_wm_eq]; exact hm
theorem etb_no_late (ms : List Msg) (hn : NoLate ms) : NoLate (out etbOp ms) := by
  simp only [out, buffer_spec]
  exact noLate_bufSpec ms [] [] (by simp) hn

/-! ## CustomTriggerGroupBy with the end-of-stream trigger (behind its EventTimeBuffer) -/
theorem ctgb_wm_mono (agg : GAgg α) (kf inf : Row → Row) (ms : List Msg) (hm : Mono (wms ms)) :
    Mono (wms (ctgbNode agg (fun x => .ok (kf x)) (fun x => .ok (inf x)) none ms false).1) := by
  obtain ⟨l, hl, _⟩ := ctgb_shape agg kf inf (bufSpec [] ms)
  rw [ctgbNode_run, hl, wms_wm_then, wms_bufSpec]; exact hm

/-- without an event-time key the final rows are stamped `WatermarkMaxValue`: on time as long as the
    watermarks stay below it -/
theorem ctgb_no_late (agg : GAgg α) (kf inf : Row → Row) (ms : List Msg) (hw : ∀ w ∈ wms ms, w < maxWm) :
    NoLate (ctgbNode agg (fun x => .ok (kf x)) (fun x => .ok (inf x)) none ms false).1 := by
  obtain ⟨l, hl, het⟩ := ctgb_shape agg kf inf (bufSpec [] ms)
  rw [ctgbNode_run, hl]
  refine noLate_wm_then _ l fun q hq e he w hw' => ?_
  rw [(het q hq).1] at he; cases he
  rw [wms_bufSpec, List.mem_reverse] at hw'
  exact hw w hw'

/-- what C18 demands of one node: monotone watermarks stay monotone, and no late data is created -/
def Keeps (run : List Msg → Out) (Side : List Msg → Prop) : Prop :=
  ∀ ms, Side ms → (Mono (wms ms) → Mono (wms (run ms).1)) ∧ (NoLate ms → NoLate (run ms).1)

structure StatementWith (extraLookup : (Row → List Msg) → Prop) (extraKey : Option Nat → Prop) : Prop where
  filter : ∀ p : Row → Value, Keeps (filterOp fun x => .ok (p x)).run (fun _ => True)
  map : ∀ f : Row → Row, Keeps (mapOp fun x => .ok (f x)).run (fun _ => True)
  distinct : Keeps distinctOp.run (fun _ => True)
  limit : ∀ n : Int, Keeps (fun ms => limitNode n ms false) (fun _ => True)
  unnest : ∀ idx : Nat, Keeps (unnestOp idx).run (fun ms => ∀ r ∈ recs ms, idx < r.vals.length)
  lookupJoin : ∀ J : Row → List Msg, (∀ x, Mono (wms (J x))) → extraLookup J →
    Keeps (lookupOp fun x => (J x, none)).run (fun _ => True)
  groupBy : ∀ (α : Type) (agg : GAgg α) (kf inf : Row → Row),
    Keeps (simpleGroupOp agg (fun x => .ok (kf x)) (fun x => .ok (inf x))).run (fun _ => True)
  groupByCustom : ∀ (α : Type) (agg : GAgg α) (kf inf : Row → Row) (etIdx : Option Nat), extraKey etIdx →
    Keeps (fun ms => ctgbNode agg (fun x => .ok (kf x)) (fun x => .ok (inf x)) etIdx ms false)
      (fun ms => ∀ w ∈ wms ms, w < maxWm)
  orderBy : ∀ (dirs : List Int) (kf : Row → Row) (limit : Option Int) (noRetr : Bool),
    Keeps (orderOp dirs (fun x => .ok (kf x)) limit noRetr).run (fun _ => True)
  eventTimeBuffer : Keeps etbOp.run (fun _ => True)
  bufferSpec : ∀ ms, etbOp.run ms = (bufSpec [] ms, none)

def Statement : Prop := StatementWith (fun _ => True) (fun _ => True)

/-- grouped by an event-time key (column 0), the end-of-stream flush stamps the row with the key's
    time although `W10` has been forwarded -/
def srcKeyed : List Msg := [.data { vals := [.time 5 0], retr := false, et := some 5 }, .wm 10]

theorem ctgb_keyed_refuted :
    ¬ Keeps (fun ms => ctgbNode countAgg (fun x => .ok x) (fun _ => .ok []) (some 0) ms false) (fun ms => ∀ w ∈ wms ms, w < maxWm) := by
  intro h
  have hin : NoLate srcKeyed := by rw [NoLate, noLateFrom_iff]; decide
  have := (h srcKeyed (by intro w hw; simp [srcKeyed, wms] at hw; subst hw; decide)).2 hin
  rw [NoLate, noLateFrom_iff] at this
  revert this; decide

/-- **C18 (single-input half) is refuted on the current tree** (reproduced on the real nodes: known
    findings `lookup-join-forwards-joined-watermarks`, `ctgb-end-of-stream-flush-late`) -/
theorem C18_refuted : ¬ Statement := by
  intro h
  apply lookup_wm_refuted
  intro J ms hJ hm
  exact ((h.lookupJoin J hJ trivial) ms trivial).1 hm

/-- **What holds**: everything, provided the joined side of a lookup join emits no watermarks and
    CustomTriggerGroupBy is not keyed by an event-time column -/
theorem C18_partial : StatementWith (fun J => ∀ x, wms (J x) = []) (fun etIdx => etIdx = none) where
  filter p ms _ := ⟨filter_wm_mono p ms, filter_no_late p ms⟩
  map f ms _ := ⟨map_wm_mono f ms, map_no_late f ms⟩
  distinct ms _ := ⟨distinct_wm_mono ms, distinct_no_late ms⟩
  limit n ms _ := ⟨limit_wm_mono n ms, limit_no_late n ms⟩
  unnest idx ms h := ⟨unnest_wm_mono idx ms h, unnest_no_late idx ms h⟩
  lookupJoin J _ hJ ms _ := ⟨lookup_wm_mono J hJ ms, lookup_no_late J hJ ms⟩
  groupBy _ agg kf inf ms _ := ⟨sgroup_wm_mono agg kf inf ms, fun _ => sgroup_no_late agg kf inf ms⟩
  groupByCustom _ agg kf inf etIdx he ms hw := by
    subst he
    exact ⟨ctgb_wm_mono agg kf inf ms, fun _ => ctgb_no_late agg kf inf ms hw⟩
  orderBy dirs kf limit noRetr ms _ := ⟨fun _ => order_wm_mono dirs kf limit noRetr ms, fun _ => order_no_late dirs kf limit noRetr ms⟩
  eventTimeBuffer ms _ := ⟨etb_wm_mono ms, etb_no_late ms⟩
  bufferSpec := buffer_spec

/-! ### non-vacuity: a stream with watermarks, ties, zero times, where the buffer really reorders -/
def srcBuf : List Msg :=
  [.data ⟨[.int 1], false, some 7⟩, .data ⟨[.int 2], false, some 3⟩, .data ⟨[.int 3], false, none⟩,
   .data ⟨[.int 4], false, some 3⟩, .wm 5, .data ⟨[.int 5], false, some 6⟩]
example : NoLate srcBuf ∧ Mono (wms srcBuf) := by
  constructor
  · rw [NoLate, noLateFrom_iff]; decide
  · rw [mono_iff_B]; decide
/-- zero-time record at once; at `W5` the two records of time 3 in arrival order; 6 before 7 at the end -/
example : (recs (out etbOp srcBuf)).map (fun r => r.vals.map intOf) = [[3], [2], [4], [5], [1]] := by
  simp only [out, buffer_spec]; decide

end Octo.C18
