import Octo.Lemmas.JoinFinal
/-!
# C19 — Stream joins are internally consistent under every schedule

Property: for watermarked inputs and every interleaving of the two inputs' records, watermarks
and end-of-stream, whenever an inner or outer stream join emits watermark W, its consolidated
output equals the join of all input records with event time at or below W. At end of stream it
equals the join of the complete inputs, including when either input ends first.

`Octo.Join.run cfg σ` is the model of `StreamJoin.Run` / `OuterJoin.Run` (`execution/nodes/stream_join.go`,
`outer_join.go`, `execution/record_event_time_buffer.go`) under an explicit schedule `σ` — the order in
which the `select` loop takes the two inputs' messages and observes their closes. It is tied to the
code by the C19 correspondence run, which drives the real nodes under exactly chosen schedules
(`verifJoinRecv` hook). `specRecs` (`Octo/Model/JoinSpec.lean`) is the SQL inner / LEFT / RIGHT /
FULL OUTER join of two changelogs, written as a nested loop.

All theorems quantify over **every** pair of inputs and **every** interleaving (`Interleave ls rs σ`),
of any length. "Consolidated output equals X" is `SameNet (recs out) X`: equal signed
multiplicity for every row.
-/
namespace Octo.C19
open Octo Octo.Join

/-- the configuration describes the code as it is now (after the two `fix:` commits) -/
def Current (cfg : Cfg) : Prop := cfg.switchOsr = false ∧ cfg.nullMatch = false

/-- the records have the field counts the OuterJoin node was constructed with (nothing for StreamJoin) -/
def WidthsOK (cfg : Cfg) (ls rs : List Msg) : Prop :=
  cfg.outer = true → (∀ x ∈ recs ls, x.vals.length = cfg.nL) ∧ (∀ x ∈ recs rs, x.vals.length = cfg.nR)

/-- equal consolidated content: every row has the same signed multiplicity -/
def SameNet (a b : List Rec) : Prop := ∀ row, net a row = net b row

/-- every watermark `w` in the output comes after an output prefix whose consolidated content is the join
    of the input records with event time at or below `w` -/
def ConsistentAtWm (cfg : Cfg) (ls rs : List Msg) (out : List Msg) : Prop :=
  ∀ pre w post, out = pre ++ Msg.wm w :: post →
    SameNet (recs pre) (specRecs cfg (upTo w (recs ls)) (upTo w (recs rs)))

theorem shapes_of_widths {cfg : Cfg} {ls rs : List Msg} (hw : WidthsOK cfg ls rs) :
    ∀ side, ∀ x ∈ sides (recs ls) (recs rs) side, Shape cfg side x := by
  intro side x hx ho
  cases side
  · exact (hw ho).2 x hx
  · exact (hw ho).1 x hx

/-- at end of stream the consolidated output is the join of the complete inputs — for every
    schedule, whichever input ends first, with or without event times, watermarks and late records. -/
theorem final {cfg : Cfg} (hcur : Current cfg) {ls rs : List Msg} {σ : List Ev} {out : List Msg}
    (hw : WidthsOK cfg ls rs) (hI : Interleave ls rs σ) (hrun : run cfg σ = .ok out) :
    SameNet (recs out) (specRecs cfg (recs ls) (recs rs)) := by
  intro row
  rw [net_specRecs]
  exact ((run_post (specW_recvOK hcur.2) hcur.1 (shapes_of_widths hw) hI).post out hrun).net row

/-- for inputs with monotone watermarks and no late records (`Fresh`: every record
    carries an event time after the last watermark of its own input), whenever the join forwards a
    watermark `w`, the consolidated output so far is the join of all input records with event time ≤ `w`. -/
theorem consistent_at_wm {cfg : Cfg} (hcur : Current cfg) {ls rs : List Msg} {σ : List Ev} {out : List Msg}
    (hw : WidthsOK cfg ls rs) (hI : Interleave ls rs σ) (hfl : Fresh none ls) (hfr : Fresh none rs)
    (hrun : run cfg σ = .ok out) : ConsistentAtWm cfg ls rs out := by
  intro pre w post hout row
  have h := ((run_post (specW_recvOK hcur.2) hcur.1 (shapes_of_widths hw) hI).post out hrun).wm ⟨hfl, hfr⟩
  rw [hout] at h
  rw [net_specRecs]
  exact wmOK_split h row

/-- inputs on which the node must not panic: every record has its key columns, records that carry an
    event time are insertions (append-only streams), and the records without event time of each input
    form, in arrival order, a valid changelog (tables, changelogs of upstream operators). -/
structure GoodInputs (cfg : Cfg) (ls rs : List Msg) : Prop where
  keysL : ∀ x ∈ recs ls, KeysOK cfg true x
  keysR : ∀ x ∈ recs rs, KeysOK cfg false x
  timedL : ∀ x ∈ recs ls, untimed x = false → x.retr = false
  timedR : ∀ x ∈ recs rs, untimed x = false → x.retr = false
  validL : ValidLog ((recs ls).filter untimed)
  validR : ValidLog ((recs rs).filter untimed)

/-- on such inputs the node finishes under every schedule (the two panics of `receiveRecord` — key
    index out of range, `EventTimes[1:]` of an empty slice — cannot happen), so `final` and
    `consistent_at_wm` are not vacuous. -/
theorem no_panic {cfg : Cfg} (hcur : Current cfg) {ls rs : List Msg} {σ : List Ev}
    (hw : WidthsOK cfg ls rs) (hg : GoodInputs cfg ls rs) (hI : Interleave ls rs σ) :
    ∃ out, run cfg σ = .ok out :=
  (run_post (specW_recvOK hcur.2) hcur.1 (shapes_of_widths hw) hI).returns
    { keys := fun side => by
        cases side
        · exact hg.keysR
        · exact hg.keysL
      timed := fun side => by
        cases side
        · exact hg.timedR
        · exact hg.timedL
      valid := fun side => by
        cases side
        · exact hg.validR
        · exact hg.validL }

theorem streamJoin_final (keysL keysR : List Nat) {ls rs : List Msg} {σ : List Ev} {out : List Msg}
    (hI : Interleave ls rs σ) (hrun : run (cfgInner keysL keysR) σ = .ok out) :
    SameNet (recs out) (joinRecs (cfgInner keysL keysR) (recs ls) (recs rs)) :=
  final (cfg := cfgInner keysL keysR) ⟨rfl, rfl⟩ (fun h => by cases h) hI hrun

theorem outerJoin_final (oL oR : Bool) (nL nR : Nat) (keysL keysR : List Nat) {ls rs : List Msg} {σ : List Ev} {out : List Msg}
    (hwL : ∀ x ∈ recs ls, x.vals.length = nL) (hwR : ∀ x ∈ recs rs, x.vals.length = nR)
    (hI : Interleave ls rs σ) (hrun : run (cfgOuter oL oR nL nR keysL keysR) σ = .ok out) :
    SameNet (recs out) (outerRecs (cfgOuter oL oR nL nR keysL keysR) (recs ls) (recs rs)) :=
  final (cfg := cfgOuter oL oR nL nR keysL keysR) ⟨rfl, rfl⟩ (fun _ => ⟨hwL, hwR⟩) hI hrun

/-- the full-strength statement of the property for a node configuration -/
def Statement (cfg : Cfg) : Prop :=
  ∀ (ls rs : List Msg) (σ : List Ev), Interleave ls rs σ → WidthsOK cfg ls rs →
    (GoodInputs cfg ls rs → ∃ out, run cfg σ = .ok out) ∧
    ∀ out, run cfg σ = .ok out →
      SameNet (recs out) (specRecs cfg (recs ls) (recs rs)) ∧
      (Fresh none ls → Fresh none rs → ConsistentAtWm cfg ls rs out)

/-- C19 on the current tree, for StreamJoin and for LEFT / RIGHT / FULL OuterJoin. -/
theorem C19_full (cfg : Cfg) (hcur : Current cfg) : Statement cfg :=
  fun _ _ _ hI hw => ⟨fun hg => no_panic hcur hw hg hI,
    fun _ hrun => ⟨final hcur hw hI hrun, fun hfl hfr => consistent_at_wm hcur hw hI hfl hfr hrun⟩⟩

/-! ## Non-vacuity and the refutation of the code before the repairs -/

def rec1 (t : Option Int) : Rec := { vals := [.int 1], retr := false, et := t }
def recN : Rec := { vals := [.null], retr := false, et := none }
def evL (m : Option Msg) : Ev := { left := true, msg := m }
def evR (m : Option Msg) : Ev := { left := false, msg := m }

/-- left = [rec(1, et 5), wm 10], right = [rec(1, et 7), wm 8]: fresh inputs -/
def wL : List Msg := [.data (rec1 (some 5)), .wm 10]
def wR : List Msg := [.data (rec1 (some 7)), .wm 8]
def wσ : List Ev := [evL (some (.data (rec1 (some 5)))), evR (some (.data (rec1 (some 7)))), evL (some (.wm 10)),
  evR (some (.wm 8)), evL none, evR none]

example : Interleave wL wR wσ :=
  .left (.right (.left (.right (.left (.right .nil)))))
example : Fresh none wL ∧ Fresh none wR := ⟨⟨rfl, rfl, trivial⟩, ⟨rfl, rfl, trivial⟩⟩
/-- the hypotheses of `consistent_at_wm` are met by a run that buffers, forwards a watermark and joins -/
example : run (cfgInner [0] [0]) wσ =
    .ok [.data { vals := [.int 1, .int 1], retr := false, et := some 7 }, .wm 8] := by rfl

/-- the hypotheses of `no_panic` are met by inputs with a retraction -/
example : GoodInputs (cfgInner [0] [0])
    [.data (rec1 none), .data { vals := [.int 1], retr := true, et := none }] [.data (rec1 (some 3)), .wm 4] :=
  { keysL := by intro x hx; simp [recs] at hx; rcases hx with rfl | rfl <;> exact ⟨[.int 1], rfl⟩
    keysR := by intro x hx; simp [recs] at hx; subst hx; exact ⟨[.int 1], rfl⟩
    timedL := by intro x hx; simp [recs] at hx; rcases hx with rfl | rfl <;> simp [untimed, rec1]
    timedR := by intro x hx; simp [recs] at hx; subst hx; simp [rec1]
    validL := validLog_of_validLogB _ (by decide)
    validR := validLog_of_validLogB _ (by decide) }

/-- the schedule on which the unrepaired StreamJoin lost the pair: left = [rec(1, et 5)],
    right = [rec(1, et 7), wm 10], order L.rec R.rec R.wm L.close R.close -/
def xL : List Msg := [.data (rec1 (some 5))]
def xR : List Msg := [.data (rec1 (some 7)), .wm 10]
def xσ : List Ev := [evL (some (.data (rec1 (some 5)))), evR (some (.data (rec1 (some 7)))), evR (some (.wm 10)),
  evL none, evR none]
theorem xσ_interleave : Interleave xL xR xσ := .left (.right (.right (.left (.right .nil))))

/-- StreamJoin before `fix: stream join must keep storing records released when the first input ends` -/
def cfgBeforeSwitchFix : Cfg := { cfgInner [0] [0] with switchOsr := true }
/-- StreamJoin before `fix: NULL join keys never match in StreamJoin and OuterJoin` -/
def cfgBeforeNullFix : Cfg := { cfgInner [0] [0] with nullMatch := true }

example : run (cfgInner [0] [0]) xσ = .ok [.data { vals := [.int 1, .int 1], retr := false, et := some 7 }] := by rfl

/-- the code before the repair violates the property: the matching pair is lost when the left input ends
    while both records are still buffered -/
theorem switch_refuted : ¬ Statement cfgBeforeSwitchFix := by
  intro h
  have h1 := ((h xL xR xσ xσ_interleave (fun h => by cases h)).2 [] (by rfl)).1 [.int 1, .int 1]
  revert h1
  decide

/-- … and NULL keys matched: `NULL = NULL` produced a row -/
theorem null_refuted : ¬ Statement cfgBeforeNullFix := by
  intro h
  have h1 := ((h [.data recN] [.data recN] [evL (some (.data recN)), evR (some (.data recN)), evL none, evR none]
    (.left (.right (.left (.right .nil)))) (fun h => by cases h)).2
    [.data { vals := [.null, .null], retr := false, et := none }] (by rfl)).1 [.null, .null]
  revert h1
  decide

end Octo.C19
