import Octo.Lemmas.MaxDiffWatermark
import Octo.Lemmas.IntFacts
/-!
# C20 — max_diff_watermark generates correct watermarks

Property: for every input stream, max_diff_watermark emits watermarks equal to (largest time seen, rounded down
to the resolution) minus max_diff, strictly increasing.  Records whose time is at or below the current watermark
are dropped; every other record passes through unchanged, with its event time set to the time field.

* `MaxDiff.run` is the model of `maxDifferenceWatermarkGenerator.Run`
  (`table_valued_functions/max_diff_watermark.go`): `.fixed` the code in /repo (after the `fix:` commit),
  `.shipped` the code before it.  It is tied to the Go code by the C20 correspondence run on every check.
* `MaxDiffSpec.spec` is the prescribed output, written non-incrementally (every watermark recomputed from the
  list of all times seen so far); the theorems about `spec` alone say what it means, in the words of the property.

All theorems quantify over **all** input streams (any length, any order, duplicates, upstream watermarks mixed
in), all Int64-nanosecond times (also before 1970), all max_diff values (also negative) and all resolutions.
Domain (`InDomain`): every record holds a Time in the time field (guaranteed by the TVF's `OutputSchema` check)
whose `UnixNano` is defined, i.e. lies in the Int64 range; the resolution is an Int64 (`res < 2^63`).
-/
namespace Octo.C20
open Octo Octo.MaxDiff Octo.MaxDiffSpec

/-- **main theorem**: on its domain the (repaired) generator emits exactly the prescribed stream -/
theorem run_eq_spec (md res : Int) (idx : Nat) (inp : List Msg) (hres : 0 < res) (hres2 : res < (2:Int)^63)
    (hd : InDomain idx inp) : run .fixed md res idx inp = .ok (spec res md idx inp) := by
  have hne : ¬ res ≤ 0 := by omega
  simp only [run, runFixed, hne, if_false]
  exact go_eq_spec hres hres2 inp St.init [] rfl hd (fun _ _ t _ => roundFloor_eq hres t)

/-- a resolution that is not positive is rejected with an error (the shipped code divides by zero) -/
theorem nonpositive_resolution_rejected (md res : Int) (idx : Nat) (inp : List Msg) (h : res ≤ 0) :
    run .fixed md res idx inp = .error .err := by
  simp [run, runFixed, h]

/-- "rounded down to the resolution": `floorTo res t` is the multiple of `res` in `(t − res, t]`, and the only one -/
theorem floorTo_spec (res t : Int) (hres : 0 < res) :
    res ∣ floorTo res t ∧ floorTo res t ≤ t ∧ t < floorTo res t + res ∧
    ∀ x, res ∣ x → x ≤ t → t < x + res → x = floorTo res t :=
  ⟨⟨t / res, rfl⟩, floorTo_le hres t, lt_floorTo_add hres t, fun x ⟨k, hk⟩ h1 h2 => by
    subst hk; unfold floorTo; rw [(Int.floor_unique hres h1 h2).1]⟩

/-- `maxOf` is the largest time seen -/
theorem maxOf_spec (seen : List Int) (m : Int) (h : maxOf seen = some m) : m ∈ seen ∧ ∀ x ∈ seen, x ≤ m := by
  induction seen generalizing m with
  | nil => cases h
  | cons y ys ih =>
    cases hm : maxOf ys with
    | none =>
      simp only [maxOf, hm, Option.some.injEq] at h
      rw [maxOf_eq_none.1 hm, ← h]
      exact ⟨List.mem_cons_self .., List.forall_mem_cons.2 ⟨Int.le_refl _, nofun⟩⟩
    | some m' =>
      simp only [maxOf, hm, Option.some.injEq] at h
      obtain ⟨hmem, hge⟩ := ih m' hm
      by_cases hlt : y < m'
      · rw [if_pos hlt] at h
        exact h ▸ ⟨List.mem_cons_of_mem _ hmem, List.forall_mem_cons.2 ⟨Int.le_of_lt hlt, hge⟩⟩
      · rw [if_neg hlt] at h
        exact h ▸ ⟨List.mem_cons_self ..,
          List.forall_mem_cons.2 ⟨Int.le_refl _, fun x hx => Int.le_trans (hge x hx) (Int.not_lt.1 hlt)⟩⟩

/-- streaming: the output for a prefix of the input is a prefix of the output, and the rest only depends on
    the times seen so far -/
theorem spec_append (res md : Int) (idx : Nat) (pre suf : List Msg) (hd : InDomain idx pre) :
    spec res md idx (pre ++ suf) = spec res md idx pre ++ specFrom res md idx (times idx pre) suf := by
  have := specFrom_append (res := res) (md := md) pre suf [] hd
  simpa [spec] using this

/-- **watermark values**: after any input, the last watermark emitted — the *current* watermark — is
    (largest time seen so far, rounded down to the resolution) − max_diff; none before the first record -/
theorem current_watermark (res md : Int) (idx : Nat) (pre : List Msg) (hres : 0 < res) (hd : InDomain idx pre) :
    lastWm none (wms (spec res md idx pre)) = (maxOf (times idx pre)).map fun m => floorTo res m - md := by
  have := (wms_specFrom (md := md) hres pre [] hd).2
  simpa [spec, wmAfter, maxOf] using this

/-- **strictly increasing**: the emitted watermarks are strictly increasing -/
theorem watermarks_strictly_increasing (res md : Int) (idx : Nat) (inp : List Msg) (hres : 0 < res) (hd : InDomain idx inp) :
    StrictIncr (wms (spec res md idx inp)) := by
  have := (wms_specFrom (md := md) hres inp [] hd).1
  simpa [spec, StrictIncr, wmAfter, maxOf] using this

/-- **the rule for one record**: when the record `r` with time `t` arrives after the input `pre`,
    with `W` the current watermark (the last one emitted, `current_watermark`):
    `r` is forwarded, unchanged but for `et := t`, iff not `t ≤ W`; then the watermark
    `floor(max(times so far, t)) − max_diff` is emitted iff it is above `W` (or is the first one). -/
theorem record_rule (res md : Int) (idx : Nat) (pre : List Msg) (r : Rec) (t : Int) (hres : 0 < res)
    (hd : InDomain idx pre) (ht : timeOf idx r = some t) :
    let W := lastWm none (wms (spec res md idx pre))
    let W' := (maxOf (times idx pre ++ [t])).map fun m => floorTo res m - md
    spec res md idx (pre ++ [.data r]) =
      spec res md idx pre
        ++ (if dropped W t then [] else [.data { r with et := some t }])
        ++ wmMsg W W' := by
  intro W W'
  have hW : W = wmAfter res md (times idx pre) := current_watermark res md idx pre hres hd
  rw [spec_append res md idx pre [.data r] hd]
  simp only [specFrom, ht, List.append_nil, List.append_assoc]
  rw [hW]; rfl

/-- **upstream watermarks are swallowed** -/
theorem upstream_watermark_swallowed (res md : Int) (idx : Nat) (pre : List Msg) (w : Int) (hd : InDomain idx pre) :
    spec res md idx (pre ++ [.wm w]) = spec res md idx pre := by
  rw [spec_append res md idx pre [.wm w] hd]; simp [specFrom]

/-- **forwarded records are input records**, in input order, values and retraction flag untouched, event time =
    time field (`stamped`) -/
theorem forwarded_unchanged (res md : Int) (idx : Nat) (inp : List Msg) :
    (recs (spec res md idx inp)).Sublist ((recs inp).map (stamped idx)) :=
  recs_specFrom_sublist inp []

/-- the watermark never exceeds the largest time seen when `max_diff ≥ 0` (what the shipped code violates) -/
theorem watermark_le_max (res md : Int) (idx : Nat) (pre : List Msg) (hres : 0 < res) (hmd : 0 ≤ md)
    (hd : InDomain idx pre) (w m : Int)
    (hw : lastWm none (wms (spec res md idx pre)) = some w) (hm : maxOf (times idx pre) = some m) : w ≤ m := by
  rw [current_watermark res md idx pre hres hd, hm] at hw
  simp at hw
  have := floorTo_le hres m
  omega

/-- **the time field**: when `OutputSchema` accepts the `time_field` descriptor, the `TimeField` it declares is the
    first column with that name, that column has type Time, and `Materialize` picks the same column for the
    running node (so the event times stamped at run time are those of the declared time field) -/
theorem time_field_agrees (want : String) (fields : List (String × Bool)) (i : Nat)
    (h : schemaTimeField want fields 0 = .ok i) :
    materializeIndex want fields 0 = some i ∧ fields[i]? = some (want, true) ∧
    ∀ j, j < i → ∀ f, fields[j]? = some f → f.1 ≠ want := by
  obtain ⟨k, hk, h2, h3, h4⟩ := schemaTimeField_spec want fields 0 i h
  rw [Nat.zero_add] at hk
  subst hk
  exact ⟨h2, h3, h4⟩

/-- the full-strength statement of C20 for an implementation `run` -/
def Statement (run : Int → Int → Nat → List Msg → Except Fail (List Msg)) : Prop :=
  ∀ (md res : Int) (idx : Nat) (inp : List Msg), res < (2:Int)^63 → InDomain idx inp →
    (res ≤ 0 → run md res idx inp = .error .err) ∧
    (0 < res → run md res idx inp = .ok (spec res md idx inp))

/-- **C20, full strength, on the current tree.** -/
theorem C20_full : Statement (run .fixed) := fun md res idx inp h2 hd =>
  ⟨nonpositive_resolution_rejected md res idx inp, fun h => run_eq_spec md res idx inp h h2 hd⟩

def tRec (ns : Int) : Msg := .data { vals := [.time ns 0], retr := false, et := none }
/-- three in-order times just before 1970 (−15 ns, −12 ns, −1 ns), resolution 10 ns, max_diff 0
    (the same shape as 1969-12-31 23:59:58.5, 58.8, 59.9 at resolution 1 s, which is in the generated corpus;
    small numbers keep the kernel re-check fast) -/
def witness : List Msg := [tRec (-15), tRec (-12), tRec (-1)]

/-- what the shipped code does on the witness: watermark −10 after the first record (above the record's own
    time −15), the second record (−12) is dropped as late, the final watermark is 0 (above every time seen) -/
theorem shipped_on_witness :
    (run .shipped 0 10 0 witness).toOption.map (fun o => (wms o, (recs o).length)) = some ([-10, 0], 2) := by decide
theorem spec_on_witness :
    ((wms (spec 10 0 0 witness)), (recs (spec 10 0 0 witness)).length) = ([-20, -10], 3) := by
  decide
theorem witness_inDomain : InDomain 0 witness := inDomain_of_B (by decide)

/-- the shipped code violates C20 (times before 1970 are rounded up) -/
theorem shipped_refuted : ¬ Statement (run .shipped) := by
  intro h
  have h1 := (h 0 10 0 witness (by decide) witness_inDomain).2 (by decide)
  have h2 := congrArg (fun o => o.toOption.map (fun o => (wms o, (recs o).length))) h1
  simp only [Except.toOption, Option.map, spec_on_witness] at h2
  exact absurd h2 (by decide)

/-- … and panics on resolution 0 as soon as a record arrives -/
theorem shipped_panics_on_zero_resolution : run .shipped 0 0 0 [tRec 5] = .error .panic := by
  simp [run, runShipped, go, tRec, timeAt, roundTrunc]

/-- what does hold for the shipped code: the property, restricted to positive resolutions and times at or after
    the Unix epoch (there truncation and floor coincide) -/
theorem shipped_partial (md res : Int) (idx : Nat) (inp : List Msg) (hres : 0 < res) (hres2 : res < (2:Int)^63)
    (hd : InDomain idx inp) (hpos : ∀ t ∈ times idx inp, 0 ≤ t) :
    run .shipped md res idx inp = .ok (spec res md idx inp) := by
  simp only [run, runShipped]
  refine go_eq_spec hres hres2 inp St.init [] rfl hd ?_
  intro r hr t ht
  have h0 : 0 ≤ t := hpos t (by simp only [times, List.mem_filterMap]; exact ⟨r, hr, ht⟩)
  have hne : res ≠ 0 := by omega
  simp only [roundTrunc, hne, if_false, floorTo]
  rw [Int.tdiv_eq_ediv_of_nonneg h0, Int.mul_comm]

/-- an out-of-order stream around 1970 with a duplicate and an upstream watermark, max_diff 3, resolution 10:
    in the domain, exercises forwarding, dropping, watermark emission and non-emission -/
def demo : List Msg := [tRec (-15), tRec (-12), .wm 99, tRec 7, tRec (-9), tRec 7, tRec 25, tRec 21, tRec 12]
example : InDomain 0 demo := inDomain_of_B (by decide)
example : wms (spec 10 3 0 demo) = [-23, -3, 17] ∧ (recs (spec 10 3 0 demo)).length = 6 := by decide
example : (run .fixed 3 10 0 demo).toOption.map wms = some [-23, -3, 17] := by decide
/-- the hypotheses of `shipped_partial` are satisfiable by a non-trivial stream -/
example : InDomain 0 [tRec 15, tRec 12, tRec 31] ∧ ∀ t ∈ times 0 [tRec 15, tRec 12, tRec 31], 0 ≤ t := by
  refine ⟨inDomain_of_B (by decide), ?_⟩
  decide
example : schemaTimeField "t" [("a", false), ("t", true), ("t", false)] 0 = .ok 1 := by simp [schemaTimeField]
example : schemaTimeField "a" [("a", false), ("t", true)] 0 = .error .err ∧ schemaTimeField "z" [("a", false)] 0 = .error .err := by
  simp [schemaTimeField]
/-- `record_rule` both ways: a record at the watermark is dropped, one just above is kept -/
example : (recs (spec 10 0 0 [tRec 25, tRec 20])).length = 1 ∧ (recs (spec 10 0 0 [tRec 25, tRec 21])).length = 2 := by
  decide

end Octo.C20
