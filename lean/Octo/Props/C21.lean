import Octo.Lemmas.Tvf
/-!
# C21 — tumble, range and poll produce their documented streams

Property: tumble gives every record `window_start ≤ time < window_end`, with `window_end − window_start` equal to the
window length and `window_start − offset` a multiple of it; other fields and watermarks pass unchanged.
`range(start, end)` emits each integer in `[start, end)` once, in ascending order.  Each poll round retracts the
previous snapshot, emits the current one and then a watermark.

Models (`Octo.Model.Tvf`, tied to `table_valued_functions/{tumble,range,poll}.go` by the exact differential run of
every check): `windowStart`/`windowEnd`/`tumbleMsgs`/`tumbleRun`, `rangeLoop`/`rangeInts`/`rangeRun`,
`pollFrom`/`pollRun`.  Specifications (`Octo.Model.TvfSpec`): `IsWindow`, `TumbleOk`, `rangeSpec`, `rounds`, `Timely`.
All theorems quantify over **all** instants, lengths, offsets, streams, snapshots, clocks and round counts.
-/
namespace Octo.C21
open Octo Octo.Tvf Octo.TvfSpec

/-- `window_start ≤ time < window_end` -/
theorem window_contains (t len off : Int) (hlen : 0 < len) (hoff : I64 off) (hne : off ≠ minI64) :
    windowStart t len off ≤ t ∧ t < windowEnd t len off := by
  have := window_isWindow t len off hlen hoff hne
  exact ⟨this.1, this.2.1⟩

/-- `window_end − window_start` is the window length (for every length and offset) -/
theorem window_len (t len off : Int) : windowEnd t len off - windowStart t len off = len := by
  unfold windowEnd; omega

/-- `window_start − offset` is a multiple of the window length, counted from Go's zero time (what `Truncate` documents) -/
theorem window_aligned (t len off : Int) (hlen : 0 < len) (hoff : I64 off) (hne : off ≠ minI64) :
    (windowStart t len off - off - zeroUnix) % len = 0 := by
  obtain ⟨_, _, _, haligned⟩ := window_isWindow t len off hlen hoff hne
  exact haligned

/-- the three conditions of the property determine the window: the code's answer is the only one -/
theorem window_unique (t len off ws we : Int) (hlen : 0 < len) (hoff : I64 off) (hne : off ≠ minI64)
    (h : IsWindow t len off ws we) : ws = windowStart t len off ∧ we = windowEnd t len off := by
  obtain ⟨a1, a2, a3, a4⟩ := h
  have := eq_sub_emod_of_multiple (x := t - off - zeroUnix) hlen a4 (Int.sub_le_sub_right (Int.sub_le_sub_right a1 off) _) (by omega)
  unfold windowEnd
  rw [windowStart_eq t len off hlen hoff hne]
  generalize (t - off - zeroUnix) % len = r at *
  omega

/-- consecutive windows tile the time line: the window of `window_end` starts at `window_end` -/
theorem window_next (t len off : Int) (hlen : 0 < len) (hoff : I64 off) (hne : off ≠ minI64) :
    windowStart (windowEnd t len off) len off = windowEnd t len off := by
  -- `window_end − offset` is again a multiple of the length: the remainder that `windowStart` subtracts is 0
  have h4 := window_aligned t len off hlen hoff hne
  rw [windowStart_eq _ len off hlen hoff hne,
    show windowEnd t len off - off - zeroUnix = windowStart t len off - off - zeroUnix + len by unfold windowEnd; omega,
    Int.add_emod_right, h4, Int.sub_zero]

/-- every record gets exactly its window appended, everything else (other fields, flag, event time, order,
    watermarks) is unchanged, and the run ends normally — for every stream whose records carry a time at `idx` -/
theorem tumble_stream (c : TumbleCfg) (idx : Nat) (hc : c.idx = idx) (hlen : 0 < c.len) (hoff : I64 c.off)
    (hne : c.off ≠ minI64) (ms : List Msg) (ht : Timed idx ms) :
    (tumbleMsgs c ms).2 = .ok ∧ TumbleOk idx c.len c.off ms (tumbleMsgs c ms).1 := by
  obtain ⟨out, hok, he⟩ := tumbleMsgs_append c idx hc hlen hoff hne ms [] ht
  rw [List.append_nil] at he
  rw [he]
  exact ⟨rfl, (List.append_nil out).symm ▸ hok⟩

/-- watermarks pass through unchanged (same values, same order) -/
theorem tumble_watermarks (c : TumbleCfg) (idx : Nat) (hc : c.idx = idx) (hlen : 0 < c.len) (hoff : I64 c.off)
    (hne : c.off ≠ minI64) (ms : List Msg) (ht : Timed idx ms) : wms (tumbleMsgs c ms).1 = wms ms :=
  tumbleOk_wms_eq (tumble_stream c idx hc hlen hoff hne ms ht).2

/-- with a consumer that fails after `budget` messages and a source that may fail at its end: the output is the
    documented image of the prefix of the input that got through, and the run reports the first failure -/
theorem tumble_run (c : TumbleCfg) (idx : Nat) (hc : c.idx = idx) (hlen : 0 < c.len) (hoff : I64 c.off)
    (hne : c.off ≠ minI64) (src : List Msg × Bool) (budget : Option Nat) (ht : Timed idx src.1) :
    TumbleOk idx c.len c.off (src.1.take (tumbleRun c src budget).1.length) (tumbleRun c src budget).1 ∧
    (tumbleRun c src budget).1.length = (match budget with | none => src.1.length | some b => min b src.1.length) ∧
    (tumbleRun c src budget).2 =
      (match budget with
       | some b => if src.1.length > b then .errBudget else (if src.2 then .errSource else .ok)
       | none => if src.2 then .errSource else .ok) := by
  obtain ⟨hs, hok⟩ := tumble_stream c idx hc hlen hoff hne src.1 ht
  have hl := tumbleOk_length_eq hok
  cases budget with
  | none =>
    simp only [tumbleRun, cut_eq, hs, true_and, hl, List.take_length]
    exact ⟨hok, trivial⟩
  | some b =>
    -- `b` messages get through, or all of them: either way the output is the image of `src.1.take b`
    simp only [tumbleRun, cut_eq, hs, true_and, List.length_take, hl, ← List.take_eq_take_min]
    exact ⟨tumbleOk_take b hok, trivial⟩

/-- tumble creates no late data and keeps watermarks increasing: event times and watermarks are untouched -/
theorem tumble_timely (c : TumbleCfg) (idx : Nat) (hc : c.idx = idx) (hlen : 0 < c.len) (hoff : I64 c.off)
    (hne : c.off ≠ minI64) (ms : List Msg) (ht : Timed idx ms) (w : Option Int) (h : Timely w ms) :
    Timely w (tumbleMsgs c ms).1 :=
  tumbleOk_timely w (tumble_stream c idx hc hlen hoff hne ms ht).2 h

/-- … also with respect to the time field the output schema declares (`window_end`): a record whose time is above
    a watermark has its `window_end` above that watermark -/
theorem tumble_window_end_not_late (t len off W : Int) (hlen : 0 < len) (hoff : I64 off) (hne : off ≠ minI64)
    (h : W < t) : W < windowEnd t len off := by
  have := (window_contains t len off hlen hoff hne).2
  omega

/-- the declared `NoRetractions` (copied from the source) is honoured -/
theorem tumble_no_retractions (c : TumbleCfg) (idx : Nat) (hc : c.idx = idx) (hlen : 0 < c.len) (hoff : I64 c.off)
    (hne : c.off ≠ minI64) (ms : List Msg) (ht : Timed idx ms) (h : ∀ r ∈ recs ms, r.retr = false) :
    ∀ r ∈ recs (tumbleMsgs c ms).1, r.retr = false :=
  tumbleOk_no_retractions (tumble_stream c idx hc hlen hoff hne ms ht).2 h

/-- a record without a value at the time field index (Go: index out of range): the documented image of everything
    before it has been emitted, then the run panics -/
theorem tumble_panic_prefix (c : TumbleCfg) (idx : Nat) (hc : c.idx = idx) (hlen : 0 < c.len) (hoff : I64 c.off)
    (hne : c.off ≠ minI64) (pre post : List Msg) (r : Rec) (ht : Timed idx pre) (hr : r.vals[idx]? = none) :
    (tumbleMsgs c (pre ++ .data r :: post)).2 = .panic ∧
    TumbleOk idx c.len c.off pre (tumbleMsgs c (pre ++ .data r :: post)).1 := by
  obtain ⟨out, hok, he⟩ := tumbleMsgs_append c idx hc hlen hoff hne pre (.data r :: post) ht
  have hrec : tumbleRec c r = none := by
    unfold tumbleRec; rw [if_neg (by omega), hc, Int.toNat_natCast, hr]
  rw [he, show tumbleMsgs c (.data r :: post) = ([], .panic) by rw [tumbleMsgs, hrec]]
  exact ⟨rfl, (List.append_nil out).symm ▸ hok⟩

/-- `OutputSchema` and `Materialize` look the time field up with two separate loops; when `OutputSchema` accepts
    `time_field => DESCRIPTOR(name)`, the index `Materialize` computes is that of a `Time` field with that name -/
theorem tumble_schema_index (name : String) (src : Schema) (out : Schema)
    (h : tumbleSchema (some name) src = some out) :
    src.fields[lookupIdx name src.fields 0]? = some (name, .time) := by
  unfold tumbleSchema at h
  simp only at h
  split at h
  · next hf =>
    obtain ⟨j, h1, h2⟩ := lookupIdx_of_find name src.fields 0 hf
    rw [h1]; simpa using h2
  · simp at h

/-- the declared schema: the source's fields, then `window_start`, `window_end` (both `Time`); the time field is
    `window_end`; `NoRetractions` as the source's -/
theorem tumble_schema_shape (tf : Option String) (src out : Schema) (h : tumbleSchema tf src = some out) :
    out.fields = src.fields ++ [("window_start_0", .time), ("window_end_0", .time)] ∧
    out.timeField = src.fields.length + 1 ∧ out.noRetr = src.noRetr := by
  unfold tumbleSchema at h
  simp only at h
  split at h
  · split at h
    · simp at h; subst h; exact ⟨rfl, rfl, rfl⟩
    · simp at h
  · split at h
    · simp at h
    · simp at h; subst h; exact ⟨rfl, rfl, rfl⟩

/-- outside the statement: a non-positive window length makes `Truncate` the identity, so `time < window_end` fails -/
theorem tumble_nonpositive_length (t len off : Int) (hlen : len ≤ 0) (hoff : I64 off) (hne : off ≠ minI64) :
    windowStart t len off = t ∧ windowEnd t len off ≤ t := by
  unfold windowEnd windowStart
  rw [negDur_eq off hoff hne, truncate_nonpos _ _ hlen]
  omega

/-- the one offset for which the code is wrong: `-1 * offset` wraps at `MinInt64`, the window lands 2⁶⁴ ns early
    (witness replayed on the real node: `tumble im 0 1 1000 -9223372036854775808 -1 -1 | R1 t5:0 + z`) -/
theorem tumble_minint64_offset : ¬ (windowStart 5 1000 minI64 ≤ 5 ∧ 5 < windowEnd 5 1000 minI64) := by decide

/-- the loop emits exactly `[start, end)` ascending (`rangeSpec = map (start + ·) (List.range (end − start))`) -/
theorem range_spec (s e : Int) : rangeInts s e = rangeSpec s e := rangeLoop_eq e _ s (Nat.le_refl _)
/-- each integer of `[start, end)` and nothing else -/
theorem range_mem (s e x : Int) : x ∈ rangeInts s e ↔ s ≤ x ∧ x < e := by
  rw [range_spec]; exact mem_rangeSpec s e x
/-- strictly ascending, hence each integer once -/
theorem range_ascending (s e : Int) : List.Pairwise (· < ·) (rangeInts s e) := by
  rw [range_spec]; exact rangeSpec_sorted s e
theorem range_nodup (s e : Int) : (rangeInts s e).Nodup := by
  have := range_ascending s e
  exact this.imp (fun h => Int.ne_of_lt h)
/-- `end − start` records … -/
theorem range_length (s e : Int) : (rangeInts s e).length = (e - s).toNat := by
  rw [range_spec]; exact rangeSpec_length s e
/-- … in particular nothing when `end ≤ start` -/
theorem range_empty (s e : Int) (h : e ≤ s) : rangeInts s e = [] := by
  rw [range_spec]; exact rangeSpec_nil s e h
/-- the node: one record `(i)` per integer, no retractions, no event time, no watermark; a failing consumer cuts
    the stream and is reported -/
theorem range_run (s e : Int) (budget : Option Nat) :
    (rangeRun (.int s) (.int e) budget).1 =
      (match budget with
       | none => (rangeSpec s e).map rangeMsg
       | some b => ((rangeSpec s e).take b).map rangeMsg) ∧
    (rangeRun (.int s) (.int e) budget).2 =
      (match budget with
       | none => .ok
       | some b => if (e - s).toNat > b then .errBudget else .ok) := by
  unfold rangeRun
  rw [cut_eq]
  simp only [intOf, range_spec, List.length_map, rangeSpec_length]
  cases budget <;> simp [List.map_take]

/-- range declares `NoRetractions` and no time field, and indeed emits neither retractions, event times nor watermarks -/
theorem range_plain (s e : Int) (budget : Option Nat) :
    ∀ m ∈ (rangeRun (.int s) (.int e) budget).1, ∃ i, m = .data { vals := [.int i], retr := false, et := none } := by
  intro m hm
  have h := (range_run s e budget).1
  rw [h] at hm
  have hmap : ∀ l : List Int, m ∈ l.map rangeMsg → ∃ i, m = rangeMsg i :=
    fun l h => (List.mem_map.1 h).elim fun i hi => ⟨i, hi.2.symm⟩
  cases budget with
  | none => exact hmap _ hm
  | some b => exact hmap _ hm

/-- a clock for the witnesses: 100, 101, 102, … -/
def wclock (k : Nat) : Int := 100 + k

/-- **the rounds.** Over any clock that never reads the zero time and any list of snapshots, the loop emits exactly
    `rounds`: round `k` = undo of snapshot `k−1` (nothing in round 0), snapshot `k` with the reading prepended,
    watermark `clock k`; when the source then fails, the undo of the last snapshot has already been emitted. -/
theorem poll_rounds (clock : Nat → Int) (hz : ∀ j, clock j ≠ zeroUnix) (snaps : List (List Msg)) :
    pollFrom clock 0 {} (okRounds snaps) =
      (rounds clock snaps snaps.length ++ undoBefore clock snaps snaps.length, .errSource) := by
  have := pollFrom_split clock hz snaps [] snaps 0 rfl
  have h0 : stAfter clock snaps 0 = {} := rfl
  simpa [h0, rounds, List.range_eq_range', pollFrom, pollRetractions_eq clock hz] using this

/-- the shape of one round, spelled out -/
theorem poll_round (clock : Nat → Int) (snaps : List (List Msg)) (k : Nat) :
    rounds clock snaps (k + 1) =
      rounds clock snaps k ++
        (undoBefore clock snaps k ++ body (clock k) (snaps.getD k []) ++ [.wm (clock k)]) :=
  rounds_succ clock snaps k

/-- the source failing in the middle of a snapshot: what it delivered is still reported, then the error -/
theorem poll_rounds_fail (clock : Nat → Int) (hz : ∀ j, clock j ≠ zeroUnix) (snaps : List (List Msg)) (msgs : List Msg) :
    pollFrom clock 0 {} (okRounds snaps ++ [(msgs, true)]) =
      (rounds clock snaps snaps.length ++ (undoBefore clock snaps snaps.length ++ body (clock snaps.length) msgs),
        .errSource) := by
  have := pollFrom_split clock hz snaps [(msgs, true)] snaps 0 rfl
  have h0 : stAfter clock snaps 0 = {} := rfl
  simpa [h0, rounds, List.range_eq_range', pollFrom, pollRetractions_eq clock hz, map_pollMsg] using this

/-- every completed round is a prefix of what poll has emitted -/
theorem poll_prefix (clock : Nat → Int) (hz : ∀ j, clock j ≠ zeroUnix) (snaps : List (List Msg)) (n : Nat)
    (hn : n ≤ snaps.length) : ∃ rest, (pollFrom clock 0 {} (okRounds snaps)).1 = rounds clock snaps n ++ rest := by
  rw [poll_rounds clock hz]
  obtain ⟨d, hd⟩ := Nat.exists_eq_add_of_le hn
  unfold rounds
  rw [hd, List.range_add, List.flatMap_append, List.append_assoc]
  exact ⟨_, rfl⟩

/-- **consolidated output.** At the watermark of round `n` the net content of everything emitted so far is exactly
    snapshot `n` as reported (clock reading in front, the source's own retractions honoured) -/
theorem poll_consolidated (clock : Nat → Int) (snaps : List (List Msg)) (n : Nat) (row : Row) :
    net (recs (rounds clock snaps (n + 1))) row = net (stamped (clock n) (snaps.getD n [])) row := by
  induction n with
  | zero => simp [rounds, recs_round, undoBefore, recs]
  | succ n ih =>
    rw [rounds_succ, recs_append, net_append, ih, recs_round, net_append]
    simp only [undoBefore, net_undo]
    omega

/-- no late data and strictly increasing watermarks (C18's notion), for a strictly increasing clock and sources
    that send no watermarks of their own -/
theorem poll_timely (clock : Nat → Int) (hz : ∀ j, clock j ≠ zeroUnix) (hinc : ∀ j, clock j < clock (j + 1))
    (snaps : List (List Msg)) (hs : ∀ k, wms (snaps.getD k []) = []) :
    Timely none (pollFrom clock 0 {} (okRounds snaps)).1 := by
  rw [poll_rounds clock hz]
  exact timely_rounds clock hz hinc snaps hs snaps.length

/-- the output is a valid changelog (no prefix retracts what is not there) whenever every snapshot is one -/
theorem poll_valid (clock : Nat → Int) (hz : ∀ j, clock j ≠ zeroUnix) (snaps : List (List Msg))
    (hv : ∀ k, ValidLog (recs (snaps.getD k []))) : ValidLog (recs (pollFrom clock 0 {} (okRounds snaps)).1) := by
  rw [poll_rounds clock hz]
  exact valid_rounds clock snaps hv snaps.length

/-- why `poll_timely` needs sources without watermarks: poll hands the source its own `metaSend`, so a source
    watermark (here 500, above the clock) is forwarded and poll's next watermark (100) goes backwards -/
theorem poll_forwards_source_watermarks :
    (pollFrom wclock 0 {} (okRounds [[.wm 500]])).1 = [.wm 500, .wm 100] ∧
    ¬ Timely none (pollFrom wclock 0 {} (okRounds [[.wm 500]])).1 := by
  refine ⟨rfl, fun h => ?_⟩
  -- for the second watermark `Timely` demands `500 < 100`
  obtain ⟨_, h2, _⟩ := h
  exact absurd (show (500 : Int) < 100 from h2 500 rfl) (by decide)

/-- a failing consumer: poll's output is the prefix that got through -/
theorem poll_run (clock : Nat → Int) (hz : ∀ j, clock j ≠ zeroUnix) (snaps : List (List Msg)) (b : Nat) :
    (pollRun clock (okRounds snaps) (some b)).1 =
      (rounds clock snaps snaps.length ++ undoBefore clock snaps snaps.length).take b := by
  unfold pollRun
  rw [cut_eq, poll_rounds clock hz]

def rowA : Msg := .data { vals := [.int 7], retr := false, et := none }
def rowA' : Msg := .data { vals := [.int 7], retr := true, et := none }

/-- shipped: the undo of round 0's snapshot carries event time 100 — the watermark already sent (late data) -/
theorem shipped_poll_late :
    (Shipped.pollFrom wclock 0 {} [([rowA], false)]).1 =
      [.data { vals := [.time 100 0, .int 7], retr := false, et := some 100 }, .wm 100,
       .data { vals := [.time 100 0, .int 7], retr := true, et := some 100 }] ∧
    ¬ Timely none (Shipped.pollFrom wclock 0 {} [([rowA], false)]).1 := by
  refine ⟨rfl, fun h => ?_⟩
  -- for the record after the watermark 100 `Timely` demands an event time above 100
  obtain ⟨_, _, h3, _⟩ := h
  obtain ⟨e, he, hlt⟩ := h3 100 rfl
  cases he
  exact Int.lt_irrefl 100 hlt

/-- shipped: a source snapshot `+7, −7` (net empty) is reported as two additions: consolidated output ≠ snapshot -/
theorem shipped_poll_drops_retractions :
    net (recs ((Shipped.pollFrom wclock 0 {} [([rowA, rowA'], false)]).1.take 3)) [.time 100 0, .int 7] = 2 ∧
    net (stamped 100 [rowA, rowA']) [.time 100 0, .int 7] = 0 := by decide

def TumbleStatement (tm : TumbleCfg → List Msg → Result) : Prop :=
  ∀ (c : TumbleCfg) (idx : Nat), c.idx = idx → 0 < c.len → I64 c.off → ∀ ms, Timed idx ms →
    (tm c ms).2 = .ok ∧ TumbleOk idx c.len c.off ms (tm c ms).1

def RangeStatement (rg : Int → Int → List Int) : Prop :=
  ∀ s e, rg s e = rangeSpec s e ∧ List.Pairwise (· < ·) (rg s e) ∧ (∀ x, x ∈ rg s e ↔ s ≤ x ∧ x < e)

/-- poll part, for a poll implementation `pl` (clock ↦ rounds ↦ result) -/
def PollStatement (pl : (Nat → Int) → List (List Msg × Bool) → Result) : Prop :=
  ∀ (clock : Nat → Int), (∀ j, clock j ≠ zeroUnix) → ∀ (snaps : List (List Msg)),
    pl clock (okRounds snaps) = (rounds clock snaps snaps.length ++ undoBefore clock snaps snaps.length, .errSource) ∧
    (∀ n, n < snaps.length → ∀ row,
      net (recs (rounds clock snaps (n + 1))) row = net (stamped (clock n) (snaps.getD n [])) row)

/-- **C21 at full strength**: every int64 offset, every positive length, every instant, every stream; every
    `(start, end)`; every clock, every list of snapshots (retracting sources included) -/
def Statement (tm : TumbleCfg → List Msg → Result) (rg : Int → Int → List Int)
    (pl : (Nat → Int) → List (List Msg × Bool) → Result) : Prop :=
  TumbleStatement tm ∧ RangeStatement rg ∧ PollStatement pl

theorem range_statement : RangeStatement rangeInts :=
  fun s e => ⟨range_spec s e, range_ascending s e, range_mem s e⟩

theorem poll_statement : PollStatement (fun clock rs => pollFrom clock 0 {} rs) :=
  fun clock hz snaps => ⟨poll_rounds clock hz snaps, fun n _ row => poll_consolidated clock snaps n row⟩

/-- the tumble part fails: witness offset `MinInt64` (known finding `tumble-offset-minint64`); that no other offset
    fails is `C21_partial` -/
theorem tumble_refuted : ¬ TumbleStatement tumbleMsgs := by
  intro h
  obtain ⟨⟨_, _, t, loc, ws, we, hv, hvals, hw⟩, _⟩ := (h { idx := 0, len := 1000, off := minI64 } 0 rfl (by decide)
    (by decide) [.data { vals := [.time 5 0], retr := false, et := none }] ⟨⟨5, 0, rfl⟩, trivial⟩).2
  -- the record is the one at 5, the two appended values are `windowStart` and `windowEnd`
  cases hv
  cases hvals
  exact tumble_minint64_offset ⟨hw.1, hw.2.1⟩

theorem C21_refuted : ¬ Statement tumbleMsgs rangeInts (fun clock rs => pollFrom clock 0 {} rs) :=
  fun h => tumble_refuted h.1

/-- **what holds**: the whole statement with the single exclusion `offset ≠ MinInt64` -/
theorem C21_partial :
    (∀ (c : TumbleCfg) (idx : Nat), c.idx = idx → 0 < c.len → I64 c.off → c.off ≠ minI64 → ∀ ms, Timed idx ms →
      (tumbleMsgs c ms).2 = .ok ∧ TumbleOk idx c.len c.off ms (tumbleMsgs c ms).1) ∧
    RangeStatement rangeInts ∧ PollStatement (fun clock rs => pollFrom clock 0 {} rs) :=
  ⟨fun c idx hc hlen hoff hne ms ht => tumble_stream c idx hc hlen hoff hne ms ht, range_statement, poll_statement⟩

def flags (ms : List Msg) : List (Option Bool) := ms.map fun | .data r => some r.retr | .wm _ => none

/-- the shipped poll loop does not satisfy the poll part (retracting source `+7, −7`) -/
theorem shipped_poll_refuted : ¬ PollStatement (fun clock rs => Shipped.pollFrom clock 0 {} rs) := by
  intro h
  have := (h wclock (by intro j; unfold wclock zeroUnix; omega) [[rowA, rowA']]).1
  have hne : flags (Shipped.pollFrom wclock 0 {} (okRounds [[rowA, rowA']])).1 ≠
      flags (rounds wclock [[rowA, rowA']] 1 ++ undoBefore wclock [[rowA, rowA']] 1) := by decide
  exact hne (congrArg (fun r => flags r.1) this)

-- the hypotheses of the window theorems are met by ordinary and by awkward arguments
example : (0 : Int) < 1000000000 ∧ I64 (-3600000000000) ∧ (-3600000000000 : Int) ≠ minI64 := by decide
-- a pre-1970 instant, 1 s windows: −1.5 s lies in [−2 s, −1 s)  (the C20 witness region; Truncate floors)
example : windowStart (-1500000000) 1000000000 0 = -2000000000 ∧ windowEnd (-1500000000) 1000000000 0 = -1000000000 := by decide
-- 7-day windows are aligned to the zero time (a Monday), not to the Unix epoch (a Thursday)
example : windowStart 0 604800000000000 0 = -259200000000000 := by decide
example : windowStart 10 7 (-3) = 8 ∧ windowEnd 10 7 (-3) = 15 := by decide
example : IsWindow 10 7 (-3) 8 15 := by decide
-- `Timed` is satisfiable by a stream with watermarks, retractions and several fields
example : Timed 1 [.wm 3, .data { vals := [.null, .time 10 2], retr := true, et := some 4 }, .wm 9] :=
  ⟨⟨10, 2, rfl⟩, trivial⟩
example : (tumbleMsgs { idx := 1, len := 7, off := -3 }
    [.wm 3, .data { vals := [.null, .time 10 2], retr := true, et := some 4 }, .wm 9]).1 =
    [.wm 3, .data { vals := [.null, .time 10 2, .time 8 2, .time 15 2], retr := true, et := some 4 }, .wm 9] := rfl
example : rangeInts (-2) 3 = [-2, -1, 0, 1, 2] := by decide
example : rangeInts 3 (-2) = [] := by decide
-- poll: two rounds over a retracting source; hypotheses of poll_timely / poll_valid are satisfiable
example : ∀ j, wclock j ≠ zeroUnix := by intro j; unfold wclock zeroUnix; omega
example : ∀ j, wclock j < wclock (j + 1) := by intro j; unfold wclock; omega
example : (pollFrom wclock 0 {} (okRounds [[rowA], []])).1 =
    [.data { vals := [.time 100 0, .int 7], retr := false, et := some 100 }, .wm 100,
     .data { vals := [.time 100 0, .int 7], retr := true, et := some 101 }, .wm 101] := rfl
example : ValidLog (recs [rowA, rowA']) := by
  intro n row
  match n with
  | 0 => simp [net]
  | 1 => simp [recs, rowA, rowA', net, Rec.weight]; split <;> simp
  | n + 2 => simp [recs, rowA, rowA', net, Rec.weight]; split <;> simp

end Octo.C21
