import Octo.Lemmas.ConsistentOutput
/-!
# C22 — The internally-consistent output wrapper forwards exactly the settled changes

Property: for every input changelog with watermarks, each time the wrapper forwards watermark W, the consolidated
records it has emitted equal the consolidated input records with event time at or below W.  It never emits a
record that was not in its input, and by end of stream everything has been emitted.

`ICW.run` is the model of `InternallyConsistentOutputStreamWrapper.Run`
(`outputs/stream/internally_consistent_output_stream_wrapper.go`); `ICW.fixed` is the code in /repo now (after the
`fix:` commit), `ICW.shipped` the code before it.  The model is tied to the Go code by the C22 correspondence run
(exact emitted sequence) on every check.

All theorems quantify over **all** inputs: any length, any rows (values of any nesting), duplicates, retractions
(also of rows that are not present — validity of the changelog is *not* needed), out-of-order and late event times,
records without event time.  Hypotheses, where present:
* `SameArity k (recs inp)` — all records have the same number of columns (a stream has one schema); without it the
  Go value loop indexes out of range (modelled as `.panic`);
* `Mono (wms inp)` — watermarks are non-decreasing (C18), needed for `at_wm` only;
* `InRange inp` — event times are at most `WatermarkMaxValue` = MaxInt64 ns (all that `time.Time.UnixNano` can express),
  needed for `complete` only.
"Consolidated … equal" is `∀ row, net … row = net … row` (DESIGN §2.7): equal signed multiplicity for every row,
rows identified by the engine's own `Compare == 0`.
-/
namespace Octo.C22
open Octo Octo.ICW

/-- event time at or below `W` (records without event time count as below everything) -/
def etLe (W : Int) (r : Rec) : Bool := !after W r

/-- `a` is contained in `b` as a multiset: `b` is a rearrangement of `a` plus something -/
def SubMulti (a b : List Rec) : Prop := ∃ c, (a ++ c).Perm b

def InRange (inp : List Msg) : Prop := ∀ r ∈ recs inp, after wmMax r = false

/-- **no panic**: on records of one arity the wrapper always completes -/
theorem no_panic (k : Nat) (inp : List Msg) (har : SameArity k (recs inp)) : ∃ out, run fixed inp = .ok out := by
  obtain ⟨_, out, _, h, _⟩ := run_as_steps k inp har
  exact ⟨out, h⟩

/-- every watermark is forwarded, once, in order -/
theorem watermarks_forwarded (k : Nat) (inp out : List Msg) (har : SameArity k (recs inp))
    (hrun : run fixed inp = .ok out) : wms out = wms inp := by
  obtain ⟨s', _, hinv, h, hout, _⟩ := run_as_steps k inp har
  rw [h] at hrun; cases hrun
  have := hinv.wmsOut
  rw [hout, wms_append, wms_append] at this
  exact List.append_cancel_right this

/-- what has been emitted when the source stops (or fails) after `pre` is a prefix of what is emitted for any
    continuation: "each time the wrapper forwards a watermark" is a statement about input prefixes -/
theorem emitted_is_prefix (pre suf : List Msg) (o1 out : List Msg)
    (h1 : runFail fixed pre = .ok o1) (h2 : run fixed (pre ++ suf) = .ok out) : ∃ o2, out = o1 ++ o2 := by
  rw [runFail] at h1
  split at h1
  · cases h1
  · next s1 hs1 =>
    cases h1
    rw [run, steps_append, hs1] at h2
    dsimp only at h2
    split at h2
    · cases h2
    · next s2 hs2 =>
      obtain ⟨o', ho'⟩ := steps_out_prefix fixed suf s1 s2 hs2
      rw [finish] at h2
      split at h2
      · cases h2
      · cases h2
        exact ⟨_, (congrArg (· ++ _) ho').trans (List.append_assoc ..)⟩

/-- **at every forwarded watermark**: when the input is `pre ++ [wm W] ++ suf`, the output is `o1 ++ [wm W] ++ o2`
    where `o1` is what was emitted before that watermark (it contains as many watermarks as `pre`), and the
    consolidated records of `o1` equal the consolidated records of `pre` with event time ≤ W -/
theorem at_wm (k : Nat) (pre suf : List Msg) (W : Int) (out : List Msg)
    (har : SameArity k (recs (pre ++ .wm W :: suf))) (hm : Mono (wms (pre ++ .wm W :: suf)))
    (hrun : run fixed (pre ++ .wm W :: suf) = .ok out) :
    ∃ o1 o2, out = o1 ++ .wm W :: o2 ∧ wms o1 = wms pre ∧
      ∀ row, net (recs o1) row = net ((recs pre).filter (etLe W)) row := by
  have har1 : SameArity k (recs pre) := fun r hr => har r (by rw [recs_append]; exact List.mem_append_left _ hr)
  obtain ⟨s1, hs1, (hinv1 : Inv k pre s1)⟩ := steps_inv k pre [] St.init (inv_init k) har1
  obtain ⟨o, hs2, _, hnet⟩ := step_wm k pre s1 W hinv1
  -- what has been emitted right after `wm W` is a prefix of the whole output
  have hfail : runFail fixed (pre ++ [Msg.wm W]) = .ok (s1.out ++ o.map Msg.data ++ [Msg.wm W]) := by
    rw [runFail, steps_append, hs1]; simp only [steps, hs2]
  have hrun' : run fixed ((pre ++ [Msg.wm W]) ++ suf) = .ok out := by rwa [List.append_assoc]
  have ⟨o2, ho2⟩ : ∃ o2, out = s1.out ++ o.map Msg.data ++ [Msg.wm W] ++ o2 := emitted_is_prefix _ _ _ _ hfail hrun'
  have hwms : wms (pre ++ Msg.wm W :: suf) = (wms pre ++ [W]) ++ wms suf := by
    rw [wms_append, List.append_assoc]; rfl
  rw [hwms] at hm
  refine ⟨s1.out ++ o.map Msg.data, o2, ?_, ?_, hnet (mono_le_last (mono_append_left hm))⟩
  · rw [ho2, List.append_assoc]; rfl
  · rw [wms_append, wms_map_data, List.append_nil, hinv1.wmsOut]

/-- **never emits a record that was not in its input**: the emitted records are a sub-multiset of the input
    records (each emitted record is one of the input records, and none is emitted more often than received) -/
theorem no_invention (k : Nat) (inp out : List Msg) (har : SameArity k (recs inp))
    (hrun : run fixed inp = .ok out) : SubMulti (recs out) (recs inp) := by
  obtain ⟨s', _, hinv, h, hout, _⟩ := run_as_steps k inp har
  rw [h] at hrun; cases hrun
  obtain ⟨C, hC, _⟩ := hinv.conserved
  rw [hout, recs_append, recs_append, show recs [Msg.wm wmMax] = [] from rfl, List.append_nil, List.append_nil,
    List.append_assoc] at hC
  exact ⟨_, hC⟩

/-- in particular every emitted record *is* an input record -/
theorem emitted_mem_input (k : Nat) (inp out : List Msg) (har : SameArity k (recs inp))
    (hrun : run fixed inp = .ok out) : ∀ r ∈ recs out, r ∈ recs inp := by
  obtain ⟨c, hc⟩ := no_invention k inp out har hrun
  intro r hr
  exact hc.subset (List.mem_append_left _ hr)

/-- **complete**: by end of stream the consolidated output equals the consolidated input -/
theorem complete (k : Nat) (inp out : List Msg) (har : SameArity k (recs inp)) (hrange : InRange inp)
    (hrun : run fixed inp = .ok out) : ∀ row, net (recs out) row = net (recs inp) row := by
  obtain ⟨s', _, hinv, h, hout, habove⟩ := run_as_steps k inp har
  rw [h] at hrun; cases hrun
  obtain ⟨C, hC, hC0⟩ := hinv.conserved
  rw [hout, recs_append, recs_append, show recs [Msg.wm wmMax] = [] from rfl, List.append_nil, List.append_nil] at hC
  -- what is pending at the end is an input record above `wmMax`: there is none
  have hpend : s'.pending = [] := List.eq_nil_iff_forall_not_mem.mpr fun r hr =>
    Bool.false_ne_true ((hrange r (hC.subset (List.mem_append_left _ (List.mem_append_right _ hr)))).symm.trans
      (habove r hr))
  intro row
  have := net_perm hC row
  rw [hpend, List.append_nil, net_append, hC0 row, Int.add_zero] at this
  exact this

/-- when no record is late (every record delivered after a watermark lies above it — the usual contract between
    a source and its watermarks), "the input records at or below W" may be read over the **whole** input -/
theorem at_wm_whole_input (k : Nat) (pre suf : List Msg) (W : Int) (out : List Msg)
    (har : SameArity k (recs (pre ++ .wm W :: suf))) (hm : Mono (wms (pre ++ .wm W :: suf)))
    (hlate : ∀ r ∈ recs suf, after W r = true)
    (hrun : run fixed (pre ++ .wm W :: suf) = .ok out) :
    ∃ o1 o2, out = o1 ++ .wm W :: o2 ∧ wms o1 = wms pre ∧
      ∀ row, net (recs o1) row = net ((recs (pre ++ .wm W :: suf)).filter (etLe W)) row := by
  obtain ⟨o1, o2, h1, h2, h3⟩ := at_wm k pre suf W out har hm hrun
  refine ⟨o1, o2, h1, h2, fun row => ?_⟩
  have : (recs suf).filter (etLe W) = [] := by
    apply List.filter_eq_nil_iff.mpr
    intro r hr; rw [etLe, hlate r hr]; exact Bool.false_ne_true
  rw [h3 row]
  simp only [recs_append, recs, List.filter_append, this, List.append_nil]

/-- the full-strength statement of C22 for an implementation `run` -/
def Statement (run : List Msg → Except Fail (List Msg)) : Prop :=
  ∀ (k : Nat) (inp : List Msg), SameArity k (recs inp) → Mono (wms inp) →
    ∃ out, run inp = .ok out ∧
      -- each time a watermark W is forwarded: consolidated emitted = consolidated input so far with event time ≤ W
      (∀ pre W suf, inp = pre ++ .wm W :: suf →
        ∃ o1 o2, out = o1 ++ .wm W :: o2 ∧ wms o1 = wms pre ∧
          ∀ row, net (recs o1) row = net ((recs pre).filter (etLe W)) row) ∧
      -- never a record that was not in the input
      SubMulti (recs out) (recs inp) ∧
      -- by end of stream everything has been emitted
      (InRange inp → ∀ row, net (recs out) row = net (recs inp) row)

/-- **C22, full strength, on the current tree.** -/
theorem C22_full : Statement (run fixed) := by
  intro k inp har hm
  obtain ⟨out, hrun⟩ := no_panic k inp har
  refine ⟨out, hrun, ?_, no_invention k inp out har hrun, fun hr => complete k inp out har hr hrun⟩
  intro pre W suf he
  subst he
  exact at_wm k pre suf W out har hm hrun

/-! ## The shipped code violates the property (three independent defects) -/

def row1 (retr : Bool) (et : Int) : Msg := .data { vals := [.int 1], retr := retr, et := some et }
/-- a decidable view of an output: per message, `none` for a watermark, `some (arity, retraction, et)` for a record -/
def view (o : Except Fail (List Msg)) : Option (List (Option (Nat × Bool × Option Int))) :=
  o.toOption.map fun ms => ms.map fun m => match m with
    | .wm _ => none
    | .data r => some (r.vals.length, r.retr, r.et)

/-- defect 1 (`make([]Record, n)` then `append`): input `+a(et 9), wm 5, wm 10` — an empty record that was never in
    the input is emitted before `a` -/
theorem shipped_invents_zero_record :
    view (run shipped [row1 false 9, .wm 5, .wm 10]) = some [none, some (0, false, none), some (1, false, some 9), none] := by
  decide
/-- defect 2 (crossed-out retractions are matched again): `+a +a −a, wm` emits nothing, the consolidated input is `+a` -/
theorem shipped_one_retraction_cancels_two :
    view (run shipped [row1 false 1, row1 false 1, row1 true 1, .wm 5]) = some [none] := by decide
/-- defect 3 (an addition ≤ W cancelled against a retraction > W): `+a(et 1) −a(et 9), wm 5, wm 10` emits nothing
    before `wm 5` although the consolidated input ≤ 5 is `+a`.  (With defect 1 present the retraction then vanishes
    too: the zero record in front of it has no values, so the value loop "matches" it with the retraction.) -/
theorem shipped_cancels_against_later_retraction :
    view (run shipped [row1 false 1, row1 true 9, .wm 5, .wm 10]) = some [none, none] := by decide

theorem shipped_refuted : ¬ Statement (run shipped) := by
  intro h
  obtain ⟨out, hrun, _, ⟨c, hc⟩, _⟩ := h 1 [row1 false 9, .wm 5, .wm 10]
    (by intro r hr; simp [recs, row1] at hr; subst hr; rfl) (by simp [wms, row1, Mono])
  -- every emitted record is an input record, hence of arity 1; the zero record has arity 0
  have hall : (recs out).all (fun r => r.vals.length == 1) = true := by
    rw [List.all_eq_true]
    intro r hr
    have : r ∈ recs [row1 false 9, .wm 5, .wm 10] := hc.subset (List.mem_append_left _ hr)
    simp [recs, row1] at this; subst this; rfl
  have hv : ((run shipped [row1 false 9, .wm 5, .wm 10]).toOption.map fun o =>
      (recs o).all fun r => r.vals.length == 1) = some false := by decide
  rw [hrun] at hv
  simp [Except.toOption, hall] at hv

/-! ## Non-vacuity -/

def rowA (retr : Bool) (et : Option Int) : Msg := .data { vals := [.int 1, .str [97]], retr := retr, et := et }
def rowB (retr : Bool) (et : Option Int) : Msg := .data { vals := [.int 2, .str [98]], retr := retr, et := et }
/-- duplicates, a retraction, out-of-order and late event times, a record without event time, repeated watermark -/
def demo : List Msg :=
  [rowA false (some 3), rowA false (some 3), rowB false (some 7), rowA true (some 4), .wm 4, rowB true (some 9),
   rowA false (some 2), .wm 4, rowB false none, .wm 8, rowA false (some 20)]

example : SameArity 2 (recs demo) := by unfold SameArity; decide
example : Mono (wms demo) := by simp [demo, wms, rowA, rowB, Mono]
example : InRange demo := by unfold InRange; decide
/-- the repaired code on the demo: at `wm 4` one `+A` (two additions, one retraction), then the late `+A`, … -/
example : view (run fixed demo) =
    some [some (2, false, some 3), none, some (2, false, some 2), none, some (2, false, some 7), some (2, false, none), none,
          some (2, true, some 9), some (2, false, some 20)] := by decide
/-- the three witnesses, on the repaired code -/
example : view (run fixed [row1 false 9, .wm 5, .wm 10]) = some [none, some (1, false, some 9), none] := by decide
example : view (run fixed [row1 false 1, row1 false 1, row1 true 1, .wm 5]) = some [some (1, false, some 1), none] := by decide
example : view (run fixed [row1 false 1, row1 true 9, .wm 5, .wm 10]) =
    some [some (1, false, some 1), none, some (1, true, some 9), none] := by decide

end Octo.C22
