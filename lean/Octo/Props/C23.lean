import Octo.Lemmas.FilesQueue
import Octo.Lemmas.FilesSplit
import Octo.Lemmas.FilesStdin
import Octo.Lemmas.FilesCsv
import Octo.Lemmas.FilesJson
/-!
# C23 — File datasources return exactly the file's rows

Property: for every file content, JSON-lines, CSV/TSV, lines and stdin sources return exactly one record per input
row, in file order, carrying the values the row contains — for any number of parser workers and any scheduling,
for data piped on stdin (part of which is read early for the schema preview), and for the lines source, which
splits exactly at the configured separator.

The property decomposes into library parsing (trusted: `fastjson`, `encoding/csv`, `bufio.Scanner`'s buffer
management, parquet-go) and four pieces of OctoSQL's own logic, modelled in `Octo.Model.FileQueue`, `LineSplit`,
`StdinPreview`, `JsonFile`/`CsvFile` and tied to the Go code by the C23 correspondence run.  All theorems are
unbounded: any number of lines, any batch size, any permutation of the batches (the schedule), any position of
the reader's `done` signal, any content, any non-empty separator, any window-growth schedule, any chunking of stdin
and any number of preview opens, any (nested) type and JSON value.
-/
namespace Octo.C23
open Octo Octo.Files

/-- the reader's jobs really are the file's lines, numbered from 0, in order, none of them empty -/
theorem reader_batches {α : Type} (lines : List α) (b : Nat) (hb : 0 < b) :
    (mkBatches b lines).flatten = number 0 lines ∧ ∀ job ∈ mkBatches b lines, job ≠ [] :=
  ⟨mkBatchesFrom_flatten b hb _ _ _ (Nat.le_refl _), mkBatchesFrom_nonempty b hb _ _ _⟩

/-- **Reorder queue.**  `recs` are the records of the file's lines, cut by the reader into jobs of `b ≥ 1` lines.
    For every order `bs` in which the parsed jobs reach the consumer (any permutation: the number of workers and
    the scheduler only decide which permutations occur) and every position `pos` at which the consumer sees the
    reader's `done`: the loop does not panic, does not hang, stops exactly when the last event has been consumed
    (`unconsumed = []`), and has produced every record exactly once, in line order. -/
theorem reorder_correct {α : Type} (recs : List α) (b : Nat) (hb : 0 < b)
    (bs : List (List (Nat × Option α))) (hperm : bs.Perm (parsedBatches b recs)) (pos : Nat) :
    consume recs.length QState.init false (schedule bs pos) = .stopped recs [] :=
  consume_jobs some _ recs recs (reader_batches recs b hb).1 (reader_batches recs b hb).2 rfl bs hperm pos

/-- a line that fails to parse is not skipped silently: in any state, with any events still to come, a batch in
    which `placeAll` meets an unparsed item ends the loop with that parse error -/
theorem reorder_parse_error {α : Type} (n : Nat) (st : QState α) (rd : Bool) (items : List (Nat × Option α))
    (evs : List (Event α)) (l : Nat) (h : placeAll st items = .parseError l) :
    consume n st rd (.batch items :: evs) = .parseError l := by
  simp [consume, h]

example : consume 3 QState.init false (schedule [[(2, some 12)], [(0, some 10), (1, some 11)]] 1)
    = .stopped [10, 11, 12] [] := by decide
example : parsedBatches 2 [10, 11, 12] = [[(0, some 10), (1, some 11)], [(2, some 12)]] := by decide
/-- the hypotheses of `reorder_correct` are met by a genuinely reordered schedule -/
example : [[(2, some 12)], [(0, some 10), (1, some 11)]].Perm (parsedBatches 2 [10, 11, 12]) := by
  rw [show parsedBatches 2 [10, 11, 12] = [[(0, some 10), (1, some 11)], [(2, some 12)]] by decide]
  exact List.Perm.swap _ _ _

/-- **Lines splitter (custom separator).**  For every content, every non-empty separator and every window-growth
    schedule, the records are the pieces between the (leftmost, non-overlapping) occurrences of the separator,
    without a final empty piece — provided every piece together with its separator fits the scanner's buffer of
    `maxTok` bytes (`fitsTok`; otherwise the scan ends with `ErrTooLong`, which the datasource returns as an error). -/
theorem lines_split (sep content : Bytes) (sched : List Nat) (maxTok : Nat) (hsep : sep ≠ [])
    (hfit : fitsTok maxTok sep content = true) :
    scanAll (splitFixed sep) maxTok content sched = .tokens (specLines sep content) := by
  rw [scanAll_fixed sep hsep id (splitFixed sep) (fun d e => by rw [Option.map_id_fun, id]) maxTok content sched hfit,
    List.map_id]

/-- **Lines splitter (default separator).**  `bufio.ScanLines`: split at "\n", drop one trailing "\r" per line. -/
theorem lines_default (content : Bytes) (sched : List Nat) (maxTok : Nat) (hfit : fitsTok maxTok [10] content = true) :
    scanAll scanLines maxTok content sched = .tokens ((specLines [10] content).map dropCR) :=
  scanAll_fixed [10] (List.cons_ne_nil _ _) dropCR scanLines scanLines_eq maxTok content sched hfit

def XY : Bytes := [88, 89]
def aXYbXYc : Bytes := [97, 88, 89, 98, 88, 89, 99]
example : scanAll (splitFixed XY) 16 aXYbXYc [0, 1, 0] = .tokens [[97], [98], [99]] ∧ fitsTok 16 XY aXYbXYc = true := by decide
/-- a piece that does not fit the buffer is an error, not a truncated record -/
example : scanAll (splitFixed XY) 3 aXYbXYc [0, 1, 0] = .tokens [[97], [98], [99]] ∧ fitsTok 3 XY aXYbXYc = true ∧
    scanAll (splitFixed XY) 2 aXYbXYc [5] = .tooLong [] ∧ fitsTok 2 XY aXYbXYc = false := by decide
example : specLines XY aXYbXYc = [[97], [98], [99]] := by decide
/-- a separator that overlaps itself: `aaa` split at `aa` is "", "a" -/
example : specLines [97, 97] [97, 97, 97] = [[], [97]] := by decide
example : scanAll (splitFixed [97, 97]) 16 [97, 97, 97] [] = .tokens [[], [97]] := by decide

/-- the code before the repair advanced by one byte instead of `len(sep)`: `aXYbXYc` gave `a`, `Yb`, `Yc` -/
theorem lines_raw_refuted :
    scanAll (splitRaw XY) 16 aXYbXYc [] = .tokens [[97], [89, 98], [89, 99]] ∧
    scanAll (splitRaw XY) 16 aXYbXYc [] ≠ .tokens (specLines XY aXYbXYc) := by decide

/-- **stdin replay.**  Whatever was read from stdin while previewing — any number of preview opens, any read
    sizes, any sizes the OS returned — the executing datasource receives exactly the original input. -/
theorem stdin_replay (content : BytesS) (sessions : List (List (Nat × Nat))) :
    realOpen (previewSessions ⟨[], content⟩ sessions) = content := by
  unfold realOpen
  rw [previewSessions_inv]; rfl

/-- every preview reader (the schema inference) sees a prefix of the original input -/
theorem stdin_preview_prefix (content : BytesS) (sessions : List (List (Nat × Nat))) (reads : List (Nat × Nat)) :
    (previewSession (previewSessions ⟨[], content⟩ sessions) reads).1 <+: content := by
  have hst := previewSessions_inv sessions ⟨[], content⟩
  simp only [List.nil_append] at hst
  generalize previewSessions ⟨[], content⟩ sessions = st at hst
  obtain ⟨hinv, hpre⟩ := previewReads_inv reads st.previewed st
  obtain ⟨c', hc'⟩ := hpre [] rfl
  unfold previewSession
  refine ⟨c' ++ (previewReads st.previewed st reads).2.unread, ?_⟩
  rw [← List.append_assoc]
  simp only [List.nil_append] at hc'
  rw [hc', hinv, hst]

example : (previewSession ⟨[], [1, 2, 3, 4, 5]⟩ [(2, 5), (2, 0)]).1 = [1, 2, 3] ∧
    (previewSession (previewSession ⟨[], [1, 2, 3, 4, 5]⟩ [(2, 5), (2, 0)]).2 [(1, 0), (9, 0), (9, 1)]).1 = [1, 2, 3, 4, 5] := by decide

/-- **JSON.**  A record the worker produces carries, field by field, exactly what the line contains (read back
    through the schema's types; a missing field reads as NULL). -/
theorem json_record_faithful (schema : Fields) (row : J) (vals : List Value) (h : rowValues schema row = some vals) :
    zipAll (fun (f : Name × Ty) v => represents f.2 v (row.get f.1)) schema vals = true := by
  obtain ⟨hok, rfl⟩ := rowValues_eq_some h
  rw [zipAll_map_right, List.all_eq_true]
  exact fun f hf => getValue_represents f.2 _ (hok f hf)

/-- a JSON line is turned into a record exactly when every field is representable in its column type — no
    spurious errors, no silent acceptance -/
theorem json_record_iff_fits (schema : Fields) (ks : List Name) (vs : List J) :
    (rowValues schema (.obj ks vs)).isSome = schema.all (fun f => fits f.2 ((J.obj ks vs).get f.1)) :=
  rowValues_isSome schema ks vs

/-- **JSON, whole file.**  A successful run returns exactly one record per line, the `i`-th record being the
    conversion of the `i`-th line and carrying the line's values; and the consumer loop, fed with the parser workers'
    results for the reader's jobs in ANY order (any permutation, any position of reader-done), returns exactly these
    records in line order. -/
theorem json_run_rows (rows : List J) (schema : Fields) (recs : List (List Value)) (h : jsonRun rows = .ok schema recs) :
    recs.length = rows.length ∧
    (∀ (i : Nat) (rec : List Value), recs[i]? = some rec → ∃ row, rows[i]? = some row ∧ rowValues schema row = some rec ∧
      zipAll (fun (f : Name × Ty) v => represents f.2 v (row.get f.1)) schema rec = true) ∧
    (∀ (b : Nat), 0 < b → ∀ bs : List (List (Nat × Option (List Value))),
      bs.Perm ((mkBatches b rows).map (parseBatch (rowValues schema))) → ∀ pos,
      consume rows.length QState.init false (schedule bs pos) = .stopped recs []) := by
  unfold jsonRun at h
  split at h
  · cases h
  · cases h
  · next schema' hc =>
    split at h
    · next recs' hr =>
      cases h
      rw [allSome_map] at hr
      obtain ⟨hlen, hi⟩ := List.mapM_getElem? hr
      refine ⟨hlen, fun i rec hrec => ?_, fun b hb bs hp pos => ?_⟩
      · obtain ⟨row, hrow, hv⟩ := hi i rec hrec
        exact ⟨row, hrow, hv, json_record_faithful schema row rec hv⟩
      · rw [← hlen]
        exact consume_jobs _ _ rows recs (reader_batches rows b hb).1 (reader_batches rows b hb).2
          (List.mapM_eq_some_iff.mp hr) bs hp pos
    · cases h

/-- **CSV.**  The value produced for a cell is what the cell's text denotes (NULL exactly for the empty cell). -/
theorem csv_cell_faithful (t : Ty) (c : Cell) (v : Value) (h : cellExec t c = some v) : cellRepresents v c = true :=
  cellExec_represents t c v h

/-- **CSV, whole file.**  A successful run returns exactly one record per row of the file, in file order, the
    `i`-th record holding, cell by cell, what the `i`-th row's texts denote. -/
theorem csv_run_rows (f : CsvFile) (names : List Name) (tys : List Ty) (recs : List (List Value))
    (h : csvRun f = .ok names tys recs) :
    recs.length = f.rows.length ∧
    ∀ (i : Nat) (rec : List Value), recs[i]? = some rec → ∃ row, f.rows[i]? = some row ∧
      ∀ (k : Nat) (v : Value) (c : Cell), rec[k]? = some v → row[k]? = some c → cellRepresents v c = true := by
  obtain ⟨hl, hi⟩ := rowsExec_spec _ _ _ (csvRun_eq_ok h)
  refine ⟨hl, fun i rec hrec => ?_⟩
  obtain ⟨row, hrow, hex⟩ := hi i rec hrec
  refine ⟨row, hrow, fun k v c hv hc => ?_⟩
  obtain ⟨t, c', _, hc', he⟩ := rowExec_spec _ _ _ hex k v hv
  cases hc.symm.trans hc'
  exact cellExec_represents t c v he

def rawSchema : Fields := [([99], .union [.str, .struct [[97], [98]] [.null, .float]])]
def rawRow : J := .obj [[99]] [.obj [[97], [98]] [.null, .num 0x3FF0000000000000]]
/-- the code before the repair: a struct with an explicit null inside a union column became NULL as a whole -/
theorem json_raw_refuted :
    (rowValuesRaw rawSchema rawRow).map (fun vals =>
      zipAll (fun (f : Name × Ty) v => represents f.2 v (rawRow.get f.1)) rawSchema vals) = some false := by decide
/-- … and the repaired code keeps the struct -/
example : (rowValues rawSchema rawRow).map (fun vals =>
      zipAll (fun (f : Name × Ty) v => represents f.2 v (rawRow.get f.1)) rawSchema vals) = some true := by decide

/-- the full-strength statement for a split function and a row converter -/
def Statement (split : Bytes → Bytes → Bool → SplitRes) (rowv : Fields → J → Option (List Value)) : Prop :=
  -- one record per line, in order, under every schedule of the worker pool
  (∀ (α : Type) (recs : List α) (b : Nat), 0 < b → ∀ bs : List (List (Nat × Option α)),
      bs.Perm (parsedBatches b recs) → ∀ pos, consume recs.length QState.init false (schedule bs pos) = .stopped recs []) ∧
  -- the lines source splits exactly at the separator
  (∀ sep content sched maxTok, sep ≠ [] → fitsTok maxTok sep content = true →
      scanAll (split sep) maxTok content sched = .tokens (specLines sep content)) ∧
  (∀ content sched maxTok, fitsTok maxTok [10] content = true →
      scanAll scanLines maxTok content sched = .tokens ((specLines [10] content).map dropCR)) ∧
  -- stdin is delivered unchanged after any preview
  (∀ content sessions, realOpen (previewSessions ⟨[], content⟩ sessions) = content) ∧
  -- records carry the values of their rows
  (∀ schema row vals, rowv schema row = some vals →
      zipAll (fun (f : Name × Ty) v => represents f.2 v (row.get f.1)) schema vals = true) ∧
  (∀ t c v, cellExec t c = some v → cellRepresents v c = true)

/-- **C23 on the current tree** (for the modelled pieces; parquet and the libraries are outside, see notes) -/
theorem C23_full : Statement splitFixed rowValues :=
  ⟨fun _ recs b hb bs hp pos => reorder_correct recs b hb bs hp pos,
   fun sep content sched maxTok hsep hfit => lines_split sep content sched maxTok hsep hfit,
   fun content sched maxTok hfit => lines_default content sched maxTok hfit, stdin_replay, json_record_faithful, csv_cell_faithful⟩

/-- the tree before the repairs violated it (lines separator; JSON null inside a union) -/
theorem C23_shipped_refuted : ¬ Statement splitRaw rowValuesRaw := by
  intro ⟨_, h2, _⟩
  exact lines_raw_refuted.2 (h2 XY aXYbXYc [] 16 (by decide) (by decide))

end Octo.C23
