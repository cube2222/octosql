import Octo.Lemmas.FilesCsv
import Octo.Lemmas.FilesJson
import Octo.Lemmas.FilesJsonInfer
/-!
# C24 — File datasources produce values that match their inferred schema

Property: for every JSON-lines and CSV file, every value the datasource produces matches the type it reported for
that column: a number column holds numbers, a non-nullable column never holds NULL, a list column holds lists.
A row that cannot be represented in the inferred schema is reported as an error rather than silently converted.

Models: `Octo.Model.CsvFile` (inference cascade and widening rules of `datasources/csv/impl.go`, the executing
cascade of `execution.go`, `strconv.ParseInt` and `fastfloat.ParseInt64` exactly, `ParseBool` exactly; the float
and time parsers are oracles carried by every cell) and `Octo.Model.JsonFile` (`getOctoSQLType`, `TypeSum` over the
rows, `getOctoSQLValue`).  `conforms` is the type model's "value matches type" (`Octo.Model.TyAlgebra`).
All theorems hold for every column type (any nesting), every cell / JSON value and all library oracles.
-/
namespace Octo.C24
open Octo Octo.Files

/-- **The two integer parsers.**  `fastfloat.ParseInt64` (execution) and `strconv.ParseInt(·, 10, 64)` (inference)
    agree — value or error — on every string that does not start with a plus sign. -/
theorem int_parsers (s : List UInt8) : fastInt s = strconvInt s ∨ s.head? = some 43 :=
  fastInt_eq_strconvInt s

/-- … and on a plus sign they do differ: `+5` is 5 for inference and an error for the fast parser -/
theorem int_parsers_plus : strconvInt [43, 53] = some 5 ∧ fastInt [43, 53] = none := by decide

example : fastInt [45, 49, 50] = some (-12) ∧ strconvInt [45, 49, 50] = some (-12) := by decide

/-- **CSV, every row.**  Whatever the executing datasource produces for a cell matches the column type — for rows
    beyond the preview too, for every column type and all library oracles. -/
theorem csv_cell_conforms (t : Ty) (c : Cell) (v : Value) (h : cellExec t c = some v) : conforms t v = true :=
  -- each alternative produces a value of its own type, which `Is` the column type
  cellExec_cases (P := fun v => conforms t v = true) t c (fun _ hn => Ty.is_sound hn _ rfl)
    (fun _ _ hn _ => Ty.is_sound hn _ rfl) (fun _ _ hn _ => Ty.is_sound hn _ rfl) (fun _ _ hn _ => Ty.is_sound hn _ rfl)
    (fun _ _ hn _ => Ty.is_sound hn _ rfl) (fun _ hn => Ty.is_sound hn _ rfl) v h

/-- **CSV, errors.**  The executing datasource reports an error for a cell exactly when no alternative of the
    column type accepts it (an empty cell in a non-nullable column; a text that no admitted parser reads in a
    column that does not admit String). -/
theorem csv_error_iff_unrepresentable (t : Ty) (c : Cell) : cellExec t c = none ↔ cellFits t c = false :=
  cellExec_none_iff t c

/-- whole file: every record of a successful run matches the reported schema, column by column -/
theorem csv_conforms (f : CsvFile) (names : List Name) (tys : List Ty) (recs : List (List Value))
    (h : csvRun f = .ok names tys recs) : ∀ r ∈ recs, ∀ p ∈ tys.zip r, conforms p.1 p.2 = true := by
  intro r hr' p hp
  obtain ⟨i, hi⟩ := List.getElem?_of_mem hr'
  obtain ⟨row, _, hrow⟩ := (rowsExec_spec _ _ _ (csvRun_eq_ok h)).2 i r hi
  obtain ⟨k, hk⟩ := List.getElem?_of_mem hp
  obtain ⟨hk1, hk2⟩ := List.getElem?_zip_eq_some.mp hk
  obtain ⟨t, c, ht, _, he⟩ := rowExec_spec _ _ _ hrow k p.2 hk2
  cases hk1.symm.trans ht
  exact csv_cell_conforms p.1 c p.2 he

/-- **CSV, rows within the preview.**  A file with at most 100 rows is read without a conversion error (`errRun`; a
    duplicate header, a ragged row or `TypeSum` out of fuel end `Creator` and are other outcomes): the inferred
    column type admits every cell the inference has seen.  Hypothesis on the float oracles: a text that
    `strconv.ParseInt` accepts is accepted by one of the float parsers (true of `strconv.ParseFloat`; needed because
    an Int column is widened to Float, not to Int|Float, by the first float). -/
theorem csv_preview_no_error (f : CsvFile) (hlen : f.rows.length ≤ previewRows)
    (hi : ∀ r ∈ f.rows, ∀ c ∈ r, c.intsAreFloats) (names : List Name) (tys : List Ty) :
    csvRun f ≠ .errRun names tys := by
  unfold csvRun
  cases hc : csvCreate f with
  | error => simp
  | fuel => simp
  | ok names' tys' =>
    have h := csvCreate_accepts f names' tys' hc fun r hr => hi r (List.mem_of_mem_take hr)
    rw [List.take_of_length_le hlen] at h
    simp only [h.1, Bool.false_eq_true, if_false]
    cases hx : rowsExec cellExec tys' f.rows with
    | none => exact absurd hx h.2
    | some recs => simp

/-! the hypothesis of `csv_preview_no_error` is met by real cells, and the theorem's conclusion is not vacuous:
    a column of `1`, `+5`, `2.5`, `` is inferred `Null | Float` and read back as 1.0, 5.0, 2.5, NULL -/
def cInt1 : Cell := ⟨[49], some 0x3FF0000000000000, some 0x3FF0000000000000, none⟩
def cPlus5 : Cell := ⟨[43, 53], some 0x4014000000000000, none, none⟩
def cFloat : Cell := ⟨[50, 46, 53], some 0x4004000000000000, some 0x4004000000000000, none⟩
def cEmpty : Cell := ⟨[], none, none, none⟩
def demo : CsvFile := ⟨some [[97]], [[cInt1], [cPlus5], [cFloat], [cEmpty]]⟩
example : (match csvRun demo with
    | .ok _ tys recs => tys.length == 1 && recs.length == 4
    | _ => false) = true := by decide
example : cInt1.intsAreFloats ∧ cPlus5.intsAreFloats := by
  constructor <;> intro _ <;> simp [cInt1, cPlus5]

/-- the code before the repair: `+5` is inferred Int (strconv) but executed as the String "+5" (fastfloat) — a String
    in an Int column; a late `abc` and a late empty cell likewise -/
theorem csv_raw_refuted :
    conforms .int (cellExecRaw .int cPlus5) = false ∧
    conforms .int (cellExecRaw .int ⟨[97, 98, 99], none, none, none⟩) = false ∧
    conforms .int (cellExecRaw .int cEmpty) = false := by decide
/-- … the repaired code reads `+5` as 5 and reports the other two as errors -/
example : (cellExec .int cPlus5).map (fun v => match v with | .int 5 => true | _ => false) = some true ∧
    (cellExec .int ⟨[97, 98, 99], none, none, none⟩).isSome = false ∧ (cellExec .int cEmpty).isSome = false := by
  decide

/-- **JSON, every row.**  A record the worker produces matches the schema field by field; nested lists, objects
    and unions included. -/
theorem json_record_conforms (schema : Fields) (row : J) (vals : List Value) (h : rowValues schema row = some vals) :
    zipAll (fun (f : Name × Ty) v => conforms f.2 v) schema vals = true := by
  obtain ⟨hok, rfl⟩ := rowValues_eq_some h
  rw [zipAll_map_right, List.all_eq_true]
  exact fun f hf => getValue_conforms f.2 _ (hok f hf)

/-- **JSON, a single value**, any type, any JSON value (`none` = the field is missing) -/
theorem json_value_conforms (t : Ty) (oj : Option J) (h : (getValue t oj).2 = true) :
    conforms t (getValue t oj).1 = true := getValue_conforms t oj h

/-- **JSON, errors.**  A line is rejected exactly when some field cannot be represented in its column type;
    `getOctoSQLValue`'s `ok` is exactly "representable". -/
theorem json_error_iff_unrepresentable (schema : Fields) (ks : List Name) (vs : List J) :
    rowValues schema (.obj ks vs) = none ↔ ∃ f ∈ schema, fits f.2 ((J.obj ks vs).get f.1) = false := by
  rw [← Option.not_isSome_iff_eq_none, rowValues_isSome, Bool.not_eq_true, List.all_eq_false]
  simp only [Bool.not_eq_true]

theorem json_ok_iff_fits (t : Ty) (oj : Option J) : (getValue t oj).2 = fits t oj := getValue_ok_iff_fits t oj

/-- **JSON, `TypeSum`.**  The sum of two JSON-shaped types accepts — and has a place for every key of — every
    document value that either operand accepts.  This covers the merge of two object types with different key sets,
    which is *not* an upper bound with respect to `Is` (C10) but does accept both shapes of object. -/
theorem json_typesum_accepts (a b c : Ty) (ja : jok a = true) (jb : jok b = true) (h : Ty.typeSum a b = some c) :
    jok c = true ∧ (∀ oj, acc a oj = true → acc c oj = true) ∧ (∀ oj, acc b oj = true → acc c oj = true) :=
  acc_typeSum a b c ja jb h

/-- `getOctoSQLType` of a document value is a type that accepts the value -/
theorem json_type_accepts_value (j : J) (t : Ty) (hw : wfJ j = true) (h : j.getType = some t) :
    jok t = true ∧ acc t (some j) = true := getType_acc j t hw h

/-- **JSON, rows within the preview.**  A file of at most 100 rows (every object with distinct keys) is read without
    a conversion error (`errRun`; a line that is not an object ends `Creator` and is another outcome): the inferred
    schema accepts every previewed row — nested objects with varying key sets, arrays of mixed
    elements, fields that appear or disappear from row to row included. -/
theorem json_preview_no_error (rows : List J) (hlen : rows.length ≤ jsonPreviewRows)
    (hw : ∀ r ∈ rows, wfJ r = true) (schema : Fields) : jsonRun rows ≠ .errRun schema := by
  unfold jsonRun
  cases hc : jsonCreate rows with
  | error => simp
  | fuel => simp
  | ok schema' =>
    simp only
    have hall := jsonCreate_accepts rows schema' (fun r hr => hw r (List.mem_of_mem_take hr)) hc
    rw [List.take_of_length_le hlen] at hall
    have : (allSome (rows.map (rowValues schema'))).isSome = true := by
      rw [allSome_map]
      refine List.mapM_isSome fun r hr => ?_
      obtain ⟨ks, vs, rfl, _, hacc⟩ := hall r hr
      rw [rowValues_isSome, List.all_eq_true]
      exact fun p hp => fits_of_acc (hacc p hp)
    cases hx : allSome (rows.map (rowValues schema')) with
    | none => rw [hx] at this; cases this
    | some recs => simp

def demoRows : List J :=
  [.obj [[99]] [.obj [[120]] [.num 0x3FF0000000000000]],
   .obj [[99]] [.obj [[121]] [.null]],
   .obj [[99], [100]] [.str [115] none, .arr [.num 0, .null]],
   .obj [] []]
/-- non-vacuity: object types with different key sets, a union with a string, a late key, an empty row -/
example : (∀ r ∈ demoRows, wfJ r = true) ∧
    (match jsonRun demoRows with | .ok schema recs => schema.length == 2 && recs.length == 4 | _ => false) = true := by
  decide

/-- the code before the repair ignored `ok`: a String in a Float column silently became NULL -/
theorem json_raw_refuted :
    (rowValuesRaw [([97], .float)] (.obj [[97]] [.str [120] none])).map
      (fun vals => zipAll (fun (f : Name × Ty) v => conforms f.2 v) [([97], Ty.float)] vals) = some false := by decide
/-- … and a non-empty list in a column that had only seen `[]` crashed the process -/
theorem json_raw_emptylist_panics :
    (match getValueRaw .listNil (some (.arr [.num 0])) with | .panic => true | _ => false) = true := by decide
example : (rowValues [([97], .float)] (.obj [[97]] [.str [120] none])).isSome = false := by decide
example : (getValue .listNil (some (.arr [.num 0]))).2 = false := by decide

/-- the full-strength statement for a cell reader and a row converter -/
def Statement (exec : Ty → Cell → Option Value) (rowv : Fields → J → Option (List Value)) : Prop :=
  (∀ t c v, exec t c = some v → conforms t v = true) ∧
  (∀ t c, exec t c = none → cellFits t c = false) ∧
  (∀ schema row vals, rowv schema row = some vals → zipAll (fun (f : Name × Ty) v => conforms f.2 v) schema vals = true) ∧
  (∀ schema ks vs, rowv schema (.obj ks vs) = none → ∃ f ∈ schema, fits f.2 ((J.obj ks vs).get f.1) = false)

/-- **C24 on the current tree** -/
theorem C24_full : Statement cellExec rowValues :=
  ⟨csv_cell_conforms, fun t c h => (csv_error_iff_unrepresentable t c).mp h, json_record_conforms,
   fun schema ks vs h => (json_error_iff_unrepresentable schema ks vs).mp h⟩

/-- the tree before the repairs violated it -/
theorem C24_shipped_refuted : ¬ Statement (fun t c => some (cellExecRaw t c)) rowValuesRaw := by
  intro ⟨h1, _⟩
  have := h1 .int cPlus5 _ rfl
  rw [csv_raw_refuted.1] at this
  cases this

end Octo.C24
