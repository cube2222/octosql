import Octo.Lemmas.CsvOutput
import Octo.Lemmas.JsonFraming
import Octo.Lemmas.JsonUtf8
import Octo.Lemmas.JsonRow
/-!
# C25 — CSV and JSON output faithfully encode results

Property: for every query result, each `-o json` line is valid JSON that decodes to the row's values (ints and
floats exact, strings byte for byte, NULL ↦ null, lists / objects / tuples keep their structure); each `-o csv`
record decodes to the row's scalar values, NULL as an empty field.

* `Octo.OutFmt.*` (lean/Octo/Model/OutputFormat.lean) is the model of `outputs/formats/json_format.go`,
  `csv_format.go` and Go's `csv.Writer.Write`, tied to the code by the C25 correspondence run (byte-exact).
* `Octo.Spec.Json.decode` / `Octo.Spec.Csv.decode` are independent RFC 8259 / RFC 4180 readers;
  `Octo.Spec.matchesV` / `csvCellOk` say when a decoded document *is* a value.
* The number, time and duration *texts* come from Go's library (`strconv`, `time`); they are the parameter `L : Lib`.
  What is assumed of them is `LibOK L`: finite floats are printed in the JSON number grammar and read back
  exactly; the `'f'` format likewise, non-finite floats print as `NaN` / `+Inf` / `-Inf` in CSV; the time text of
  every instant `ns : Int` in every location reads back (RFC 3339) as `ns`, and the duration text of every
  `ns : Int` as `ns`.  Every run samples these assumptions on the real library (the judge re-reads each number with the exact
  decimal→binary64 conversion `Num.litToF64`).

All theorems quantify over all byte strings, all values of any nesting depth, all types, all rows.
-/
namespace Octo.C25
-- `OutFmt.Bytes` and `Spec.Bytes` are both `List Nat`; with both namespaces open `Bytes` is ambiguous, so this
-- file writes `List Nat`
open Octo Octo.OutFmt Octo.Spec

/-- what is assumed of Go's `strconv` and `time`: the syntax of float texts, and that float, time and duration
    texts read back exactly, the latter two for every `Int` (trusted, sampled on every run) -/
structure LibOK (L : Lib) : Prop where
  floatSyntax : FloatSyntax L
  textExact : TextExact L
  csvFloat : CsvFloatOK L

/-- strings are preserved byte for byte: the RFC 8259 string reader, run on what `appendJSONString` wrote
    for **any** byte string (control characters, quotes, invalid UTF-8, …), returns exactly those bytes -/
theorem json_string_roundtrip (s rest : List Nat) : Json.pStr (escBody s ++ 34 :: rest) = some (s, rest) :=
  pStr_escBody s rest

/-- … and as a complete JSON text -/
theorem json_string_decode (s : List Nat) : Json.decode (jsonString s) = some (.str s) :=
  List.append_nil (jsonString s) ▸ decode_render (j := .str s) trivial rfl

/-- ints are exact: `strconv.AppendInt` writes a literal of the JSON number grammar whose value is the int -/
theorem json_int_exact (i : Int) :
    Json.validNumber (fmtInt i) = true ∧ Num.denotesInt (fmtInt i) i = true ∧ Num.intLit (fmtInt i) = some i :=
  ⟨validNumber_fmtInt i, denotesInt_fmtInt i, intLit_fmtInt i⟩

/-- **json_roundtrip**: for every value that fits its type, `ValueToJson` does not panic and its output is a
    JSON text that the reader decodes to the document `erase L τ v` … -/
theorem json_roundtrip (L : Lib) (hL : FloatSyntax L) (τ : Ty) (v : Value) (h : fits τ v = true) :
    ∃ bs, encJson L τ v = some bs ∧ Json.decode bs = some (erase L τ v) := by
  have w := encJson_writes L hL τ v h
  exact ⟨_, w.text, List.append_nil (render _) ▸ decode_render w.wf rfl⟩

/-- … and that document *is* the value: NULL ↦ null, the int literal denotes the int, the float literal rounds
    to the float, strings equal byte for byte, lists / objects / tuples element by element, objects carry the
    field names of the type -/
theorem json_value_matches (L : Lib) (hE : TextExact L) (τ : Ty) (v : Value) (h : fits τ v = true) :
    matchesV τ v (erase L τ v) = true :=
  erase_matches L hE τ v h

/-- **one `-o json` line** (`JSONFormatter.Write`): no panic, valid JSON, decodes to the row -/
theorem json_line (L : Lib) (hL : LibOK L) (ns : List Name) (ts : List Ty) (xs : List Value)
    (h : rowFits ns ts xs = true) :
    ∃ bs j, jsonLine L ns ts xs = some bs ∧ Json.decode bs = some j ∧ rowMatches ns ts xs j = true := by
  obtain ⟨bs, hb, hd⟩ := jsonLine_decode L hL.floatSyntax ns ts xs h
  refine ⟨bs, _, hb, hd, ?_⟩
  simp [rowMatches, eraseEach_matches L hL.textExact xs ts (rowFits_iff.mp h).2]

/-- **a line is UTF-8** (RFC 8259 §8.1) when the strings of the row, the column / field names and the library's
    texts are: `appendJSONString` copies bytes ≥ 0x80 unchanged and adds ASCII only.  (A string that is not
    well-formed UTF-8 cannot be carried by a JSON text at all; its bytes are then copied through, and
    `json_string_roundtrip` still returns them byte for byte.) -/
theorem json_line_utf8 (L : Lib) (hL : LibOK L) (ns : List Name) (ts : List Ty) (xs : List Value) (bs : List Nat)
    (hfit : rowFits ns ts xs = true)
    (hn : ns.all (fun n => Utf8.valid (nameBytes n)) = true) (ht : utf8Tys ts = true) (hv : utf8Values L xs = true)
    (h : jsonLine L ns ts xs = some bs) : Json.validText bs = true := by
  have hu := jsonLine_utf8 L ns ts xs bs hfit hn ht hv h
  obtain ⟨bs', hb, hd⟩ := jsonLine_decode L hL.floatSyntax ns ts xs hfit
  rw [h] at hb; cases hb
  simp [Json.validText, hu, hd]

/-- **framing**: a line is text without any byte below 0x20 followed by exactly one line feed — whatever bytes
    the strings contain.  So a result's output is cut into its lines at the line feeds, and no line carries a
    raw control character (RFC 8259 §7). -/
theorem json_line_framing (L : Lib) (hL : LibOK L) (ns : List Name) (ts : List Ty) (xs : List Value) (bs : List Nat)
    (hfit : rowFits ns ts xs = true) (h : jsonLine L ns ts xs = some bs) :
    ∃ b, bs = b ++ [10] ∧ ∀ x ∈ b, 32 ≤ x :=
  jsonLine_framing L hL.floatSyntax ns ts xs bs hfit h

/-- what C25 demands of one output line `l` for the row `r` -/
def lineOk (L : Lib) (ns : List Name) (ts : List Ty) (r : List Value) (l : List Nat) : Prop :=
  -- it parses (RFC 8259) and the document is the row
  (∃ j, Json.decode l = some j ∧ rowMatches ns ts r j = true) ∧
  -- it is one line: text without control characters, then a line feed
  (∃ b, l = b ++ [10] ∧ ∀ x ∈ b, 32 ≤ x) ∧
  -- it is UTF-8 if the data is
  (ns.all (fun n => Utf8.valid (nameBytes n)) = true → utf8Tys ts = true → utf8Values L r = true → Utf8.valid l = true)

/-- every line of a result: there is one line per row and line i is row i -/
def linesOk (L : Lib) (ns : List Name) (ts : List Ty) : List (List Value) → List (List Nat) → Prop
  | [], [] => True
  | r :: rs, l :: ls => lineOk L ns ts r l ∧ linesOk L ns ts rs ls
  | _, _ => False

/-- **the whole `-o json` output**: `SetSchema` then one `Write` per row -/
theorem json_output (L : Lib) (hL : LibOK L) (ns : List Name) (ts : List Ty) :
    ∀ rows : List (List Value), rows.all (rowFits (withoutQualifiers ns) ts) = true →
      ∃ lines, jsonOutput L ns ts rows = some (concatLines lines) ∧ linesOk L (withoutQualifiers ns) ts rows lines
  | [], _ => ⟨[], rfl, trivial⟩
  | r :: rs, h => by
    simp only [List.all_cons, Bool.and_eq_true] at h
    obtain ⟨bs, j, hb, hd, hm⟩ := json_line L hL (withoutQualifiers ns) ts r h.1
    obtain ⟨ls, hls, hok⟩ := json_output L hL ns ts rs h.2
    refine ⟨bs :: ls, ?_, ⟨⟨j, hd, hm⟩, json_line_framing L hL _ ts r bs h.1 hb, ?_⟩, hok⟩
    · simp only [jsonOutput] at hls ⊢
      simp [jsonLines, hb, hls, concatLines]
    · intro hn ht hv
      exact jsonLine_utf8 L _ ts r bs h.1 hn ht hv hb

/-- **lines**: since every line is LF-free text followed by one LF, cutting the output of a whole result at
    the line feeds gives back exactly the lines (this is how the judge, and any JSON-lines reader, finds them) -/
theorem json_output_lines (lines : List (List Nat))
    (h : ∀ l ∈ lines, ∃ b, l = b ++ [10] ∧ ∀ x ∈ b, 32 ≤ x) :
    Json.splitLines (concatLines lines) [] = lines :=
  splitLines_concat lines (fun l hl => by
    obtain ⟨b, e, hb⟩ := h l hl
    exact ⟨b, e, fun x hx => by have := hb x hx; omega⟩)

/-- **csv_roundtrip, one field**: for every byte string `f`, the RFC 4180 reader run on what `csv.Writer` wrote
    for it (quoted or not) returns `f` and stops at the separator -/
theorem csv_field_roundtrip (f rest : List Nat) (c : Nat) (hc : c = 44 ∨ c = 10) :
    Csv.pField (csvField f ++ c :: rest) = some (f, c :: rest) :=
  pField_csvField f (c :: rest) ⟨c, rest, rfl, hc⟩

/-- **csv_roundtrip**: ∀ records of ≥ 1 field each, decode (write records) = records -/
theorem csv_roundtrip (recs : List (List (List Nat))) (h : ∀ r ∈ recs, r ≠ []) :
    Csv.decode (concatRecords recs) = some recs :=
  decode_records recs h

/-- **csv_value**: the cell of a scalar is its text — NULL is the empty field, the int literal is exactly the
    int, the float text reads back as the float, strings are the bytes themselves; a list / struct / tuple cell
    does not panic -/
theorem csv_value (L : Lib) (hL : LibOK L) (τ : Ty) (v : Value) (h : fits τ v = true) :
    ∃ cell, csvCell L τ v = some cell ∧ csvCellOk v cell = true :=
  csvCell_ok L hL.floatSyntax hL.csvFloat hL.textExact τ v h

theorem csv_null_is_empty (L : Lib) (τ : Ty) : csvCell L τ .null = some [] := rfl

-- `hlen` is not used: with no row only the header is decoded, and a row that fits has one value per name
set_option linter.unusedVariables false in
/-- **the whole `-o csv` output** -/
theorem csv_output (L : Lib) (hL : LibOK L) (ns : List Name) (ts : List Ty) (rows : List (List Value))
    (hns : ns ≠ []) (hlen : ns.length = ts.length)
    (hrows : rows.all (rowFits (withoutQualifiers ns) ts) = true) :
    ∃ bytes cellss, csvOutput L ns ts rows = some bytes ∧
      Csv.decode bytes = some ((withoutQualifiers ns).map nameBytes :: cellss) ∧ csvRowsOk rows cellss = true :=
  csvOutput_ok L hL.floatSyntax hL.csvFloat hL.textExact ns ts rows hns hrows

/-- C25 for a pair of formatters (`jsonOut`, `csvOut` : schema → rows → bytes or panic), given the library -/
def Statement
    (jsonOut csvOut : Lib → List Name → List Ty → List (List Value) → Option (List Nat)) : Prop :=
  ∀ L, LibOK L → ∀ (ns : List Name) (ts : List Ty) (rows : List (List Value)),
    rows.all (rowFits (withoutQualifiers ns) ts) = true →
      (∃ lines, jsonOut L ns ts rows = some (concatLines lines) ∧ linesOk L (withoutQualifiers ns) ts rows lines) ∧
      (ns ≠ [] → ns.length = ts.length →
        ∃ bytes cellss, csvOut L ns ts rows = some bytes ∧
          Csv.decode bytes = some ((withoutQualifiers ns).map nameBytes :: cellss) ∧ csvRowsOk rows cellss = true)

/-- **C25, full strength, on the current tree** (after the four `fix:` commits to `outputs/formats`). -/
theorem C25_full : Statement jsonOutput csvOutput := by
  intro L hL ns ts rows h
  exact ⟨json_output L hL ns ts rows h, fun hns hlen => csv_output L hL ns ts rows hns hlen h⟩

/-! ## The code before the repairs -/

/-- the string part of the property for an escaper `esc` (restricted to ASCII strings) -/
def StringStatement (esc : List Nat → List Nat) : Prop :=
  ∀ s : List Nat, (∀ c ∈ s, c < 128) → Json.decode (esc s) = some (.str s)

theorem string_statement_fixed : StringStatement jsonString := fun s _ => json_string_decode s

/-- fastjson's `escapeString` (strconv.AppendQuote) writes `"\x00"` for the one-byte string NUL: not JSON -/
theorem raw_string_refuted : ¬ StringStatement Raw.escapeString := by
  intro h
  have := h [0] (by decide)
  have e : (Json.decode (Raw.escapeString [0])).isNone = true := by decide
  rw [this] at e
  exact absurd e (by decide)

/-- … the same for `\a` (7), `\v` (11), DEL (127) -/
theorem raw_string_witnesses :
    (Json.decode (Raw.escapeString [7])).isNone = true ∧ (Json.decode (Raw.escapeString [11])).isNone = true ∧
    (Json.decode (Raw.escapeString [127, 34])).isNone = true ∧
    (Json.decode (Raw.jsonLineStr [115] [0])).isNone = true := by decide

/-- `NaN` / `+Inf` as printed by `strconv.AppendFloat` are not JSON -/
theorem raw_float_refuted :
    (Json.decode (Raw.jsonLineFloat ⟨fun _ => [78, 97, 78], fun _ => [], fun _ _ => [], fun _ => []⟩ [102] 0x7FF8000000000001)).isNone = true ∧
    (Json.decode (Raw.jsonLineFloat ⟨fun _ => [43, 73, 110, 102], fun _ => [], fun _ _ => [], fun _ => []⟩ [102] 0x7FF0000000000000)).isNone = true := by
  decide

/-- `FormatCSVValue` before the repair panicked on a well-typed list cell -/
theorem raw_csv_refuted : ∃ (τ : Ty) (v : Value), fits τ v = true ∧ ∀ L : Lib, Raw.csvCell L v = none :=
  ⟨.list .int, .list [.int 1], by decide, fun _ => rfl⟩

/-! ## Non-vacuity -/
section examples
/-- a concrete library: every float prints as `1.5`, every time as `T`, every duration as `1s` -/
def L0 : Lib := ⟨fun _ => [49, 46, 53], fun _ => [49, 46, 53], fun _ _ => [84], fun _ => [49, 115]⟩

def tyRow : List Ty := [.str, .union [.null, .int], .list (.struct [[97]] [.float]), .tuple [.bool, .dur]]
def nmRow : List Name := [[115], [110], [108], [116]]
def valRow : List Value :=
  [.str [0, 34, 255], .null, .list [.struct [.float 0x3FF8000000000000], .struct [.float 0x7FF8000000000001]],
   .tuple [.bool true, .dur 1000000000]]

/-- the hypothesis of `json_line` holds for a nested row … -/
example : rowFits nmRow tyRow valRow = true := by decide +kernel
/-- … the model prints this line for it … -/
example : jsonLine L0 nmRow tyRow valRow =
    some [123, 34, 115, 34, 58, 34, 92, 117, 48, 48, 48, 48, 92, 34, 255, 34, 44, 34, 110, 34, 58, 110, 117, 108, 108, 44,
          34, 108, 34, 58, 91, 123, 34, 97, 34, 58, 49, 46, 53, 125, 44, 123, 34, 97, 34, 58, 110, 117, 108, 108, 125, 93, 44,
          34, 116, 34, 58, 91, 116, 114, 117, 101, 44, 34, 49, 115, 34, 93, 125, 10] := by decide +kernel
/-- … which decodes to a document that is the row -/
example : ((jsonLine L0 nmRow tyRow valRow).bind Json.decode).map (rowMatches nmRow tyRow valRow) = some true := by
  decide +kernel
/-- an ill-typed row panics in the model as in the code (a list value under a non-list type) -/
example : jsonLine L0 [[97]] [.int] [.list [.int 1]] = none := by decide +kernel
/-- CSV: quoting, doubled quotes, leading space, `\.`, NULL as the empty field -/
example : csvOutput L0 [[97], [98], [99]] [.str, .null, .str] [[.str [32, 120], .null, .str [97, 34, 44]], [.str [92, 46], .null, .str []]] =
    some [97, 44, 98, 44, 99, 10, 34, 32, 120, 34, 44, 44, 34, 97, 34, 34, 44, 34, 10, 34, 92, 46, 34, 44, 44, 10] := by decide +kernel
example : Csv.decode [97, 44, 98, 44, 99, 10, 34, 32, 120, 34, 44, 44, 34, 97, 34, 34, 44, 34, 10, 34, 92, 46, 34, 44, 44, 10] =
    some [[[97], [98], [99]], [[32, 120], [], [97, 34, 44]], [[92, 46], [], []]] := by decide +kernel
/-- instances of the library assumptions, checked by exact arithmetic: `0.1`, `1e+21`, `5e-324`, `-0` -/
example : Num.litToF64 [48, 46, 49] = 0x3FB999999999999A := by decide +kernel
example : Num.litToF64 [49, 101, 43, 50, 49] = 0x444B1AE4D6E2EF50 := by decide +kernel
set_option maxRecDepth 20000 in
example : Num.litToF64 [53, 101, 45, 51, 50, 52] = 1 := by decide +kernel
example : Num.litToF64 [45, 48] = 0x8000000000000000 := by decide +kernel
end examples

end Octo.C25
