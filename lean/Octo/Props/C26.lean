import Octo.Lemmas.Wire
import Octo.Lemmas.Repopulate
import Octo.Lemmas.WireJson
import Octo.Lemmas.PluginFlow
import Octo.Lemmas.ValueOrder
/-!
# C26 — The plugin protocol carries data and predicates without change

Property: values, types, schemas, records, watermarks and variable contexts come out of the plugin wire encoding
equal to what went in; a pushed-down predicate evaluates the same on both sides of the plugin boundary.

* `encodeV`/`decodeV`, `encodeT`/`decodeT` are `NativeValueToProto`/`ToNativeValue`, `NativeTypeToProto`/`ToNativeType`
  of `plugins/internal/plugins/plugins.go`: one generic interpreter (`Octo.Wire.convV`, `convT`) run on the
  tables `Octo.Gen.Wire.*`, which `vh extract wire` regenerates from the Go source on every check.  The theorems
  below are therefore re-proved against what the source says now.
* `repopulate` is the descriptor loop of `RepopulatePhysicalExpressionFunctions`, `typecheckPick` the overload
  resolution of `logical/function.go`, both run on `Octo.Gen.WireFunctions.table` (regenerated `FunctionMap()`).
* `repopTree` is `RepopulatePhysicalExpressionFunctions` over a whole predicate (`TransformExpr` bottom-up, `outOk` the
  conjunction over all calls), `clientPushDown`/`serverPushDown` the predicate bookkeeping of executor.go / plugins.go.
* everything is tied to the real code by the C26 correspondence run (all fields of every proto message compared, the
  descriptor of every call after the real JSON + Repopulate trip), predicate evaluation and end-to-end plugin queries
  are checked differentially (native against through-the-boundary).

"Equal" for values means equal up to the location of times (`normLoc`): a timestamp carries an instant, `AsTime`
returns it in UTC; `Value.Compare` ignores the location (`value_roundtrip_cmp`).
All theorems quantify over values / types of **any** nesting depth and over **all** argument type lists.
-/
namespace Octo.C26
open Octo Octo.Wire

/-- the field that holds the payload of a value with this TypeID (what every consumer reads, `toValue`) -/
def fieldOf : Nat → Option VF
  | 1 => some .int | 2 => some .float | 3 => some .boolean | 4 => some .str | 5 => some .time
  | 6 => some .duration | 7 => some .list | 8 => some .struct | 9 => some .tuple | _ => none

/-- encoder conversion / decoder conversion pairs that undo one another -/
def inverse : VConv → VConv → Bool
  | .copy, .copy => true
  | .int64, .copy => true
  | .tsNew, .tsAsTime => true
  | .durNew, .durAsDuration => true
  | .mapSelf, .mapSelf => true
  | _, _ => false

/-- for TypeID `id`: the encoder writes exactly the payload field, from the payload field; the decoder reads that
    same field back into the payload field with the inverse conversion; a TypeID without payload assigns nothing -/
def valueCaseOk (enc dec : VTable) (id : Nat) : Bool :=
  match lookupV enc.cases id, lookupV dec.cases id, fieldOf id with
  | some [], some [], none => true
  | some [a], some [b], some f => a.dst == f && a.src == f && b.src == f && b.dst == f && inverse a.conv b.conv
  | _, _, _ => false

def typeFieldOf : Nat → Option (TF × TConv)
  | 7 => some (.list, .optSelf) | 8 => some (.struct, .mapFields) | 9 => some (.tuple, .mapSelf)
  | 10 => some (.union, .mapSelf) | _ => none

def typeCaseOk (enc dec : TTable) (id : Nat) : Bool :=
  match lookupT enc.cases id, lookupT dec.cases id, typeFieldOf id with
  | some [], some [], none => true
  | some [a], some [b], some (f, c) => a == ⟨f, f, c⟩ && b == ⟨f, f, c⟩
  | _, _, _ => false

/-- **the case coverage of the four conversion functions, over the tables extracted from plugins.go**:
    every value TypeID (0..9) and every type TypeID (0..11) has a case on both sides, the two sides agree on the
    field and use inverse conversions, the next TypeIDs (10..13 for values, 12 for types) have no case, and `default:` panics. -/
theorem wire_table_ok :
    (List.range 10).all (valueCaseOk Gen.Wire.nativeValueToProto Gen.Wire.toNativeValue) = true ∧
    (List.range 12).all (typeCaseOk Gen.Wire.nativeTypeToProto Gen.Wire.toNativeType) = true ∧
    ([10, 11, 12, 13].all fun id => (lookupV Gen.Wire.nativeValueToProto.cases id).isNone
      && (lookupV Gen.Wire.toNativeValue.cases id).isNone) = true ∧
    ((lookupT Gen.Wire.nativeTypeToProto.cases 12).isNone && (lookupT Gen.Wire.toNativeType.cases 12).isNone) = true ∧
    (Gen.Wire.nativeValueToProto.defaultPanics && Gen.Wire.toNativeValue.defaultPanics
      && Gen.Wire.nativeTypeToProto.defaultPanics && Gen.Wire.toNativeType.defaultPanics) = true ∧
    Gen.Wire.nativeValueToProto.tid = .int32 ∧ Gen.Wire.toNativeValue.tid = .typeID ∧
    Gen.Wire.nativeTypeToProto.tid = .int32 ∧ Gen.Wire.toNativeType.tid = .typeID := by decide +kernel

/-- `timestamppb.New(t).AsTime()` is the same instant, for every instant — also before 1970 and with a
    fractional second (floor division of seconds, non-negative nanos) -/
theorem timestamp_roundtrip (ns : Int) (loc : Nat) : (tsNew (ns, loc)).map (fun x => tsAsTime (some x)) = some (ns, 0) :=
  congrArg some (tsAsTime_tsNew ns)

/-- the nanos field written for any instant lies in `[0, 1e9)` (the range protobuf requires) -/
theorem timestamp_nanos_valid (ns : Int) (loc : Nat) :
    ∃ x, tsNew (ns, loc) = some x ∧ 0 ≤ x.nanos ∧ x.nanos < 1000000000 :=
  ⟨_, rfl, Int.emod_nonneg ns (by decide), Int.emod_lt_of_pos ns (by decide)⟩

/-- `durationpb.New(d).AsDuration() = d` for every int64 duration (negative ones included: truncated division,
    both fields of the same sign, no spurious overflow saturation) -/
theorem duration_roundtrip (d : Int) (h : inInt64 d) : (durNew d).map (fun x => durAsDuration (some x)) = some d :=
  congrArg some (dur_roundtrip d h)

/-- `NativeValueToProto` never panics on a value and `ToNativeValue` returns it, every time moved to UTC -/
theorem value_roundtrip (v : Value) (h : durOk v) : tripValue v = some (normLoc v) := by
  simp [tripValue, encode_ofValue v, decode_encP v h, toValue_ofValue]

/-- … which is the same value for `Value.Compare` (and hence for `=`, GROUP BY, joins, ORDER BY) -/
theorem value_roundtrip_cmp (v : Value) (h : durOk v) : ∃ w, tripValue v = some w ∧ cmp w v = 0 :=
  ⟨normLoc v, value_roundtrip v h, cmp_normLoc cmpFloatFixed (fun _ => cmpFloatFixed_cmpOn.refl trivial) v⟩

/-- values without times come back identical -/
theorem value_roundtrip_exact (v : Value) (h : durOk v) (hn : normLoc v = v) : tripValue v = some v := by
  rw [value_roundtrip v h, hn]

/-- `NativeTypeToProto` / `ToNativeType`: every type comes back identical (`List` without element type, `Any`,
    nested unions, struct field names included) -/
theorem type_roundtrip (t : Ty) : tripTy t = some t := by
  simp [tripTy, encode_ofTy t, decode_ofTy t, toTy_ofTy]

/-- `NativeSchemaToProto` / `ToNativeSchema`: field names, field types, time field index and the
    NoRetractions flag all survive (the index travels as int32) -/
theorem schema_roundtrip (ns : List Name) (ts : List Ty) (tf : Int) (nr : Bool) (h : inInt32 tf) :
    (encodeSchema ⟨⟨ns, ofTys ts⟩, tf, nr⟩).bind decodeSchema = some ⟨⟨ns, ofTys ts⟩, tf, nr⟩ := by
  simp [encodeSchema, decodeSchema, encodeFields_ofTys, decodeFields_ofTys, wrap32_eq h]

/-- `NativeRecordToProto` / `ToNativeRecord`: values, retraction flag and event time (any instant, the zero
    `time.Time` included) survive -/
theorem record_roundtrip (vs : List Value) (retr : Bool) (et : Int) (loc : Nat) (h : dursOk vs) :
    (encodeRecord ⟨ofValues vs, retr, (et, loc)⟩).bind decodeRecord = some ⟨ofValues (normLocs vs), retr, (et, 0)⟩ := by
  have h1 := encode_ofValues vs
  have h2 := decode_encPs vs h
  simp only [encodeRecord, h1, tsNew, Option.bind, decodeRecord, h2, Option.map, tsAsTime_tsNew]

/-- the zero event time ("no event time") is still the zero time afterwards -/
theorem record_zero_event_time (vs : List Value) (retr : Bool) (h : dursOk vs) :
    (encodeRecord ⟨ofValues vs, retr, zeroTime⟩).bind decodeRecord = some ⟨ofValues (normLocs vs), retr, zeroTime⟩ :=
  record_roundtrip vs retr zeroTimeNs 0 h

/-- `NativeMetadataMessageToProto` / `ToNativeMetadataMessage`: the watermark survives -/
theorem metadata_roundtrip (ty wm : Int) (loc : Nat) (h : inInt32 ty) :
    (encodeMeta ⟨ty, (wm, loc)⟩).map decodeMeta = some ⟨ty, (wm, 0)⟩ := by
  simp only [encodeMeta, tsNew, Option.map, decodeMeta, wrap32_eq h, tsAsTime_tsNew]

/-- `NativePhysicalVariableContextToProto` / `ToNativePhysicalVariableContext`: the chain of frames comes back
    in the same order (the decoder walks the frame list backwards and prepends), any length, nil included -/
theorem physCtx_roundtrip (frames : List (List Name × List Ty)) :
    (encodePhysCtx (physFrames frames)).bind decodePhysCtx = some (physFrames frames) := by
  have hd := decodePhysCtxRev_physFrames frames.reverse []
  simp only [physFrames, List.map_reverse, List.reverse_reverse, List.append_nil] at hd
  rw [encodePhysCtx_physFrames]
  exact hd

/-- `NativeExecutionVariableContextToProto` / `ToNativeExecutionVariableContext`: the chain of value frames comes
    back in the same order with the same values -/
theorem execCtx_roundtrip (frames : List (List Value)) (h : framesDursOk frames) :
    (encodeExecCtx (frames.map ofValues)).bind decodeExecCtx = some (frames.map fun f => ofValues (normLocs f)) := by
  have hd := decodeExecCtxRev_encPs frames.reverse [] (by
    intro f hf
    exact framesDursOk_mem frames h f (by simpa using hf))
  simp only [encodeExecCtx_ofValues, Option.bind, decodeExecCtx]
  rw [← List.map_reverse, hd]
  simp

/-- **over the regenerated `FunctionMap()`**: within one function, a signature identifies a descriptor, except
    among `TypeFn` descriptors, and those exclude one another by the TypeID they demand of an argument -/
theorem fn_table_ok : Gen.WireFunctions.table.all (fun e => pairwiseOk e.descs) = true := by decide +kernel

/-- for every function of `FunctionMap()` and all argument types, a call that the typechecker
    resolves in its exact pass to descriptor `i` is given descriptor `i` again by the plugin after the JSON trip -/
theorem repopulate_exact (name : List Nat) (ds : List FnDesc) (hn : lookupFn Gen.WireFunctions.table name = some ds)
    (argTys : List Ty) (i : Nat) (h : exactPassFrom argTys 0 ds none = .found i) : transportPick ds argTys i = .found i :=
  transport_found ds (table_pairwise fn_table_ok name ds hn) argTys i (by rw [typecheckPick, h])

/-- whatever descriptor the typechecker attached (second, "may fit" pass included), the plugin
    either finds the same one or rejects the predicate (which then is evaluated by octosql itself) — it never
    evaluates another overload and never panics; by `transport_found` it always finds the same one -/
theorem repopulate_safe (name : List Nat) (ds : List FnDesc) (hn : lookupFn Gen.WireFunctions.table name = some ds)
    (argTys : List Ty) (i : Nat) (h : typecheckPick ds argTys = .found i) :
    transportPick ds argTys i = .found i ∨ transportPick ds argTys i = .notFound :=
  .inl (transport_found ds (table_pairwise fn_table_ok name ds hn) argTys i h)

/-- **a whole predicate** (any nesting of calls under AND / OR / tuples / type assertions / casts / COALESCE): if every
    call was resolved by the typechecker's exact pass, the predicate that `RepopulatePhysicalExpressionFunctions`
    returns after the JSON trip is the predicate that was sent — every call has its function back — and it is accepted -/
theorem predicate_roundtrip (e : PExpr) (h : exactTyped Gen.WireFunctions.table e) :
    repopTree Gen.WireFunctions.table (stripFns e) = some (e, true) :=
  repopTree_typechecked fn_table_ok e (typechecked_of_exactTyped _ e h)

/-- for any predicate the typechecker produced: the repopulation does not panic, and if the plugin accepts the
    predicate it holds exactly the functions that were sent (otherwise the predicate is rejected and octosql keeps it);
    by `repopTree_typechecked` it is always accepted -/
theorem predicate_never_misrouted (e : PExpr) (h : typechecked Gen.WireFunctions.table e) :
    ∃ e' ok, repopTree Gen.WireFunctions.table (stripFns e) = some (e', ok) ∧ (ok = true → e' = e) :=
  ⟨e, true, repopTree_typechecked fn_table_ok e h, fun _ => rfl⟩

/-- **no predicate is lost on the way**: whatever `PhysicalDatasource.PushDownPredicates` (executor.go) is given comes
    back — as rejected (octosql keeps filtering by it) or as pushed down — including the predicates it does not send
    (subqueries) and those the plugin side (`physicalServer.PushDownPredicates`, plugins.go) keeps from the datasource
    because it does not know their functions; provided the datasource's own `PushDownPredicates` loses nothing -/
theorem pushdown_conserves (impl : PushImpl)
    (himpl : ∀ a b, ((impl a b).1 ++ (impl a b).2.1).Perm (a ++ b)) (newPreds pushed : List Pred) :
    ((clientPushDown impl newPreds pushed).1 ++ (clientPushDown impl newPreds pushed).2.1).Perm (newPreds ++ pushed) :=
  heldBack_perm (serverPushDown impl) (serverPushDown_perm impl himpl)
    (List.perm_append_comm.trans (List.filter_append_perm (fun p : Pred => p.hasSubquery) newPreds)) pushed

/-- a predicate with a subquery or with a function unknown to the plugin is never handed to the datasource -/
theorem pushdown_filters (impl : PushImpl) (newPreds pushed : List Pred) :
    clientPushDown impl newPreds pushed =
      let sent := (newPreds.filter fun p => !p.hasSubquery).filter (·.known)
      ((impl sent pushed).1 ++ ((newPreds.filter fun p => !p.hasSubquery).filter fun p => !p.known)
        ++ newPreds.filter (·.hasSubquery), (impl sent pushed).2.1, (impl sent pushed).2.2) := by
  simp [clientPushDown, serverPushDown]

/-! What `encoding/json` does to the constants of a predicate is library behaviour, taken as modelled in `WireJson`. -/

/-- a constant made of finite floats, UTF-8 strings and times with a four-digit year reaches the plugin unchanged -/
theorem json_constant_roundtrip (v : Value) (h : jsonSafe v = true) : jsonValue v = .ok (normLoc v) := json_value_ok v h

def utf8Name (n : Name) : Bool := Utf8.validUtf8 (n.map UInt8.ofNat)

/-- a value across the plugin boundary: converted, marshalled by protobuf (which refuses a `string` field that is
    not valid UTF-8), converted back -/
def wireValue (v : Value) : Option Value := if allStr Utf8.validUtf8 v then tripValue v else none
def wireTy (t : Ty) : Option Ty := if allNames utf8Name t then tripTy t else none

/-- **The full-strength statement**, for a descriptor lookup `repop` (the loop of
    `RepopulatePhysicalExpressionFunctions`): every value, type, schema, record, watermark and variable context
    comes out equal to what went in, every constant of a predicate reaches the plugin unchanged, and every
    function call of a predicate is evaluated by the plugin with the descriptor the typechecker chose (or is not
    pushed down at all). `durOk`/`inInt32` only say that Go's `time.Duration` is an int64 and an index an int32. -/
def Statement (repop : List FnDesc → Sig → List Ty → Pick) : Prop :=
  (∀ v, durOk v → wireValue v = some (normLoc v)) ∧
  (∀ t, wireTy t = some t) ∧
  (∀ ns ts tf nr, inInt32 tf → (encodeSchema ⟨⟨ns, ofTys ts⟩, tf, nr⟩).bind decodeSchema = some ⟨⟨ns, ofTys ts⟩, tf, nr⟩) ∧
  (∀ vs retr et loc, dursOk vs →
    (encodeRecord ⟨ofValues vs, retr, (et, loc)⟩).bind decodeRecord = some ⟨ofValues (normLocs vs), retr, (et, 0)⟩) ∧
  (∀ ty wm loc, inInt32 ty → (encodeMeta ⟨ty, (wm, loc)⟩).map decodeMeta = some ⟨ty, (wm, 0)⟩) ∧
  (∀ frames, (encodePhysCtx (physFrames frames)).bind decodePhysCtx = some (physFrames frames)) ∧
  (∀ frames, framesDursOk frames →
    (encodeExecCtx (frames.map ofValues)).bind decodeExecCtx = some (frames.map fun f => ofValues (normLocs f))) ∧
  (∀ v, durOk v → jsonValue v = .ok (normLoc v)) ∧
  (∀ name ds, lookupFn Gen.WireFunctions.table name = some ds →
    ∀ argTys i d, typecheckPick ds argTys = .found i → ds[i]? = some d →
    (repop ds d.sig argTys = .found i ∨ repop ds d.sig argTys = .notFound) ∧
    (exactPassFrom argTys 0 ds none = .found i → repop ds d.sig argTys = .found i))

/-- the same with the inputs the transports cannot carry excluded: strings and field names are valid UTF-8
    (protobuf `string`, JSON), floats of predicate constants are finite and their times have a year in 0..9999 (JSON) -/
def PartialStatement (repop : List FnDesc → Sig → List Ty → Pick) : Prop :=
  (∀ v, durOk v → allStr Utf8.validUtf8 v = true → wireValue v = some (normLoc v)) ∧
  (∀ t, allNames utf8Name t = true → wireTy t = some t) ∧
  (∀ ns ts tf nr, inInt32 tf → (encodeSchema ⟨⟨ns, ofTys ts⟩, tf, nr⟩).bind decodeSchema = some ⟨⟨ns, ofTys ts⟩, tf, nr⟩) ∧
  (∀ vs retr et loc, dursOk vs →
    (encodeRecord ⟨ofValues vs, retr, (et, loc)⟩).bind decodeRecord = some ⟨ofValues (normLocs vs), retr, (et, 0)⟩) ∧
  (∀ ty wm loc, inInt32 ty → (encodeMeta ⟨ty, (wm, loc)⟩).map decodeMeta = some ⟨ty, (wm, 0)⟩) ∧
  (∀ frames, (encodePhysCtx (physFrames frames)).bind decodePhysCtx = some (physFrames frames)) ∧
  (∀ frames, framesDursOk frames →
    (encodeExecCtx (frames.map ofValues)).bind decodeExecCtx = some (frames.map fun f => ofValues (normLocs f))) ∧
  (∀ v, jsonSafe v = true → jsonValue v = .ok (normLoc v)) ∧
  (∀ name ds, lookupFn Gen.WireFunctions.table name = some ds →
    ∀ argTys i d, typecheckPick ds argTys = .found i → ds[i]? = some d →
    (repop ds d.sig argTys = .found i ∨ repop ds d.sig argTys = .notFound) ∧
    (exactPassFrom argTys 0 ds none = .found i → repop ds d.sig argTys = .found i))

/-- **C26, on the current tree, for everything the two transports can carry.** -/
theorem C26_partial : PartialStatement repopulate := by
  refine ⟨?_, ?_, schema_roundtrip, record_roundtrip, metadata_roundtrip, physCtx_roundtrip, execCtx_roundtrip,
    json_constant_roundtrip, ?_⟩
  · intro v hd hu; simp [wireValue, hu, value_roundtrip v hd]
  · intro t hu; simp [wireTy, hu, type_roundtrip t]
  · intro name ds hn argTys i d htc hd
    have hf := transport_found ds (table_pairwise fn_table_ok name ds hn) argTys i htc
    simp only [transportPick, hd] at hf
    exact ⟨.inl hf, fun _ => hf⟩

/-- a string that is not UTF-8 (the single byte 0xFF) -/
def badStr : Value := .str [0xFF]
def nanConst : Value := .float 0x7FF8000000000001

/-- **C26 at full strength is false on the current tree**: protobuf refuses the string `"\xff"` (the record cannot
    be sent), and JSON refuses a NaN constant (known findings `proto-invalid-utf8`, `json-constant-rejected`) -/
theorem C26_refuted : ¬ Statement repopulate := by
  intro h
  have := h.1 badStr (by simp [badStr, durOk])
  have hb : allStr Utf8.validUtf8 badStr = false := by decide
  simp [wireValue, hb] at this

/-- what JSON does to the two constants: the NaN is refused, the byte 0xFF arrives as U+FFFD (EF BF BD) -/
theorem json_refuted : jsonValue nanConst = .error .nonfinite ∧ jsonValue badStr = .ok (.str [0xEF, 0xBF, 0xBD]) :=
  ⟨rfl, rfl⟩

/-! The code before the repair is `repopulateRaw`: the first descriptor with an equal signature is taken. -/

def inName : List Nat := [105, 110]   -- "in"
def inArgs : List Ty := [.int, .tuple [.int, .int]]

/-- `x IN (1, 2)`: the typechecker attaches the tuple overload (index 1) … -/
theorem in_tuple_typechecks :
    (lookupFn Gen.WireFunctions.table inName).map (fun ds => typecheckPick ds inArgs) = some (.found 1) := by decide
/-- … the shipped loop gave the plugin the list overload (index 0), which ranges over an empty list: FALSE for every row … -/
theorem raw_in_tuple_gets_list_overload :
    (lookupFn Gen.WireFunctions.table inName).map (fun ds => transportPickRaw ds 1) = some (.found 0) := by decide
/-- … the repaired loop gives it the tuple overload -/
theorem in_tuple_keeps_overload :
    (lookupFn Gen.WireFunctions.table inName).map (fun ds => transportPick ds inArgs 1) = some (.found 1) := by decide

theorem raw_refuted : ¬ PartialStatement (fun ds r _ => repopulateRaw ds r) := by
  intro h
  obtain ⟨-, -, -, -, -, -, -, -, h9⟩ := h
  have hm : lookupFn Gen.WireFunctions.table inName = some [
      { args := [], out := .null, strict := true, typeFn := some [.lenNe 2, .typeIdNe 1 7] },
      { args := [], out := .null, strict := true, typeFn := some [.lenNe 2, .typeIdNe 1 9] }] := by rfl
  have := (h9 _ _ hm inArgs 1 _ (by decide) (by rfl)).1
  revert this
  decide

/-- a nested value with a pre-1970 time in a non-UTC location, a negative duration and a NaN: the hypotheses of
    `value_roundtrip` hold and the trip is computed by the kernel -/
def sample : Value :=
  .list [.struct [.time (-1) 103, .dur (-1500000001), .float 0x7FF8000000000001], .tuple [.str [0xC3, 0xA9], .null], .int (-5)]
example : tripValue sample = some (normLoc sample) := by rfl
example : normLoc sample ≠ sample := by simp [sample, normLoc, normLocs]
example : tripTy (.struct [[97], [98]] [.list .int, .union [.null, .listNil, .tuple [.any]]])
    = some (.struct [[97], [98]] [.list .int, .union [.null, .listNil, .tuple [.any]]]) := by rfl
/-- the zero `time.Time` (year 1) and −1 ns keep their instant: seconds −62135596800 / −1, nanos 0 / 999999999 -/
example : tsNew zeroTime = some ⟨-62135596800, 0⟩ ∧ tsNew (-1, 0) = some ⟨-1, 999999999⟩ := by decide
example : durNew (-1500000001) = some ⟨-1, -500000001⟩ ∧ durAsDuration (some ⟨-1, -500000001⟩) = -1500000001 := by decide +kernel
/-- the hypothesis of `repopulate_exact` is met by the three `len` TypeFn overloads, each found again -/
example : (lookupFn Gen.WireFunctions.table [108, 101, 110]).map (fun ds =>
    [exactPassFrom [.list .int] 0 ds none, exactPassFrom [.struct [] []] 0 ds none, exactPassFrom [.tuple []] 0 ds none,
     transportPick ds [.list .int] 1, transportPick ds [.struct [] []] 2, transportPick ds [.tuple []] 3])
    = some [.found 1, .found 2, .found 3, .found 1, .found 2, .found 3] := by decide +kernel
/-- `len()` without arguments: does not typecheck (the second pass skips TypeFn overloads); were such a call to
    arrive anyway it is rejected by the transport, not misrouted -/
example : (lookupFn Gen.WireFunctions.table [108, 101, 110]).map (fun ds => (typecheckPick ds [], transportPick ds [] 1))
    = some (.notFound, .notFound) := by decide +kernel

/-- `c IN (1, 2) AND len(t) = 2` with `t` a tuple: three calls, TypeFn overloads 1 (`in`, tuple) and 3 (`len`, tuple) among
    them; after the trip every call has its own descriptor again -/
def sampleTree : PExpr :=
  .node .bool [
    .call .bool [105, 110] ⟨[], .null, true⟩ (some 1) [.leaf .int, .node (.tuple [.int, .int]) [.leaf .int, .leaf .int]],
    .call .bool [61] ⟨[.any, .any], .bool, true⟩ (some 0)
      [.call .int [108, 101, 110] ⟨[], .null, true⟩ (some 3) [.leaf (.tuple [.int, .int])], .leaf .int]]
example : (repopTree Gen.WireFunctions.table (stripFns sampleTree)).map (fun p => (fnsOf p.1, p.2))
    = some ([some 1, some 0, some 3], true) := by decide +kernel
example : fnsOf (stripFns sampleTree) = [none, none, none] := by decide
/-- a datasource that pushes everything down (the test plugin): a subquery predicate and an unknown-function predicate
    come back as rejected, the third one is pushed down -/
example : clientPushDown (fun a b => ([], b ++ a, true)) [⟨1, true, true⟩, ⟨2, false, false⟩, ⟨3, false, true⟩] []
    = ([⟨2, false, false⟩, ⟨1, true, true⟩], [⟨3, false, true⟩], true) := by decide
/-- … and it satisfies the hypothesis of `predicate_roundtrip` -/
example : exactTyped Gen.WireFunctions.table sampleTree := by
  simp only [sampleTree, exactTyped, exactTypedL, and_true, true_and]
  exact ⟨⟨_, 1, _, rfl, by decide +kernel, rfl, rfl, rfl⟩, ⟨_, 3, _, rfl, by decide +kernel, rfl, rfl, rfl⟩, _, 0, _, rfl, by decide +kernel, rfl, rfl, rfl⟩

end Octo.C26
