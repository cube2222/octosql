import Octo.Lemmas.InstallCrash
import Octo.Lemmas.PluginsJson
import Octo.Lemmas.FsClosed
import Octo.Gen.InstallSteps
/-!
  C27 — Plugin installation survives a crash at any point.

  Model: `Octo.Fs` (paths ⇀ dir | file bytes; removeAll, mkdirAll, create, append, remove, rename = atomic),
  `Octo.Plugins.installPrims` / `addRepoPrims` (the filesystem calls of `Install`, `saveFileExtensionHandlers`,
  `AddRepository` in program order — tied to the source by `steps_tie` / `paths_tie` below), `crash k t` = the
  first `k` steps, step `k` (if it is a write) cut after `t` bytes, and `startup` (what `RunE` does before it
  looks at the query: list installed plugins, resolve every configured database, load the extension registry).

  Result. After the repair (stage + rename; write-temp + rename) the property holds at every crash point and
  every tear — except one state: when the version being installed is ALREADY installed, between the two renames
  that swap the old directory out and the new one in, the version is absent (`C27_refuted`; known finding
  `reinstall-swap-window`). `C27_partial` excludes exactly that state; `C27_fresh` shows that without a
  re-install there is nothing to exclude; `C27_addrepo` is the full property for `repository add`.
-/
namespace Octo.Plugins

/-- `Except` has no decidable equality; this test can be evaluated -/
def failsWith {ε α : Type} [DecidableEq ε] (x : Except ε α) (e : ε) : Bool :=
  match x with
  | .error e' => e' == e
  | .ok _ => false

theorem eq_error_of_failsWith {ε α : Type} [DecidableEq ε] {x : Except ε α} {e : ε} (h : failsWith x e = true) :
    x = .error e := by
  cases x with
  | error e' => rw [of_decide_eq_true h]
  | ok a => cases h

end Octo.Plugins

namespace Octo.C27
open Octo.Fs Octo.Plugins

/-! ### tie to the current source (regenerated by `vh extract installsteps`) -/

/-- what the Go identifiers of the three functions stand for in the model -/
def symInstall (ref : Ref) (v : FName) : String → Option Path
  | "stagingDir" => some (stagingDir ref v)
  | "archiveFilePath" => some (archiveFile ref v)
  | "newPluginDir" => some (versionDir ref v)
  | "oldDir" => some (oldDir ref v)
  | _ => none

def symHandlers : String → Option Path
  | "tmpPath" => some handlersTmp
  | "octosqlFileExtensionHandlersFile" => some handlersFile
  | _ => none

def symAddRepo (slug : FName) : String → Option Path
  | "repositoriesDir" => some repositoriesDir
  | "tmpPath" => some (repoTmp slug)
  | "filepath.Join(repositoriesDir, repo.Slug)" => some (repoEntry slug)
  | _ => none

/-- one extracted call as model primitives. `copy` is what io.Copy writes, `data` what os.WriteFile writes,
    `entries` what the archive unpacks to. An unknown call or identifier is `none`. -/
def interp (sym : String → Option Path) (copy data : Bytes) (entries : List (Path × Bytes)) :
    String × String × List String → Option (List Prim)
  | (_, "os.RemoveAll", [a]) => (sym a).map fun a => [.removeAll a]
  | (_, "os.MkdirAll", [a]) => (sym a).map fun a => [.mkdirAll a]
  | (_, "os.Create", [a]) => (sym a).map fun a => [.create a]
  | (_, "io.Copy", [a]) => (sym a).map fun a => [.append a copy]
  | (_, "Unarchive", [_, b]) => (sym b).map fun b => unarchivePrims b entries
  | (_, "os.Remove", [a]) => (sym a).map fun a => [.remove a]
  | (_, "os.Stat?os.Rename", [a, b]) => (sym a).bind fun a => (sym b).map fun b => [.renameIfExists a b]
  | (_, "os.Rename", [a, b]) => (sym a).bind fun a => (sym b).map fun b => [.rename a b]
  | (_, "os.WriteFile", [a]) => (sym a).map fun a => [.create a, .append a data]
  | _ => none

def interpAll (sym : String → Option Path) (copy data : Bytes) (entries : List (Path × Bytes))
    (steps : List (String × String × List String)) : Option (List Prim) :=
  (steps.mapM (interp sym copy data entries)).map List.flatten

/-- the filesystem calls of `Install` + `saveFileExtensionHandlers` found in the source ARE `installPrims` with the
    download/unarchive staging work, and those of `AddRepository` ARE `addRepoPrims` — for every plugin, version,
    archive and content -/
theorem steps_tie (ref : Ref) (v : FName) (archive data : Bytes) (entries : List (Path × Bytes)) (slug : FName) :
    (do let a ← interpAll (symInstall ref v) archive [] entries Octo.Gen.InstallSteps.install
        let b ← interpAll symHandlers [] data [] Octo.Gen.InstallSteps.saveFileExtensionHandlers
        pure (a ++ b)) =
      some (installPrims { ref := ref, v := v, staging := downloadPrims ref v archive entries, newHandlers := some data }) ∧
    interpAll (symAddRepo slug) [] data [] Octo.Gen.InstallSteps.addRepository = some (addRepoPrims slug data) := by
  constructor
  · simp [interpAll, interp, symInstall, symHandlers, Octo.Gen.InstallSteps.install,
      Octo.Gen.InstallSteps.saveFileExtensionHandlers, installPrims, downloadPrims, saveHandlersPrims]
  · simp [interpAll, interp, symAddRepo, Octo.Gen.InstallSteps.addRepository, addRepoPrims]

/-- the crash points, in the order the harness counts them -/
theorem crash_points_tie :
    Octo.Gen.InstallSteps.install.map (·.1) =
      ["install:remove-staging", "install:mkdir-staging", "install:create-archive", "install:download-archive",
       "install:unarchive", "install:remove-archive", "install:remove-old", "install:move-old-aside",
       "install:move-into-place", "install:remove-moved-old"] ∧
    Octo.Gen.InstallSteps.saveFileExtensionHandlers.map (·.1) = ["handlers:write-tmp", "handlers:move-into-place"] ∧
    Octo.Gen.InstallSteps.addRepository.map (·.1) = ["addrepo:mkdir", "addrepo:write-tmp", "addrepo:move-into-place"] :=
  ⟨rfl, rfl, rfl⟩

/-- the expressions that build the paths in the source are the ones the model's path functions mirror -/
theorem paths_tie :
    Octo.Gen.InstallSteps.paths =
      [("AddRepository.tmpPath", "repositoriesDir + \"-\" + repo.Slug + \".tmp\""),
       ("GetPluginBinaryPath.binaryPath", "filepath.Join(getPluginDir(), ref.Repository, fullName, version.String(), fullName)"),
       ("GetPluginBinaryPath.fullName", "fmt.Sprintf(\"octosql-plugin-%s\", ref.Name)"),
       ("Install.archiveFilePath", "filepath.Join(stagingDir, \"archive.tar.gz\")"),
       ("Install.newPluginDir", "filepath.Join(pluginDir, version.Number.String())"),
       ("Install.oldDir", "filepath.Join(pluginDir, \".old-\"+version.Number.String())"),
       ("Install.pluginDir", "filepath.Join(getPluginDir(), repoSlug, fmt.Sprintf(\"octosql-plugin-%s\", name))"),
       ("Install.stagingDir", "filepath.Join(pluginDir, \".installing-\"+version.Number.String())"),
       ("octosqlFileExtensionHandlersFile", "filepath.Join(config.OctosqlConfigDir, \"file_extension_handlers.json\")"),
       ("repositoriesDir", "filepath.Join(config.OctosqlDataDir, \"repositories\")"),
       ("saveFileExtensionHandlers.tmpPath", "octosqlFileExtensionHandlersFile + \".tmp\"")] ∧
    Octo.Gen.InstallSteps.listSkipPrefix = "." :=
  ⟨rfl, rfl⟩

/-! ### the staging work Install really does stays below the staging directory -/

theorem unarchive_under (root : Path) (entries : List (Path × Bytes)) : ∀ p ∈ unarchivePrims root entries, Under root p := by
  induction entries with
  | nil => simp [unarchivePrims]
  | cons e rest ih =>
    obtain ⟨rel, c⟩ := e
    intro p hp
    simp only [unarchivePrims, List.cons_append, List.nil_append, List.mem_cons] at hp
    rcases hp with rfl | rfl | rfl | hp
    · exact isPre_append _ _
    · exact isPre_append _ _
    · exact isPre_append _ _
    · exact ih p hp

theorem download_under (ref : Ref) (v : FName) (archive : Bytes) (entries : List (Path × Bytes)) :
    ∀ p ∈ downloadPrims ref v archive entries, Under (stagingDir ref v) p := by
  intro p hp
  simp only [downloadPrims, List.mem_append, List.mem_cons, List.not_mem_nil, or_false] at hp
  rcases hp with ((rfl | rfl) | hp) | rfl
  · exact isPre_append _ _
  · exact isPre_append _ _
  · exact unarchive_under _ _ p hp
  · exact isPre_append _ _

section
variable {V C : Type} (S : Sem V C)

/-- the version directory existed before the operation and is absent now -/
def InWindow (fs₀ fs : Fs) (j : InstallJob) : Prop := (get fs₀ j.N).isSome = true ∧ get fs j.N = none

/-- what C27 asks of the state `fs` left behind by a killed operation that started in `fs₀` and would have ended in
    `fin`: octosql starts; it behaves exactly as before the operation or exactly as after it — in particular every
    configured database resolves to the version it resolved to before, or to the one it resolves to after —
    and every version directory is, byte for byte, the one of that state (so a resolved version is as runnable as
    it was before, resp. as the completed installation made it) -/
def Survives (fs₀ fin fs : Fs) (cfg : List (Db C)) : Prop :=
  (∃ res, startup S fs cfg = .ok res) ∧ (SameAs S fs fs₀ cfg ∨ SameAs S fs fin cfg)

theorem survives_of (fs₀ fin fs : Fs) (cfg : List (Db C)) (H : Healthy S fs₀ cfg)
    (h : SameAs S fs fs₀ cfg ∨ (SameAs S fs fin cfg ∧ ∃ res, startup S fin cfg = .ok res)) : Survives S fs₀ fin fs cfg := by
  rcases h with h | ⟨h, res, hres⟩
  · obtain ⟨res, hres⟩ := H.start
    exact ⟨⟨res, by rw [h.startup]; exact hres⟩, Or.inl h⟩
  · exact ⟨⟨res, by rw [h.startup]; exact hres⟩, Or.inr h⟩

/-- **C27 for `plugin install`, everywhere outside the swap window.** For every healthy tree, every configuration,
    every installation job (any plugin, any version, any staging work below the staging directory — in particular
    the download + unarchive of `Install`, `download_under`), every number `k` of completed filesystem steps and
    every tear `t` of the step in progress: unless the version directory existed and is absent now, the state survives. -/
theorem C27_partial (L : OrderLaws S.gt) {fs₀ : Fs} {cfg : List (Db C)} {j : InstallJob} (H : Healthy S fs₀ cfg)
    (hj : JobOk S j) (k t : Nat) (hwin : ¬ InWindow fs₀ (crash k t (installPrims j) fs₀) j) :
    Survives S fs₀ (run (installPrims j) fs₀) (crash k t (installPrims j) fs₀) cfg :=
  survives_of S _ _ _ cfg H (install_crash_safe S L H hj (crashed_crash k t _ _) hwin)

/-- installing a version that is not installed yet: the property holds at EVERY crash point -/
theorem C27_fresh (L : OrderLaws S.gt) {fs₀ : Fs} {cfg : List (Db C)} {j : InstallJob} (H : Healthy S fs₀ cfg)
    (hj : JobOk S j) (hfresh : get fs₀ j.N = none) (k t : Nat) :
    Survives S fs₀ (run (installPrims j) fs₀) (crash k t (installPrims j) fs₀) cfg :=
  C27_partial S L H hj k t (by rintro ⟨h, _⟩; rw [hfresh] at h; cases h)

/-- **C27 for `plugin repository add`: full.** Every crash point, every tear: the repositories directory still
    loads (so `plugin install` and the `plugins` database keep working), start-up and all version directories are
    as before. -/
theorem C27_addrepo (L : OrderLaws S.gt) {fs₀ : Fs} {cfg : List (Db C)} (H : Healthy S fs₀ cfg)
    (hR : ∃ us, loadRepositories S fs₀ = .ok us) (slug : FName) {data : Bytes} (hdata : S.repoEntryOk data = true)
    (k t : Nat) :
    (∃ us, loadRepositories S (crash k t (addRepoPrims slug data) fs₀) = .ok us) ∧
    Survives S fs₀ (run (addRepoPrims slug data) fs₀) (crash k t (addRepoPrims slug data) fs₀) cfg := by
  obtain ⟨h1, h2⟩ := addRepo_crash_safe S L H ((loadRepositories_isOk_iff S).1 hR) hdata (crashed_crash k t _ _)
  exact ⟨(loadRepositories_isOk_iff S).2 h1, survives_of S _ _ _ cfg H (Or.inl h2)⟩

/-- the state left behind is again a healthy starting state (closed, plugin directories named by Install, octosql
    starts): the theorems apply again to whatever is done next — a repeated install, another kill, … -/
theorem C27_healthy_again (L : OrderLaws S.gt) {fs₀ : Fs} {cfg : List (Db C)} {j : InstallJob} (H : Healthy S fs₀ cfg)
    (hj : JobOk S j) (k t : Nat) (hwin : ¬ InWindow fs₀ (crash k t (installPrims j) fs₀) j) :
    Healthy S (crash k t (installPrims j) fs₀) cfg := by
  obtain ⟨hstart, hsame⟩ := C27_partial S L H hj k t hwin
  exact ⟨closed_crash H.closed k t, hsame.elim SameAs.nu SameAs.nu, hstart⟩

theorem C27_addrepo_healthy_again (L : OrderLaws S.gt) {fs₀ : Fs} {cfg : List (Db C)} (H : Healthy S fs₀ cfg)
    (hR : ∃ us, loadRepositories S fs₀ = .ok us) (slug : FName) {data : Bytes} (hdata : S.repoEntryOk data = true)
    (k t : Nat) : Healthy S (crash k t (addRepoPrims slug data) fs₀) cfg := by
  obtain ⟨_, hstart, hsame⟩ := C27_addrepo S L H hR slug hdata k t
  exact ⟨closed_crash H.closed k t, hsame.elim SameAs.nu SameAs.nu, hstart⟩

/-- one operation of a history: an installation or a repository registration, run for `k` steps with tear `t`
    (`k` ≥ the number of steps: the operation completes) -/
inductive Event where
  | install (j : InstallJob) (k t : Nat)
  | addRepo (slug : FName) (data : Bytes) (k t : Nat)

def Event.after (fs : Fs) : Event → Fs
  | .install j k t => crash k t (installPrims j) fs
  | .addRepo slug data k t => crash k t (addRepoPrims slug data) fs

/-- the event is one the theorems cover: a well-formed job outside the swap window, resp. a decodable entry -/
def Event.Covered (fs : Fs) : Event → Prop
  | .install j k t => JobOk S j ∧ ¬ InWindow fs (crash k t (installPrims j) fs) j
  | .addRepo _ data _ _ => S.repoEntryOk data = true

def history (fs : Fs) : List Event → Fs
  | [] => fs
  | e :: es => history (e.after fs) es

/-- every event of the history is covered in the state it happens in -/
def HistoryCovered : Fs → List Event → Prop
  | _, [] => True
  | fs, e :: es => e.Covered S fs ∧ HistoryCovered (e.after fs) es

/-- **Any history** of installations and repository registrations, each completed or killed anywhere (outside the swap
    window), leaves a healthy tree: octosql starts, every configured database resolves. -/
theorem C27_history (L : OrderLaws S.gt) {cfg : List (Db C)} (es : List Event) :
    ∀ {fs₀ : Fs}, Healthy S fs₀ cfg → (∃ us, loadRepositories S fs₀ = .ok us) → HistoryCovered S fs₀ es →
      Healthy S (history fs₀ es) cfg ∧ ∃ us, loadRepositories S (history fs₀ es) = .ok us := by
  induction es with
  | nil => intro fs₀ H hR _; exact ⟨H, hR⟩
  | cons e es ih =>
    intro fs₀ H hR hc
    obtain ⟨hcov, hrest⟩ := hc
    cases e with
    | install j k t =>
      obtain ⟨hj, hwin⟩ := hcov
      have H' := C27_healthy_again S L H hj k t hwin
      -- an installation never touches the repositories directory
      have hR' := (loadRepositories_isOk_iff S).2
        (((loadRepositories_isOk_iff S).1 hR).congr S (install_keeps_repositories S hj (crashed_crash k t _ fs₀)))
      exact ih H' hR' hrest
    | addRepo slug data k t =>
      obtain ⟨hR', _⟩ := C27_addrepo S L H hR slug hcov k t
      exact ih (C27_addrepo_healthy_again S L H hR slug hcov k t) hR' hrest

/-- in the terms of the property text: the database list resolves as before or as after, and the binary of every
    resolved version is the file it was before, resp. the file the completed installation put there -/
theorem C27_resolves (L : OrderLaws S.gt) {fs₀ : Fs} {cfg : List (Db C)} {j : InstallJob} (H : Healthy S fs₀ cfg)
    (hj : JobOk S j) (hstr : ∀ v, isDot (S.toStr v) = false) (k t : Nat)
    (hwin : ¬ InWindow fs₀ (crash k t (installPrims j) fs₀) j) :
    ∃ res, startup S (crash k t (installPrims j) fs₀) cfg = .ok res ∧
      ((startup S fs₀ cfg = .ok res ∧ ∀ e ∈ res,
          get (crash k t (installPrims j) fs₀) (binaryPath e.1.type (S.toStr e.2)) = get fs₀ (binaryPath e.1.type (S.toStr e.2))) ∨
       (startup S (run (installPrims j) fs₀) cfg = .ok res ∧ ∀ e ∈ res,
          get (crash k t (installPrims j) fs₀) (binaryPath e.1.type (S.toStr e.2)) =
            get (run (installPrims j) fs₀) (binaryPath e.1.type (S.toStr e.2)))) := by
  obtain ⟨⟨res, hres⟩, hsame⟩ := C27_partial S L H hj k t hwin
  have hbin : ∀ (ref : Ref) (v : V), InVersionDir (binaryPath ref (S.toStr v)) :=
    fun ref v => ⟨ref, S.toStr v, [pluginDirName ref.name], hstr v, rfl⟩
  refine ⟨res, hres, ?_⟩
  rcases hsame with h | h
  · exact Or.inl ⟨by rw [← h.startup]; exact hres, fun e _ => h.versions _ (hbin _ _)⟩
  · exact Or.inr ⟨by rw [← h.startup]; exact hres, fun e _ => h.versions _ (hbin _ _)⟩

end

/-- the registry hypothesis of `JobOk` (`handlers`) holds for the concrete JSON codec the driver computes with: what
    `registerFileExtensions` writes (`Json.registerExtensions`) decodes again, for plugin names and extensions made of
    characters json.Marshal writes verbatim -/
theorem registry_decodes {fs : Fs} {plugin : FName} {exts : List FName} {data : Bytes}
    (hp : Json.PlainStr plugin) (he : ∀ e ∈ exts, Json.PlainStr e)
    (h : Json.registerExtensions fs plugin exts = some data) : (Json.decodeHandlers data).isSome = true :=
  Json.registerExtensions_decodes hp he h

theorem registry_roundtrip {m : List (FName × FName)} (hm : Json.PlainMap m) :
    Json.decodeHandlers (Json.encodeHandlers m) = some m := Json.decode_encode hm

/-- C27 at full strength: as `C27_partial`, without excluding anything -/
def Statement : Prop :=
  ∀ (V C : Type) (S : Sem V C), OrderLaws S.gt →
    ∀ (fs₀ : Fs) (cfg : List (Db C)) (j : InstallJob), Healthy S fs₀ cfg → JobOk S j → ∀ k t : Nat,
      Survives S fs₀ (run (installPrims j) fs₀) (crash k t (installPrims j) fs₀) cfg

/-! ### a concrete world: non-vacuity, and the witness of the window -/

namespace W

/-- versions "1", "2", "3" ordered as numbers; one constraint that everything passes -/
def S : Sem Nat Unit where
  parse x := if x = lit "1" then some 1 else if x = lit "2" then some 2 else if x = lit "3" then some 3 else none
  toStr v := if v = 1 then lit "1" else if v = 2 then lit "2" else lit "3"
  gt a b := decide (a > b)
  check _ _ := true
  pre _ := false
  star := ()
  handlersOk c := c == [123, 125]      -- "{}"
  repoEntryOk _ := true

theorem laws : OrderLaws S.gt where
  irrefl a := by simp [S]
  trans a b c := by simp only [S, decide_eq_true_eq]; omega
  total a b := by simp only [S, decide_eq_true_eq]; omega

def x : Ref := ⟨lit "x", lit "core"⟩

/-- core/x is installed in version 1, with its binary -/
def fs₀ : Fs :=
  [(pluginsDir, .dir), (pluginsDir ++ [lit "core"], .dir), (pluginDir x, .dir), (versionDir x (lit "1"), .dir),
   (binaryPath x (lit "1"), .file [1, 2, 3])]

def db : Db Unit := { name := lit "db", type := x, constraint := none }

def cfg : List (Db Unit) := [db]

/-- a decidable sufficient condition for `Closed` -/
def closedB (fs : Fs) : Bool :=
  fs.all fun e => match e.1.dropLast with
    | [] => true
    | pp => decide (get fs pp = some .dir)

theorem closed_of_closedB {fs : Fs} (h : closedB fs = true) : Closed fs := by
  intro p x hp hs
  obtain ⟨e, he, hpath⟩ := get_isSome_iff.1 hs
  have := List.all_eq_true.1 h e he
  rw [hpath] at this
  simp only [List.dropLast_concat] at this
  cases p with
  | nil => exact absurd rfl hp
  | cons a as => simpa using this

def noUnprefixedB (fs : Fs) : Bool :=
  fs.all fun e => match e.1 with
    | [p, _, d] => if [p] = pluginsDir then (stripPrefix? pluginPrefix d).isSome else true
    | _ => true

theorem noUnprefixed_of_B {fs : Fs} (h : noUnprefixedB fs = true) : NoUnprefixed fs := by
  intro r d hs
  obtain ⟨e, he, hpath⟩ := get_isSome_iff.1 hs
  have := List.all_eq_true.1 h e he
  rw [hpath] at this
  simp only [pluginsDir, List.cons_append, List.nil_append, if_true] at this
  intro hn; rw [hn] at this; cases this

theorem healthy : Healthy S fs₀ cfg where
  closed := closed_of_closedB (by decide)
  nu := noUnprefixed_of_B (by decide)
  start := ⟨[(db, 1)], rfl⟩

/-- install version 2 (not installed yet): unpack one file, register extensions -/
def jobNew : InstallJob :=
  { ref := x, v := lit "2",
    staging := downloadPrims x (lit "2") [9, 9] [([pluginDirName (lit "x")], [4, 5, 6])],
    newHandlers := some [123, 125] }

/-- install version 1 again -/
def jobAgain : InstallJob := { jobNew with v := lit "1", staging := downloadPrims x (lit "1") [9, 9] [([pluginDirName (lit "x")], [4, 5, 6])] }

theorem jobNew_ok : JobOk S jobNew where
  staging := download_under _ _ _ _
  vparse := by decide
  vdot := by decide
  handlers := by intro data h; cases h; decide

theorem jobAgain_ok : JobOk S jobAgain where
  staging := download_under _ _ _ _
  vparse := by decide
  vdot := by decide
  handlers := by intro data h; cases h; decide

/-- The next seven examples as one statement: evaluated together, the kernel decodes every path literal once, not
    once per example. The 15 steps of `installPrims jobNew` (`crash k t`: steps `0 … k-1` are done, step `k` is in
    progress and, if it is a write, has written `t` bytes):
      0 removeAll staging    1 mkdirAll staging     2 create archive     3 append archive (2 bytes)
      4 mkdirAll staging     5 create binary        6 append binary (3 bytes)     7 remove archive
      8 removeAll trash      9 renameIfExists version → trash     10 rename staging → version     11 removeAll trash
      12 create registry.tmp     13 append registry.tmp (2 bytes)     14 rename registry.tmp → registry
    So `crash 8 0` and `crash 5 1` lie before the move (step 5 is no write: its tear is ignored), `crash 11 0` right
    after it, and `crash 13 1` inside the write of the temporary registry file. -/
theorem fresh_vectors :
    (startup S (crash 8 0 (installPrims jobNew) fs₀) cfg).toOption.map (·.map (·.2)) = some [1] ∧
    (startup S (crash 5 1 (installPrims jobNew) fs₀) cfg).toOption.map (·.map (·.2)) = some [1] ∧
    (startup S (crash 11 0 (installPrims jobNew) fs₀) cfg).toOption.map (·.map (·.2)) = some [2] ∧
    get (crash 11 0 (installPrims jobNew) fs₀) (binaryPath x (lit "2")) = some (.file [4, 5, 6]) ∧
    (startup S (crash 13 1 (installPrims jobNew) fs₀) cfg).toOption.map (·.map (·.2)) = some [2] ∧
    (startup S (run (installPrims jobNew) fs₀) cfg).toOption.map (·.map (·.2)) = some [2] ∧
    get (run (installPrims jobNew) fs₀) handlersFile = some (.file [123, 125]) := by
  decide +kernel

/-- the hypotheses of `C27_fresh` are satisfiable, and both outcomes occur: killed before the move the database
    resolves to 1, killed after it to 2 (whose binary is complete), and the complete run ends healthy -/
example : get fs₀ jobNew.N = none := by decide +kernel
example : (installPrims jobNew).length = 15 := by decide +kernel
example : (startup S (crash 8 0 (installPrims jobNew) fs₀) cfg).toOption.map (·.map (·.2)) = some [1] := fresh_vectors.1
example : (startup S (crash 5 1 (installPrims jobNew) fs₀) cfg).toOption.map (·.map (·.2)) = some [1] := fresh_vectors.2.1
example : (startup S (crash 11 0 (installPrims jobNew) fs₀) cfg).toOption.map (·.map (·.2)) = some [2] := fresh_vectors.2.2.1
example : get (crash 11 0 (installPrims jobNew) fs₀) (binaryPath x (lit "2")) = some (.file [4, 5, 6]) := fresh_vectors.2.2.2.1
example : (startup S (crash 13 1 (installPrims jobNew) fs₀) cfg).toOption.map (·.map (·.2)) = some [2] := fresh_vectors.2.2.2.2.1
example : (startup S (run (installPrims jobNew) fs₀) cfg).toOption.map (·.map (·.2)) = some [2] := fresh_vectors.2.2.2.2.2.1
example : get (run (installPrims jobNew) fs₀) handlersFile = some (.file [123, 125]) := fresh_vectors.2.2.2.2.2.2

/-- the re-installation of version 1 after 10 steps (start-up fails; the state is in the window), and one step
    earlier and later; evaluated together like `fresh_vectors` -/
theorem again_vectors :
    failsWith (startup S (crash 10 0 (installPrims jobAgain) fs₀) cfg) (.notInstalled (lit "db")) = true ∧
    ((get fs₀ jobAgain.N).isSome = true ∧ get (crash 10 0 (installPrims jobAgain) fs₀) jobAgain.N = none) ∧
    (startup S (crash 9 0 (installPrims jobAgain) fs₀) cfg).toOption.map (·.map (·.2)) = some [1] ∧
    (startup S (crash 11 0 (installPrims jobAgain) fs₀) cfg).toOption.map (·.map (·.2)) = some [1] ∧
    get (crash 11 0 (installPrims jobAgain) fs₀) (binaryPath x (lit "1")) = some (.file [4, 5, 6]) := by
  decide +kernel

/-- the window: version 1 is installed again; killed after the old directory was moved aside (10 steps done) and
    before the new one is moved in, the plugin has no version and octosql does not start -/
theorem window_state :
    startup S (crash 10 0 (installPrims jobAgain) fs₀) cfg = .error (.notInstalled (lit "db")) :=
  eq_error_of_failsWith again_vectors.1

example : InWindow fs₀ (crash 10 0 (installPrims jobAgain) fs₀) jobAgain := again_vectors.2.1
/-- one step earlier and one step later everything is fine -/
example : (startup S (crash 9 0 (installPrims jobAgain) fs₀) cfg).toOption.map (·.map (·.2)) = some [1] := again_vectors.2.2.1
example : (startup S (crash 11 0 (installPrims jobAgain) fs₀) cfg).toOption.map (·.map (·.2)) = some [1] := again_vectors.2.2.2.1
example : get (crash 11 0 (installPrims jobAgain) fs₀) (binaryPath x (lit "1")) = some (.file [4, 5, 6]) := again_vectors.2.2.2.2

end W

/-- the full statement is false on the current tree: the swap window of a re-install -/
theorem C27_refuted : ¬ Statement := by
  intro h
  obtain ⟨⟨res, hres⟩, _⟩ := h Nat Unit W.S W.laws W.fs₀ W.cfg W.jobAgain W.healthy W.jobAgain_ok 10 0
  rw [W.window_state] at hres
  cases hres

/-! ### what the code did before the repair (for the record; these are not the model) -/

namespace Before
open W

/-- `Install` before the repair: remove the version directory, re-create it, download and unpack IN PLACE -/
def installInPlace (ref : Ref) (v : FName) (archive : Bytes) (entries : List (Path × Bytes)) : List Prim :=
  [.removeAll (versionDir ref v), .mkdirAll (versionDir ref v),
   .create (versionDir ref v ++ [lit "archive.tar.gz"]), .append (versionDir ref v ++ [lit "archive.tar.gz"]) archive]
  ++ unarchivePrims (versionDir ref v) entries ++ [.remove (versionDir ref v ++ [lit "archive.tar.gz"])]

/-- `os.WriteFile(octosqlFileExtensionHandlersFile, data)`: truncate, then write -/
def writeInPlace (data : Bytes) : List Prim := [.create handlersFile, .append handlersFile data]

/-- killed right after `MkdirAll`: version 2 is listed, the database resolves to it, and it has no binary -/
example :
    let fs := crash 2 0 (installInPlace x (lit "2") [9, 9] [([pluginDirName (lit "x")], [4, 5, 6])]) fs₀
    (startup S fs cfg).toOption.map (·.map (·.2)) = some [2] ∧ runnable S fs x 2 = false := by decide +kernel

/-- killed inside the registry write: every later start fails -/
example : startup S (crash 1 1 (writeInPlace [123, 125]) fs₀) cfg = .error .handlers :=
  eq_error_of_failsWith (by decide +kernel)

end Before

end Octo.C27
