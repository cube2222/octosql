import Octo.Lemmas.PluginsSpec
import Octo.Gen.InstallSteps
/-!
  C28 — Installed plugins are discovered and versions resolved correctly.

  The model (`Octo.Plugins`) mirrors `ListInstalledPlugins`, the `dbLoop` of `cmd/root.go`, `Install`'s selection
  loop and `GetManifest`'s sort. The version library is a parameter `S : Sem V C`; the only thing assumed of it is
  that `GreaterThan` is a strict total order on the versions that occur (`OrderLaws`, sampled against the real
  library by the `semver` ops of the check).

  All theorems are for every file tree, every plugin name (any characters, dashes included), every list of
  versions, every constraint.
-/
namespace Octo.C28
open Octo.Fs Octo.Plugins

/-- a plugin installed as `octosql-plugin-<n>` is found under exactly the name `n`, whatever `n` contains -/
theorem name_roundtrip (n : FName) : nameOfDir (pluginDirName n) = n := nameOfDir_pluginDirName n

/-- two different plugin names never end up under the same reference -/
theorem name_injective (n n' : FName) (h : nameOfDir (pluginDirName n) = nameOfDir (pluginDirName n')) : n = n' := by
  simpa [name_roundtrip] using h

/-- the parse that was in the code before the repair (everything after the last dash) fails on every name with a dash… -/
example : nameOfDirLastDash (pluginDirName (lit "my-plugin")) = lit "plugin" := by decide +kernel
/-- …and confuses different plugins -/
example : nameOfDirLastDash (pluginDirName (lit "a-x")) = nameOfDirLastDash (pluginDirName (lit "b-x")) := by decide +kernel
example : nameOfDir (pluginDirName (lit "my-plugin")) = lit "my-plugin" := name_roundtrip _

/-- `sort.Slice(…GreaterThan…)` as modelled returns the same versions… -/
theorem sort_mem {V : Type} (gt : V → V → Bool) (l : List V) (v : V) : v ∈ sortDesc gt l ↔ v ∈ l := mem_sortDesc gt

theorem sort_length {V : Type} (gt : V → V → Bool) (l : List V) : (sortDesc gt l).length = l.length := length_sortDesc gt l

/-- …in descending order: nothing later is greater than anything earlier -/
theorem sort_desc {V : Type} {gt : V → V → Bool} (L : OrderLaws gt) (l : List V) :
    (sortDesc gt l).Pairwise (fun a b => gt b a = false) := desc_sortDesc L l

/-- the first version of the sorted list that passes the constraint is the greatest installed version that passes it -/
theorem resolve_max {V C : Type} {gt : V → V → Bool} (L : OrderLaws gt) (check : C → V → Bool) (c : C) (vs : List V) (v : V) :
    (sortDesc gt vs).find? (check c) = some v ↔
      v ∈ vs ∧ check c v = true ∧ ∀ w ∈ vs, check c w = true → gt w v = false :=
  find?_sortDesc_eq_some_iff L

theorem resolve_none {V C : Type} {gt : V → V → Bool} (check : C → V → Bool) (c : C) (vs : List V) :
    (sortDesc gt vs).find? (check c) = none ↔ ∀ w ∈ vs, check c w = false :=
  find?_sortDesc_eq_none_iff

/-- `Install` (after `GetManifest`'s sort): with a constraint the greatest manifest version passing it, without one the
    greatest version that is not a prerelease -/
theorem install_pick {V C : Type} (S : Sem V C) (L : OrderLaws S.gt) (c : Option C) (manifest : List V) (v : V) :
    installPick S c manifest = some v ↔
      v ∈ manifest ∧
      (match c with | some c => S.check c v = true | none => S.pre v = false) ∧
      ∀ w ∈ manifest, (match c with | some c => S.check c w = true | none => S.pre w = false) → S.gt w v = false := by
  cases c with
  | some c => exact find?_sortDesc_eq_some_iff L
  | none =>
    have := find?_sortDesc_eq_some_iff L (p := fun v => !S.pre v) (l := manifest) (v := v)
    simpa [installPick, pick, IsMaxSat] using this

theorem install_pick_none {V C : Type} (S : Sem V C) (c : Option C) (manifest : List V) :
    installPick S c manifest = none ↔
      ∀ w ∈ manifest, (match c with | some c => S.check c w = false | none => S.pre w = true) := by
  cases c with
  | some c => exact find?_sortDesc_eq_none_iff
  | none =>
    have := find?_sortDesc_eq_none_iff (gt := S.gt) (p := fun v => !S.pre v) (l := manifest)
    simpa [installPick, pick] using this

example : installPick (V := Nat) (C := Nat)
    { parse := fun _ => none, toStr := fun _ => [], gt := fun a b => decide (a > b), check := fun c v => decide (v ≤ c),
      pre := fun v => v % 2 = 1, star := 0, handlersOk := fun _ => true, repoEntryOk := fun _ => true }
    none [3, 8, 5, 6, 9] = some 8 := by decide +kernel

section tree
variable {V C : Type} (S : Sem V C)

/-- every plugin directory `plugins/<r>/octosql-plugin-<n>` is listed under the reference `<r>/<n>` — exactly `n`, dashes
    or not — with exactly the versions its non-dot entries parse to, in descending order -/
theorem discover_exact (L : OrderLaws S.gt) {fs : Fs} {ms : List (Meta V)} (h : listInstalled S fs = .ok ms) (r n : FName)
    (hP : (get fs pluginsDir).isSome = true) (hR : (get fs (pluginsDir ++ [r])).isSome = true)
    (hD : (get fs (pluginDir ⟨n, r⟩)).isSome = true) :
    ∃ m ∈ ms, m.ref = ⟨n, r⟩ ∧
      (∀ v, v ∈ m.versions ↔ ∃ x, isDot x = false ∧ (get fs (pluginDir ⟨n, r⟩ ++ [x])).isSome = true ∧ S.parse x = some v) ∧
      m.versions.Pairwise (fun a b => S.gt b a = false) := by
  obtain ⟨vs, hvs, hm⟩ := listed_of_dir S h r n hP hR hD
  obtain ⟨_, l, hsort, hl⟩ := listVersions_mem S hvs
  refine ⟨_, hm, rfl, fun v => ?_, ?_⟩
  · simp only [hsort, mem_sortDesc, hl]
  · simp only [hsort]; exact desc_sortDesc L l

/-- the listing fails only on a malformed tree (a file where a directory belongs, or an entry that is no version) -/
theorem listing_succeeds_iff (fs : Fs) : (∃ ms, listInstalled S fs = .ok ms) ↔ ListOk S fs := listInstalled_isOk_iff S

/-- start-up: every configured database resolves to the greatest installed version of its plugin that passes its
    constraint (`*` when it has none) -/
theorem startup_resolves_max (L : OrderLaws S.gt) {fs : Fs} (hnu : NoUnprefixed fs) {cfg : List (Db C)}
    {res : List (Db C × V)} (h : startup S fs cfg = .ok res) :
    res.map (·.1) = cfg ∧ ∀ e ∈ res, MaxInstalled S fs e.1.type (S.check (e.1.con S)) e.2 := by
  obtain ⟨ms, hms, hmap, _⟩ := (startup_ok_iff S).1 h
  constructor
  · clear h
    induction cfg generalizing res with
    | nil => simp only [mapE] at hmap; cases hmap; rfl
    | cons db rest ih =>
      obtain ⟨y, ys, hy, hys, rfl⟩ := mapE_cons_ok.1 hmap
      simp only [resolveE] at hy
      split at hy
      · cases hy; simp [ih hys]
      · cases hy
  · intro e he
    obtain ⟨db, _, hdb⟩ := (mapE_mem hmap).1 he
    simp only [resolveE] at hdb
    split at hdb
    · next v hv =>
      cases hdb
      exact (resolveDb_eq_some_iff S L hms hnu db v).1 hv
    · cases hdb

/-- … and start-up stops with "not installed with the required version" only if no installed version passes -/
theorem startup_not_installed {fs : Fs} (hnu : NoUnprefixed fs) {cfg : List (Db C)} {ms : List (Meta V)}
    (hms : listInstalled S fs = .ok ms) (db : Db C) (_ : db ∈ cfg) :
    resolveE S ms db = .error (.notInstalled db.name) ↔ ∀ w, Installed S fs db.type w → S.check (db.con S) w = false := by
  rw [← resolveDb_eq_none_iff S hms hnu db]
  simp only [resolveE]
  split <;> simp_all

end tree

/-! ### tie to the current source (regenerated by `vh extract installsteps`) -/

/-- the literal `ListInstalledPlugins` strips is the model's prefix, it is the prefix `Install` and `GetPluginBinaryPath`
    build directory names with, and the entries skipped are the ones starting with "." -/
theorem literals_tie :
    Octo.Gen.InstallSteps.listTrimPrefix.toList = pluginPrefix ∧
    Octo.Gen.InstallSteps.listSkipPrefix = "." ∧
    Octo.Gen.InstallSteps.paths.lookup "Install.pluginDir" =
      some ("filepath.Join(getPluginDir(), repoSlug, fmt.Sprintf(\"" ++ Octo.Gen.InstallSteps.listTrimPrefix ++ "%s\", name))") ∧
    Octo.Gen.InstallSteps.paths.lookup "GetPluginBinaryPath.fullName" =
      some ("fmt.Sprintf(\"" ++ Octo.Gen.InstallSteps.listTrimPrefix ++ "%s\", ref.Name)") :=
  ⟨rfl, rfl, by decide +kernel⟩

/-- C28 as stated: for every set of installed plugins (file tree) and every configuration, each installed plugin is
    discovered under the exact name it was installed with; every configured database resolves to the highest installed
    version passing its constraint; install selects the highest matching manifest version (highest non-prerelease without
    a constraint). -/
def Statement : Prop :=
  ∀ (V C : Type) (S : Sem V C), OrderLaws S.gt →
    -- discovery
    (∀ (fs : Fs) (ms : List (Meta V)), listInstalled S fs = .ok ms → ∀ r n : FName,
        (get fs pluginsDir).isSome = true → (get fs (pluginsDir ++ [r])).isSome = true →
        (get fs (pluginDir ⟨n, r⟩)).isSome = true →
        ∃ m ∈ ms, m.ref = ⟨n, r⟩ ∧
          (∀ v, v ∈ m.versions ↔ ∃ x, isDot x = false ∧ (get fs (pluginDir ⟨n, r⟩ ++ [x])).isSome = true ∧ S.parse x = some v) ∧
          m.versions.Pairwise (fun a b => S.gt b a = false)) ∧
    -- resolution
    (∀ (fs : Fs) (cfg : List (Db C)) (res : List (Db C × V)), NoUnprefixed fs → startup S fs cfg = .ok res →
        res.map (·.1) = cfg ∧ ∀ e ∈ res, MaxInstalled S fs e.1.type (S.check (e.1.con S)) e.2) ∧
    -- install selection
    (∀ (c : Option C) (manifest : List V) (v : V), installPick S c manifest = some v ↔
        v ∈ manifest ∧ (match c with | some c => S.check c v = true | none => S.pre v = false) ∧
        ∀ w ∈ manifest, (match c with | some c => S.check c w = true | none => S.pre w = false) → S.gt w v = false)

theorem C28_full : Statement := by
  intro V C S L
  exact ⟨fun fs ms h r n hP hR hD => discover_exact S L h r n hP hR hD,
         fun fs cfg res hnu h => startup_resolves_max S L hnu h,
         fun c manifest v => install_pick S L c manifest v⟩

end Octo.C28
