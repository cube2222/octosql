import Octo.Lemmas.JsonPipeProgress
import Octo.Lemmas.JsonPipeMeasure
import Octo.Model.JsonPipeSkeleton
import Octo.Lemmas.JoinProto
/-!
# C29 — protocol-level part: the JSON datasource pipeline neither deadlocks nor runs for ever

The statements are about the transition system `Octo.JsonPipe` (`Octo/Model/JsonPipe.lean`), which mirrors the
channel operations of `datasources/json/execution.go` and `workers.go`; `Reachable s` quantifies over every number
of workers ≥ 1, every list of concurrently running datasources with arbitrary finite inputs, and EVERY schedule.
Data races (Go memory model) are outside this model — see notes/C29.md.
-/
namespace Octo.C29
open Octo.JsonPipe

/-- **Tie to the source text.** The communication skeleton regenerated from the current
`datasources/json/execution.go` / `workers.go` is the one the model was written for. -/
theorem skeleton_matches :
    Octo.Gen.JsonPipe.runSkeleton = expectedRunSkeleton ∧ Octo.Gen.JsonPipe.workerSkeleton = expectedWorkerSkeleton :=
  ⟨rfl, rfl⟩

/-- the same for the goroutine / channel lines of `StreamJoin.Run` and `OuterJoin.Run` (`stream_join.go`,
`outer_join.go`): the producers send through the `select`-with-`ctx.Done()` helper, the node cancels that context
when it returns -/
theorem join_skeleton_matches :
    Octo.Gen.JsonPipe.streamJoinSkeleton = expectedJoinSkeleton ∧ Octo.Gen.JsonPipe.outerJoinSkeleton = expectedJoinSkeleton :=
  ⟨rfl, rfl⟩

/-- **Tie to the source text: capacities.** What the proofs need of the capacities found in the sources: there are at most
as many tokens as `outChan` has room (this is what makes `worker_never_blocks` true), the `done` channel has room
for the reader's single send, and the job channel has room for a single datasource's tokens. -/
theorem capacities_ok :
    tokCap ≤ outCap ∧ 0 < tokCap ∧ 0 < jobCap ∧ tokCap ≤ jobCap ∧ 1 ≤ Octo.Gen.JsonPipe.doneCap ∧
    1 ≤ Octo.Gen.JsonPipe.batchSize ∧ 1 ≤ Octo.Gen.JsonPipe.tailBatchSize ∧ 0 < JoinProto.cap :=
  ⟨tokCap_le_outCap, tokCap_pos, jobCap_pos, tokCap_le_jobCap, by decide, by decide, by decide, JoinProto.cap_pos⟩

/-- **Token invariant.** In every reachable state, for every running datasource: every job between the reader's
token acquisition and the consumer's token release, and every batch waiting in `outChan`, holds a token; there
are never more than `cap(outChanAvailableTokens)` tokens; and as long as the run is not cancelled there are no
other tokens. -/
theorem token_invariant {s : State} (h : Reachable s) {p : Nat} (hp : p < s.np) :
    inflight s p + (s.pipe p).out.length ≤ (s.pipe p).tokens ∧ (s.pipe p).tokens ≤ tokCap ∧
    ((s.pipe p).cancelled = false → (s.pipe p).tokens = inflight s p + (s.pipe p).out.length) :=
  ⟨(reachable_inv h).tok.le p hp, ((reachable_inv h).pc p hp).tokLe, (reachable_inv h).tok.eq p hp⟩

/-- `outChan` never holds more batches than there are tokens, hence never more than its capacity. -/
theorem outChan_bounded {s : State} (h : Reachable s) {p : Nat} (hp : p < s.np) : (s.pipe p).out.length ≤ outCap := by
  have := token_invariant h hp
  have := tokCap_le_outCap
  omega

/-- **A pool worker never blocks**: whenever a worker holds a parsed batch, its send
`job.outChan <- outJobs` is enabled — whatever the consumer of that datasource is doing (slow, suspended inside
`produce`, gone). This is why one datasource cannot wedge the global pool. -/
theorem worker_never_blocks {s : State} (h : Reachable s) {w : Nat} {j : Job} (hw : w < s.nw)
    (hj : s.worker w = some j) : (step s (.wSend w)).isSome = true :=
  worker_send_enabled (reachable_inv h) hw hj

/-- The consumer's `<-outChanAvailableTokens` (outside any `select`) never blocks: after receiving a batch there
is a token to take. -/
theorem consumer_token_available {s : State} (h : Reachable s) {p : Nat} {j : Job} (hp : p < s.np)
    (hc : (s.pipe p).cpc = .tok j) : (step s (.cTok p)).isSome = true :=
  consumer_token_enabled (reachable_inv h) hp hc

/-- With a single running datasource the reader's `parserWorkReceiveChannel <- job` (outside any `select`) never
blocks either: the job channel holds at most as many jobs as there are tokens. -/
theorem submit_never_blocks_single {s : State} (h : Reachable s) (h1 : s.np = 1)
    (hr : (s.pipe 0).rpc = .hold) : (step s (.rSub 0)).isSome = true := by
  have hp : 0 < s.np := h1 ▸ Nat.zero_lt_one
  have ht := (reachable_inv h).tok
  have hall : inJobs s.jobs 0 = s.jobs.length := by
    rw [inJobs, List.filter_eq_self.mpr]
    exact fun j hj => decide_eq_true (Nat.lt_one_iff.mp (h1 ▸ ht.jobsValid j hj))
  have hle := ht.le 0 hp
  rw [inflight, hr, hall] at hle
  have := ((reachable_inv h).pc 0 hp).tokLe
  have := tokCap_le_jobCap
  have hlen : s.jobs.length < jobCap := by simp only [holdCnt, if_true] at hle; omega
  exact Option.isSome_ite.mpr ⟨hp, hr, hlen⟩

theorem every_step_decreases {s s' : State} {a : Action} (h : Reachable s) (hs : step s a = some s') :
    measure s' < measure s :=
  step_measure (reachable_inv h).tok (reachable_inv h).pc (step_sound hs)

/-- **Termination.** From a reachable state no schedule — whatever the interleaving, with or without
cancellation, LIMIT or errors — is longer than `measure s`. -/
theorem schedules_are_finite {s t : State} {sched : List Action} (h : Reachable s) (hr : run s sched = some t) :
    sched.length + measure t ≤ measure s :=
  isRun.length_le (fun _ _ _ h hs => reachable_step h hs) (fun _ _ _ h hs => every_step_decreases h hs) h hr

/-- **No deadlock, and the pool cannot be wedged.** In every reachable state, a datasource that is not finished
(its `Run` has not returned, or its reader goroutine has not ended, or one of its jobs is still in the pool) can be
advanced by a pool worker or by its own reader / consumer. No other datasource's consumer is needed (it may be
suspended inside `produce` for ever), and neither is the environment (`pCancel`). -/
theorem pool_never_wedged {s : State} (h : Reachable s) {p : Nat} (hp : p < s.np) (hnf : ¬ s.pipeFinal p) :
    ∃ a, (a.isWorker = true ∨ a.ofPipe p = true) ∧ (step s a).isSome = true :=
  Octo.JsonPipe.pool_never_wedged h hp hnf

/-- **Deadlock freedom.** A reachable state in which no worker / reader / consumer action is enabled is final. -/
theorem deadlock_free {s : State} (h : Reachable s)
    (hstuck : ∀ a, (∃ p, a.isWorker = true ∨ a.ofPipe p = true) → step s a = none) : s.final := by
  intro p hp
  apply Classical.byContradiction
  intro hnf
  obtain ⟨a, ha, hen⟩ := pool_never_wedged h hp hnf
  rw [hstuck a ⟨p, ha⟩] at hen
  simp at hen

/-- **Every run ends, and ends well**: a schedule from a reachable state that cannot be extended by any worker /
reader / consumer action has ended in a final state — and by `schedules_are_finite` every schedule can be extended
only `measure s` times. -/
theorem maximal_run_is_final {s t : State} {sched : List Action} (h : Reachable s) (hr : run s sched = some t)
    (hmax : ∀ a, (∃ p, a.isWorker = true ∨ a.ofPipe p = true) → step t a = none) : t.final :=
  deadlock_free (reachable_run h hr) hmax

/-- the consumer's two reads of the shared variable `linesRead`: the check after a batch (evaluated only when
`fileReaderIsDone`), and the check in the `done` branch (after a nil error was received) -/
def ReadsLinesRead (s : State) (a : Action) (p : Nat) : Prop :=
  (a = .cProc p ∧ (s.pipe p).readerDone = true) ∨ (a = .cDone p ∧ (s.pipe p).done = some false)

/-- **`linesRead` is handed over through `done`.** Whenever the consumer reads `linesRead`, the reader goroutine
has already returned (it wrote `linesRead` for the last time before it sent on `done`), and no later state has the
reader running or a different value of `linesRead`: the variable is never written after, or concurrently with, a
read. -/
theorem linesRead_ordered {s s' : State} {a : Action} {p : Nat} (h : Reachable s) (hp : p < s.np)
    (hs : step s a = some s') (hr : ReadsLinesRead s a p) :
    (s.pipe p).rpc = .exit ∧
    ∀ sched t, run s' sched = some t → (t.pipe p).rpc = .exit ∧ (t.pipe p).linesRead = (s.pipe p).linesRead := by
  have hpi := (reachable_inv h).pc p hp
  have hx : (s.pipe p).rpc = .exit := by
    rcases hr with ⟨_, h1⟩ | ⟨_, h1⟩
    · exact hpi.doneSent (Or.inr (hpi.rdNil h1))
    · exact hpi.doneSent (Or.inl (by simp [h1]))
  refine ⟨hx, fun sched t hrun => ?_⟩
  have : run s (a :: sched) = some t := by simp [run, hs, hrun]
  exact run_exit_stable this hx

/-- a reader's batches are consecutive line ranges starting at line 0, and every batch in `outChan` was submitted by the
reader of that datasource -/
theorem batches_are_consecutive {s : State} (h : Reachable s) {p : Nat} (hp : p < s.np) :
    Chain 0 (s.pipe p).sub (subEnd (s.pipe p)) ∧ (∀ j, j ∈ (s.pipe p).out → j ∈ (s.pipe p).sub) :=
  ⟨((reachable_inv h).queue p hp).chain, (reachable_inv h).sub.out p⟩

/-- What C29 says about the JSON pipeline, as far as it is a statement about the protocol: for every number of
workers, every set of concurrently running datasources over finite inputs (with malformed lines, scanner errors,
LIMIT / downstream errors, cancellation of the parent context at any moment) and every schedule:
no blocking operation outside a `select` ever blocks, nothing deadlocks, everything terminates, and the shared
variable `linesRead` is read only after its last write. -/
def JsonStatement : Prop :=
  ∀ s, Reachable s →
    (∀ w j, w < s.nw → s.worker w = some j → (step s (.wSend w)).isSome = true) ∧
    (∀ p j, p < s.np → (s.pipe p).cpc = .tok j → (step s (.cTok p)).isSome = true) ∧
    (∀ p, p < s.np → ¬ s.pipeFinal p → ∃ a, (a.isWorker = true ∨ a.ofPipe p = true) ∧ (step s a).isSome = true) ∧
    (∀ sched t, run s sched = some t → sched.length ≤ measure s) ∧
    (∀ a s' p, p < s.np → step s a = some s' → ReadsLinesRead s a p → (s.pipe p).rpc = .exit)

theorem json_pipeline_full : JsonStatement := by
  intro s h
  refine ⟨fun w j hw hj => worker_never_blocks h hw hj, fun p j hp hc => consumer_token_available h hp hc,
    fun p hp hnf => pool_never_wedged h hp hnf, fun sched t hr => ?_, fun a s' p hp hs hr => (linesRead_ordered h hp hs hr).1⟩
  have := schedules_are_finite h hr; omega

/-! ## non-vacuity: concrete reachable runs -/

/-- one datasource with 3 lines in batches of 2, two workers; the second batch overtakes the first -/
def exState : State := State.init 2 [Pipe.init 3 2 false [] none]
def exSched : List Action :=
  [.rTok 0, .rSub 0, .rWrite 0, .wTake 1 0, .rTok 0, .rSub 0, .rWrite 0, .rDone 0, .wTake 0 0,
   .wSend 0, .cRecv 0 0, .cTok 0, .cProc 0, .cDone 0, .wSend 1, .cRecv 0 0, .cTok 0, .cProc 0, .cCancel 0]

example : (run exState exSched).map (fun t => ((t.pipe 0).cpc, (t.pipe 0).rpc, (t.pipe 0).produced, (t.pipe 0).ret))
    = some (.exit, .exit, 3, .ok) := by decide

theorem exState_reachable : Reachable exState :=
  ⟨2, [Pipe.init 3 2 false [] none], [], by decide, fun P hP => by
    simp only [List.mem_singleton] at hP; subst hP; exact ⟨3, 2, false, [], none, by decide, rfl⟩, rfl⟩

/-- the hypotheses of the theorems are satisfiable by a state with a busy worker and a full pipeline stage -/
example : ∃ s, Reachable s ∧ s.worker 1 = some ⟨0, 0, 2⟩ ∧ (s.pipe 0).tokens = 2 ∧ ¬ s.pipeFinal 0 := by
  have hr : (run exState (exSched.take 8)).map (fun t => (t.worker 1, (t.pipe 0).tokens, (t.pipe 0).cpc))
      = some (some ⟨0, 0, 2⟩, 2, .sel) := by decide
  cases hrun : run exState (exSched.take 8) with
  | none => rw [hrun] at hr; contradiction
  | some t =>
    rw [hrun] at hr
    injection hr with hr
    injection hr with h1 hr
    injection hr with h2 h3
    exact ⟨t, reachable_run exState_reachable hrun, h1, h2, fun hf => nomatch h3.symm.trans hf.1⟩

/-- early stop: LIMIT 1 on the same input — the consumer returns, the reader takes its `ctx.Done` branch, the worker
drops or delivers; everything ends -/
example : (run (State.init 1 [Pipe.init 3 2 false [] (some 1)])
    [.rTok 0, .rSub 0, .rWrite 0, .wTake 0 0, .wSend 0, .cRecv 0 0, .cTok 0, .cProc 0, .cCancel 0, .rStop 0]).map
      (fun t => ((t.pipe 0).ret, (t.pipe 0).produced, decide (t.pipeFinal 0))) = some (.stop, 1, true) := by decide

section Join
open Octo.JoinProto

/-- **The join node never deadlocks**: whatever the two sources still have to send, however full the channels are,
as long as `Run` has not returned some goroutine (a producer or the node's receive loop) can move. -/
theorem join_node_never_deadlocks (s : JoinProto.State) (h : s.cpc ≠ .ret) : ∃ a, (JoinProto.step s a).isSome = true := by
  cases hc : s.cpc with
  | both => exact side_progress s .L (by simp [hc, listens])
  | only x => exact side_progress s x (by simp [hc, listens])
  | ret => exact absurd hc h

/-- **Every schedule of a join over finite inputs is finite.** -/
theorem join_schedules_are_finite {s t : JoinProto.State} {sched : List JoinProto.Action}
    (hr : JoinProto.run s sched = some t) : sched.length ≤ JoinProto.measure s := by
  have := run_length hr; omega

/-- **No goroutine of the join is left behind** (current code): until the node has returned and both producer
goroutines have closed their channels, something can move — also after an early return (error, LIMIT), because
the producers' sends then take the `ctx.Done()` branch. -/
theorem join_goroutines_end (s : JoinProto.State) (hf : s.fixed = true) (hn : ¬ s.final) :
    ∃ a, (JoinProto.step s a).isSome = true := by
  by_cases hret : s.cpc = .ret
  · by_cases hl : s.l.closed = true
    · by_cases hr : s.r.closed = true
      · exact absurd ⟨hret, hl, hr⟩ hn
      · exact producer_progress_fixed s hf hret .R (by simpa [JoinProto.State.prod] using hr)
    · exact producer_progress_fixed s hf hret .L (by simpa [JoinProto.State.prod] using hl)
  · exact join_node_never_deadlocks s hret

/-- the state in which the code before the fix is stuck for ever: the node has returned after `cap` messages of the
left source were queued, one more was sent, and the left source still has a message to send -/
def leakState : JoinProto.State := ⟨false, ⟨1, JoinProto.cap, false, false⟩, ⟨0, 0, true, false⟩, .ret⟩

/-- **The code before the `fix:` commit leaks a goroutine** (`// TODO: Fix goroutine leak.`): with a left source of
`cap + 2` messages and a consumer that returns at its first receive, a reachable state is stuck although the left
producer goroutine has not ended — it is blocked on `leftMessages <- msg` for ever. -/
theorem join_unfixed_leaks :
    JoinProto.Reachable leakState ∧ ¬ leakState.final ∧ ∀ a, JoinProto.step leakState a = none := by
  refine ⟨⟨false, JoinProto.cap + 2, 0,
    List.replicate JoinProto.cap (.pSend .L) ++ [.cRecv .L true, .pSend .L, .pClose .R], ?_⟩, by decide, ?_⟩
  · rw [JoinProto.isRun.append, run_sends _ JoinProto.cap (by decide) (by decide) rfl rfl]
    decide
  · intro a
    cases a with
    | cRecv sd stop => cases sd <;> cases stop <;> decide
    | _ sd => cases sd <;> decide

/-- what C29 says about a join's goroutines, for the code with (`fixed = true`) or without the fix -/
def JoinStatement (fixed : Bool) : Prop :=
  ∀ s : JoinProto.State, JoinProto.Reachable s → s.fixed = fixed →
    (s.cpc ≠ .ret → ∃ a, (JoinProto.step s a).isSome = true) ∧
    (¬ s.final → ∃ a, (JoinProto.step s a).isSome = true) ∧
    (∀ sched t, JoinProto.run s sched = some t → sched.length ≤ JoinProto.measure s)

theorem join_full : JoinStatement true := fun s _ hf =>
  ⟨join_node_never_deadlocks s, join_goroutines_end s hf, fun _ _ hr => join_schedules_are_finite hr⟩

/-- the statement fails for the code before the fix … -/
theorem join_unfixed_refuted : ¬ JoinStatement false := by
  intro h
  obtain ⟨hr, hnf, hstuck⟩ := join_unfixed_leaks
  obtain ⟨a, ha⟩ := (h leakState hr rfl).2.1 hnf
  rw [hstuck a] at ha
  simp at ha

/-- … while the node itself returned and every schedule was finite there too: the defect was a leak, not a hang of
the query -/
theorem join_unfixed_partial (s : JoinProto.State) :
    (s.cpc ≠ .ret → ∃ a, (JoinProto.step s a).isSome = true) ∧
    (∀ sched t, JoinProto.run s sched = some t → sched.length ≤ JoinProto.measure s) :=
  ⟨join_node_never_deadlocks s, fun _ _ hr => join_schedules_are_finite hr⟩

/-- non-vacuity: an early return with a long left input, then both producers give up and close -/
example : (JoinProto.run (JoinProto.State.init true 5 1)
    [.pSend .L, .pSend .R, .cRecv .L false, .pSend .L, .cRecv .R true, .pAbort .L, .pClose .L, .pClose .R]).map
      (fun t => decide t.final) = some true := by decide

end Join

/-- **C29, protocol part.** The part of "query execution is free of data races and deadlocks" that is a statement
about protocols: the JSON pipeline (reader / worker pool / consumer; token, output, job and done channels; early
stops; cancellation) and the join's producer goroutines and receive loop neither deadlock nor run for ever nor leave
a goroutine blocked, under every schedule, and the one shared variable of the pipeline is handed over through a
channel. Data races proper (Go memory model) are NOT a statement about these models and are not claimed. -/
def Statement : Prop := JsonStatement ∧ JoinStatement true

theorem C29_full : Statement := ⟨json_pipeline_full, join_full⟩

end Octo.C29
