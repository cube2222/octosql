import Octo.Lemmas.SqlSel
import Octo.Lemmas.SqlDepth
import Octo.Lemmas.SqlRawWord
/-!
# C30 — SQL formatting round-trips through the parser

Property: for every statement the SQL parser accepts (including OctoSQL's extensions: TRIGGER clauses, table valued
function arguments, DESCRIPTOR, TABLE(), LOOKUP JOIN, object field access and `->*`), printing the parsed statement
and parsing the printed text again yields the same syntax tree.

Model (all in `Octo.SqlSyn`):
* `printS : Sel → List Tok` — `sqlparser.String` at token level.  Every node is printed by interpreting the `Format`
  template that the translator extracted from the **current** `ast.go` (`Octo/Gen/SqlFormat.lean`);
* `parseStmt : List Tok → Option Sel` — a hand-written precedence-climbing parser for the fragment, tied to the
  goyacc tables only by the correspondence run;
* `okS` — the decidable predicate "precedence respecting and well formed" that describes the trees the parser builds.

All theorems are about token sequences (the tokenizer is outside the model) and hold for trees of any size and
nesting depth.
-/
namespace Octo.C30
open Octo.SqlSyn

/-- the trees the parser can build: a select statement, well formed and precedence respecting (`okS`) -/
def FromParser (t : Sel) : Prop := okS t = true ∧ t.isStmt = true

instance (t : Sel) : Decidable (FromParser t) := by unfold FromParser; exact inferInstance

/-- round trip with explicit nesting fuel: any fuel above the nesting depth of the tree will do -/
theorem roundtrip_fuel (t : Sel) (h : FromParser t) (n : Nat) (hn : depthS t < n) :
    parseStmtFuel n (printS t) = some t :=
  Octo.SqlSyn.roundtrip_fuel t h.1 h.2 n hn

/-- the nesting depth of a tree never exceeds the number of tokens it prints to (so `parseStmt`'s fuel suffices) -/
theorem depth_le_tokens (t : Sel) : depthS t ≤ (printS t).length := depthS_le_len t

/-- **round trip**: printing a tree the parser can build and parsing the tokens again gives the same tree -/
theorem roundtrip (t : Sel) (h : FromParser t) : parseStmt (printS t) = some t := by
  unfold parseStmt
  exact roundtrip_fuel t h _ (by have := depth_le_tokens t; omega)

/-- every expression of the fragment, at every precedence level, inside any statement: the expression parser of any
    sufficiently deep nesting level reads back a printed expression and stops exactly at its end -/
theorem roundtrip_expr (e : Expr) (hok : okE e = true) (hl : 1 ≤ e.lvl) (n : Nat) (hn : depthE e < n) (rest : List Tok)
    (hf : follow 1 rest = true) : (parsers n).expr (printE e ++ rest) = some (e, rest) :=
  Octo.SqlSyn.roundtrip_expr e hok n hn rest hf

/-- table references (joins with strategy and kind, derived tables, table valued functions) -/
theorem roundtrip_table (t : Tbl) (hok : okT t = true) (n : Nat) (hn : depthT t < n) (rest : List Tok)
    (hf : followT rest = true)
    (hopen : t.isOpenInnerJoin = true → headIs .ON rest = false ∧ headIs .USING rest = false) :
    (parsers n).tbl (printT t ++ rest) = some (t, rest) :=
  (prevOK_all n).tbl t hok hn rest hf hopen

/-- the full-strength statement for a parser / printer pair: whatever the parser accepts survives print-then-parse -/
def Statement (parse : List Tok → Option Sel) (print : Sel → List Tok) : Prop :=
  ∀ ts t, parse ts = some t → parse (print t) = some t

/-! ## The known finding: names printed with `%s`

`FuncExpr.Format` and `IntervalExpr.Format` print the function name / the unit unquoted.  A back-quoted name that is a
reserved word (or is not a plain identifier) therefore does not re-parse.  The model mirrors this (`rawWord`), so the
full-strength statement is refuted by a concrete witness; `C30_partial` states exactly what holds. -/

/-- ``select `select`(a) from t`` as the tokenizer delivers it -/
def witnessToks : List Tok :=
  [.kw .SELECT, .id "select", .kw .LPAREN, .id "a", .kw .RPAREN, .kw .FROM, .id "t"]
def witnessTree : Sel :=
  .select false [.aliased (.func "" "select" false [.aliased (.col "" "" "a") ""]) ""] [.table "" "t" ""]
    none [] none [] [] none none

theorem witness_parses : parseStmt witnessToks = some witnessTree := by rfl
/-- by the explicit forms of the printer: evaluating `printS` would look `select` up in the keyword table again,
    which `rawWord_samples` has done once -/
theorem witness_prints :
    printS witnessTree = [.kw .SELECT, .kw .SELECT, .kw .LPAREN, .id "a", .kw .RPAREN, .kw .FROM, .id "t"] := by
  simp [witnessTree, printS_select, printEs, printTs, run_SelectExprs_cons, run_TableExprs_cons, printE_aliased,
    printE_func, rawWord_samples.1, printE_col, printColName_1, printT_table, printTableName_1, printAliasOpt,
    printWhereK, printLimit, run_GroupBy_nil, run_OrderBy_nil, run_Triggers_nil, ListFmt.items]
theorem witness_fails : parseStmt (printS witnessTree) = none := by rw [witness_prints]; rfl

/-- the full-strength statement fails on the current tree (known finding `raw-name-unquoted`) -/
theorem C30_refuted : ¬ Statement parseStmt printS := by
  intro h
  have := h witnessToks witnessTree witness_parses
  rw [witness_fails] at this
  exact absurd this (by simp)

/-- **C30, what holds**: every tree in the image of the parser (`FromParser`: precedence respecting, identifiers
    non-empty, and every name that `Format` prints unquoted lexes back to itself — `rawOK`) round-trips. -/
theorem C30_partial : ∀ t, FromParser t → parseStmt (printS t) = some t := roundtrip

/-- the witness is excluded by `FromParser` only because of the unquoted name -/
example : ¬ FromParser witnessTree := by
  simp [FromParser, witnessTree, okS, okItems, okItem, okE, rawOK, rawWord_samples.1]
example : rawOK "select" = false ∧ rawOK "count" = true ∧ rawOK "time" = true ∧ rawOK "Time" = false ∧
    rawOK "a b" = false := by
  obtain ⟨h0, h1, h2, h3, h4, _⟩ := rawWord_samples
  exact ⟨by simp [rawOK, h0], h1, h2, h3, h4⟩

/-! ## Non-vacuity: the hypothesis is met by statements using every extension -/

/-- `select distinct a->b, c->*, t.*, f(x, *) as y from t lookup join u on t.a = u.b where a::int is not null
     group by a having count(*) > 1 trigger counting 3, on watermark, on end of stream, after delay interval 2 second
     order by a desc, null limit 1, 2` -/
def ex1 : Sel :=
  .select true
    [.aliased (.field (.col "" "" "a") "b") "", .explode (.col "" "" "c"), .star "" "t",
     .aliased (.func "" "f" false [.aliased (.col "" "" "x") "", .star "" ""]) "y"]
    [.join (.table "" "t" "") .lookup .join (.table "" "u" "") (some (.cmp .eq (.col "" "t" "a") (.col "" "u" "b"))) []]
    (some (.is .notNull (.convert (.col "" "" "a") (.simple "int"))))
    [.col "" "" "a"]
    (some (.cmp .gt (.func "" "count" false [.star "" ""]) (.val .int false "1")))
    [.trigCount (.val .int false "3"), .trigWm, .trigEos, .trigDelay (.interval (.val .int false "2") "second")]
    [.order (.col "" "" "a") true, .order .null false]
    (some (.val .int false "1")) (some (.val .int false "2"))

/-- the tree is evaluated by `simp`, the four raw names by `rawWord_samples` -/
example : FromParser ex1 := by
  obtain ⟨_, hcount, _, _, _, hf, hint, hsecond⟩ := rawWord_samples
  simp [FromParser, ex1, okS, okItems, okItem, okE, okEs, okOE, okTs, okT, okTrigs, okTrig, okOrders, okOrder, okConvTy,
    nonEmptyAll, Expr.lvl, Tbl.isFactor, Sel.isStmt, CmpOp.isIn, hcount, hf, hint, hsecond]
example : parseStmt (printS ex1) = some ex1 := C30_partial ex1 <| by
  obtain ⟨_, hcount, _, _, _, hf, hint, hsecond⟩ := rawWord_samples
  simp [FromParser, ex1, okS, okItems, okItem, okE, okEs, okOE, okTs, okT, okTrigs, okTrig, okOrders, okOrder, okConvTy,
    nonEmptyAll, Expr.lvl, Tbl.isFactor, Sel.isStmt, CmpOp.isIn, hcount, hf, hint, hsecond]

/-- `with x as (select a from t) select * from f(r => table(x), d => descriptor(x.a), n => -1 + 2 * (3 - b)) q
     left join (select 1 from dual) s using (a)` -/
def ex2 : Sel :=
  .with_ [.cte "x" (.select false [.aliased (.col "" "" "a") ""] [.table "" "t" ""] none [] none [] [] none none)]
    (.select false [.star "" ""]
      [.join
        (.tvf "f" [.argT "r" (.table "" "x" ""), .argD "d" "" "x" "a",
          .argE "n" (.bin .plus (.val .int true "1")
            (.bin .mult (.val .int false "2") (.paren (.bin .minus (.val .int false "3") (.col "" "" "b")))))] "q")
        .none_ .left
        (.sub (.select false [.aliased (.val .int false "1") ""] [.table "" "dual" ""] none [] none [] [] none none) "s")
        none ["a"]]
      none [] none [] [] none none)

example : FromParser ex2 := by decide +kernel
example : parseStmt (printS ex2) = some ex2 := C30_partial ex2 (by decide +kernel)

/-- precedence matters: `a - (b - c)` keeps its parentheses node, and a tree without it is *not* in the parser's image -/
example : okE (.bin .minus (.col "" "" "a") (.paren (.bin .minus (.col "" "" "b") (.col "" "" "c")))) = true := by decide
example : okE (.bin .minus (.col "" "" "a") (.bin .minus (.col "" "" "b") (.col "" "" "c"))) = false := by decide
/-- … and printing that tree indeed re-parses to a different one (`(a - b) - c`) -/
example : (parsers 1).expr (printE (.bin .minus (.col "" "" "a") (.bin .minus (.col "" "" "b") (.col "" "" "c")))) =
    some (.bin .minus (.bin .minus (.col "" "" "a") (.col "" "" "b")) (.col "" "" "c"), []) := by rfl

/-! ## The code before the repairs (templates as they were; see notes/C30.md) -/

/-- `EndOfStreamTrigger.Format` printed `ON WATERMARK`: it re-parsed as a *watermark* trigger -/
def old_fmt_EndOfStreamTrigger : List Step := [⟨[], .printf [.lit [.kw .ON, .kw .WATERMARK]]⟩]
theorem old_eos_trigger_reparses_as_watermark (prev : Parsers) :
    parseTrigger prev (Fmt.run old_fmt_EndOfStreamTrigger [] []) = some (.trigWm, []) := by rfl
/-- `DelayTrigger.Format` printed `DELAY e`: that is not a trigger of the grammar -/
def old_fmt_DelayTrigger : List Step := [⟨[], .printf [.lit [.kw .DELAY], .arg 'v' "w.Delay"]⟩]
theorem old_delay_trigger_does_not_parse (prev : Parsers) (e : List Tok) :
    parseTrigger prev (Fmt.run old_fmt_DelayTrigger [("w.Delay", e)] []) = none := by rfl

end Octo.C30
